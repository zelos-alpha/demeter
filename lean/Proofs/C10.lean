/-
  C10 — Aave balances accrue exactly with the indices; operations move exactly the stated amounts.

  Model: `Demeter.Aave` (scaled balances `base = amount / index`, `amount = base × index`; `sub_base_amount`
  turns a scaled remainder below `MIN_TOKEN_VALUE = 1e-18 − 1e-27` (a float: its exact binary value) into 0 and
  the entry is then deleted).  The theorems of this file and of `C10/` are for **exact rational arithmetic** (`aaveExact`,
  `rnd = id`), those of `C10/Robust.lean` and `C10/BarsRobust.lean` for every context that rounds within ε and for the guarded
  35-digit one; the 35-digit rounding CPython adds is reproduced bit-exactly by the driver and measured by the harness on every
  step (≤ 1e-18 inside the envelope balances ≤ 1e12, ≤ 1e4 operations).
  Accepted calls are characterised by inversion (`Proofs/Lemmas/AaveInv.lean`), which holds in any state: the coherent state
  (`Good`, i.e. every reachable state by C13) that the theorems about single calls ask for (here, `Split`, `Pinned`, `Overdraft`,
  the round trips) is not read by their proofs; the runs of `Bars` and `Interleaved` need it, for `update()`.
-/
import Proofs.Lemmas.AaveExact
namespace Demeter
open Aave

@[simp] theorem aaveExact_add (a b : Rat) : aaveExact.add a b = a + b := rfl
@[simp] theorem aaveExact_mul (a b : Rat) : aaveExact.mul a b = a * b := rfl
@[simp] theorem aaveExact_div (a b : Rat) : aaveExact.div a b = a / b := rfl

variable {env : Env}

/-- the clamp threshold is (just below) 1e-18 -/
theorem C10_min_token_value : Gen.aaveMinTokenValue < 1 / 10 ^ 18 ∧ 1 / 10 ^ 18 - 1 / 10 ^ 26 < Gen.aaveMinTokenValue := by
  unfold Gen.aaveMinTokenValue; constructor <;> norm_num

/-- **supply moves exactly the stated amount**: the supply's amount (`base × index`) grows by exactly `amount`
    (a new entry starts from 0), no other position changes, and the wallet gives exactly `amount` (or its last
    1e-5 dust). -/
theorem C10_supply_exact {s s' : St} {tok : String} {amount : Rat} {coll : Bool}
    (h : supply aaveExact env tok amount coll s = (.ok (), s')) :
    ∃ st e, env.statusOf tok = .ok st ∧ AList.get? s'.supplies tok = some e ∧
      e.base * st.liqIdx = ((AList.get? s.supplies tok).map (·.base)).getD 0 * st.liqIdx + amount ∧
      (∀ k, k ≠ tok → AList.get? s'.supplies k = AList.get? s.supplies k) ∧
      s'.borrows = s.borrows ∧ WalletTook s.wallet s'.wallet tok amount := by
  obtain ⟨st, e, b, x, hst, he, hamt, hoth, hbor, hb, hw, hd⟩ := aave_supply_moves h
  exact ⟨st, e, hst, he, hamt, hoth, hbor, by rw [hw]; exact aave_walletTook_of_set hb hd⟩

/-- **borrow moves exactly the stated amount**: the debt's amount grows by exactly `amount`, the wallet receives
    exactly `amount`, nothing else changes. -/
theorem C10_borrow_exact {s s' : St} {tok : String} {amount? : Option Rat}
    (h : borrow aaveExact env tok amount? s = (.ok (), s')) :
    ∃ st e amount, env.statusOf tok = .ok st ∧ (∀ a, amount? = some a → amount = a) ∧ 0 < amount ∧
      AList.get? s'.borrows tok = some e ∧
      e.base * st.varIdx = ((AList.get? s.borrows tok).map (·.base)).getD 0 * st.varIdx + amount ∧
      (∀ k, k ≠ tok → AList.get? s'.borrows k = AList.get? s.borrows k) ∧ s'.supplies = s.supplies ∧
      AList.get? s'.wallet tok = some ((AList.get? s.wallet tok).getD 0 + amount) ∧
      (∀ k, k ≠ tok → AList.get? s'.wallet k = AList.get? s.wallet k) := by
  obtain ⟨amount, st, _, hpos, ha, hst, hnz, h1, h2, h3, _⟩ := borrow_accepted h
  refine ⟨st, _, amount, hst, ha, hpos, by rw [h2]; exact AList.get?_set_self _ _ _, ?_,
          fun k hk => by rw [h2]; exact AList.get?_set_ne _ (Ne.symm hk) _, h1, by rw [h3]; exact Wallet.get?_credit_self _ _ _ _, fun k hk => by rw [h3]; exact Wallet.get?_credit_ne _ _ hk _⟩
  rw [borrowEntry_base]
  show (_ + amount / st.varIdx) * st.varIdx = _
  rw [add_mul, div_mul_cancel₀ _ hnz]

/-- **withdraw moves exactly the stated amount** (`None` = the whole balance): the wallet receives exactly `amount`;
    the supply's amount goes down by exactly `amount`, unless the scaled remainder is below `MIN_TOKEN_VALUE`,
    in which case the entry disappears; no other position changes. -/
theorem C10_withdraw_exact {s s' : St} {tok : String} {amount? : Option Rat}
    (h : withdraw aaveExact env tok amount? s = (.ok (), s')) :
    ∃ st info amount, env.statusOf tok = .ok st ∧ AList.get? s.supplies tok = some info ∧
      amount = amount?.getD (info.base * st.liqIdx) ∧ 0 < amount ∧ amount ≤ info.base * st.liqIdx ∧
      ((info.base - amount / st.liqIdx < Gen.aaveMinTokenValue ∧ AList.get? s'.supplies tok = none) ∨
       (Gen.aaveMinTokenValue ≤ info.base - amount / st.liqIdx ∧
        ∃ e, AList.get? s'.supplies tok = some e ∧ e.base * st.liqIdx = info.base * st.liqIdx - amount)) ∧
      (∀ k, k ≠ tok → AList.get? s'.supplies k = AList.get? s.supplies k) ∧ s'.borrows = s.borrows ∧
      AList.get? s'.wallet tok = some ((AList.get? s.wallet tok).getD 0 + amount) ∧
      (∀ k, k ≠ tok → AList.get? s'.wallet k = AList.get? s.wallet k) := by
  obtain ⟨st, info, amount, nb, _, hst, hnz, hg, ha, hpos, hle, hnb, h1, h2, h3, _⟩ := withdraw_accepted h
  simp only [aaveExact_mul, aaveExact_div] at ha hle hnb
  refine ⟨st, info, amount, hst, hg, ha, hpos, hle, ?_, ?_, h2, by rw [h3]; exact Wallet.get?_credit_self _ _ _ _, fun k hk => by rw [h3]; exact Wallet.get?_credit_ne _ _ hk _⟩
  · rw [h1, hnb]
    exact aave_supAfterSub_cases s.supplies tok info amount st.liqIdx hnz
  · intro k hk
    rw [h1]
    exact AList.get?_eraseOrSet_ne _ hk _ _

/-- **a fully withdrawn supply disappears** (`amount=None`, or exactly the balance). -/
theorem C10_full_withdraw_removes {s s' : St} (hs : Good aaveExact env s) {tok : String} {amount? : Option Rat}
    (h : withdraw aaveExact env tok amount? s = (.ok (), s'))
    (hfull : ∀ a, amount? = some a → ∀ info st, AList.get? s.supplies tok = some info → env.statusOf tok = .ok st →
      a = info.base * st.liqIdx) :
    AList.get? s'.supplies tok = none := by
  obtain ⟨st, info, amount, nb, _, hst, hnz, hg, ha, _, _, hnb, h1, _⟩ := withdraw_accepted h
  simp only [aaveExact_mul, aaveExact_div] at ha hnb
  have hamt : amount = info.base * st.liqIdx := by
    cases amount? with
    | none => exact ha
    | some a => rw [ha]; exact hfull a rfl info st hg hst
  rw [h1, hnb, hamt, aave_subBase_full _ hnz, supAfterSub, AList.get?_eraseOrSet_self, if_pos rfl]

/-- **repay with cash moves exactly the stated amount** (`None` = the whole debt): the wallet gives exactly
    `payback` (or its last 1e-5 dust), the debt's amount goes down by exactly `payback` or — scaled remainder
    below `MIN_TOKEN_VALUE` — the entry disappears; supplies are untouched. -/
theorem C10_repay_exact (hI : AavePosIdx env) {s s' : St} {tok : String}
    {amount? : Option Rat} {collTok? : Option String}
    (h : repay aaveExact env tok amount? false collTok? s = (.ok (), s')) :
    ∃ st info payback, env.statusOf tok = .ok st ∧ AList.get? s.borrows tok = some info ∧
      payback = amount?.getD (info.base * st.varIdx) ∧ 0 < payback ∧
      ((info.base - payback / st.varIdx < Gen.aaveMinTokenValue ∧ AList.get? s'.borrows tok = none) ∨
       (Gen.aaveMinTokenValue ≤ info.base - payback / st.varIdx ∧
        ∃ e, AList.get? s'.borrows tok = some e ∧ e.base * st.varIdx = info.base * st.varIdx - payback)) ∧
      (∀ k, k ≠ tok → AList.get? s'.borrows k = AList.get? s.borrows k) ∧ s'.supplies = s.supplies ∧
      WalletTook s.wallet s'.wallet tok payback := by
  obtain ⟨st, info, payback, b, x, hst, hidx, hg, hp, hpb, hb, h3, hd, h1, h2⟩ := aave_repay_cash_inv hI h
  refine ⟨st, info, payback, hst, hg, hp, hpb, ?_, ?_, h1, by rw [h3]; exact aave_walletTook_of_set hb hd⟩
  · rw [h2]
    exact aave_borAfterSub_cases s.borrows tok info payback st.varIdx hidx.ne'
  · intro k hk
    rw [h2]
    exact AList.get?_eraseOrSet_ne _ hk _ _

/-- **a fully repaid debt disappears** (`payback_amount=None`). -/
theorem C10_full_repay_removes {s s' : St} (hs : Good aaveExact env s) {tok : String} {collTok? : Option String}
    (h : repay aaveExact env tok none false collTok? s = (.ok (), s')) : AList.get? s'.borrows tok = none := by
  obtain ⟨st, info, payback, _, _, hst, hnz, hg, hp, _, _, _, _, h2, _⟩ := repay_cash_accepted h
  simp only [aaveExact_mul, aaveExact_div, Option.getD_none] at hp h2
  rw [h2, hp, aave_subBase_full _ hnz, borAfterSub, AList.get?_eraseOrSet_self, if_pos rfl]

/-- **repay with collateral**: the wallet is not touched; the debt goes down by `payback`, the collateral supply
    by the same value at the bar's prices (`payback × price(debt) / price(collateral)`). -/
theorem C10_repay_collateral_exact {s s' : St} (hs : Good aaveExact env s) {tok : String} {amount? : Option Rat}
    {collTok? : Option String} (h : repay aaveExact env tok amount? true collTok? s = (.ok (), s')) :
    ∃ st cst info cinfo payback pb pc, env.statusOf tok = .ok st ∧ env.statusOf (collTok?.getD tok) = .ok cst ∧
      env.priceOf tok = .ok pb ∧ env.priceOf (collTok?.getD tok) = .ok pc ∧
      AList.get? s.borrows tok = some info ∧ AList.get? s.supplies (collTok?.getD tok) = some cinfo ∧
      s'.wallet = s.wallet ∧
      s'.borrows = borAfterSub s.borrows tok info (subBase aaveExact info.base (payback / st.varIdx)) ∧
      s'.supplies = supAfterSub s.supplies (collTok?.getD tok) cinfo
        (subBase aaveExact cinfo.base (payback * pb / pc / cst.liqIdx)) := by
  obtain ⟨st, cst, info, cinfo, payback, pb, pc, hst, hcst, _, hpb, hpc, _, hg, hci, _, _, _, k⟩ := aave_repay_coll_inv h
  exact ⟨st, cst, info, cinfo, payback, pb, pc, hst, hcst, hpb, hpc, hg, hci, k⟩

end Demeter
