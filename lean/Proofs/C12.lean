/-
  C12 — Aave liquidation, one step: theorems about `Demeter.AaveRisk.doLiquidate` (the model of
  `AaveV3Market._do_liquidate` as repaired: the seized collateral is scaled with the collateral's own liquidity index).

  Exact context = rational semantics of the Decimal arithmetic.  `helper.sub_base_amount` snaps a remaining
  scaled balance below `MIN_TOKEN_VALUE = 1e-18 - 1e-27` to 0; that dust (`snapDust`, < MIN_TOKEN_VALUE scaled units)
  is explicit in the statements about the state change and the net value, and absent when nothing is snapped.
-/
import Proofs.Lemmas.AaveRiskStep
import Mathlib.Tactic.LinearCombination
namespace Demeter
open AaveRisk

/-- **Close factor.**  The step repays at most the close factor of the debt: 50 % if the health factor before the
    step was above 0.95, otherwise 100 % (the constants are the ones in `AaveV3CoreLib`). -/
theorem C12_close_factor {p : Portfolio} {c : Supply} {d : Debt} {cover : Rat} {p' : Portfolio} {a : LiqAction}
    (h : StepOk p c d cover p' a) :
    Gen.arCloseFactorHfThreshold = 95 / 100 ∧ Gen.arDefaultCloseFactor = 50 / 100 ∧ Gen.arMaxCloseFactor = 100 / 100
    ∧ a.half = (healthFactor NumCtx.exact p).gtB (95 / 100)
    ∧ a.debtRepaid ≤ (if a.half then (50 / 100 : Rat) else 100 / 100) * d.amount NumCtx.exact
    ∧ a.debtRepaid ≤ cover := by
  refine ⟨by unfold Gen.arCloseFactorHfThreshold; norm_num, by unfold Gen.arDefaultCloseFactor; norm_num,
    by unfold Gen.arMaxCloseFactor; norm_num, ?_, ?_, ?_⟩
  · rw [h.half_eq]; unfold stepHalf Gen.arCloseFactorHfThreshold; norm_num
  · rw [h.debtRepaid_eq, h.half_eq]
    have h1 : stepRepaid NumCtx.exact p c d cover ≤ d.amount NumCtx.exact * stepCf NumCtx.exact p :=
      stepRepaid_le_max NumCtx.exact p c d cover
    rcases stepCf_cases NumCtx.exact p with ⟨hb, hcf⟩ | ⟨hb, hcf⟩ <;> rw [hb] <;> rw [hcf] at h1 <;> simp <;> linarith
  · rw [h.debtRepaid_eq]; exact (stepRepaid_le_toLiq _ p c d cover).trans (stepToLiq_le_cover _ p d cover)

/-- **Bonus.**  The seized collateral is worth the repaid value × (1 + the collateral's liquidation bonus) at the bar's
    prices; it never exceeds the collateral balance; when the balance caps it, all of the collateral is seized and the
    repayment is scaled down to `price_c × balance / (price_d × (1 + bonus))`. -/
theorem C12_seized_value {p : Portfolio} {c : Supply} {d : Debt} {cover : Rat} {p' : Portfolio} {a : LiqAction}
    (h : StepOk p c d cover p' a) :
    a.collUsed * c.row.price = a.debtRepaid * d.row.price * (1 + c.row.bonus)
    ∧ a.collUsed ≤ c.amount NumCtx.exact
    ∧ (a.capped = true → a.collUsed = c.amount NumCtx.exact
        ∧ a.debtRepaid = c.row.price * c.amount NumCtx.exact / (d.row.price * (1 + c.row.bonus)))
    ∧ (a.capped = false → a.debtRepaid = min cover ((if a.half then (1 / 2 : Rat) else 1) * d.amount NumCtx.exact)) := by
  have hcap : a.capped = stepCapped NumCtx.exact p c d cover := by rw [h.a_eq]; rfl
  rw [h.collUsed_eq, h.debtRepaid_eq, hcap, h.half_eq]
  refine ⟨step_value p h.crow h.drow, stepCollUsed_le_amount _ p c d cover, ?_, ?_⟩
  · intro hc
    exact ⟨by unfold stepCollUsed; rw [if_pos hc], stepRepaid_of_capped p h.crow h.drow hc⟩
  · intro hc
    unfold stepRepaid
    rw [hc, if_neg Bool.false_ne_true, stepToLiq_eq_min, NumCtx.exact_mul, mul_comm]
    rcases stepCf_cases NumCtx.exact p with ⟨hb, hcf⟩ | ⟨hb, hcf⟩
    · rw [hb, hcf, if_pos rfl]
    · rw [hb, hcf, if_neg Bool.false_ne_true]

/-- **Amounts stay non-negative**, and the step leaves a well-formed portfolio. -/
theorem C12_amounts_nonneg {p : Portfolio} {c : Supply} {d : Debt} {cover : Rat} {p' : Portfolio} {a : LiqAction}
    (h : StepOk p c d cover p' a) :
    0 ≤ a.collUsed ∧ 0 ≤ a.debtRepaid ∧ 0 ≤ a.collAfter ∧ 0 ≤ a.debtAfter ∧ p'.WF := by
  have hli := h.crow.li_pos
  have hbi := h.drow.bi_pos
  have hcb : 0 ≤ stepCollBase NumCtx.exact p c d cover := subBase_nonneg _ _ _
  have hdb : 0 ≤ stepDebtBase NumCtx.exact p c d cover := subBase_nonneg _ _ _
  refine ⟨by rw [h.collUsed_eq]; exact h.nonneg.2.1, by rw [h.debtRepaid_eq]; exact h.nonneg.2.2, ?_, ?_, ?_⟩
  · rw [h.a_eq]; show 0 ≤ stepCollBase NumCtx.exact p c d cover * c.row.liqIndex; positivity
  · rw [h.a_eq]; show 0 ≤ stepDebtBase NumCtx.exact p c d cover * d.row.borIndex; positivity
  · exact ((doLiquidate_baseOnly .refl).1 _ _ h.run).wf h.wf

/-- **State change (collateral's own index).**  The collateral supply shrinks by the seized amount — measured with the
    collateral token's *own* liquidity index — and the debt by the repaid amount, up to the dust `sub_base_amount` snaps
    (`< MIN_TOKEN_VALUE` scaled units, zero unless the remainder is below `MIN_TOKEN_VALUE`); every other entry is
    untouched. -/
theorem C12_state_change {p : Portfolio} {c : Supply} {d : Debt} {cover : Rat} {p' : Portfolio} {a : LiqAction}
    (h : StepOk p c d cover p' a) :
    ∃ dustS dustD : Rat,
      dustS = snapDust c.base (a.collUsed / c.row.liqIndex) ∧ dustD = snapDust d.base (a.debtRepaid / d.row.borIndex)
      ∧ 0 ≤ dustS ∧ dustS < Gen.arMinTokenValue ∧ 0 ≤ dustD ∧ dustD < Gen.arMinTokenValue
      ∧ supplyAmountOf NumCtx.exact p' c.tok = c.amount NumCtx.exact - a.collUsed - dustS * c.row.liqIndex
      ∧ debtAmountOf NumCtx.exact p' d.tok = d.amount NumCtx.exact - a.debtRepaid - dustD * d.row.borIndex
      ∧ (∀ t, t ≠ c.tok → findSupply? p'.supplies t = findSupply? p.supplies t)
      ∧ (∀ t, t ≠ d.tok → findDebt? p'.debts t = findDebt? p.debts t) := by
  have hli := h.crow.li_pos
  have hbi := h.drow.bi_pos
  rw [h.collUsed_eq, h.debtRepaid_eq, h.p'_eq]
  obtain ⟨hs0, hs1⟩ := snapDust_bounds h.coll_div_le
  obtain ⟨hd0, hd1⟩ := snapDust_bounds h.debt_div_le
  refine ⟨_, _, rfl, rfl, hs0, hs1, hd0, hd1, ?_, ?_, fun t ht => find_putSupplyBase_ne _ ht _,
    fun t ht => find_putDebtBase_ne _ ht _⟩
  · rw [show supplyAmountOf NumCtx.exact (stepEnd NumCtx.exact p c d cover) c.tok
        = stepCollBase NumCtx.exact p c d cover * c.row.liqIndex from supplyAmountOf_put h.wf.supKeys h.hc _ _,
      stepCollBase, subBase_exact, NumCtx.exact_div, Supply.amount_exact]
    field_simp
  · rw [show debtAmountOf NumCtx.exact (stepEnd NumCtx.exact p c d cover) d.tok
        = stepDebtBase NumCtx.exact p c d cover * d.row.borIndex from debtAmountOf_put h.wf.debKeys h.hd _ _,
      stepDebtBase, subBase_exact, NumCtx.exact_div, Debt.amount_exact]
    field_simp

/-- **The recorded action matches the state change**: the `LiquidationAction` names the pair, and its
    `collateral_after` / `variable_debt_after` / `health_factor_before` / `health_factor_after` are the position's
    amounts and health factors recomputed from the portfolio before and after the step. -/
theorem C12_record_matches {p : Portfolio} {c : Supply} {d : Debt} {cover : Rat} {p' : Portfolio} {a : LiqAction}
    (h : StepOk p c d cover p' a) :
    a.collTok = c.tok ∧ a.debtTok = d.tok ∧ a.toCover = cover
    ∧ a.collAfter = supplyAmountOf NumCtx.exact p' c.tok
    ∧ a.debtAfter = debtAmountOf NumCtx.exact p' d.tok
    ∧ a.hfBefore = healthFactor NumCtx.exact p ∧ a.hfAfter = healthFactor NumCtx.exact p' := by
  rw [h.a_eq, h.p'_eq]
  exact ⟨rfl, rfl, rfl, (supplyAmountOf_put h.wf.supKeys h.hc _ _).symm, (debtAmountOf_put h.wf.debKeys h.hd _ _).symm,
    rfl, rfl⟩

/-- **Net value.**  A step lowers supplies − debts (USD) by exactly bonus × repaid value, up to the snapped dust. -/
theorem C12_net_value {p : Portfolio} {c : Supply} {d : Debt} {cover : Rat} {p' : Portfolio} {a : LiqAction}
    (h : StepOk p c d cover p' a) :
    netValue NumCtx.exact p' = netValue NumCtx.exact p - c.row.bonus * (a.debtRepaid * d.row.price)
      - snapDust c.base (a.collUsed / c.row.liqIndex) * c.row.liqIndex * c.row.price
      + snapDust d.base (a.debtRepaid / d.row.borIndex) * d.row.borIndex * d.row.price := by
  have hli := h.crow.li_pos
  have hbi := h.drow.bi_pos
  have hval := step_value p (cover := cover) h.crow h.drow
  rw [h.collUsed_eq, h.debtRepaid_eq]
  unfold netValue totalSupply totalDebt
  simp only [dsum_exact, NumCtx.exact_sub]
  rw [h.p'_eq]
  unfold stepEnd
  rw [sum_putSupplyBase (fun s => s.value NumCtx.exact) (fun s => by simp [Supply.value_exact]) h.wf.supKeys h.hc,
      sum_putDebtBase (fun x => x.value NumCtx.exact) (fun x => by simp [Debt.value_exact]) h.wf.debKeys h.hd]
  simp only [Supply.value_exact, Debt.value_exact]
  rw [stepCollBase, stepDebtBase, subBase_exact, subBase_exact, NumCtx.exact_div, NumCtx.exact_div]
  have e1 : stepCollUsed NumCtx.exact p c d cover / c.row.liqIndex * c.row.liqIndex
      = stepCollUsed NumCtx.exact p c d cover := by field_simp
  have e2 : stepRepaid NumCtx.exact p c d cover / d.row.borIndex * d.row.borIndex
      = stepRepaid NumCtx.exact p c d cover := by field_simp
  linear_combination (-1 : Rat) * hval - c.row.price * e1 + d.row.price * e2

/-- … and by exactly bonus × repaid value when nothing is snapped (both remainders are at least `MIN_TOKEN_VALUE`
    scaled units — in particular whenever they are ≥ 1e-18). -/
theorem C12_net_value_exact {p : Portfolio} {c : Supply} {d : Debt} {cover : Rat} {p' : Portfolio} {a : LiqAction}
    (h : StepOk p c d cover p' a)
    (hs : Gen.arMinTokenValue ≤ c.base - a.collUsed / c.row.liqIndex)
    (hd : Gen.arMinTokenValue ≤ d.base - a.debtRepaid / d.row.borIndex) :
    netValue NumCtx.exact p' - netValue NumCtx.exact p = - (c.row.bonus * (a.debtRepaid * d.row.price))
    ∧ Gen.arMinTokenValue < 1 / 10 ^ 18 := by
  constructor
  · rw [C12_net_value h, snapDust_eq_zero hs, snapDust_eq_zero hd]; ring
  · unfold Gen.arMinTokenValue; norm_num

/-- **Wallet untouched.**  `update()` changes the market's positions only; the broker's balances are the same object
    before and after (in the code: `_liquidate`/`_do_liquidate` contain no broker call; the harness checks the real
    wallet). -/
theorem C12_wallet_untouched (cx : NumCtx) (acc : Account) : (update cx acc).1.wallet = acc.wallet := rfl

-- a concrete step: 10 WETH at index 2 against 8400 USDC, WETH at 1000 USD: HF = 0.98
namespace AaveRisk
def exRowW : Row := { liqIndex := 2, borIndex := 2, price := 1000, ltv := 8/10, lt := 825/1000, bonus := 5/100, canColl := true, canBorrow := true }
def exRowU : Row := { liqIndex := 1, borIndex := 1, price := 1, ltv := 8/10, lt := 85/100, bonus := 4/100, canColl := true, canBorrow := true }
def exRowM : Row := { liqIndex := 1, borIndex := 1, price := 1 / 2, ltv := 6 / 10, lt := 7 / 10, bonus := 1 / 10, canColl := true, canBorrow := true }
def exC : Supply := { tok := "WETH", base := 5, coll := true, row := exRowW }
def exD : Debt := { tok := "USDC", base := 8400, row := exRowU }
def exP : Portfolio := { supplies := [exC], debts := [exD] }

def exStepCheck : Bool :=
  match doLiquidate NumCtx.exact exP exC exD 8400 with
  | .done p' a => decide (a.collUsed = 441 / 100) && decide (a.debtRepaid = 4200) && a.half && !a.capped
      && decide (supplyAmountOf NumCtx.exact p' "WETH" = 559 / 100) && decide (debtAmountOf NumCtx.exact p' "USDC" = 4200)
  | _ => false

example : exStepCheck = true := by decide +kernel

theorem exP_wf : exP.WF := Portfolio.wfB_sound (by decide +kernel)

example : ∃ p' a, StepOk exP exC exD (exD.value NumCtx.exact) p' a := by
  rw [show exD.value NumCtx.exact = 8400 by decide +kernel]
  obtain ⟨p', a, h, _⟩ := StepOk.of_check (c := exC) (d := exD) (cover := 8400) exP_wf (by simp [exP]) (by simp [exP])
    (by norm_num) (fun _ _ => true) (by decide +kernel)
  exact ⟨p', a, h⟩
end AaveRisk

end Demeter
