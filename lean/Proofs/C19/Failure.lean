/-
  C19, failing backtests — a strategy whose backtest ends in an exception takes nobody else's result away.

  `Manager.managerRunF` is `BacktestManager.run()` over strategies that may fail (`FStrat`: whether a backtest ends in
  an exception is an arbitrary function of the objects it is handed; what it leaves in them until then is arbitrary as
  before).  How `run()` treats a failure is read from the source on every run (`FailMode.current`): the in-process
  loop catches it per strategy, the pooled branches wait for every task.  For the current source the per-strategy
  results are exactly the solo results — `none` for the strategies that fail alone, the solo observation for all the
  others — and `run()` itself never re-raises.  The witnesses are the code before the repair (the strategies after a
  failing one never start) and its pooled variant.
-/
import Proofs.Lemmas.Manager
namespace Demeter
open Manager

variable {M C V N P O : Type}

/-- what the source says on this run: the in-process loop of `run()` calls `_start_with_param_data` inside a `try` whose
    handler catches `Exception` and does not re-raise; both pooled branches collect their tasks with `.wait()` (one flag each) -/
theorem C19_failure_handling_pinned :
    FailMode.current = ⟨true, true, true⟩ ∧ Gen.managerCatchesInProcessFailure = true ∧
    Gen.managerForkPoolWaitsForTasks = true ∧ Gen.managerArgsPoolWaitsForTasks = true := by
  decide

/-- **sequential path with the handler**: every strategy's result is the solo one — none if it fails alone, its solo
    observation otherwise — whatever the strategies before it did, failing or not -/
theorem C19_sequential_failure_isolated (env : Env M P) (md : Mode) (cfg : M) (d : Data C V N P)
    (strats : List (FStrat M C V N P O)) (hm : MarketsSafe env md cfg (plain strats)) (hd : DataSafe env md d (plain strats)) :
    runSeqF env md true cfg d strats = specF cfg d strats := by
  suffices h : ∀ l, l ⊆ strats → runSeqF env md true cfg d l = specF cfg d l from h strats (List.Subset.refl _)
  intro l hl
  induction l with
  | nil => rfl
  | cons s rest ih =>
    obtain ⟨hs, hrest⟩ := List.cons_subset.mp hl
    simp only [runSeqF, specF, List.map_cons, Bool.not_true, Bool.and_false, Bool.false_eq_true, if_false,
      startF_data hd hs cfg, startF_markets hm hs d, startF_res hm.attach d]
    congr 1
    exact ih hrest

/-- **pooled path (fork)**: for every assignment of tasks to worker processes, every result is the solo one; a worker
    that executed a failing task serves its next task as a fresh one would -/
theorem C19_pooled_failure_isolated (env : Env M P) (md : Mode) (cfg : M) (d : Data C V N P) (assign : Nat → Nat)
    (strats : List (FStrat M C V N P O)) (hm : AttachSafe env md cfg) (hd : DataSafe env md d (plain strats))
    (i0 : Nat) (w : Nat → Data C V N P) (hw : ∀ k, w k = d) :
    runPoolF env md cfg assign w i0 strats = specF cfg d strats := by
  suffices h : ∀ l, l ⊆ strats → ∀ i0 w, (∀ k, w k = d) → runPoolF env md cfg assign w i0 l = specF cfg d l from
    h strats (List.Subset.refl _) i0 w hw
  intro l hl
  induction l with
  | nil => intros; rfl
  | cons s rest ih =>
    intro i0 w hw
    obtain ⟨hs, hrest⟩ := List.cons_subset.mp hl
    simp only [runPoolF, specF, List.map_cons, hw, startF_res hm d]
    congr 1
    apply ih hrest
    intro k
    simp only [startF_data hd hs cfg, ite_self]

/-- **pooled path with the data pickled per task** (Windows branch) -/
theorem C19_windows_pool_failure_isolated (env : Env M P) (md : Mode) (cfg : M) (d : Data C V N P)
    (strats : List (FStrat M C V N P O)) (hm : AttachSafe env md cfg) :
    runPoolArgsF env md cfg d strats = specF cfg d strats := by
  simp only [runPoolArgsF, specF, startF_res hm d]

/-- **`BacktestManager.run()` over strategies that may fail, for any combination of copies**: if the in-process loop
    catches a backtest's exception and the pooled branches wait for their tasks, then — under the hypotheses of
    `C19_manager_isolated_of_safe`: per layer a private copy or strategies that do not write into it, failing
    strategies included — the results are the solo results, for every thread count, cpu count, platform and scheduling -/
theorem C19_manager_failure_isolated_of_safe (env : Env M P) (md : Mode) (threads cpu : Nat) (windows ctxSet : Bool)
    (assign : Nat → Nat) (finished : Nat → Bool) (cfg : M) (d : Data C V N P) (strats : List (FStrat M C V N P O))
    (hm : MarketsSafe env md cfg (plain strats)) (hd : DataSafe env md d (plain strats)) (res : List (Option O))
    (h : managerRunF env md ⟨true, true, true⟩ threads cpu windows ctxSet assign finished (some cfg) (some d) strats = .done res) :
    res = specF cfg d strats := by
  -- with the handler and `.wait()`, `seqOutcome true l` and `poolOutcome true _ l` are `.done l` by computation
  refine dispatch_cases (motive := fun o : FOutcome O => o = .done res → res = specF cfg d strats) ?_ ?_ ?_ ?_ ?_ h
  · intro h0 h
    rw [← FOutcome.done.inj h, List.eq_nil_of_length_eq_zero h0]
    rfl
  · intro h
    rw [← FOutcome.done.inj h]
    exact C19_sequential_failure_isolated env md cfg d strats hm hd
  · intro h
    rw [← FOutcome.done.inj h]
    exact C19_windows_pool_failure_isolated env md cfg d strats hm.attach
  · intro h
    rw [← FOutcome.done.inj h]
    exact C19_pooled_failure_isolated env md cfg d assign strats hm.attach hd 0 _ (fun _ => rfl)
  · intro cls _ h
    cases h

/-- **`BacktestManager.run()`, full statement for backtests that may fail** (current source flags, pandas
    copy-on-write): whatever the strategies do to what they are handed, whichever of them fail — alone, or because of what
    they were handed — in whatever order they are listed, with whatever number of threads and cpus, on either pooled
    branch, under every scheduling: if `run()` returns, then per strategy, in the order of `strategies`, the result is
    that strategy's solo result — none exactly for the strategies whose solo backtest fails -/
theorem C19_manager_failure_isolated (env : Env M P) (threads cpu : Nat) (windows ctxSet : Bool) (assign : Nat → Nat)
    (finished : Nat → Bool) (cfg : M) (d : Data C V N P) (strats : List (FStrat M C V N P O)) (res : List (Option O))
    (h : managerRunF env (Mode.current true) FailMode.current threads cpu windows ctxSet assign finished (some cfg) (some d) strats
      = .done res) :
    res = specF cfg d strats := by
  rw [mode_current, C19_failure_handling_pinned.1] at h
  exact C19_manager_failure_isolated_of_safe env _ threads cpu windows ctxSet assign finished cfg d strats (Or.inl rfl)
    ⟨Or.inl rfl, Or.inl ⟨rfl, rfl⟩, Or.inl rfl, Or.inl rfl⟩ res h

/-- with the current source flags `run()` never re-raises the exception of a backtest, on any path -/
theorem C19_manager_never_reraises_a_backtest_failure (env : Env M P) (md : Mode) (threads cpu : Nat) (windows ctxSet : Bool)
    (assign : Nat → Nat) (finished : Nat → Bool) (cfg : Option M) (d : Option (Data C V N P))
    (strats : List (FStrat M C V N P O)) (res : List (Option O)) :
    managerRunF env md FailMode.current threads cpu windows ctxSet assign finished cfg d strats ≠ .aborted res := by
  rw [C19_failure_handling_pinned.1]
  cases cfg with
  | none => exact fun h => nomatch h
  | some cfg =>
    cases d with
    | none => exact fun h => nomatch h
    | some d =>
      refine dispatch_cases (motive := fun o : FOutcome O => o ≠ .aborted res) ?_ ?_ ?_ ?_ ?_
      · exact fun _ h => nomatch h
      · exact fun h => nomatch (h : FOutcome.done _ = _)
      · exact fun h => nomatch (h : FOutcome.done _ = _)
      · exact fun h => nomatch (h : FOutcome.done _ = _)
      · exact fun _ _ h => nomatch h

/-- in the supported configurations (at least one thread, not more threads than cpus, no start method fixed earlier)
    `run()` does return, however many backtests fail: the outcome is exactly the list of solo results -/
theorem C19_manager_with_failures_completes (env : Env M P) (threads cpu : Nat) (windows : Bool) (assign : Nat → Nat)
    (finished : Nat → Bool) (cfg : M) (d : Data C V N P) (strats : List (FStrat M C V N P O))
    (ht : 1 ≤ threads) (hc : threads ≤ cpu) :
    managerRunF env (Mode.current true) FailMode.current threads cpu windows false assign finished (some cfg) (some d) strats
      = .done (specF cfg d strats) := by
  obtain ⟨res, hres⟩ : ∃ res, managerRunF env (Mode.current true) FailMode.current threads cpu windows false assign finished
      (some cfg) (some d) strats = .done res := by
    rw [C19_failure_handling_pinned.1]
    exact dispatch_supported (motive := fun o : FOutcome O => ∃ res, o = .done res) ht hc ⟨_, rfl⟩ ⟨_, rfl⟩ ⟨_, rfl⟩ ⟨_, rfl⟩
  rw [hres, C19_manager_failure_isolated env threads cpu windows false assign finished cfg d strats res hres]

/-- **failure isolation, each strategy separately**: a strategy whose solo backtest does not fail has exactly its solo
    result — whatever the other strategies are, wherever they stand in the list and whichever of them fail … -/
theorem C19_non_failing_strategy_as_alone (env : Env M P) (threads cpu : Nat) (windows ctxSet : Bool) (assign : Nat → Nat)
    (finished : Nat → Bool) (cfg : M) (d : Data C V N P) (strats : List (FStrat M C V N P O)) (res : List (Option O))
    (h : managerRunF env (Mode.current true) FailMode.current threads cpu windows ctxSet assign finished (some cfg) (some d) strats
      = .done res)
    (i : Nat) (hi : i < strats.length) (hok : strats[i].fails cfg d = false) :
    res[i]? = some (some ((strats[i].run cfg d).2.2)) := by
  rw [C19_manager_failure_isolated env threads cpu windows ctxSet assign finished cfg d strats res h]
  simp [specF, hi, hok]

/-- … and a strategy whose solo backtest fails has none (and nothing else happens to the call: the list of results has
    an entry for every strategy) -/
theorem C19_failing_strategy_has_no_result (env : Env M P) (threads cpu : Nat) (windows ctxSet : Bool) (assign : Nat → Nat)
    (finished : Nat → Bool) (cfg : M) (d : Data C V N P) (strats : List (FStrat M C V N P O)) (res : List (Option O))
    (h : managerRunF env (Mode.current true) FailMode.current threads cpu windows ctxSet assign finished (some cfg) (some d) strats
      = .done res)
    (i : Nat) (hi : i < strats.length) (hbad : strats[i].fails cfg d = true) :
    res[i]? = some none ∧ res.length = strats.length := by
  rw [C19_manager_failure_isolated env threads cpu windows ctxSet assign finished cfg d strats res h]
  simp [specF, hi, hbad]

/-- **order, thread count and the set of failing strategies are immaterial**: two runs of the same strategies in
    different orders, with different thread counts, platforms and schedules report the same results up to that reordering -/
theorem C19_failures_order_and_threads_immaterial (env : Env M P) (t1 t2 cpu1 cpu2 : Nat) (w1 w2 c1 c2 : Bool)
    (as1 as2 : Nat → Nat) (f1 f2 : Nat → Bool) (cfg : M) (d : Data C V N P) (s1 s2 : List (FStrat M C V N P O))
    (hperm : s1.Perm s2) (r1 r2 : List (Option O))
    (h1 : managerRunF env (Mode.current true) FailMode.current t1 cpu1 w1 c1 as1 f1 (some cfg) (some d) s1 = .done r1)
    (h2 : managerRunF env (Mode.current true) FailMode.current t2 cpu2 w2 c2 as2 f2 (some cfg) (some d) s2 = .done r2) :
    r1.Perm r2 := by
  rw [C19_manager_failure_isolated env t1 cpu1 w1 c1 as1 f1 cfg d s1 r1 h1,
    C19_manager_failure_isolated env t2 cpu2 w2 c2 as2 f2 cfg d s2 r2 h2]
  exact hperm.map _

/-- **the other strategies' failures are immaterial**: replace every other strategy by any other one (failing or not):
    the `i`-th result stays -/
theorem C19_result_independent_of_other_strategies (env : Env M P) (t1 t2 cpu1 cpu2 : Nat) (w1 w2 c1 c2 : Bool)
    (as1 as2 : Nat → Nat) (f1 f2 : Nat → Bool) (cfg : M) (d : Data C V N P) (s1 s2 : List (FStrat M C V N P O))
    (r1 r2 : List (Option O))
    (h1 : managerRunF env (Mode.current true) FailMode.current t1 cpu1 w1 c1 as1 f1 (some cfg) (some d) s1 = .done r1)
    (h2 : managerRunF env (Mode.current true) FailMode.current t2 cpu2 w2 c2 as2 f2 (some cfg) (some d) s2 = .done r2)
    (i j : Nat) (hi : i < s1.length) (hj : j < s2.length) (same : s1[i] = s2[j]) :
    r1[i]? = r2[j]? := by
  rw [C19_manager_failure_isolated env t1 cpu1 w1 c1 as1 f1 cfg d s1 r1 h1,
    C19_manager_failure_isolated env t2 cpu2 w2 c2 as2 f2 cfg d s2 r2 h2]
  simp [specF, hi, hj, same]

/-- when no backtest fails, `managerRunF` is `managerRun` (same dispatch, same data flow), whatever the treatment of
    failures: the theorems about `managerRun` are the special case "nobody fails" of the ones above -/
theorem C19_without_failures_same_as_plain_manager (env : Env M P) (md : Mode) (fm : FailMode) (threads cpu : Nat)
    (windows ctxSet : Bool) (assign : Nat → Nat) (finished : Nat → Bool) (cfg : Option M) (d : Option (Data C V N P))
    (strats : List (Strat M C V N P O)) :
    managerRunF env md fm threads cpu windows ctxSet assign finished cfg d (strats.map Strat.neverFails)
      = (managerRun env md threads cpu windows ctxSet assign cfg d strats).lift := by
  have hany : ∀ l : List O, (l.map some).any Option.isNone = false := by
    intro l
    induction l with
    | nil => rfl
    | cons x l ih => exact ih
  cases cfg with
  | none => rfl
  | some cfg =>
    cases d with
    | none => rfl
    | some d =>
      rw [managerRunF_eq, managerRun_eq, dispatch_map Outcome.lift, List.length_map, runSeqF_neverFails,
        runPoolF_neverFails, runPoolArgsF_neverFails]
      simp only [seqOutcome, poolOutcome, hany, Bool.and_false, Bool.not_false, Bool.or_true, Bool.false_eq_true,
        if_false, if_true]
      rfl

/-- without the handler in the in-process loop (the code before the repair: `actuator = _start_with_param_data(…)`,
    `e_callback(actuator)`): the exception of the second strategy leaves `run()`, and the third strategy — which alone
    produces a result — never starts.  Every copy of the current code is in place; only the treatment of the failure
    differs.  With the handler the same call gives everybody the solo result. -/
theorem C19_fails_when_inprocess_failure_propagates :
    (¬ (∀ (strats : List PFStrat),
        (managerRunF (probeEnv false false) (Mode.current true) ⟨false, true, true⟩ 1 1 false false id (fun _ => true)
          (some (0, 0, true)) (some pd0) strats).results = some (specF (0, 0, true) pd0 strats))) ∧
    managerRunF (probeEnv false false) (Mode.current true) ⟨false, true, true⟩ 1 1 false false id (fun _ => true)
      (some (0, 0, true)) (some pd0) [adder, raiser, idle] = .aborted [some fresh, none, none] ∧
    specF (0, 0, true) pd0 [adder, raiser, idle] = [some fresh, none, some fresh] ∧
    managerRunF (probeEnv false false) (Mode.current true) ⟨true, true, true⟩ 1 1 false false id (fun _ => true)
      (some (0, 0, true)) (some pd0) [adder, raiser, idle] = .done [some fresh, none, some fresh] := by
  refine ⟨?_, by decide, by decide, by decide⟩
  exact fun h => absurd (h [adder, raiser, idle]) (by decide)

/-- the pooled variant: were the tasks of a pooled branch fetched with `.get()` instead of `.wait()`, the first failing
    task would re-raise inside the `with Pool` block and the workers would be terminated: a task that is not finished by
    then (here: none of the later ones) has no result although its backtest succeeds alone — on the forked branch, and
    on the Windows branch; the handler in the in-process loop does not help there.  Each branch has its own flag, which
    matters on that branch only. -/
theorem C19_fails_when_pool_tasks_are_fetched_with_get :
    (¬ (∀ (finished : Nat → Bool) (strats : List PFStrat),
        (managerRunF (probeEnv false false) (Mode.current true) ⟨true, false, true⟩ 2 2 false false (fun i => i % 2) finished
          (some (0, 0, true)) (some pd0) strats).results = some (specF (0, 0, true) pd0 strats))) ∧
    (¬ (∀ (finished : Nat → Bool) (strats : List PFStrat),
        (managerRunF (probeEnv false false) (Mode.current true) ⟨true, true, false⟩ 2 2 true false (fun i => i % 2) finished
          (some (0, 0, true)) (some pd0) strats).results = some (specF (0, 0, true) pd0 strats))) ∧
    managerRunF (probeEnv false false) (Mode.current true) ⟨true, false, true⟩ 2 2 false false (fun i => i % 2) (fun _ => false)
      (some (0, 0, true)) (some pd0) [adder, raiser, idle] = .aborted [some fresh, none, none] ∧
    managerRunF (probeEnv false false) (Mode.current true) ⟨true, true, false⟩ 2 2 true false (fun i => i % 2) (fun _ => false)
      (some (0, 0, true)) (some pd0) [adder, raiser, idle] = .aborted [some fresh, none, none] ∧
    managerRunF (probeEnv false false) (Mode.current true) ⟨true, false, true⟩ 2 2 true false (fun i => i % 2) (fun _ => false)
      (some (0, 0, true)) (some pd0) [adder, raiser, idle] = .done [some fresh, none, some fresh] ∧
    (∀ windows, managerRunF (probeEnv false false) (Mode.current true) ⟨true, true, true⟩ 2 2 windows false (fun i => i % 2) (fun _ => false)
      (some (0, 0, true)) (some pd0) [adder, raiser, idle] = .done [some fresh, none, some fresh]) := by
  refine ⟨?_, ?_, by decide, by decide, by decide, by decide⟩
  · exact fun h => absurd (h (fun _ => false) [adder, raiser, idle]) (by decide)
  · exact fun h => absurd (h (fun _ => false) [adder, raiser, idle]) (by decide)

/-- failure isolation needs the copies as well: with the configured markets attached directly (the original `_start`),
    a strategy that fails only when it finds somebody else's position — alone it succeeds — fails under the manager
    after a strategy that opens one, handler or not -/
theorem C19_fails_when_a_leak_makes_a_strategy_fail :
    specF (0, 0, true) pd0 [adder, probeFStrat eff0 false true] = [some fresh, some fresh] ∧
    managerRunF (probeEnv false false) (Mode.original true) ⟨true, true, true⟩ 1 1 false false id (fun _ => true)
      (some (0, 0, true)) (some pd0) [adder, probeFStrat eff0 false true] = .done [some fresh, none] ∧
    managerRunF (probeEnv false false) (Mode.current true) ⟨true, true, true⟩ 1 1 false false id (fun _ => true)
      (some (0, 0, true)) (some pd0) [adder, probeFStrat eff0 false true] = .done [some fresh, some fresh] := by
  decide

/-- the hypotheses of `C19_manager_failure_isolated_of_safe` hold for the current code on a list with failing strategies
    that write into every layer before they fail -/
example : MarketsSafe (probeEnv true true) (Mode.current true) ((0, 0, true) : PM)
    (plain [probeFStrat ⟨1, 0, 1, 1, 2, 5, 1⟩ true, idle]) := Or.inl (by decide)
example : DataSafe (probeEnv true true) (Mode.current true) pd0 (plain [probeFStrat ⟨1, 0, 1, 1, 2, 5, 1⟩ true, idle]) :=
  ⟨Or.inl (by decide), Or.inl (by decide), Or.inl (by decide), Or.inl (by decide)⟩
/-- the hypothesis of `C19_manager_failure_isolated` is satisfiable — sequential, forked pool, Windows pool — by strategies
    of which the first and the third fail after writing into everything they were handed: the others find pristine objects -/
example : managerRunF (probeEnv true true) (Mode.current true) FailMode.current 1 8 false false id (fun _ => false)
    (some (0, 0, true)) (some pd0) [probeFStrat ⟨1, 0, 1, 1, 2, 5, 1⟩ true, adder, raiser, probeFStrat ⟨0, 1, 0, 0, 0, 3, 0⟩ false true]
    = .done [none, some fresh, none, some fresh] := by decide
example : managerRunF (probeEnv true true) (Mode.current true) FailMode.current 2 8 false false (fun i => i % 2) (fun _ => false)
    (some (0, 0, true)) (some pd0) [probeFStrat ⟨1, 0, 1, 1, 2, 5, 1⟩ true, adder, raiser, probeFStrat ⟨0, 1, 0, 0, 0, 3, 0⟩ false true]
    = .done [none, some fresh, none, some fresh] := by decide
example : managerRunF (probeEnv true true) (Mode.current true) FailMode.current 4 8 true false (fun _ => 0) (fun _ => false)
    (some (0, 0, true)) (some pd0) [probeFStrat ⟨1, 0, 1, 1, 2, 5, 1⟩ true, adder, raiser, probeFStrat ⟨0, 1, 0, 0, 0, 3, 0⟩ false true]
    = .done [none, some fresh, none, some fresh] := by decide
/-- `hok` / `hbad` of the per-strategy theorems: both kinds of strategy exist in one list -/
example : adder.fails (0, 0, true) pd0 = false ∧ raiser.fails (0, 0, true) pd0 = true := by decide
/-- the code before the repair on the failing input of the repair commit: strategies [raiser, add liquidity, buy], threads = 1 -/
example : managerRunF (probeEnv false false) (Mode.current true) FailMode.beforeRepair 1 8 false false id (fun _ => false)
    (some (0, 0, true)) (some pd0) [raiser, adder, probeFStrat { eff0 with posB := 1 } false]
    = .aborted [none, none, none] := by decide
/-- … and with threads = 2 (the pooled path was never affected) -/
example : managerRunF (probeEnv false false) (Mode.current true) FailMode.beforeRepair 2 8 false false (fun i => i % 2) (fun _ => false)
    (some (0, 0, true)) (some pd0) [raiser, adder, probeFStrat { eff0 with posB := 1 } false]
    = .done [none, some fresh, some fresh] := by decide

end Demeter
