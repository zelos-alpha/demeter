/-
  C19, process-wide state — what outlives a backtest inside an interpreter process.

  `Manager.GStrat` is a backtest that may read and write the state `G` of the process it runs in (decimal context,
  class-level attributes such as `Snapshot.market_status` before the repair a78c4ba, module globals); `runSeqG` threads
  `G` through the in-process loop, `runPoolG` / `runPoolArgsG` keep one `G` per worker process across the tasks that
  worker executes, for every assignment of tasks to workers.

  The property holds under the explicit hypothesis `GIntact`: every backtest of the list ignores the process state, or
  every backtest leaves it as it found it (and a spawned worker starts from the caller's state).  Without it the statement
  is false: a backtest that writes `G` changes the result of a later one in the same process / on the same worker, and not
  on another worker.  Under `GIntact` a run with process state is the run of `Proofs/C19/Failure.lean` on the backtests
  taken at the caller's state, so every theorem there carries over.

  What `GIntact` means for the code: the harness measures it on every backtest (decimal context and the class-level
  attributes of `Snapshot` before and after, in the caller's process and inside pool workers) — a change is reported as
  a violation by itself; strategies that change the decimal context themselves are outside the hypothesis.
-/
import Proofs.C19.Failure
namespace Demeter
open Manager

variable {G M C V N P O : Type}

def Manager.GIgnores (strats : List (GStrat G M C V N P O)) : Prop := ∀ s ∈ strats, ∀ g g', s.strat g = s.strat g'
/-- also a backtest that fails leaves the process state as it found it -/
def Manager.GRestores (strats : List (GStrat G M C V N P O)) : Prop := ∀ s ∈ strats, ∀ g m d, s.leaves g m d = g
/-- `gSpawn`: the state a spawned worker starts from -/
def Manager.GIntact (g gSpawn : G) (strats : List (GStrat G M C V N P O)) : Prop :=
  GIgnores strats ∨ (GRestores strats ∧ gSpawn = g)

abbrev Manager.atState (g : G) (strats : List (GStrat G M C V N P O)) : List (FStrat M C V N P O) := strats.map (fun s => s.strat g)

/-- a set `K` of process states in which every backtest behaves as at `g` and which no backtest leaves -/
structure Manager.GClosed (g : G) (K : G → Prop) (strats : List (GStrat G M C V N P O)) : Prop where
  same : ∀ s ∈ strats, ∀ g', K g' → s.strat g' = s.strat g
  stays : ∀ s ∈ strats, ∀ g' m d, K g' → K (s.leaves g' m d)

theorem Manager.GClosed.tail {g : G} {K : G → Prop} {s : GStrat G M C V N P O} {rest : List (GStrat G M C V N P O)}
    (h : GClosed g K (s :: rest)) : GClosed g K rest :=
  ⟨fun t ht => h.same t (List.mem_cons_of_mem _ ht), fun t ht => h.stays t (List.mem_cons_of_mem _ ht)⟩

theorem Manager.runSeqG_closed (env : Env M P) (md : Mode) (catches : Bool) (g : G) (K : G → Prop)
    (strats : List (GStrat G M C V N P O)) (h : GClosed g K strats) (g' : G) (hg : K g') (cfg : M) (d : Data C V N P) :
    runSeqG env md catches g' cfg d strats = runSeqF env md catches cfg d (atState g strats) := by
  induction strats generalizing g' cfg d with
  | nil => rfl
  | cons s rest ih =>
    have e := h.same s List.mem_cons_self g' hg
    simp only [runSeqG, runSeqF, atState, List.map_cons, startG, e, List.map_map]
    split
    · simp
    · congr 1
      exact ih h.tail _ (h.stays s List.mem_cons_self g' _ _ hg) _ _

theorem Manager.runPoolG_closed (env : Env M P) (md : Mode) (cfg : M) (assign : Nat → Nat) (g : G) (K : G → Prop)
    (strats : List (GStrat G M C V N P O)) (h : GClosed g K strats) (w : Nat → G × Data C V N P) (hw : ∀ k, K (w k).1) (i : Nat) :
    runPoolG env md cfg assign w i strats = runPoolF env md cfg assign (fun k => (w k).2) i (atState g strats) := by
  induction strats generalizing w i with
  | nil => rfl
  | cons s rest ih =>
    have e := h.same s List.mem_cons_self _ (hw (assign i))
    simp only [runPoolG, runPoolF, atState, List.map_cons, startG, e]
    congr 1
    rw [ih h.tail]
    · congr 1
      funext j
      split <;> rfl
    · intro k
      split
      · exact h.stays s List.mem_cons_self _ _ _ (hw (assign i))
      · exact hw k

/-- pool with the data pickled per task: the workers' process states are the only thing tasks could share -/
theorem Manager.runPoolArgsG_closed (env : Env M P) (md : Mode) (cfg : M) (d : Data C V N P) (assign : Nat → Nat) (g : G)
    (K : G → Prop) (strats : List (GStrat G M C V N P O)) (h : GClosed g K strats) (wg : Nat → G) (hw : ∀ k, K (wg k)) (i : Nat) :
    runPoolArgsG env md cfg d assign wg i strats = runPoolArgsF env md cfg d (atState g strats) := by
  induction strats generalizing wg i with
  | nil => rfl
  | cons s rest ih =>
    have e := h.same s List.mem_cons_self _ (hw (assign i))
    simp only [runPoolArgsG, runPoolArgsF, atState, List.map_cons, startG, e, List.map_map]
    congr 1
    rw [ih h.tail]
    · simp [runPoolArgsF, atState]
    · intro k
      split
      · exact h.stays s List.mem_cons_self _ _ _ (hw (assign i))
      · exact hw k

/-- **reduction**: under `GIntact`, `run()` inside a process with state `g` is `managerRunF` on the backtests taken at
    `g` — whatever the copies (`md`), the treatment of failures (`fm`), threads, platform, scheduling -/
theorem C19_process_state_reduces (env : Env M P) (md : Mode) (fm : FailMode) (threads cpu : Nat) (windows ctxSet : Bool)
    (assign : Nat → Nat) (finished : Nat → Bool) (g gSpawn : G) (cfg : Option M) (d : Option (Data C V N P))
    (strats : List (GStrat G M C V N P O)) (hg : GIntact g gSpawn strats) :
    managerRunG env md fm threads cpu windows ctxSet assign finished g gSpawn cfg d strats
      = managerRunF env md fm threads cpu windows ctxSet assign finished cfg d (atState g strats) := by
  cases cfg with
  | none => rfl
  | some cfg =>
    cases d with
    | none => rfl
    | some d =>
      obtain ⟨K, hc, hK, hKs⟩ : ∃ K, GClosed g K strats ∧ K g ∧ K gSpawn := by
        rcases hg with hi | ⟨hr, hsp⟩
        · exact ⟨fun _ => True, ⟨fun s hs g' _ => hi s hs g' g, fun _ _ _ _ _ _ => trivial⟩, trivial, trivial⟩
        · exact ⟨fun g' => g' = g, ⟨fun _ _ g' e => by rw [e], fun s hs g' m d e => by rw [hr s hs g' m d]; exact e⟩, rfl, hsp⟩
      simp only [managerRunG, managerRunF, atState, List.length_map]
      rw [runSeqG_closed env md _ g K strats hc g hK cfg d,
        runPoolG_closed env md cfg assign g K strats hc _ (fun _ => hK) 0,
        runPoolArgsG_closed env md cfg d assign g K strats hc _ (fun _ => hKs) 0]

/-- **`BacktestManager.run()`, full statement** (current source flags, pandas copy-on-write): the backtests run inside
    interpreter processes — the caller's, or pool workers for any assignment of tasks to workers — whose state `G` they
    may read and write.  If every backtest ignores that state, or every backtest leaves it as it found it (`GIntact`), then
    whatever the strategies do to the objects they are handed, whichever of them fail, in whatever order, with whatever
    number of threads and cpus, on either pooled branch, under every scheduling: if `run()` returns, then per strategy,
    in the order of `strategies`, the result is the one of that strategy run alone in a process of its own with state `g` -/
theorem C19_manager_isolated (env : Env M P) (threads cpu : Nat) (windows ctxSet : Bool) (assign : Nat → Nat)
    (finished : Nat → Bool) (g gSpawn : G) (cfg : M) (d : Data C V N P) (strats : List (GStrat G M C V N P O))
    (hg : GIntact g gSpawn strats) (res : List (Option O))
    (h : managerRunG env (Mode.current true) FailMode.current threads cpu windows ctxSet assign finished g gSpawn (some cfg) (some d) strats
      = .done res) :
    res = specG g cfg d strats := by
  rw [C19_process_state_reduces _ _ _ _ _ _ _ _ _ g gSpawn _ _ strats hg] at h
  exact C19_manager_failure_isolated env threads cpu windows ctxSet assign finished cfg d _ res h

/-- … and `run()` does not re-raise a backtest's exception either -/
theorem C19_manager_with_process_state_never_reraises (env : Env M P) (md : Mode) (threads cpu : Nat) (windows ctxSet : Bool)
    (assign : Nat → Nat) (finished : Nat → Bool) (g gSpawn : G) (cfg : Option M) (d : Option (Data C V N P))
    (strats : List (GStrat G M C V N P O)) (hg : GIntact g gSpawn strats) (res : List (Option O)) :
    managerRunG env md FailMode.current threads cpu windows ctxSet assign finished g gSpawn cfg d strats ≠ .aborted res := by
  rw [C19_process_state_reduces _ _ _ _ _ _ _ _ _ g gSpawn _ _ strats hg]
  exact C19_manager_never_reraises_a_backtest_failure env md threads cpu windows ctxSet assign finished cfg d _ res

/-- the stateless case: backtests without process-wide state are `GIntact` in every process, so their run
    is the one of `C19_manager_failure_isolated` whatever the process states are -/
theorem C19_stateless_backtests_isolated (env : Env M P) (threads cpu : Nat) (windows ctxSet : Bool) (assign : Nat → Nat)
    (finished : Nat → Bool) (g gSpawn : G) (cfg : M) (d : Data C V N P) (strats : List (FStrat M C V N P O)) (res : List (Option O))
    (h : managerRunG env (Mode.current true) FailMode.current threads cpu windows ctxSet assign finished g gSpawn (some cfg) (some d)
      (strats.map FStrat.stateless) = .done res) :
    res = specF cfg d strats := by
  have hg : GIntact g gSpawn (strats.map (FStrat.stateless (G := G))) :=
    Or.inl (List.forall_mem_map.mpr fun _ _ _ _ => rfl)
  have := C19_manager_isolated env threads cpu windows ctxSet assign finished g gSpawn cfg d _ hg res h
  simpa [specG, FStrat.stateless, List.map_map, Function.comp_def] using this

/-- **the process the caller gets back**: if every backtest restores the process state, the in-process loop leaves the
    caller's process as it found it — a later `run()` or a later plain `Actuator.run()` in that process starts from `g` too -/
theorem C19_process_state_left_as_found (env : Env M P) (md : Mode) (g : G) (cfg : M) (d : Data C V N P)
    (strats : List (GStrat G M C V N P O)) (hr : GRestores strats) :
    seqLeaves env md g cfg d strats = g := by
  induction strats generalizing cfg d with
  | nil => rfl
  | cons s rest ih =>
    simp only [seqLeaves, startG, hr s List.mem_cons_self]
    exact ih _ _ (fun t ht => hr t (List.mem_cons_of_mem _ ht))

abbrev Manager.PGStrat := GStrat Nat PM Nat Nat Nat (Nat × Bool) ((PM × PData) × Nat)
/-- changes the process state (sets the decimal precision and does not set it back; publishes into a class-level dict) -/
def Manager.gWriter : PGStrat := probeGStrat eff0 false 1
/-- reads the process state and changes nothing -/
def Manager.gReader : PGStrat := probeGStrat eff0 false 0

theorem Manager.readers_restore : GRestores [gReader, gReader] := by
  intro s hs g m d
  simp only [List.mem_cons, List.not_mem_nil, or_false, or_self] at hs
  subst hs
  rfl

/-- what the source says on this run: the `Snapshot` class holds no object shared by its instances (`market_status` is
    `field(default_factory=MarketDict)`), so publishing the statuses of a bar writes into that snapshot only -/
theorem C19_process_state_flags_pinned : Gen.snapshotHoldsNoSharedObject = true := by decide

/-- the Actuator of the current source adds no write of its own: strategies that restore the process state make backtests
    that restore it, whatever a bar publishes -/
theorem C19_actuator_leaves_process_state (publish : G → M → Data C V N P → G) (strats : List (GStrat G M C V N P O))
    (hr : GRestores strats) : GRestores (strats.map (GStrat.underActuator Gen.snapshotHoldsNoSharedObject publish)) := by
  intro s hs g m d
  obtain ⟨t, ht, rfl⟩ := List.mem_map.mp hs
  simp only [GStrat.underActuator, C19_process_state_flags_pinned, if_true]
  exact hr t ht g m d

/-- **the property for strategies that leave the process state alone, run by the Actuator as it is**: the hypothesis is
    on the strategies only -/
theorem C19_manager_isolated_for_restoring_strategies (env : Env M P) (threads cpu : Nat) (windows ctxSet : Bool) (assign : Nat → Nat)
    (finished : Nat → Bool) (g : G) (publish : G → M → Data C V N P → G) (cfg : M) (d : Data C V N P)
    (strats : List (GStrat G M C V N P O)) (hr : GRestores strats) (res : List (Option O))
    (h : managerRunG env (Mode.current true) FailMode.current threads cpu windows ctxSet assign finished g g (some cfg) (some d)
      (strats.map (GStrat.underActuator Gen.snapshotHoldsNoSharedObject publish)) = .done res) :
    res = specG g cfg d strats := by
  have := C19_manager_isolated env threads cpu windows ctxSet assign finished g g cfg d _
    (Or.inr ⟨C19_actuator_leaves_process_state publish strats hr, rfl⟩) res h
  simpa [specG, GStrat.underActuator, List.map_map, Function.comp_def] using this

/-- with a class-level `Snapshot.market_status` (the code before the repair a78c4ba) the Actuator itself writes the
    process state on every bar: two strategies that touch nothing — the second one looks at what the `Snapshot` class holds
    when it starts and finds the statuses the first backtest published last -/
theorem C19_fails_when_snapshot_status_is_class_level :
    GRestores [gReader, gReader] ∧
    managerRunG (probeEnv false false) (Mode.current true) FailMode.current 1 8 false false id (fun _ => true) 0 0
        (some (0, 0, true)) (some pd0) ([gReader, gReader].map (GStrat.underActuator false (fun g _ _ => g + 1)))
      ≠ .done (specG 0 (0, 0, true) pd0 [gReader, gReader]) :=
  ⟨readers_restore, by decide⟩

/-- **a backtest that writes process-wide state changes a later one in the same process** — with every copy the code
    makes today: on the in-process path the reader run after the writer finds the changed state; on the forked path when
    the scheduler gives both tasks to the same worker, and likewise with the data pickled per task; on different workers
    it does not -/
theorem C19_fails_when_process_state_is_written :
    (¬ (∀ (strats : List PGStrat) (res : List (Option ((PM × PData) × Nat))),
          managerRunG (probeEnv false false) (Mode.current true) FailMode.current 1 8 false false id (fun _ => true) 0 0
            (some (0, 0, true)) (some pd0) strats = .done res → res = specG 0 (0, 0, true) pd0 strats)) ∧
    (¬ (∀ (assign : Nat → Nat) (strats : List PGStrat) (res : List (Option ((PM × PData) × Nat))),
          managerRunG (probeEnv false false) (Mode.current true) FailMode.current 2 8 false false assign (fun _ => true) 0 0
            (some (0, 0, true)) (some pd0) strats = .done res → res = specG 0 (0, 0, true) pd0 strats)) ∧
    (¬ (∀ (assign : Nat → Nat) (strats : List PGStrat) (res : List (Option ((PM × PData) × Nat))),
          managerRunG (probeEnv false false) (Mode.current true) FailMode.current 2 8 true false assign (fun _ => true) 0 0
            (some (0, 0, true)) (some pd0) strats = .done res → res = specG 0 (0, 0, true) pd0 strats)) ∧
    managerRunG (probeEnv false false) (Mode.current true) FailMode.current 2 8 false false id (fun _ => true) 0 0
        (some (0, 0, true)) (some pd0) [gWriter, gReader] = .done (specG 0 (0, 0, true) pd0 [gWriter, gReader]) := by
  refine ⟨?_, ?_, ?_, by decide⟩
  · exact fun h => absurd (h [gWriter, gReader] _ rfl) (by decide)
  · exact fun h => absurd (h (fun _ => 0) [gWriter, gReader] _ rfl) (by decide)
  · exact fun h => absurd (h (fun _ => 0) [gWriter, gReader] _ rfl) (by decide)

/-- a spawned worker starts from a fresh interpreter: a caller that changed the process state before `run()` (say
    `getcontext().prec = 50`) gets other results from the spawned pool than in-process, although every backtest restores
    the state — the clause `gSpawn = g` of `GIntact` is needed -/
theorem C19_fails_when_spawned_workers_start_from_another_state :
    GRestores [gReader, gReader] ∧
    managerRunG (probeEnv false false) (Mode.current true) FailMode.current 2 8 true false id (fun _ => true) 5 0
        (some (0, 0, true)) (some pd0) [gReader, gReader] ≠ .done (specG 5 (0, 0, true) pd0 [gReader, gReader]) :=
  ⟨readers_restore, by decide⟩

/-- a reader and a backtest that writes nothing satisfy the "restores" half and not the "ignores" half -/
example : GIntact (0 : Nat) 0 [gReader, gReader] ∧ ¬ GIgnores [gReader] := by
  refine ⟨Or.inr ⟨readers_restore, rfl⟩, ?_⟩
  · intro h
    have := congrArg (fun (t : FStrat PM Nat Nat Nat (Nat × Bool) ((PM × PData) × Nat)) => (t.run (0, 0, true) pd0).2.2.2)
      (h gReader List.mem_cons_self 0 1)
    revert this
    decide
/-- a writer that nobody reads: the "ignores" half (lifted stateless backtests) -/
example : GIntact (3 : Nat) 7 [FStrat.stateless (G := Nat) adder, FStrat.stateless raiser] := by
  left
  intro s hs g g'
  simp only [List.mem_cons, List.not_mem_nil, or_false] at hs
  rcases hs with rfl | rfl <;> rfl
/-- the writer does not satisfy it together with a reader -/
example : ¬ GRestores [gWriter, gReader] := by
  exact fun h => absurd (h gWriter List.mem_cons_self 0 (0, 0, true) pd0) (by decide)
/-- readers only, three of them on two workers, one of them failing: everybody finds the caller's state -/
example : managerRunG (probeEnv true true) (Mode.current true) FailMode.current 2 8 false false (fun i => i % 2) (fun _ => false) 4 4
    (some (0, 0, true)) (some pd0) [gReader, probeGStrat eff0 true 0, gReader]
    = .done [some (fresh, 4), none, some (fresh, 4)] := by decide
/-- a writer first: in-process both later backtests find its write, on two workers (round robin) only the third -/
example : managerRunG (probeEnv true true) (Mode.current true) FailMode.current 1 8 false false id (fun _ => false) 0 0
    (some (0, 0, true)) (some pd0) [gWriter, gReader, gReader]
    = .done [some (fresh, 0), some (fresh, 1), some (fresh, 1)] := by decide
example : managerRunG (probeEnv true true) (Mode.current true) FailMode.current 2 8 false false (fun i => i % 2) (fun _ => false) 0 0
    (some (0, 0, true)) (some pd0) [gWriter, gReader, gReader]
    = .done [some (fresh, 0), some (fresh, 0), some (fresh, 1)] := by decide

end Demeter
