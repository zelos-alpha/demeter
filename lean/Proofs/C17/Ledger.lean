/-
  C17 — what "tokens paid" means on the wallet.  The sequence / round-trip theorems count an accepted `buy_glp(tok, a)` /
  `deposit(la, sa)` as `a` (`la`, `sa`) tokens paid.  The broker debits exactly that — except inside its documented dust
  sweep (`Asset.sub`: a debit within 0.001 % of the balance takes the whole balance, leaving 0), where the wallet pays the
  balance instead of the amount: at most 0.001 % of the balance more or less.  This file states that alternative
  exactly; the harness oracle (`wallet_delta_oracle` in harness/c17.py) checks it on every call of the real objects.
-/
import Proofs.Lemmas.AssetSub
namespace Demeter

/-- **an accepted strict debit**: the balance becomes `balance − amount`, which is then non-negative, **or** the dust sweep
    applies (relative difference below the float literal `0.00001`) and the balance becomes 0, **or** balance and amount
    are both 0 and the balance is written back as it was. -/
theorem C17_wallet_debit_exact_or_sweep {cx : NumCtx} {w w1 : Wallet} {k : String} {a : Rat}
    (h : Wallet.debit cx w k a false = .ok w1) :
    ∃ b, AList.get? w k = some b ∧
      ((w1 = AList.set w k (cx.sub b a) ∧ 0 ≤ cx.sub b a) ∨
       (w1 = AList.set w k 0 ∧ ratAbs (cx.div (cx.sub b a) (if b ≠ 0 then b else a)) < assetDust) ∨
       (w1 = AList.set w k b ∧ b = 0 ∧ a = 0)) := by
  obtain ⟨b, b', hg, hs, rfl⟩ := Wallet.debit_false_ok h
  refine ⟨b, hg, ?_⟩
  rcases assetSub_cases cx hs with ⟨e, h0⟩ | ⟨e, _, hd⟩ | ⟨e, hb, ha⟩ <;> rw [e]
  · exact Or.inl ⟨rfl, h0⟩
  · exact Or.inr (Or.inl ⟨rfl, hd⟩)
  · exact Or.inr (Or.inr ⟨rfl, hb, ha⟩)

/-- the sweep window in exact arithmetic: the wallet pays the balance `b` instead of `a`, and `|b − a| < 0.00001·|b|` -/
theorem C17_wallet_debit_sweep_window {b a : Rat} (hb : b ≠ 0)
    (h : ratAbs (NumCtx.exact.div (NumCtx.exact.sub b a) (if b ≠ 0 then b else a)) < assetDust) :
    |b - a| < assetDust * |b| ∧ assetDust = Gen.assetSubDust ∧ (Gen.assetSubDust : Rat) < 1 / 99999 := by
  simp only [ne_eq, hb, not_false_eq_true, if_true, NumCtx.exact_div, NumCtx.exact_sub] at h
  rw [ratAbs_eq_abs, abs_div, div_lt_iff₀ (abs_pos.mpr hb)] at h
  exact ⟨h, rfl, by show assetDust < _; linarith [assetDust_bounds.2]⟩

/-- non-vacuity: a debit of 100 from 100.0005 sweeps the balance (pays 0.0005 more than the amount); a debit of 40 does not -/
example : Wallet.debit NumCtx.exact [("WETH", 1000005 / 10000)] "WETH" 100 false = .ok [("WETH", 0)] := by decide +kernel
example : Wallet.debit NumCtx.exact [("WETH", 1000005 / 10000)] "WETH" 40 false = .ok [("WETH", 600005 / 10000)] := by decide +kernel

end Demeter
