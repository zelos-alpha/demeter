/-
  C17 — GMX v1 fee under ROUNDED arithmetic, every branch.

  The theorems of Proofs/C17.lean / V1Fee.lean are about `NumCtx.exact`.  The code computes with 35-digit Decimals, and the
  rounding is visible in MORE than the capped tax branch: e.g. `T = 33333333333333333333333333333333334`, initial difference 0,
  next difference `T` (uncapped tax branch, average `T/2`): exact arithmetic charges 25 + 30 = 55 bp, CPython charges 54 bp
  (`60·rnd(T/2)` is rounded down, the quotient is 29.99…).  Here, for EVERY arithmetic context whose rounding has relative
  error `ε ≤ 1/200` (`Rounds`; `round35`: `ε = 5·10⁻³⁵`, `NumCtx.pyG_rounds`), the fee stays in `[0, 25 + 60]` in every branch.
  That it is within 1 bp of the exact-arithmetic fee for `ε ≤ 1/1000` is Proofs/C17/V1RoundDiff.lean.
-/
import Proofs.Lemmas.GmxRnd
namespace Demeter
open Demeter.GmxV1 Demeter.Gmx

/-- the instance above, kernel-checked: uncapped tax branch, 54 bp under 35-digit rounding, 55 bp exactly -/
example : feeFromDiffs NumCtx.py 0 33333333333333333333333333333333334 33333333333333333333333333333333334 = (54, .tax) ∧
    feeFromDiffs NumCtx.exact 0 33333333333333333333333333333333334 33333333333333333333333333333333334 = (55, .tax) := by
  constructor <;> decide +kernel

/-- **the fee stays in [0, 25 + 60] bp under any rounding with relative error ≤ 1/200 — every branch** (rebate, rebate to
    zero, tax, capped tax) -/
theorem C17_v1_fee_range_any_rounding {cx : NumCtx} {ε : Rat} (H : Rounds cx ε) (hε : ε ≤ 1 / 200)
    {iD nD T : Rat} (hi : 0 ≤ iD) (hn : 0 ≤ nD) (hT : 0 < T) :
    0 ≤ (feeFromDiffs cx iD nD T).1 ∧ (feeFromDiffs cx iD nD T).1 ≤ 85 ∧ Gen.gmxMintBurnFeeBps = 25 ∧ Gen.gmxTaxBps = 60 :=
  have key := Gmx.feeFromDiffs_range ⟨H, hε⟩ hi hn hT
  ⟨key.1, key.2, rfl, rfl⟩

end Demeter
