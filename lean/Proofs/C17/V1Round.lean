/-
  C17 — GMX v1, the capped tax branch under the 35-digit Decimal arithmetic of the code.  (Rounding changes the fee of the
  other branches too; every branch is covered by Proofs/C17/V1RoundAny.lean (range) and V1RoundDiff.lean (≤ 1 bp from exact).)

  `get_fee_basis_points` computes, when the average deviation exceeds the target, `int(60 * target / target)` on
  Decimals: the product `60·T` is rounded to 35 digits, divided by `T`, rounded again, truncated.  In exact arithmetic the
  quotient is 60 and the fee `25 + 60 = 85 bp` (the Vault's capped fee).  Under rounding the quotient `q` lies within
  `60·(1 ± ε)²`, so it is either `≥ 60` (fee 85) or in `(59, 60)` (fee 84): the fee of the implementation is **exactly one
  basis point** below the exact / Vault fee precisely when the rounded quotient is below 60, which can happen only if the
  product `60·T` was rounded *down* (if `60·T` is representable — `T` of at most 33 significant digits — the fee is 85).
  One basis point of fee is 10⁻⁴ of the amount, the size of `exact_vs_impl_max_rel_dev` in evidence/C17.json; it is inside the property's
  1-bp tolerance.
-/
import Proofs.Lemmas.GmxV1Spec
import Proofs.Lemmas.Exact
import Mathlib.Tactic.Linarith
import Mathlib.Tactic.NormNum
namespace Demeter
open Demeter.GmxV1 Demeter.Gmx

theorem Gmx.capped_quotient_bounds {cx : NumCtx} {ε : Rat} (H : Gmx.Rnd cx ε) {T : Rat} (hT : 0 < T) :
    59 < cx.div (cx.mul 60 T) T ∧ cx.div (cx.mul 60 T) T < 61 := by
  have h := H.quot (by norm_num : (0 : Rat) ≤ 60) hT.le hT (.refl T)
  rw [mul_div_assoc, div_self hT.ne', mul_one] at h
  have hε := H.e1
  obtain ⟨l, u⟩ := abs_le.mp (h.dist_le H.eps_nonneg (by norm_num; linarith) (by norm_num) (le_refl 60))
  push_cast at l u
  constructor <;> linarith

theorem Gmx.truncInt_59_61 {q : Rat} (h1 : 59 < q) (h2 : q < 61) :
    (q < 60 → truncInt q = 59) ∧ (60 ≤ q → truncInt q = 60) := by
  have hq0 : 0 ≤ q := by linarith
  rw [truncInt_eq_floor hq0]
  constructor
  · intro h; rw [Int.floor_eq_iff]; constructor <;> push_cast <;> linarith
  · intro h; rw [Int.floor_eq_iff]; constructor <;> push_cast <;> linarith

/-- **the capped tax branch under rounded arithmetic: the fee is 85 bp or 84 bp, and 84 exactly when the rounded
    quotient `rnd(rnd(60·T)/T)` is below 60** — one basis point under the exact-arithmetic fee and the Vault's capped fee
    (both 25 + 60 = 85).  `T` is the target amount as the code holds it, `initialDiff`/`nextDiff` any values that send the
    code into the branch (`next_diff ≥ initial_diff`, average above the target). -/
theorem C17_v1_capped_tax_rounding_exactly_1bp {cx : NumCtx} {ε : Rat} (H : Rounds cx ε) (hε : ε ≤ 1 / 200)
    {T initialDiff nextDiff : Rat} (hT : 0 < T) (hb : ¬ nextDiff < initialDiff)
    (hcap : cx.div (cx.add initialDiff nextDiff) 2 > T) :
    let q := cx.div (cx.mul 60 T) T
    let fee := (feeFromDiffs cx initialDiff nextDiff T).1
    (feeFromDiffs cx initialDiff nextDiff T).2 = .taxCapped ∧
      (q < 60 → fee = 84) ∧ (60 ≤ q → fee = 85) ∧ (fee = 84 ∨ fee = 85) ∧
      (25 : Rat) + (truncInt (NumCtx.exact.div (NumCtx.exact.mul 60 T) T) : Rat) = 85 ∧
      (Gen.gmxMintBurnFeeBps = 25 ∧ Gen.gmxTaxBps = 60) := by
  intro q fee
  obtain ⟨h59, h61⟩ := Gmx.capped_quotient_bounds ⟨H, hε⟩ hT
  obtain ⟨t59, t60⟩ := Gmx.truncInt_59_61 h59 h61
  have hfee : fee = 25 + (truncInt q : Rat) := by
    show (feeFromDiffs cx initialDiff nextDiff T).1 = _
    rw [Gmx.feeFromDiffs_fst, if_neg hb, if_pos hcap]
  have h84 : q < 60 → fee = 84 := fun h => by rw [hfee, t59 h]; norm_num
  have h85 : 60 ≤ q → fee = 85 := fun h => by rw [hfee, t60 h]; norm_num
  refine ⟨?_, h84, h85, (lt_or_ge q 60).imp h84 h85, ?_, rfl, rfl⟩
  · unfold feeFromDiffs
    simp only [hb, hcap, if_false, if_true]
  · simp only [NumCtx.exact_div, NumCtx.exact_mul]
    rw [mul_div_assoc, div_self hT.ne', mul_one]
    have : truncInt (60 : Rat) = 60 := by decide +kernel
    rw [this]; norm_num

/-- **when can the quotient floor to 59?**  Only if the product `60·T` was rounded *down*: for a monotone rounding that
    leaves 60 alone (`round35` is both), a product that is representable or rounded up gives `q ≥ 60`, hence 85 bp. -/
theorem C17_v1_capped_tax_84_needs_product_rounded_down {cx : NumCtx}
    (hmono : ∀ x y : Rat, x ≤ y → cx.rnd x ≤ cx.rnd y) (h60 : cx.rnd 60 = 60) {T : Rat} (hT : 0 < T)
    (hq : cx.div (cx.mul 60 T) T < 60) : cx.mul 60 T < 60 * T := by
  by_contra hge
  rw [not_lt] at hge
  have : (60 : Rat) ≤ cx.mul 60 T / T := by rw [le_div_iff₀ hT]; exact hge
  have := hmono _ _ this
  rw [h60] at this
  exact absurd hq (not_lt.mpr this)

/-- the Vault's own capped fee is 85 bp as well (`feeBps + taxBps·target/target`, integer division) -/
theorem C17_v1_vault_capped_fee (initial delta target : Nat) (inc : Bool) (ht : 0 < target)
    (hb : ¬ (let next := if inc then initial + delta else (if delta > initial then 0 else initial - delta)
             (if next > target then next - target else target - next) < (if initial > target then initial - target else target - initial)))
    (hcap : (let next := if inc then initial + delta else (if delta > initial then 0 else initial - delta)
             ((if initial > target then initial - target else target - initial) + (if next > target then next - target else target - next)) / 2 > target)) :
    vaultFeeBps initial delta target 25 60 inc = 85 := by
  unfold vaultFeeBps
  simp only [] at hb hcap ⊢
  rw [if_neg (Nat.pos_iff_ne_zero.mp ht), if_neg hb, if_pos hcap]
  rw [Nat.mul_div_cancel _ ht]

/-- `T = 16666666666666666666666666666666667` (35 digits): `60·T = 1.00…002·10³⁶` needs 37 digits and is rounded down to
    `10³⁶`; the quotient is `59.99…9` (33 nines) and the code charges 84 bp where exact arithmetic and the Vault charge 85 -/
example : (feeFromDiffs NumCtx.py 0 50000000000000000000000000000000001 16666666666666666666666666666666667)
    = (84, .taxCapped) := by decide +kernel

/-- … the product was indeed rounded down, and the quotient is one unit in the 35th digit below 60 -/
example : NumCtx.py.mul 60 16666666666666666666666666666666667 = 1000000000000000000000000000000000000 ∧
    NumCtx.py.div (NumCtx.py.mul 60 16666666666666666666666666666666667) 16666666666666666666666666666666667
      = 60 - 1 / 1000000000000000000000000000000000 := by decide +kernel

/-- `T = 33333333333333333333333333333333333`: the product is rounded *up*, the quotient is `60.00…01`, the fee 85 bp -/
example : (feeFromDiffs NumCtx.py 0 99999999999999999999999999999999999 33333333333333333333333333333333333)
    = (85, .taxCapped) := by decide +kernel

/-- `T = 10²⁴`: the product is representable, the quotient is exactly 60, the fee 85 bp -/
example : (feeFromDiffs NumCtx.py 0 3000000000000000000000000 1000000000000000000000000) = (85, .taxCapped) := by decide +kernel

example : Gmx.RndErr NumCtx.exact 0 := RelRnd.exact

end Demeter
