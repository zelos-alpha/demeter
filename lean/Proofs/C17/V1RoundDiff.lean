/-
  C17 — GMX v1: the fee under rounded arithmetic is within 1 bp of the exact-arithmetic fee (every branch), and the instance
  for CPython's 35-digit context.
-/
import Proofs.C17.V1RoundAny
import Proofs.Lemmas.Round35Ctx
namespace Demeter
open Demeter.GmxV1 Demeter.Gmx Demeter.Numerics

/-- the rebate branch, rounded against exact: the rebate is `25 − min r 25`; the two capped quotients are two roundings apart
    and at most 25 (capping commutes with the roundings, `Within.min`), and the subtraction is rounded once more -/
theorem Gmx.rebate_close {cx : NumCtx} {ε : Rat} (H : Gmx.Rnd cx ε) (hε : ε ≤ 1 / 1000) {r rc : Rat} (hr : 0 ≤ r)
    (h : Within ε 2 2 r rc) : |(if rc > 25 then 0 else cx.sub 25 rc) - (if r > 25 then 0 else 25 - r)| ≤ 1 := by
  have hε0 := H.eps_nonneg
  have hm := (h.min hε0 H.le_one (T := 25) (by norm_num)).dist_le hε0 (by norm_num; linarith) (le_min hr (by norm_num))
    (min_le_right r 25)
  have hz : |(if rc > 25 then 0 else cx.sub 25 rc) - (25 - min rc 25)| ≤ 25 * ε := by
    split
    · rw [min_eq_right (le_of_lt ‹_›), sub_self, sub_self, abs_zero]; positivity
    · rw [min_eq_left (not_lt.mp ‹_›)]
      exact H.near (by linarith) (by linarith [h.nonneg H.le_one hr])
  rw [Gmx.ite_gt_eq_sub_min 25 r]
  calc _ = |(if rc > 25 then 0 else cx.sub 25 rc) - (25 - min rc 25) - (min rc 25 - min r 25)| := by congr 1; ring
    _ ≤ 25 * ε + 25 * ((2 + 1) * ε) := le_trans (abs_sub _ _) (add_le_add hz (by exact_mod_cast hm))
    _ ≤ 1 := by linarith

/-- the tax branch, rounded against exact: the two capped quotients are four roundings apart and at most 60, so less than 1 apart,
    and their integer parts differ by at most 1 — also where only one of the averages is capped -/
theorem Gmx.tax_close {cx : NumCtx} {ε : Rat} (H : Gmx.Rnd cx ε) (hε : ε ≤ 1 / 1000) {iD nD T : Rat} (hs : 0 ≤ iD + nD) (hT : 0 < T) :
    |(truncInt (cx.div (cx.mul 60 (min (cx.div (cx.add iD nD) 2) T)) T) : Rat)
      - (truncInt (60 * min ((iD + nD) / 2) T / T) : Rat)| ≤ 1 := by
  have hm0 : 0 ≤ min ((iD + nD) / 2) T := le_min (by positivity) hT.le
  have hx : Within ε 4 4 (60 * min ((iD + nD) / 2) T / T) (cx.div (cx.mul 60 (min (cx.div (cx.add iD nD) 2) T)) T) :=
    H.quot (by norm_num) hm0 hT ((H.div hs zero_le_two (H.step hs (.refl (iD + nD)))).min H.eps_nonneg H.le_one hT.le)
  have hx0 : 0 ≤ 60 * min ((iD + nD) / 2) T / T := by positivity
  have h60 : 60 * min ((iD + nD) / 2) T / T ≤ 60 := by
    rw [div_le_iff₀ hT]; linarith [min_le_right ((iD + nD) / 2) T]
  have hd := hx.dist_le H.eps_nonneg (by norm_num; linarith) hx0 h60
  rw [truncInt_eq_floor (hx.nonneg H.le_one hx0), truncInt_eq_floor hx0]
  exact floor_close (lt_of_le_of_lt hd (by norm_num; linarith))

/-- **under any rounding with relative error ≤ 1/1000 the fee is within 1 bp of the exact-arithmetic fee of the same inputs**,
    in every branch — also where the two arithmetics decide the rebate-to-zero test or the cap differently. -/
theorem C17_v1_fee_rounded_within_1bp_of_exact {cx : NumCtx} {ε : Rat} (H : Rounds cx ε) (hε : ε ≤ 1 / 1000)
    {iD nD T : Rat} (hi : 0 ≤ iD) (hn : 0 ≤ nD) (hT : 0 < T) :
    |(feeFromDiffs cx iD nD T).1 - (feeFromDiffs NumCtx.exact iD nD T).1| ≤ 1 := by
  have H : Gmx.Rnd cx ε := ⟨H, by linarith⟩
  rw [Gmx.feeFromDiffs_fst, Gmx.feeFromDiffs_exact_fst]
  split
  · exact Gmx.rebate_close H hε (by positivity) (H.quot (by norm_num) hi hT (.refl iD))
  · rw [ite_gt_eq_min, ite_gt_eq_min, add_sub_add_left_eq_sub]
    exact Gmx.tax_close H hε (by linarith) hT

/-- **CPython's 35-digit arithmetic** (`NumCtx.pyG` = `NumCtx.py` on every number a GMX row can produce, rounding error
    `5·10⁻³⁵`): the fee is in `[0, 85]` and within 1 bp of the exact-arithmetic fee, in every branch -/
theorem C17_v1_fee_round35_range_and_distance {iD nD T : Rat} (hi : 0 ≤ iD) (hn : 0 ≤ nD) (hT : 0 < T) :
    0 ≤ (feeFromDiffs NumCtx.pyG iD nD T).1 ∧ (feeFromDiffs NumCtx.pyG iD nD T).1 ≤ 85 ∧
      |(feeFromDiffs NumCtx.pyG iD nD T).1 - (feeFromDiffs NumCtx.exact iD nD T).1| ≤ 1 := by
  have h1 : EPS35 ≤ 1 / 1000 := le_trans EPS35_small (by norm_num)
  obtain ⟨a, b, _, _⟩ := C17_v1_fee_range_any_rounding NumCtx.pyG_rounds (le_trans h1 (by norm_num)) hi hn hT
  exact ⟨a, b, C17_v1_fee_rounded_within_1bp_of_exact NumCtx.pyG_rounds h1 hi hn hT⟩

/-- the distance 1 is attained: the instance at the head of Proofs/C17/V1RoundAny.lean (54 vs 55 bp) has non-negative
    differences and a positive target -/
example : (0 : Rat) ≤ 0 ∧ (0 : Rat) ≤ 33333333333333333333333333333333334 ∧ (0 : Rat) < 33333333333333333333333333333333334 := by norm_num

end Demeter
