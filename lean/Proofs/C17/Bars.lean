/-
  C17 — GMX markets across bars: the live objects remember nothing but their holdings and the current row.

  `Demeter.GmxBars` models a market object under arbitrary histories of `set_market_status`, operations and fee reads.  The
  theorems say that whatever happened before — any history, any earlier rows, any number of earlier calls — the answer
  of a call is the single-row function (`feeBps`, `step`, `deposit`, `withdraw`) of the CURRENT row, the holding and the
  arguments.  They hold for every arithmetic context (v2: every number type), so they cover the rounded Decimal and the
  IEEE runs of the driver.  The model has no other per-object state; the harness checks that the real objects have none
  either (`vars(market)` = `objectFields`, multi-bar runs through `set_market_status` and `Actuator.run`).
-/
import Demeter.GmxBars
import Proofs.Lemmas.GmxV1Spec
import Proofs.Fixtures.Gmx
namespace Demeter

namespace GmxV1

def Event.inBar : Event → Bool
  | .setStatus _ => false
  | _ => true

theorem Obj.run_append (cx : NumCtx) (o : Obj) (a b : List Event) : o.run cx (a ++ b) = (o.run cx a).run cx b := by
  simp [Obj.run, List.foldl_append]

theorem Obj.run_tokenSet (cx : NumCtx) (o : Obj) (evs : List Event) : (o.run cx evs).row.tokenSet = o.row.tokenSet :=
  foldl_eq_of_step _ (fun o => o.row.tokenSet) evs o fun o' e _ => by cases e <;> simp [Obj.apply, Obj.setStatus]

theorem Obj.run_allowNeg (cx : NumCtx) (o : Obj) (evs : List Event) : (o.run cx evs).allowNeg = o.allowNeg :=
  foldl_eq_of_step _ Obj.allowNeg evs o fun o' e _ => by cases e <;> simp [Obj.apply, Obj.setStatus]

theorem Obj.run_inBar_row (cx : NumCtx) (o : Obj) (evs : List Event) (h : ∀ e ∈ evs, e.inBar = true) :
    (o.run cx evs).row = o.row :=
  foldl_eq_of_step _ Obj.row evs o fun o' e he => by
    cases e with
    | setStatus r => exact absurd (h _ he) (by simp [Event.inBar])
    | op p => simp [Obj.apply]
    | fee t u i => simp [Obj.apply]

theorem Obj.row_after (cx : NumCtx) (o : Obj) (history : List Event) (row : Env) (calls : List Event)
    (h : ∀ e ∈ calls, e.inBar = true) :
    (o.run cx (history ++ [.setStatus row] ++ calls)).row = { row with tokenSet := o.row.tokenSet } := by
  rw [Obj.run_append, Obj.run_inBar_row _ _ _ h, Obj.run_append]
  show ((o.run cx history).setStatus row).row = _
  simp [Obj.setStatus, Obj.run_tokenSet]

end GmxV1

open GmxV1 in
/-- **the v1 fee depends only on the current row and the arguments.**  Take any live `GmxMarket` object, any history of
    bars, operations and fee reads, then `set_market_status(row)` and any calls inside that bar: `get_fee_basis_points(tok,
    usdg, increase)` answers `feeBps` of that row (with the object's token set) — nothing computed from an earlier row, and
    not even the holding, enters.  Every arithmetic context. -/
theorem C17_v1_fee_depends_only_on_row_and_args (cx : NumCtx) (o : Obj) (history : List Event) (row : Env) (calls : List Event)
    (h : ∀ e ∈ calls, e.inBar = true) (tok : String) (usdg : Rat) (inc : Bool) :
    ((o.run cx (history ++ [.setStatus row] ++ calls)).apply cx (.fee tok usdg inc)).1
      = .feeBps (feeBps cx { row with tokenSet := o.row.tokenSet } tok usdg inc) := by
  show Answer.feeBps (feeBps cx (o.run cx (history ++ [.setStatus row] ++ calls)).row tok usdg inc) = _
  rw [Obj.row_after cx o history row calls h]

open GmxV1 in
/-- two objects with the same token set on the same row charge the same fee, whatever their pasts and holdings -/
theorem C17_v1_fee_history_independent (cx : NumCtx) (o₁ o₂ : Obj) (h₁ h₂ c₁ c₂ : List Event) (row : Env)
    (hc₁ : ∀ e ∈ c₁, e.inBar = true) (hc₂ : ∀ e ∈ c₂, e.inBar = true) (ht : o₁.row.tokenSet = o₂.row.tokenSet)
    (tok : String) (usdg : Rat) (inc : Bool) :
    ((o₁.run cx (h₁ ++ [.setStatus row] ++ c₁)).apply cx (.fee tok usdg inc)).1
      = ((o₂.run cx (h₂ ++ [.setStatus row] ++ c₂)).apply cx (.fee tok usdg inc)).1 := by
  rw [C17_v1_fee_depends_only_on_row_and_args cx o₁ h₁ row c₁ hc₁, C17_v1_fee_depends_only_on_row_and_args cx o₂ h₂ row c₂ hc₂, ht]

open GmxV1 in
/-- **a v1 operation depends only on the current row, the holding (GLP, reward, wallet) and the arguments**: after any
    history, `buy_glp` / `sell_glp` / `update` in the bar of `row` is the single-row `step` on that row from the holding
    the object has at that moment. -/
theorem C17_v1_op_depends_only_on_row_holding_args (cx : NumCtx) (o : Obj) (history : List Event) (row : Env) (calls : List Event)
    (h : ∀ e ∈ calls, e.inBar = true) (p : Op) :
    let before := o.run cx (history ++ [.setStatus row] ++ calls)
    let r := step cx { row with tokenSet := o.row.tokenSet } before.st p o.allowNeg
    (before.apply cx (.op p)).1 = .value r.1 ∧ (before.apply cx (.op p)).2.st = r.2 ∧
      (before.apply cx (.op p)).2.row = { row with tokenSet := o.row.tokenSet } := by
  intro before r
  have hrow : before.row = { row with tokenSet := o.row.tokenSet } := Obj.row_after cx o history row calls h
  have hneg : before.allowNeg = o.allowNeg := Obj.run_allowNeg cx o _
  refine ⟨?_, ?_, ?_⟩
  · show Answer.value (step cx before.row before.st p before.allowNeg).1 = _
    rw [hrow, hneg]
  · show (step cx before.row before.st p before.allowNeg).2 = _
    rw [hrow, hneg]
  · show before.row = _
    exact hrow

namespace GmxV2
section
variable {α : Type} [Add α] [Sub α] [Mul α] [Div α] [Neg α] [LT α] [LE α] [OfNat α 0] [DecidableLT α] [DecidableLE α]

def Event.inBar : Event α → Bool
  | .setStatus _ => false
  | _ => true

theorem Obj.run_append (ops : Ops α) (cx : NumCtx) (o : Obj α) (a b : List (Event α)) :
    o.run ops cx (a ++ b) = (o.run ops cx a).run ops cx b := by
  simp [Obj.run, List.foldl_append]

theorem Obj.run_static (ops : Ops α) (cx : NumCtx) (o : Obj α) (evs : List (Event α)) :
    (o.run ops cx evs).cfg = o.cfg ∧ (o.run ops cx evs).longKey = o.longKey ∧ (o.run ops cx evs).shortKey = o.shortKey ∧
      (o.run ops cx evs).allowNeg = o.allowNeg := by
  simpa only [Obj.run, Prod.mk.injEq] using
    foldl_eq_of_step _ (fun o : Obj α => (o.cfg, o.longKey, o.shortKey, o.allowNeg)) evs o
      fun o' e _ => by cases e <;> simp [Obj.apply]

theorem Obj.run_inBar_row (ops : Ops α) (cx : NumCtx) (o : Obj α) (evs : List (Event α)) (h : ∀ e ∈ evs, e.inBar = true) :
    (o.run ops cx evs).row = o.row :=
  foldl_eq_of_step _ Obj.row evs o fun o' e he => by
    cases e with
    | setStatus r => exact absurd (h _ he) (by simp [Event.inBar])
    | deposit l s => simp [Obj.apply]
    | withdraw a => simp [Obj.apply]

theorem Obj.row_after (ops : Ops α) (cx : NumCtx) (o : Obj α) (history : List (Event α)) (row : Pool α) (calls : List (Event α))
    (h : ∀ e ∈ calls, e.inBar = true) : (o.run ops cx (history ++ [.setStatus row] ++ calls)).row = row := by
  rw [Obj.run_append, Obj.run_inBar_row _ _ _ _ h, Obj.run_append]
  rfl

end
end GmxV2

section
variable {α : Type} [Add α] [Sub α] [Mul α] [Div α] [Neg α] [LT α] [LE α] [OfNat α 0] [DecidableLT α] [DecidableLE α]
open GmxV2

/-- **a v2 deposit depends only on the current row, the holding and the arguments** (and the object's fixed configuration):
    after any history of bars, deposits and withdrawals, `deposit(long, short)` in the bar of `row` is the single-row
    `deposit` on that row from the holding (GM amount, wallet) the object has at that moment — for every number type
    (`Rat` in the theorems, IEEE `Float` in the driver), every power function and every Decimal context of the wallet. -/
theorem C17_v2_mint_depends_only_on_row_holding_args (ops : Ops α) (cx : NumCtx) (o : Obj α) (history : List (Event α))
    (row : Pool α) (calls : List (Event α)) (h : ∀ e ∈ calls, e.inBar = true) (long short : α) :
    let before := o.run ops cx (history ++ [.setStatus row] ++ calls)
    let r := deposit ops cx o.cfg row o.longKey o.shortKey before.st long short o.allowNeg
    (before.apply ops cx (.deposit long short)).1 = .deposit r.1 ∧ (before.apply ops cx (.deposit long short)).2.st = r.2 := by
  intro before r
  have hrow : before.row = row := Obj.row_after ops cx o history row calls h
  obtain ⟨hc, hl, hs, hn⟩ := Obj.run_static ops cx o (history ++ [.setStatus row] ++ calls)
  refine ⟨?_, ?_⟩
  · show Answer.deposit (deposit ops cx before.cfg before.row before.longKey before.shortKey before.st long short before.allowNeg).1 = _
    rw [hrow, hc, hl, hs, hn]
  · show (deposit ops cx before.cfg before.row before.longKey before.shortKey before.st long short before.allowNeg).2 = _
    rw [hrow, hc, hl, hs, hn]

/-- the same for a withdrawal -/
theorem C17_v2_redeem_depends_only_on_row_holding_args (ops : Ops α) (cx : NumCtx) (o : Obj α) (history : List (Event α))
    (row : Pool α) (calls : List (Event α)) (h : ∀ e ∈ calls, e.inBar = true) (amount : Option α) :
    let before := o.run ops cx (history ++ [.setStatus row] ++ calls)
    let r := withdraw ops cx o.cfg row o.longKey o.shortKey before.st amount
    (before.apply ops cx (.withdraw amount)).1 = .withdraw r.1 ∧ (before.apply ops cx (.withdraw amount)).2.st = r.2 := by
  intro before r
  have hrow : before.row = row := Obj.row_after ops cx o history row calls h
  obtain ⟨hc, hl, hs, _⟩ := Obj.run_static ops cx o (history ++ [.setStatus row] ++ calls)
  refine ⟨?_, ?_⟩
  · show Answer.withdraw (withdraw ops cx before.cfg before.row before.longKey before.shortKey before.st amount).1 = _
    rw [hrow, hc, hl, hs]
  · show (withdraw ops cx before.cfg before.row before.longKey before.shortKey before.st amount).2 = _
    rw [hrow, hc, hl, hs]
end

namespace GmxV1

/-- the property's accrual rule read off a history: an `update()` on a row with GLP outstanding adds
    `interval × 60 × held / supply` — with the row and the holding the object has AT THAT MOMENT —, every other event adds
    nothing.  (`update()` on a row without supply raises and adds nothing.) -/
def accrued (cx : NumCtx) : Obj → List Event → Rat
  | _, [] => 0
  | o, e :: es =>
    (match e with
     | .op .update => if o.row.glpSupply = 0 then 0 else o.row.interval * 60 * (o.st.glp / o.row.glpSupply)
     | _ => 0) + accrued cx (o.apply cx e).2 es

theorem buyGlp_reward {cx : NumCtx} {env : Env} {s : State} {t : String} {d : Nat} {a : Rat} {an : Bool} :
    (buyGlp cx env s t d a an).2.reward = s.reward := by
  unfold buyGlp
  split
  · rfl
  · split
    · rfl
    · split <;> rfl

theorem sellGlp_reward {cx : NumCtx} {env : Env} {s : State} {t : String} {d : Nat} {g : Rat} :
    (sellGlp cx env s t d g).2.reward = s.reward := by
  unfold sellGlp
  simp only []
  generalize (if g = 0 then s.glp else g) = g'
  split
  · rfl
  · split
    · rfl
    · split <;> rfl

theorem update_reward_exact (env : Env) (s : State) :
    (update NumCtx.exact env s).2.reward
      = s.reward + (if env.glpSupply = 0 then 0 else env.interval * 60 * (s.glp / env.glpSupply)) := by
  rcases Gmx.update_cases NumCtx.exact env s with ⟨h0, e, hu⟩ | ⟨h0, _⟩
  · rw [hu, if_pos h0, add_zero]
  · rw [Gmx.update_exact h0, if_neg h0]

end GmxV1

open GmxV1 in
/-- **whole-run accrual (v1)**: for EVERY history of bars (`set_market_status`), buys, sells, fee reads and bar-end
    `update()` calls on one live market object — any rows, any order, any number of bars —, the pending reward at the end is
    the reward at the start plus, for each `update()`, `interval × 60 × held / supply` taken with the row and the holding of
    that moment: pro rata to the holder's share of the GLP supply in every bar, and nothing else (no buy, sell, fee read,
    row change or rejected call) ever touches it.  Exact arithmetic; the literal 60 is the generated `gmxRewardSeconds`. -/
theorem C17_v1_reward_accrues_pro_rata_over_runs (o : Obj) (evs : List Event) :
    (o.run NumCtx.exact evs).st.reward = o.st.reward + accrued NumCtx.exact o evs ∧ Gen.gmxRewardSeconds = 60 := by
  refine ⟨?_, rfl⟩
  induction evs generalizing o with
  | nil => simp [Obj.run, accrued]
  | cons e es ih =>
    show (Obj.run NumCtx.exact (o.apply NumCtx.exact e).2 es).st.reward = _
    rw [ih (o.apply NumCtx.exact e).2]
    have hstep : (o.apply NumCtx.exact e).2.st.reward
        = o.st.reward + (match e with
            | .op .update => if o.row.glpSupply = 0 then 0 else o.row.interval * 60 * (o.st.glp / o.row.glpSupply)
            | _ => 0) := by
      cases e with
      | setStatus r => simp [Obj.apply, Obj.setStatus]
      | fee t u i => simp [Obj.apply]
      | op p =>
        cases p with
        | buy t d a => simp only [Obj.apply, step]; rw [buyGlp_reward]; simp
        | sell t d g => simp only [Obj.apply, step]; rw [sellGlp_reward]; simp
        | update => simp only [Obj.apply, step]; exact update_reward_exact o.row o.st
    rw [hstep, add_assoc]
    rfl

open GmxV1 in
/-- a holder that never trades: with a constant holding `g` over bars whose rows have GLP outstanding, `n` bar-end updates
    add `g × Σ interval_k × 60 / supply_k` — the reward is linear in the share held. -/
theorem C17_v1_reward_constant_holding (o : Obj) (rows : List Env) (hs : ∀ r ∈ rows, r.glpSupply ≠ 0) :
    (o.run NumCtx.exact (rows.flatMap (fun r => [.setStatus r, .op .update]))).st.reward
      = o.st.reward + o.st.glp * (rows.map (fun r => r.interval * 60 / r.glpSupply)).sum := by
  induction rows generalizing o with
  | nil => simp [Obj.run]
  | cons r rs ih =>
    have hr : r.glpSupply ≠ 0 := hs r (List.mem_cons_self ..)
    simp only [List.flatMap_cons, List.map_cons, List.sum_cons]
    rw [Obj.run_append, ih _ (fun r' m => hs r' (List.mem_cons_of_mem _ m))]
    have h1 : (o.run NumCtx.exact [.setStatus r, .op .update]).st.reward
        = o.st.reward + r.interval * 60 * (o.st.glp / r.glpSupply) := by
      have := (C17_v1_reward_accrues_pro_rata_over_runs o [.setStatus r, .op .update]).1
      rw [this]
      simp [accrued, Obj.apply, Obj.setStatus, hr]
    have h2 : (o.run NumCtx.exact [.setStatus r, .op .update]).st.glp = o.st.glp := Gmx.update_glp _ _ _
    rw [h1, h2]; field_simp; ring

/-- the next bar of `Gmx.demoEnv`: WETH's weight 1 → 3 (total weight 2 → 4), price, USDG supply and AUM moved as well -/
def Gmx.demoEnv2 : GmxV1.Env :=
  { Gmx.demoEnv with rows := [{ name := "weth", price := 2100 * 10 ^ 30, usdg := 4 * 10 ^ 24, weight := 3 },
                              { name := "usdc", price := 10 ^ 30, usdg := 5 * 10 ^ 24, weight := 1 }],
                     usdgSupply := 12 * 10 ^ 24, aum := 11 * 10 ^ 36 }

def Gmx.demoObj : GmxV1.Obj := { row := Gmx.demoEnv, st := Gmx.demoState }

/-- bar 1: a buy and a fee read (13 bp on that row); bar 2 has other weights: the same fee read now answers 0 bp -/
example : (((Gmx.demoObj.run NumCtx.exact [.op (.buy "weth" 18 1), .fee "weth" (10 ^ 21) true, .setStatus Gmx.demoEnv2]).apply NumCtx.exact
      (.fee "weth" (10 ^ 21) true)).1 = .feeBps (.ok (0, .rebateZero)))
    ∧ GmxV1.feeBps NumCtx.exact Gmx.demoEnv "weth" (10 ^ 21) true = .ok (13, .rebate) := by
  refine ⟨?_, by decide +kernel⟩
  rw [show [GmxV1.Event.op (.buy "weth" 18 1), .fee "weth" (10 ^ 21) true, .setStatus Gmx.demoEnv2]
        = [GmxV1.Event.op (.buy "weth" 18 1), .fee "weth" (10 ^ 21) true] ++ [.setStatus Gmx.demoEnv2] ++ [] from rfl,
      C17_v1_fee_depends_only_on_row_and_args _ _ _ _ _ (by simp)]
  congr 1
  decide +kernel

/-- and the GLP bought in bar 1 is sold in bar 2 at bar 2's row -/
example : ((Gmx.demoObj.run NumCtx.exact [.op (.buy "weth" 18 1), .setStatus Gmx.demoEnv2]).apply NumCtx.exact (.op (.sell "weth" 18 0))).2.st.wallet
    = [("WETH", 532033049 / 175000000)] := by decide +kernel

/-- non-vacuity: two bars with different rows, a buy in the first: the accrual of each bar uses that bar's row and the
    holding of that moment (0 before the buy would have been wrong: the buy precedes the update) -/
example : ((Gmx.demoObj.run NumCtx.exact [.op (.buy "weth" 18 1), .op .update, .setStatus Gmx.demoEnv2, .op .update]).st.reward
    = 0 + (10 ^ 15 * 60 * ((39948 / 25) / (8 * 10 ^ 24)) + 10 ^ 15 * 60 * ((39948 / 25) / (8 * 10 ^ 24)))) := by
  decide +kernel

end Demeter
