/-
  C17 — GMX v2 (GM market).  Theorems about Demeter.GmxV2 instantiated at `Rat`: the exact rational semantics of the
  float formulas, for every power function `pw` (`diffUsd ** exponent` is an oracle).
-/
import Proofs.Lemmas.GmxV2Value
import Proofs.Fixtures.Gmx
namespace Demeter
open Demeter.GmxV2 Demeter.Gmx Demeter.Gmx2

variable {pw : Rat → Rat → Rat}

/-- in rational arithmetic `**` never raises `OverflowError`: the overflow branch of the model concerns doubles only -/
theorem C17_v2_exact_pow_never_raises (cfg : Config Rat) (p : PoolParams Rat) : impactPowRaises (ratOps pw) cfg p = false := rfl

/-- **GM minted × pool value per share = Σ over the deposited tokens of (amount × (1 − deposit fee factor) × price
    + that token's share of the price impact)**, where the fee factor is the positive-impact one iff the share is
    positive, a negative share is charged in full and a positive share is capped by the impact pool (`creditOf`): the long
    side by the row's impact pool, the short side by what the long side left of it (`sideLeft`). -/
theorem C17_v2_mint_value_per_share {cx : NumCtx} {cfg : Config Rat} {ps : Pool Rat} (hp : PoolPos ps) {lk sk : String}
    {s s' : State Rat} {la sa : Rat} {r : LPResult Rat} {tag : String}
    (h : deposit (ratOps pw) cx cfg ps lk sk s la sa = (.ok (r, tag), s')) :
    let total := la * ps.longPrice + sa * ps.shortPrice
    let shareL := r.priceImpactUsd * (la * ps.longPrice) / total
    let shareS := r.priceImpactUsd * (sa * ps.shortPrice) / total
    r.gmAmount * (ps.poolValue / ps.supply)
        = sideValue cfg ps.impactPool la ps.longPrice ps.shortPrice shareL
        + sideValue cfg (sideLeft ps.impactPool la ps.shortPrice shareL) sa ps.shortPrice ps.longPrice shareS ∧
      s'.amount = s.amount + r.gmAmount ∧ r.longAmount = la ∧ r.shortAmount = sa := by
  obtain ⟨_, _, hm, hs, _, _⟩ := Gmx2.deposit_ok h
  obtain ⟨_, _, hl, hsh, _, hv, _⟩ := mintAmount_ok hp hm
  exact ⟨hv, hs, hl, hsh⟩

/-- **the credited price impact of one side never exceeds what is left of the impact pool** (amount × price of the token
    it is paid in), nor the impact itself; the default fee factors are 5 bp (positive impact) and 7 bp (negative impact). -/
theorem C17_v2_positive_impact_capped (cfg : Config Rat) (pool amount pin pout share : Rat) (hs : 0 < share)
    (ha : 0 < amount) :
    sideValue cfg pool amount pin pout share ≤ amount * (1 - cfg.depositFeePos) * pin + pool * pout ∧
    sideValue cfg pool amount pin pout share ≤ amount * (1 - cfg.depositFeePos) * pin + share ∧
    Gen.gmx2DepositFeePos = 1152921504606847 / 2305843009213693952 ∧
    Gen.gmx2DepositFeeNeg = 6456360425798343 / 9223372036854775808 := by
  unfold sideValue
  rw [if_pos ha, if_pos hs]
  refine ⟨?_, ?_, by norm_num [Gen.gmx2DepositFeePos], by norm_num [Gen.gmx2DepositFeeNeg]⟩
  · have := creditOf_le_cap (cap := pool * pout) hs; linarith
  · have := creditOf_le_impact share (pool * pout); linarith

/-- **the positive price impact of a whole deposit is capped by the impact pool**: the long side draws `paidL` units (of the
    short token) and the short side `paidS` units (of the long token) from the one impact pool of the row; both are
    non-negative, **together they never exceed the pool**, and they are exactly what `C17_v2_mint_value_per_share` credits
    (`creditOf = paid × price of the token paid`) whenever a side's share is positive. -/
theorem C17_v2_positive_impact_capped_total {ps : Pool Rat} (hp : PoolPos ps) (la sa shareL shareS : Rat) :
    let paidL := sidePaid ps.impactPool la ps.shortPrice shareL
    let left := sideLeft ps.impactPool la ps.shortPrice shareL
    let paidS := sidePaid left sa ps.longPrice shareS
    0 ≤ paidL ∧ 0 ≤ paidS ∧ paidL + paidS ≤ ps.impactPool ∧ left = ps.impactPool - paidL ∧
      (la > 0 → 0 < shareL → creditOf shareL (ps.impactPool * ps.shortPrice) = paidL * ps.shortPrice) ∧
      (sa > 0 → 0 < shareS → creditOf shareS (left * ps.longPrice) = paidS * ps.longPrice) := by
  intro paidL left paidS
  have hleft : left = ps.impactPool - paidL := sideLeft_eq ..
  have hleft0 : 0 ≤ left := sideLeft_nonneg hp.impactPool
  have hSle : paidS ≤ left := sidePaid_le_pool hleft0
  refine ⟨sidePaid_nonneg hp.shortPrice hp.impactPool, sidePaid_nonneg hp.longPrice hleft0, by linarith, hleft, ?_, ?_⟩
  · intro ha hs
    exact (creditOf_eq_paid hp.shortPrice hs).trans (congrArg (· * ps.shortPrice) (if_pos ha).symm)
  · intro ha hs
    exact (creditOf_eq_paid hp.longPrice hs).trans (congrArg (· * ps.longPrice) (if_pos ha).symm)

/-- **redeemed value = shares × pool value per share × (1 − withdraw fee factor)**, split between long and short
    token in the proportions of the pool's holdings; the holding shrinks by exactly the shares redeemed. -/
theorem C17_v2_withdraw_value_per_share {cx : NumCtx} {cfg : Config Rat} {ps : Pool Rat} {lk sk : String}
    {s s' : State Rat} {amt : Option Rat} {r : LPResult Rat}
    (h : withdraw (ratOps pw) cx cfg ps lk sk s amt = (.ok r, s')) :
    let g := amt.getD s.amount
    let total := ps.longAmount * ps.longPrice + ps.shortAmount * ps.shortPrice
    let usd := ps.poolValue * g / ps.supply
    r.longAmount * ps.longPrice + r.shortAmount * ps.shortPrice = (1 - cfg.withdrawFeeNeg) * usd ∧
      r.longAmount = (1 - cfg.withdrawFeeNeg) * (usd * (ps.longAmount * ps.longPrice) / total / ps.longPrice) ∧
      r.shortAmount = (1 - cfg.withdrawFeeNeg) * (usd * (ps.shortAmount * ps.shortPrice) / total / ps.shortPrice) ∧
      s'.amount = s.amount - g ∧ 0 ≤ g ∧ g ≤ s.amount ∧
      Gen.gmx2WithdrawForPositive = false ∧ Gen.gmx2WithdrawFeeNeg = 6456360425798343 / 9223372036854775808 := by
  intro g total usd
  obtain ⟨h0, h1, ho, hs, _, _⟩ := Gmx2.withdraw_ok h
  obtain ⟨_, _, _, _, hg, hl, hsh, hv⟩ := outputAmount_ok ho
  refine ⟨hv, hl, hsh, by rw [hs, hg], h0, h1, rfl, by norm_num [Gen.gmx2WithdrawFeeNeg]⟩

/-- **round trip, non-positive price impact**: depositing and immediately withdrawing any part `g' ≤` of the minted GM
    in the same bar returns tokens worth at most what was paid.  (With a positive impact the statement is false, see
    `C17_fails_v2_roundtrip_positive_impact`.) -/
theorem C17_v2_roundtrip_partial {cx : NumCtx} {cfg : Config Rat} (hc : CfgOK cfg) {ps : Pool Rat} (hp : PoolPos ps)
    {lk sk : String} {s s1 s2 : State Rat} {la sa g' : Rat} {r r2 : LPResult Rat} {tag : String}
    (hdep : deposit (ratOps pw) cx cfg ps lk sk s la sa = (.ok (r, tag), s1))
    (himp : r.priceImpactUsd ≤ 0)
    (hg' : g' ≤ r.gmAmount)
    (hwd : withdraw (ratOps pw) cx cfg ps lk sk s1 (some g') = (.ok r2, s2)) :
    r2.longAmount * ps.longPrice + r2.shortAmount * ps.shortPrice ≤ la * ps.longPrice + sa * ps.shortPrice := by
  -- value of the redeemed shares ≤ value of the minted shares ≤ paid
  obtain ⟨_, _, _, hpaid⟩ := Gmx2.deposit_value hc hp hdep
  obtain ⟨_, _, _, hback⟩ := Gmx2.withdraw_value hc hp hwd
  have := mul_le_mul_of_nonneg_right hg' hp.perShare.le
  linarith [hpaid himp, (show _ ≤ g' * _ from hback)]

/-- **round trip in closed form** (any sign of the impact): withdrawing exactly the GM just minted returns
    `(1 − withdraw fee factor) × (Σ amount·(1 − deposit fee factor)·price + credited impact)` — so the round trip profits
    exactly when the credited positive impact outweighs the three fee factors. -/
theorem C17_v2_roundtrip_closed_form {cx : NumCtx} {cfg : Config Rat} {ps : Pool Rat} (hp : PoolPos ps)
    {lk sk : String} {s s1 s2 : State Rat} {la sa : Rat} {r r2 : LPResult Rat} {tag : String}
    (hdep : deposit (ratOps pw) cx cfg ps lk sk s la sa = (.ok (r, tag), s1))
    (hwd : withdraw (ratOps pw) cx cfg ps lk sk s1 (some r.gmAmount) = (.ok r2, s2)) :
    let total := la * ps.longPrice + sa * ps.shortPrice
    let shareL := r.priceImpactUsd * (la * ps.longPrice) / total
    r2.longAmount * ps.longPrice + r2.shortAmount * ps.shortPrice
      = (1 - cfg.withdrawFeeNeg) *
        (sideValue cfg ps.impactPool la ps.longPrice ps.shortPrice shareL
         + sideValue cfg (sideLeft ps.impactPool la ps.shortPrice shareL) sa ps.shortPrice ps.longPrice
             (r.priceImpactUsd * (sa * ps.shortPrice) / total)) := by
  intro total shareL
  obtain ⟨_, _, hm, _, _, _⟩ := Gmx2.deposit_ok hdep
  obtain ⟨_, _, _, _, _, hv, _⟩ := mintAmount_ok hp hm
  obtain ⟨_, _, ho, _, _, _⟩ := Gmx2.withdraw_ok hwd
  obtain ⟨_, _, _, _, _, _, _, hout⟩ := outputAmount_ok ho
  simp only [Option.getD_some] at hout
  rw [hout, ← hv]
  ring

/-- **over-redemption is rejected and changes nothing** — every arithmetic context and power function. -/
theorem C17_v2_no_over_redeem (cx : NumCtx) (cfg : Config Rat) (ps : Pool Rat) (lk sk : String) (s : State Rat) (g : Rat)
    (hg : s.amount < g) : withdraw (ratOps pw) cx cfg ps lk sk s (some g) = (.error .demeter, s) := by
  unfold withdraw
  simp only [Option.getD_some]
  rw [show (!(ratOps pw).isFinite g) = false from rfl]
  simp only [Bool.false_eq_true, if_false]
  by_cases hn : g < 0
  · rw [if_pos hn]
  · rw [if_neg hn, if_pos hg]

/-- **the GM holding never becomes negative**, whatever operation is applied, accepted or rejected, in every arithmetic context -/
theorem C17_v2_shares_nonneg {cx : NumCtx} {cfg : Config Rat} (hc : CfgOK cfg) {ps : Pool Rat} (hp : PoolPos ps) (lk sk : String)
    (s : State Rat) (op : Gmx2.Op) (hs : 0 ≤ s.amount) : 0 ≤ (Gmx2.step pw cx cfg ps lk sk s op).amount := by
  cases op with
  | deposit la sa =>
    show 0 ≤ (deposit (ratOps pw) cx cfg ps lk sk s la sa).2.amount
    cases hd : deposit (ratOps pw) cx cfg ps lk sk s la sa with
    | mk res s' =>
      cases res with
      | error e => rw [deposit_reject hd]; exact hs
      | ok rt =>
        obtain ⟨_, _, hamt, _⟩ := Gmx2.deposit_value hc hp hd
        simp only []; rw [hamt]; linarith
  | withdraw amt =>
    show 0 ≤ (withdraw (ratOps pw) cx cfg ps lk sk s amt).2.amount
    cases hw : withdraw (ratOps pw) cx cfg ps lk sk s amt with
    | mk res s' =>
      cases res with
      | error e => rw [withdraw_reject hw]; exact hs
      | ok r =>
        obtain ⟨_, _, hamt, _⟩ := Gmx2.withdraw_value hc hp hw
        simp only []; rw [hamt]; linarith

theorem C17_v2_shares_nonneg_seq {cx : NumCtx} {cfg : Config Rat} (hc : CfgOK cfg) {ps : Pool Rat} (hp : PoolPos ps) (lk sk : String)
    (ops : List Gmx2.Op) (s : State Rat) (hs : 0 ≤ s.amount) :
    0 ≤ (ops.foldl (Gmx2.step pw cx cfg ps lk sk) s).amount := by
  exact List.foldlRecOn (motive := fun st => 0 ≤ st.amount) ops _ hs (fun st h op _ => C17_v2_shares_nonneg hc hp lk sk st op h)

/-- (paid, returned, price impact) of `deposit(la, sa)` followed by `withdraw` of the minted GM on the same row -/
def Gmx2.roundtripValue (pw : Rat → Rat → Rat) (cx : NumCtx) (cfg : Config Rat) (ps : Pool Rat) (lk sk : String) (s : State Rat)
    (la sa : Rat) : Option (Rat × Rat × Rat) :=
  match deposit (ratOps pw) cx cfg ps lk sk s la sa with
  | (.ok (r, _), s1) =>
    match withdraw (ratOps pw) cx cfg ps lk sk s1 (some r.gmAmount) with
    | (.ok r2, _) => some (la * ps.longPrice + sa * ps.shortPrice,
                           r2.longAmount * ps.longPrice + r2.shortAmount * ps.shortPrice, r.priceImpactUsd)
    | _ => none
  | _ => none

theorem Gmx2.defaultCfg_ok : CfgOK Gmx2.defaultCfg := by
  constructor <;> norm_num [Gmx2.defaultCfg, Gen.gmx2DepositFeePos, Gen.gmx2DepositFeeNeg, Gen.gmx2WithdrawFeeNeg]

theorem Gmx2.demoPool_pos : PoolPos Gmx2.demoPool := by
  constructor <;> norm_num [Gmx2.demoPool]

/-- **witness**: with the default configuration, depositing 500 long tokens (1 M USD) on the light side of the demo pool
    earns a positive price impact of ≈ 7 800 USD, and the immediate withdrawal returns ≈ 1 006 595 USD > 1 000 000 USD paid.
    "A same-bar round trip never returns more than was paid" is therefore false for GM (`v2.roundtrip.profit.positive_impact`). -/
theorem C17_fails_v2_roundtrip_positive_impact :
    ∃ paid back impact,
      Gmx2.roundtripValue Gmx2.sq NumCtx.exact Gmx2.defaultCfg Gmx2.demoPool "WETH" "USDC" Gmx2.demoState 500 0 = some (paid, back, impact) ∧
      0 < impact ∧ paid < back ∧ paid = 1000000 ∧ 1006594 < back :=
  ⟨1000000, 87686781875128753004086759849904367566701953125 / 87112285931760246646623899502532662132736,
   73668917132766468017578125 / 9444732965739290427392, by decide +kernel, by norm_num, by norm_num, rfl, by norm_num⟩

/-- a deposit on the heavy side has a negative impact, is accepted, and its round trip loses (hypotheses of
    `C17_v2_roundtrip_partial`, `C17_v2_mint_value_per_share`, `C17_v2_withdraw_value_per_share` are satisfiable) -/
example : ∃ paid back impact,
    Gmx2.roundtripValue Gmx2.sq NumCtx.exact Gmx2.defaultCfg Gmx2.demoPool "WETH" "USDC" Gmx2.demoState 0 40000 = some (paid, back, impact) ∧
    impact < 0 ∧ back < paid :=
  ⟨40000, 1711923153565057097089168951787339681652453125 / 43556142965880123323311949751266331066368,
   -3025336863585609619921875 / 4722366482869645213696, by decide +kernel, by norm_num, by norm_num⟩

example : withdraw (ratOps Gmx2.sq) NumCtx.exact Gmx2.defaultCfg Gmx2.demoPool "WETH" "USDC" { Gmx2.demoState with amount := 5 } (some 6)
    = (.error .demeter, { Gmx2.demoState with amount := 5 }) :=
  C17_v2_no_over_redeem _ _ _ _ _ _ 6 (by norm_num)

/-- value credited beyond the fee-reduced deposit -/
def Gmx2.bonusOf (cfg : Config Rat) (ps : Pool Rat) (la sa : Rat) : Option Rat :=
  match mintAmount (ratOps Gmx2.sq) cfg ps la sa with
  | .ok (r, _) => some (r.gmAmount * (ps.poolValue / ps.supply) - (la * (1 - cfg.depositFeePos) * ps.longPrice + sa * (1 - cfg.depositFeePos) * ps.shortPrice))
  | .error _ => none

/-- a two-token deposit with a large positive impact on a row whose impact pool holds 1 unit: the long side takes the whole
    unit (1 short token = 1 USD), nothing is left for the short side — the total credit is 1 USD, not 1 + 2000 -/
example : Gmx2.bonusOf Gmx2.defaultCfg { Gmx2.demoPool with impactPool := 1 } 2500 1000000 = some 1 := by decide +kernel

/-- with 24 001 units the long side is paid its full share (≈ 24 000 short tokens), the short side's ≈ 2.4 long tokens are capped
    by the ≈ 1 unit that is left: the total credit stays below 24 001 + 1 × 2000 USD, well under the two uncapped shares ≈ 24 000 + 4 800 -/
example : (Gmx2.bonusOf Gmx2.defaultCfg { Gmx2.demoPool with impactPool := 24001 } 2500 1000000).any
    (fun b => decide (24001 < b ∧ b < 24001 + 2000 ∧ b < 24000 + 4800 - 100)) = true := by decide +kernel
end Demeter
