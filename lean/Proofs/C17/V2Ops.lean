/-
  C17 — GMX v2, operation-level statements.  An accepted `withdraw` credits finite amounts only, for EVERY number type — in
  particular for the IEEE instantiation, whose `toRat` is total only by a default that is therefore never used.
-/
import Proofs.C17.V2
namespace Demeter
open Demeter.GmxV2 Demeter.Gmx Demeter.Gmx2

section
variable {α : Type} [Add α] [Sub α] [Mul α] [Div α] [Neg α] [LT α] [LE α] [OfNat α 0] [DecidableLT α] [DecidableLE α]

/-- **an accepted `withdraw` has a finite argument and finite output amounts**, and the wallet is credited exactly the exact
    values of those two finite numbers — whatever the number type (`Float`: `inf`/`nan` never reach `Decimal(…)`). -/
theorem C17_v2_withdraw_accepted_finite {o : Ops α} {cx : NumCtx} {cfg : Config α} {ps : Pool α} {lk sk : String}
    {s s' : State α} {amt : Option α} {r : LPResult α}
    (h : withdraw o cx cfg ps lk sk s amt = (.ok r, s')) :
    o.isFinite (amt.getD s.amount) = true ∧ o.isFinite r.longAmount = true ∧ o.isFinite r.shortAmount = true ∧
      outputAmount o cfg ps (amt.getD s.amount) = .ok r ∧
      s'.wallet = Wallet.credit cx (Wallet.credit cx s.wallet lk (o.toRat r.longAmount)) sk (o.toRat r.shortAmount) ∧
      s'.amount = s.amount - r.gmAmount := by
  obtain ⟨h1, _, _, hr, h2, h3, rfl⟩ := Gmx2.withdraw_accepted h
  exact ⟨h1, h2, h3, hr, rfl, rfl⟩

/-- **a withdrawal whose output amounts are not finite is rejected and changes nothing** (such as row `poolValue = 1e308`,
    holding `5e7`: `withdraw(4.5e7)` prices to `(nan, nan)`) -/
theorem C17_v2_withdraw_nonfinite_output_rejected (o : Ops α) (cx : NumCtx) (cfg : Config α) (ps : Pool α) (lk sk : String)
    (s : State α) (amt : Option α) (r : LPResult α)
    (hfin : o.isFinite (amt.getD s.amount) = true) (hneg : ¬ amt.getD s.amount < 0) (hheld : ¬ amt.getD s.amount > s.amount)
    (hout : outputAmount o cfg ps (amt.getD s.amount) = .ok r)
    (hr : o.isFinite r.longAmount = false ∨ o.isFinite r.shortAmount = false) :
    withdraw o cx cfg ps lk sk s amt = (.error .demeter, s) := by
  unfold withdraw
  have : (!(o.isFinite r.longAmount && o.isFinite r.shortAmount)) = true := by
    rcases hr with h | h <;> simp [h]
  simp only [hfin, Bool.not_true, Bool.false_eq_true, if_false, hneg, hheld, hout, this, if_true]
end

/-- the IEEE instantiation converts with `floatToRat?`, which answers for every double whose exponent field is not all ones
    (i.e. every finite double): the `getD 0` of `floatOps.toRat` can only be reached by `inf`/`nan` -/
theorem Gmx2.floatToRat_isSome_of_finite_exponent (f : Float) (h : (f.toBits.toNat >>> 52) % 2048 ≠ 2047) :
    (floatToRat? f).isSome = true := by
  unfold floatToRat?
  simp only [h, if_false, Option.isSome_some]

variable {pw : Rat → Rat → Rat}

/-- **operation-level cap**: an accepted deposit with a positive price impact mints GM worth
    `Σ amount·(1 − positive-impact fee factor)·price + paidL·shortPrice + paidS·longPrice`, where `paidL` short tokens and
    `paidS` long tokens are what the two sides draw from the row's ONE impact pool figure: both non-negative and
    **together at most the impact pool**; in USD the bonus is at most the price impact itself. -/
theorem C17_v2_deposit_bonus_le_impact_pool {cx : NumCtx} {cfg : Config Rat} {ps : Pool Rat} (hp : PoolPos ps) {lk sk : String}
    {s s' : State Rat} {la sa : Rat} {r : LPResult Rat} {tag : String}
    (h : deposit (ratOps pw) cx cfg ps lk sk s la sa = (.ok (r, tag), s'))
    (himp : 0 < r.priceImpactUsd) :
    ∃ paidL paidS : Rat, 0 ≤ paidL ∧ 0 ≤ paidS ∧ paidL + paidS ≤ ps.impactPool ∧
      r.gmAmount * (ps.poolValue / ps.supply)
        = la * (1 - cfg.depositFeePos) * ps.longPrice + sa * (1 - cfg.depositFeePos) * ps.shortPrice
          + (paidL * ps.shortPrice + paidS * ps.longPrice) ∧
      paidL * ps.shortPrice + paidS * ps.longPrice ≤ r.priceImpactUsd := by
  obtain ⟨hla, hsa, hm, _, _, _⟩ := Gmx2.deposit_ok h
  obtain ⟨_, _, _, _, _, hv, _, _, hne⟩ := mintAmount_ok hp hm
  set total := la * ps.longPrice + sa * ps.shortPrice with htot
  set shareL := r.priceImpactUsd * (la * ps.longPrice) / total with hsl
  set shareS := r.priceImpactUsd * (sa * ps.shortPrice) / total with hss
  obtain ⟨hL0, hS0, hsum, _, _, _⟩ := C17_v2_positive_impact_capped_total hp la sa shareL shareS
  have hlu : 0 ≤ la * ps.longPrice := mul_nonneg hla hp.longPrice.le
  have hsu : 0 ≤ sa * ps.shortPrice := mul_nonneg hsa hp.shortPrice.le
  have htot0 : 0 ≤ total := by rw [htot]; linarith
  have hposL : la > 0 → 0 < shareL := fun ha =>
    div_pos (mul_pos himp (mul_pos ha hp.longPrice)) (lt_of_le_of_ne htot0 (Ne.symm (hne (Or.inl ha))))
  have hposS : sa > 0 → 0 < shareS := fun ha =>
    div_pos (mul_pos himp (mul_pos ha hp.shortPrice)) (lt_of_le_of_ne htot0 (Ne.symm (hne (Or.inr ha))))
  obtain ⟨sideL, bL⟩ := sideValue_of_pos cfg ps.impactPool (pin := ps.longPrice) hla hp.shortPrice hposL
    (div_nonneg (mul_nonneg himp.le hlu) htot0)
  obtain ⟨sideS, bS⟩ := sideValue_of_pos cfg (sideLeft ps.impactPool la ps.shortPrice shareL) (pin := ps.shortPrice) hsa
    hp.longPrice hposS (div_nonneg (mul_nonneg himp.le hsu) htot0)
  refine ⟨sidePaid ps.impactPool la ps.shortPrice shareL,
    sidePaid (sideLeft ps.impactPool la ps.shortPrice shareL) sa ps.longPrice shareS, hL0, hS0, hsum, ?_, ?_⟩
  · rw [hv, sideL, sideS]; ring
  · -- the shares add up to the impact (or are both 0)
    have hshares : shareL + shareS ≤ r.priceImpactUsd := by
      rw [hsl, hss, ← add_div, ← mul_add, ← htot, mul_div_assoc]
      exact mul_le_of_le_one_right himp.le (div_self_le_one total)
    linarith

structure Gmx2.Ledger where
  st : State Rat
  paidUsd : Rat
  backUsd : Rat

def Gmx2.Ledger.apply (pw : Rat → Rat → Rat) (cx : NumCtx) (cfg : Config Rat) (ps : Pool Rat) (lk sk : String) (l : Gmx2.Ledger) :
    Gmx2.Op → Gmx2.Ledger
  | .deposit la sa =>
    match deposit (ratOps pw) cx cfg ps lk sk l.st la sa with
    | (.ok _, s') => { st := s', paidUsd := l.paidUsd + (la * ps.longPrice + sa * ps.shortPrice), backUsd := l.backUsd }
    | (.error _, s') => { l with st := s' }
  | .withdraw amt =>
    match withdraw (ratOps pw) cx cfg ps lk sk l.st amt with
    | (.ok r, s') => { st := s', paidUsd := l.paidUsd, backUsd := l.backUsd + (r.longAmount * ps.longPrice + r.shortAmount * ps.shortPrice) }
    | (.error _, s') => { l with st := s' }

/-- no deposit of the list is priced with a positive impact on this row (the impact depends on the row and the two amounts only) -/
def Gmx2.NoPositiveImpact (pw : Rat → Rat → Rat) (cfg : Config Rat) (ps : Pool Rat) (ops : List Gmx2.Op) : Prop :=
  ∀ la sa, Gmx2.Op.deposit la sa ∈ ops → ∀ r tag, mintAmount (ratOps pw) cfg ps la sa = .ok (r, tag) → r.priceImpactUsd ≤ 0

/-- **every deposit/withdraw sequence on a frozen row, deposits without positive impact**: for ANY list of `deposit` and
    `withdraw` calls (`withdraw(None)` = everything; accepted or rejected, any amounts and order, any starting holding), if no
    deposit of the list earns a positive price impact and the GM holding at the end is at least the holding at the start, the
    USD value (at the row's prices) of all tokens withdrawn does not exceed that of all tokens deposited.  (With a positive
    impact the statement is false already for one deposit and one withdrawal: `C17_fails_v2_roundtrip_positive_impact`.) -/
theorem C17_v2_sequence_no_profit {cx : NumCtx} {cfg : Config Rat} (hc : CfgOK cfg) {ps : Pool Rat} (hp : PoolPos ps) (lk sk : String)
    (ops : List Gmx2.Op) (hops : Gmx2.NoPositiveImpact pw cfg ps ops) (s : State Rat) :
    let l := ops.foldl (Gmx2.Ledger.apply pw cx cfg ps lk sk) { st := s, paidUsd := 0, backUsd := 0 }
    s.amount ≤ l.st.amount → l.backUsd ≤ l.paidUsd := by
  intro l hfin
  -- the potential "withdrawn − deposited + holding × value per share" does not rise on any call
  have h := foldl_le_of_step (Gmx2.Ledger.apply pw cx cfg ps lk sk)
    (fun l => l.backUsd - l.paidUsd + l.st.amount * (ps.poolValue / ps.supply)) ops { st := s, paidUsd := 0, backUsd := 0 } ?_
  · have := mul_le_mul_of_nonneg_right hfin hp.perShare.le
    linarith
  intro l0 op hop
  cases op with
  | deposit la sa =>
    unfold Gmx2.Ledger.apply
    cases hd : deposit (ratOps pw) cx cfg ps lk sk l0.st la sa with
    | mk res s' =>
      cases res with
      | error e => simp only [hd]; rw [deposit_reject hd]
      | ok rt =>
        obtain ⟨r, tag⟩ := rt
        obtain ⟨hm, _, hamt, hv⟩ := Gmx2.deposit_value hc hp hd
        simp only [hd]
        rw [hamt]; linarith [hv (hops la sa hop r tag hm)]
  | withdraw amt =>
    unfold Gmx2.Ledger.apply
    cases hw : withdraw (ratOps pw) cx cfg ps lk sk l0.st amt with
    | mk res s' =>
      cases res with
      | error e => simp only [hw]; rw [withdraw_reject hw]
      | ok r =>
        obtain ⟨_, _, hamt, hv⟩ := Gmx2.withdraw_value hc hp hw
        simp only [hw]
        rw [hamt]; linarith

/-- two deposits on the heavy (short) side of the demo pool — negative impact —, a partial withdrawal, an over-sized one
    (rejected), and `withdraw(None)`: the holding returns to 0 and less value comes back than went in -/
def Gmx2.demoLedger : Gmx2.Ledger :=
  [Gmx2.Op.deposit 0 40000, .deposit 0 1000, .withdraw (some 100), .withdraw (some (10 ^ 9)), .withdraw none].foldl
    (Gmx2.Ledger.apply Gmx2.sq NumCtx.exact Gmx2.defaultCfg Gmx2.demoPool "WETH" "USDC") { st := Gmx2.demoState, paidUsd := 0, backUsd := 0 }

example : Gmx2.demoLedger.st.amount = 0 ∧ Gmx2.demoLedger.paidUsd = 41000 ∧ 0 < Gmx2.demoLedger.backUsd ∧
    Gmx2.demoLedger.backUsd < 41000 := by decide +kernel

/-- the deposits of that list are indeed priced with a negative impact -/
example : (mintAmount (ratOps Gmx2.sq) Gmx2.defaultCfg Gmx2.demoPool 0 40000).toOption.any (fun x => decide (x.1.priceImpactUsd < 0)) = true ∧
    (mintAmount (ratOps Gmx2.sq) Gmx2.defaultCfg Gmx2.demoPool 0 1000).toOption.any (fun x => decide (x.1.priceImpactUsd < 0)) = true := by
  decide +kernel

/-- a deposit with a positive impact on a row whose impact pool holds 1 unit is accepted: the hypotheses of
    `C17_v2_deposit_bonus_le_impact_pool` are satisfiable, and the bonus is the whole unit (1 short token = 1 USD) -/
example : ∃ r tag s', deposit (ratOps Gmx2.sq) NumCtx.exact Gmx2.defaultCfg { Gmx2.demoPool with impactPool := 1 } "WETH" "USDC"
      { Gmx2.demoState with wallet := [("WETH", 3000), ("USDC", 2000000)] } 2500 1000000 = (.ok (r, tag), s') ∧ 0 < r.priceImpactUsd :=
  by
    cases hd : deposit (ratOps Gmx2.sq) NumCtx.exact Gmx2.defaultCfg { Gmx2.demoPool with impactPool := 1 } "WETH" "USDC"
      { Gmx2.demoState with wallet := [("WETH", 3000), ("USDC", 2000000)] } 2500 1000000 with
    | mk res s' =>
      have hok : (deposit (ratOps Gmx2.sq) NumCtx.exact Gmx2.defaultCfg { Gmx2.demoPool with impactPool := 1 } "WETH" "USDC"
        { Gmx2.demoState with wallet := [("WETH", 3000), ("USDC", 2000000)] } 2500 1000000).1.toOption.any
          (fun x => decide (0 < x.1.priceImpactUsd)) = true := by decide +kernel
      rw [hd] at hok
      cases res with
      | error e => simp [Except.toOption] at hok
      | ok rt => exact ⟨rt.1, rt.2, s', rfl, by simpa [Except.toOption] using hok⟩

end Demeter
