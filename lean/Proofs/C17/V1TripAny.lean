/-
  C17 — GMX v1 same-bar round trip under ROUNDED arithmetic.  `C17_v1_roundtrip_no_profit` is for `NumCtx.exact`; the code
  rounds every `+ − × ÷` to 35 digits.  Here: for every arithmetic context with relative rounding error `ε ≤ 1/1000`
  (`Rounds`; CPython's context: `ε = 5·10⁻³⁵`), buying with `a` tokens and selling any part of the minted GLP in the same bar
  returns at most `a·(1+ε)¹⁷/(1−ε)` — seventeen roundings upwards and one (the price) downwards on the way; every
  `quantize(ROUND_DOWN)` and every fee (in [0, 85] bp in every branch, `C17_v1_fee_range_any_rounding`) only lowers the result.
-/
import Proofs.Lemmas.Round35Ctx
import Proofs.C17
import Proofs.Lemmas.GmxV1Value
namespace Demeter
open Demeter.GmxV1 Demeter.Gmx

/-- **same-bar round trip under any rounding with relative error `ε ≤ 1/1000`**: buying GLP with `a` tokens and selling any part
    `0 < g' ≤ g` of the minted GLP for the same token in the same bar returns at most `a·(1+ε)¹⁷/(1−ε)` — for CPython's 35-digit
    context at most `a·(1 + 10⁻³³)`.  (`C17_v1_roundtrip_no_profit`, the bound `a` for exact arithmetic, is the case `ε = 0` of the same lemma, `Gmx.roundtrip_margin`.) -/
theorem C17_v1_roundtrip_margin_any_rounding {cx : NumCtx} {ε : Rat} (H : Rounds cx ε) (hε : ε ≤ 1 / 1000)
    {env : Env} (he : EnvPos env) {s s1 s2 : State} {tok : String} {dec : Nat} {a g g' out : Rat}
    (hbuy : buyGlp cx env s tok dec a = (.ok g, s1))
    (hg' : 0 < g') (hle : g' ≤ g)
    (hsell : sellGlp cx env s1 tok dec g' = (.ok out, s2)) :
    out ≤ a * ((1 + ε) ^ 17 / (1 - ε)) :=
  Gmx.roundtrip_margin ⟨H, by linarith⟩ he hbuy hg' hle hsell

/-- for CPython's 35-digit context the margin is below `10⁻³³` relative -/
theorem C17_v1_roundtrip_margin_round35_bound {ε : Rat} (hε0 : 0 ≤ ε) (hε : ε ≤ 5 / 10 ^ 35) :
    (1 + ε) ^ 17 / (1 - ε) ≤ 1 + 1 / 10 ^ 33 := by
  have h := pow_div_one_sub_le hε0 17 (by norm_num; linarith) (by norm_num; linarith)
  norm_num at h ⊢
  linarith

/-- **CPython's 35-digit arithmetic** (`NumCtx.pyG` = `NumCtx.py` on every number a GMX row can produce): the same-bar round trip
    returns at most `a·(1 + 10⁻³³)` -/
theorem C17_v1_roundtrip_margin_round35 {env : Env} (he : EnvPos env) {s s1 s2 : State} {tok : String} {dec : Nat} {a g g' out : Rat}
    (hbuy : buyGlp NumCtx.pyG env s tok dec a = (.ok g, s1)) (hg' : 0 < g') (hle : g' ≤ g)
    (hsell : sellGlp NumCtx.pyG env s1 tok dec g' = (.ok out, s2)) :
    out ≤ a * (1 + 1 / 10 ^ 33) := by
  have h0 := le_of_lt Numerics.EPS35_pos
  have h1 : Numerics.EPS35 ≤ 5 / 10 ^ 35 := by unfold Numerics.EPS35; norm_num
  have hm := C17_v1_roundtrip_margin_any_rounding NumCtx.pyG_rounds (le_trans h1 (by norm_num)) he hbuy hg' hle hsell
  have hb := C17_v1_roundtrip_margin_round35_bound h0 h1
  exact le_trans hm (mul_le_mul_of_nonneg_left hb (Gmx.buyGlp_ok hbuy).1)

/-- non-vacuity: the demo round trip of Proofs/C17.lean meets the hypotheses (context with rounding error 0) -/
example : (99500481 / 100000000 : Rat) ≤ 1 * ((1 + 0) ^ 17 / (1 - 0)) :=
  C17_v1_roundtrip_margin_any_rounding Gmx.rnd_exact.toRounds (by norm_num) Gmx.demoEnv_pos
    (Prod.ext Gmx.demo_buy rfl) (by norm_num) (le_refl _) (Prod.ext Gmx.demo_sell rfl)

end Demeter
