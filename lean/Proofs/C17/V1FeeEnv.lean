/-
  C17 — the 1-bp agreement with the Vault's rule stated on a data row, with the target DERIVED from the row
  (`get_target_amount` = weight × USDG supply / Σ weights of the market's token set) instead of assumed.
-/
import Proofs.Fixtures.Gmx
import Proofs.C17.V1Fee
namespace Demeter
open Demeter.GmxV1 Demeter.Gmx

/-- `total_token_weights` of `get_target_amount`: the fold over the market's token set (KeyError when a column is missing) -/
def Gmx.totalWeights (env : Env) : Except Err Rat :=
  env.tokenSet.foldlM (fun acc t => match env.row? t with
    | some r => .ok (acc + r.weight)
    | none => .error Err.key) (0 : Rat)

theorem Gmx.targetAmount_of_row {env : Env} {tok : String} {r : TokenRow} {W : Rat} (hW : W ≠ 0)
    (hrow : env.row? tok = some r) (htot : Gmx.totalWeights env = .ok W) :
    targetAmount NumCtx.exact env tok = .ok (r.weight * env.usdgSupply / W) := by
  have e : targetAmount NumCtx.exact env tok = (Gmx.totalWeights env >>= fun total =>
      match env.row? tok with
      | none => .error .key
      | some r => ddiv NumCtx.exact (NumCtx.exact.mul r.weight env.usdgSupply) total) := rfl
  rw [e, htot]
  simp only [bind, Except.bind, hrow, ddiv, hW, if_false, NumCtx.exact_mul, NumCtx.exact_div]

/-- **the fee of a data row is within 1 bp (+ 200/target) of the Vault's integer rule** — everything read off the row: the
    token's USDG amount `i`, its weight `w`, the USDG supply `S`, the total weight `W` of the market's tokens (all integers, as
    in the recorded data); target ≥ 200 wei of USDG; off the mirror point of the rule. -/
theorem C17_v1_fee_vault_within_1bp_env {env : Env} {tok : String} {r : TokenRow} (i u w S W : Nat) (inc : Bool) (hW : 0 < W)
    (hrow : env.row? tok = some r) (hi : r.usdg = i) (hw : r.weight = w) (hS : env.usdgSupply = S)
    (htot : Gmx.totalWeights env = .ok (W : Rat))
    (hT : 200 ≤ vaultTarget w S W)
    (hmirror : ((natNext i u inc : Nat) : Int) + i - 2 * (vaultTarget w S W : Nat) ≤ -1 ∨
               2 ≤ ((natNext i u inc : Nat) : Int) + i - 2 * (vaultTarget w S W : Nat)) :
    ∃ f br, feeBps NumCtx.exact env tok u inc = .ok (f, br) ∧
      |f - ((vaultFeeBps i u (vaultTarget w S W) Gen.gmxMintBurnFeeBps Gen.gmxTaxBps inc : Nat) : Rat)| ≤ 1 + 200 / ((w : Rat) * S / W) ∧
      1 + 200 / ((w : Rat) * S / W) ≤ 2 :=
  by
    obtain ⟨f, br, h1, h2⟩ := C17_v1_fee_vault_within_1bp_row i u w S W inc hrow hi
      (hw ▸ hS ▸ Gmx.targetAmount_of_row (Nat.cast_ne_zero.2 hW.ne') hrow htot) hT hmirror
    refine ⟨f, br, h1, h2, ?_⟩
    have hle := (vaultTarget_bounds (by omega : 0 < vaultTarget w S W)).1
    have h200 : (200 : Rat) ≤ (w : Rat) * S / W := le_trans (by exact_mod_cast hT) hle
    have : 200 / ((w : Rat) * S / W) ≤ 1 := by rw [div_le_one (by linarith)]; exact h200
    linarith

example : Gmx.totalWeights Gmx.demoEnv = .ok ((2 : Nat) : Rat) := by decide +kernel

/-- buying 10²¹ USDG worth of WETH: the code charges 13 bp (rebate branch), the Vault's rule 13 bp as well; every hypothesis of
    `C17_v1_fee_vault_within_1bp_env` holds on the row -/
example : ∃ f br, feeBps NumCtx.exact Gmx.demoEnv "weth" ((10 ^ 21 : Nat) : Rat) true = .ok (f, br) ∧
    |f - ((vaultFeeBps (4 * 10 ^ 24) (10 ^ 21) (vaultTarget 1 (10 ^ 25) 2) Gen.gmxMintBurnFeeBps Gen.gmxTaxBps true : Nat) : Rat)|
      ≤ 1 + 200 / (((1 : Nat) : Rat) * ((10 ^ 25 : Nat) : Rat) / ((2 : Nat) : Rat)) := by
  obtain ⟨f, br, h1, h2, _⟩ := C17_v1_fee_vault_within_1bp_env (env := Gmx.demoEnv) (tok := "weth")
    (r := { name := "weth", price := 2000 * 10 ^ 30, usdg := 4 * 10 ^ 24, weight := 1 })
    (4 * 10 ^ 24) (10 ^ 21) 1 (10 ^ 25) 2 true (by norm_num) (by decide +kernel) (by norm_num) (by norm_num)
    (by norm_num [Gmx.demoEnv]) (by decide +kernel) (by decide +kernel) (Or.inl (by decide +kernel))
  exact ⟨f, br, h1, h2⟩

example : vaultFeeBps (4 * 10 ^ 24) (10 ^ 21) (vaultTarget 1 (10 ^ 25) 2) 25 60 true = 13 := by decide +kernel

end Demeter
