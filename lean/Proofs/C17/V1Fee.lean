/-
  C17 — the v1 fee against the Vault's integer rule (`VaultUtils.getFeeBasisPoints` / `Vault.getTargetUsdgAmount`,
  reference model `vaultFeeBps` / `vaultTarget` in Demeter/GmxV1.lean).  The code computes target, average distance
  and rebate as fractions; the contract rounds each down.  Away from the rule's own discontinuity the two agree within
  one basis point (plus the target's rounding, `200 / target`); at the discontinuity they can differ by the whole range.
-/
import Proofs.Lemmas.GmxV1Fee
namespace Demeter
open Demeter.GmxV1 Demeter.Gmx

/-- **the code's fee on the fractional target `w·S/W` is within 1 bp (+ 200/target) of the Vault's rule on the floored target**,
    for targets of at least 200 wei and off the mirror point `next + initial − 2·⌊T⌋ ∈ {0, 1}` -/
theorem C17_v1_fee_vault_within_1bp (i u w S W : Nat) (inc : Bool)
    (hT : 200 ≤ vaultTarget w S W)
    (hmirror : ((natNext i u inc : Nat) : Int) + i - 2 * (vaultTarget w S W : Nat) ≤ -1 ∨
               2 ≤ ((natNext i u inc : Nat) : Int) + i - 2 * (vaultTarget w S W : Nat)) :
    |(feeBpsCore NumCtx.exact i u ((w : Rat) * S / W) inc).1
        - ((vaultFeeBps i u (vaultTarget w S W) Gen.gmxMintBurnFeeBps Gen.gmxTaxBps inc : Nat) : Rat)|
      ≤ 1 + 200 / ((w : Rat) * S / W) := by
  have hvpos : 0 < vaultTarget w S W := by omega
  obtain ⟨hvt, htv⟩ := vaultTarget_bounds hvpos
  have hv200 : (200 : Rat) ≤ (vaultTarget w S W : Nat) := by exact_mod_cast hT
  rw [feeBpsCore_exact_fst _ _ (by linarith), vaultFeeBps_cast _ _ hvpos]
  exact feeRule_floor_close hv200 hvt htv (hmirror.imp (fun h => by exact_mod_cast h) (fun h => by exact_mod_cast h))

/-- the same on a data row: `get_fee_basis_points(token, Δ, increase)` for a row whose USDG amount, weight, USDG supply and
    total weight are the naturals `i`, `w`, `S`, `W` -/
theorem C17_v1_fee_vault_within_1bp_row {env : Env} {tok : String} {r : TokenRow} (i u w S W : Nat) (inc : Bool)
    (hrow : env.row? tok = some r) (hi : r.usdg = i)
    (htarget : targetAmount NumCtx.exact env tok = .ok ((w : Rat) * S / W))
    (hT : 200 ≤ vaultTarget w S W)
    (hmirror : ((natNext i u inc : Nat) : Int) + i - 2 * (vaultTarget w S W : Nat) ≤ -1 ∨
               2 ≤ ((natNext i u inc : Nat) : Int) + i - 2 * (vaultTarget w S W : Nat)) :
    ∃ f br, feeBps NumCtx.exact env tok u inc = .ok (f, br) ∧
      |f - ((vaultFeeBps i u (vaultTarget w S W) Gen.gmxMintBurnFeeBps Gen.gmxTaxBps inc : Nat) : Rat)| ≤ 1 + 200 / ((w : Rat) * S / W) := by
  refine ⟨(feeBpsCore NumCtx.exact i u ((w : Rat) * S / W) inc).1, (feeBpsCore NumCtx.exact i u ((w : Rat) * S / W) inc).2, ?_,
    C17_v1_fee_vault_within_1bp i u w S W inc hT hmirror⟩
  unfold feeBps
  simp only [hrow, htarget, hi, bind, Except.bind, pure, Except.pure]

/-- **the two rules take the same branch (rebate / tax) unless `next + initial − 2·⌊T⌋ ∈ {0, 1}`** — the mirror image of the
    initial amount about the target, where the Vault's own rule jumps. -/
theorem C17_v1_fee_branch_agrees_off_mirror (i n v : Nat) (t : Rat) (hvt : (v : Rat) ≤ t) (htv : t < v + 1)
    (hk : (n : Int) + i - 2 * v ≤ -1 ∨ 2 ≤ (n : Int) + i - 2 * v) :
    (absDiff NumCtx.exact n t < absDiff NumCtx.exact i t) ↔ (natAbsDiff n v < natAbsDiff i v) := by
  rw [absDiff_eq_abs, absDiff_eq_abs]
  have hk' : ((n : Rat)) + i - 2 * v ≤ -1 ∨ 2 ≤ ((n : Rat)) + i - 2 * v :=
    hk.imp (fun h => by exact_mod_cast h) (fun h => by exact_mod_cast h)
  rw [branch_agree hvt htv hk', ← natAbsDiff_cast, ← natAbsDiff_cast]
  exact_mod_cast Iff.rfl

/-- **witness: at the rule's discontinuity the code and the Vault disagree by the whole fee range.**  With `initial = 0`,
    `Δ = 2·⌊T⌋` and `T = 1000.5` (weights 1 of 2, USDG supply 2001) the code sees an improvement (fee 0) and the contract
    does not (fee 25 + 60).  Finding `v1.fee.vault_rule.branch_edge`. -/
theorem C17_fails_v1_fee_within_1bp_at_mirror :
    ∃ (i u w S W : Nat) (inc : Bool), 0 < W ∧ 200 ≤ vaultTarget w S W ∧
      ((natNext i u inc : Nat) : Int) + i - 2 * (vaultTarget w S W : Nat) = 0 ∧
      (feeBpsCore NumCtx.exact i u ((w : Rat) * S / W) inc).1 = 0 ∧
      vaultFeeBps i u (vaultTarget w S W) Gen.gmxMintBurnFeeBps Gen.gmxTaxBps inc = 85 :=
  ⟨0, 2000, 1, 2001, 2, true, by decide, by decide, by decide, by decide +kernel, by decide⟩

/-- rebate branch: target 1000.5, initial 900, +50: code 25 − 60·100.5/1000.5 ≈ 18.97, Vault 25 − ⌊60·100/1000⌋ = 19 -/
example : 200 ≤ vaultTarget 1 2001 2 ∧ ((natNext 900 50 true : Nat) : Int) + 900 - 2 * (vaultTarget 1 2001 2 : Nat) ≤ -1 ∧
    vaultFeeBps 900 50 (vaultTarget 1 2001 2) 25 60 true = 19 ∧
    (feeBpsCore NumCtx.exact 900 50 ((1 : Rat) * 2001 / 2) true) = (12655 / 667, .rebate) := by
  refine ⟨by decide, by decide, by decide, by decide +kernel⟩

/-- tax branch: initial 1200, +300: code 25 + ⌊60·349.5/1000.5⌋ = 45, Vault 25 + ⌊60·350/1000⌋ = 46 -/
example : 2 ≤ ((natNext 1200 300 true : Nat) : Int) + 1200 - 2 * (vaultTarget 1 2001 2 : Nat) ∧
    vaultFeeBps 1200 300 (vaultTarget 1 2001 2) 25 60 true = 46 ∧
    (feeBpsCore NumCtx.exact 1200 300 ((1 : Rat) * 2001 / 2) true) = (45, .tax) := by
  refine ⟨by decide, by decide, by decide +kernel⟩

end Demeter
