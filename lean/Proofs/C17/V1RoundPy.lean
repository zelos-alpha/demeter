/-
  C17 — the capped-tax rounding lemma instantiated at the concrete 35-digit rounding of the drivers.

  `NumCtx.pyG` (Proofs/Lemmas/Round35Ctx.lean) is `NumCtx.py` on every rational whose numerator and
  denominator have fewer than 45 154 digits — all numbers a GMX row can produce — and its rounding error is proved to be at
  most `EPS35 = 5·10⁻³⁵`.  So for the arithmetic the implementation really performs, the capped tax branch charges 84 or
  85 bp and nothing else.
-/
import Proofs.C17.V1Round
import Proofs.Lemmas.Round35Ctx
namespace Demeter
open Demeter.GmxV1 Demeter.Gmx Demeter.Numerics

/-- **under CPython's 35-digit rounding the capped tax branch charges 85 bp, or 84 bp when the rounded quotient
    `round35(round35(60·T)/T)` is below 60 — never anything else** (exact arithmetic and the Vault: 85) -/
theorem C17_v1_capped_tax_round35_exactly_1bp {T initialDiff nextDiff : Rat} (hT : 0 < T) (hb : ¬ nextDiff < initialDiff)
    (hcap : NumCtx.pyG.div (NumCtx.pyG.add initialDiff nextDiff) 2 > T) :
    let q := NumCtx.pyG.div (NumCtx.pyG.mul 60 T) T
    let fee := (feeFromDiffs NumCtx.pyG initialDiff nextDiff T).1
    (q < 60 → fee = 84) ∧ (60 ≤ q → fee = 85) ∧ (fee = 84 ∨ fee = 85) := by
  have h := C17_v1_capped_tax_rounding_exactly_1bp NumCtx.pyG_rounds (le_trans EPS35_small (by norm_num)) hT hb hcap
  exact ⟨h.2.1, h.2.2.1, h.2.2.2.1⟩

/-- on the witness of `Proofs/C17/V1Round.lean` the guarded context is the driver's context -/
example : NumCtx.pyG.rnd (60 * 16666666666666666666666666666666667) = NumCtx.py.rnd (60 * 16666666666666666666666666666666667) :=
  NumCtx.pyG_rnd_eq (by decide +kernel)

end Demeter
