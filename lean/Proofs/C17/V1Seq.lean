/-
  C17 — GMX v1: "every buy/sell sequence".  On a frozen row, ANY list of `buy_glp(tok, ·)`, `sell_glp(tok, ·)` (including
  `sell_glp(tok, 0)` = sell the whole holding) and `update()` calls, accepted or rejected, in any order and starting from any
  holding: whenever the GLP holding at the end is at least the holding at the start, the tokens received in total do not
  exceed the tokens paid in total.  (`C17_v1_roundtrip_no_profit` and `…_in_pieces…` state the case "one buy, then sales", Proofs/C17.lean.)
-/
import Proofs.Lemmas.GmxV1Step
import Proofs.Fixtures.Gmx
namespace Demeter
open Demeter.GmxV1 Demeter.Gmx

inductive Gmx.TokOp
  | buy (amount : Rat)        -- `buy_glp(tok, amount)`
  | sell (glpAmount : Rat)    -- `sell_glp(tok, glp_amount)`; 0 = everything held
  | update                    -- `update()`
deriving Repr

structure Gmx.Ledger where
  st : State
  tokensIn : Rat
  tokensOut : Rat

/-- one call on the real step function; a rejected call moves no tokens (and, by `C04`, changes nothing) -/
def Gmx.Ledger.apply (env : Env) (tok : String) (dec : Nat) (l : Gmx.Ledger) : Gmx.TokOp → Gmx.Ledger
  | .buy a =>
    match step NumCtx.exact env l.st (.buy tok dec a) with
    | (.ok _, s') => { st := s', tokensIn := l.tokensIn + a, tokensOut := l.tokensOut }
    | (.error _, s') => { l with st := s' }
  | .sell g =>
    match step NumCtx.exact env l.st (.sell tok dec g) with
    | (.ok out, s') => { st := s', tokensIn := l.tokensIn, tokensOut := l.tokensOut + out }
    | (.error _, s') => { l with st := s' }
  | .update => { l with st := (step NumCtx.exact env l.st .update).2 }

/-- the ledger is the wallet: an accepted buy debits exactly `amount`, an accepted sale credits exactly the returned amount,
    nothing else touches the token's balance -/
theorem C17_v1_sequence_ledger_is_wallet_step {env : Env} (tok : String) (dec : Nat) (l : Gmx.Ledger) (op : Gmx.TokOp) :
    match op with
    | .buy a => (∀ g s', buyGlp NumCtx.exact env l.st tok dec a = (.ok g, s') →
        Wallet.debit NumCtx.exact l.st.wallet (walletKey tok) a false = .ok (l.apply env tok dec op).st.wallet ∧
        (l.apply env tok dec op).tokensIn = l.tokensIn + a)
    | .sell ga => (∀ out s', sellGlp NumCtx.exact env l.st tok dec ga = (.ok out, s') →
        (l.apply env tok dec op).st.wallet = Wallet.credit NumCtx.exact l.st.wallet (walletKey tok) out ∧
        (l.apply env tok dec op).tokensOut = l.tokensOut + out)
    | .update => (l.apply env tok dec op).st.wallet = l.st.wallet := by
  cases op with
  | buy a =>
    intro g s' hb
    obtain ⟨_, mint, fee, br, w, _, hw, _, hs'⟩ := Gmx.buyGlp_ok hb
    unfold Gmx.Ledger.apply
    simp only [step, hb]
    rw [hs']; exact ⟨hw, trivial⟩
  | sell ga =>
    intro out s' hb
    obtain ⟨_, _, _, _, _, hs'⟩ := Gmx.sellGlp_ok (g := if ga = 0 then l.st.glp else ga) rfl hb
    unfold Gmx.Ledger.apply
    simp only [step, hb]
    rw [hs']; exact ⟨rfl, trivial⟩
  | update =>
    unfold Gmx.Ledger.apply
    show (update NumCtx.exact env l.st).2.wallet = _
    rcases Gmx.update_cases NumCtx.exact env l.st with ⟨_, e, hu⟩ | ⟨_, hu⟩ <;> rw [hu]

/-- USD price of a token in the row (`{tok}_price / 10³⁰`; 0 when the row has no such column — every call on it is rejected) -/
def Gmx.priceOf (env : Env) (tok : String) : Rat :=
  match env.row? tok with
  | some r => r.price / 10 ^ 30
  | none => 0

structure Gmx.UsdLedger where
  st : State
  usdIn : Rat
  usdOut : Rat

def Gmx.UsdLedger.apply (env : Env) (l : Gmx.UsdLedger) (op : Op) : Gmx.UsdLedger :=
  match op, step NumCtx.exact env l.st op with
  | .buy t _ a, (.ok _, s') => { st := s', usdIn := l.usdIn + a * Gmx.priceOf env t, usdOut := l.usdOut }
  | .sell t _ _, (.ok out, s') => { st := s', usdIn := l.usdIn, usdOut := l.usdOut + out * Gmx.priceOf env t }
  | _, (_, s') => { l with st := s' }

/-- the potential "received − paid + holding × value per share" does not rise on any call -/
theorem Gmx.usdLedger_step {env : Env} (he : EnvPos env) (l : Gmx.UsdLedger) (op : Op) :
    (l.apply env op).usdOut - (l.apply env op).usdIn + (l.apply env op).st.glp * (aumU env / env.glpSupply)
      ≤ l.usdOut - l.usdIn + l.st.glp * (aumU env / env.glpSupply) := by
  rcases Gmx.step_cases he l.st op with ⟨e, h⟩ | ⟨r, rfl, h⟩ | ⟨tok, dec, a, g, r, w, mint, rfl, hr, _, _, hv, _, h⟩ |
    ⟨tok, dec, ga, g, out, r, rfl, _, hr, _, _, _, hv, h⟩
  · cases op <;> simp only [Gmx.UsdLedger.apply, h] <;> exact le_refl _
  · simp only [Gmx.UsdLedger.apply, h]; exact le_refl _
  · simp only [Gmx.UsdLedger.apply, h, Gmx.priceOf, hr]; linarith
  · simp only [Gmx.UsdLedger.apply, h, Gmx.priceOf, hr]; linarith

/-- **every buy/sell sequence on a frozen row, any tokens**: for ANY list of `buy_glp` / `sell_glp` / `update` calls — different
    tokens, accepted or rejected, any amounts and order, any starting state —, if the GLP holding at the end is at least the
    holding at the start, the USD value (at the row's prices) of all tokens received does not exceed that of all tokens paid. -/
theorem C17_v1_sequence_no_profit_any_token {env : Env} (he : EnvPos env) (ops : List Op) (s : State) :
    let l := ops.foldl (Gmx.UsdLedger.apply env) { st := s, usdIn := 0, usdOut := 0 }
    s.glp ≤ l.st.glp → l.usdOut ≤ l.usdIn := by
  intro l hfin
  have h := foldl_le_of_step (Gmx.UsdLedger.apply env)
    (fun l => l.usdOut - l.usdIn + l.st.glp * (aumU env / env.glpSupply)) ops { st := s, usdIn := 0, usdOut := 0 }
    (fun l op _ => Gmx.usdLedger_step he l op)
  have hV : 0 ≤ aumU env / env.glpSupply := div_nonneg (Gmx.aumU_nonneg he) (le_of_lt he.glpSupply)
  have := mul_le_mul_of_nonneg_right hfin hV
  linarith

/-- buy with 1 WETH, sell everything for USDC (`sell_glp(usdc, 0)`): 2000 USD in, less out -/
def Gmx.demoUsdLedger : Gmx.UsdLedger :=
  [Op.buy "weth" 18 1, Op.sell "usdc" 6 0].foldl (Gmx.UsdLedger.apply Gmx.demoEnv) { st := Gmx.demoState, usdIn := 0, usdOut := 0 }

example : Gmx.demoUsdLedger.st.glp = 0 ∧ Gmx.demoUsdLedger.usdIn = 2000 ∧ 1980 < Gmx.demoUsdLedger.usdOut ∧
    Gmx.demoUsdLedger.usdOut < 2000 := by decide +kernel

def Gmx.TokOp.toOp (tok : String) (dec : Nat) : Gmx.TokOp → Op
  | .buy a => .buy tok dec a
  | .sell g => .sell tok dec g
  | .update => .update

def Gmx.Ledger.usd (env : Env) (tok : String) (l : Gmx.Ledger) : Gmx.UsdLedger :=
  { st := l.st, usdIn := l.tokensIn * Gmx.priceOf env tok, usdOut := l.tokensOut * Gmx.priceOf env tok }

theorem Gmx.Ledger.usd_apply (env : Env) (tok : String) (dec : Nat) (l : Gmx.Ledger) (op : Gmx.TokOp) :
    (l.usd env tok).apply env (op.toOp tok dec) = (l.apply env tok dec op).usd env tok := by
  cases op with
  | buy a =>
    simp only [Gmx.Ledger.apply, Gmx.UsdLedger.apply, Gmx.TokOp.toOp, Gmx.Ledger.usd]
    cases step NumCtx.exact env l.st (.buy tok dec a) with
    | mk res s' =>
      cases res with
      | error e => simp
      | ok x => simp [add_mul]
  | sell g =>
    simp only [Gmx.Ledger.apply, Gmx.UsdLedger.apply, Gmx.TokOp.toOp, Gmx.Ledger.usd]
    cases step NumCtx.exact env l.st (.sell tok dec g) with
    | mk res s' =>
      cases res with
      | error e => simp
      | ok x => simp [add_mul]
  | update => rfl

theorem Gmx.ledger_no_row {env : Env} (he : EnvPos env) {tok : String} (dec : Nat) (hn : env.row? tok = none) (l : Gmx.Ledger)
    (op : Gmx.TokOp) :
    (l.apply env tok dec op).tokensOut = l.tokensOut ∧ (l.apply env tok dec op).tokensIn = l.tokensIn := by
  cases op with
  | buy a =>
    unfold Gmx.Ledger.apply
    simp only [step]
    cases hb : buyGlp NumCtx.exact env l.st tok dec a with
    | mk res s' =>
      cases res with
      | error e => exact ⟨rfl, rfl⟩
      | ok g => obtain ⟨r, hr, _⟩ := Gmx.buyGlp_value he hb; rw [hn] at hr; cases hr
  | sell ga =>
    unfold Gmx.Ledger.apply
    simp only [step]
    cases hb : sellGlp NumCtx.exact env l.st tok dec ga with
    | mk res s' =>
      cases res with
      | error e => exact ⟨rfl, rfl⟩
      | ok out => obtain ⟨r, hr, _⟩ := Gmx.sellGlp_value he rfl hb; rw [hn] at hr; cases hr
  | update => exact ⟨rfl, rfl⟩

/-- **every buy/sell sequence on a frozen row**: for ANY list of `buy_glp` / `sell_glp` (0 = sell all) / `update` calls on one
    token — accepted or rejected, any amounts, any order, any starting state —, if the GLP holding at the end is at least the
    holding at the start, the tokens received from all the sales together do not exceed the tokens paid into all the buys. -/
theorem C17_v1_sequence_no_profit {env : Env} (he : EnvPos env) (tok : String) (dec : Nat) (ops : List Gmx.TokOp) (s : State) :
    let l := ops.foldl (Gmx.Ledger.apply env tok dec) { st := s, tokensIn := 0, tokensOut := 0 }
    s.glp ≤ l.st.glp → l.tokensOut ≤ l.tokensIn := by
  intro l hfin
  cases hrow : env.row? tok with
  | none =>
    have a : l.tokensOut = 0 := foldl_eq_of_step _ Gmx.Ledger.tokensOut ops _ fun l0 op _ => (Gmx.ledger_no_row he dec hrow l0 op).1
    have b : l.tokensIn = 0 := foldl_eq_of_step _ Gmx.Ledger.tokensIn ops _ fun l0 op _ => (Gmx.ledger_no_row he dec hrow l0 op).2
    rw [a, b]
  | some r =>
    -- valued at the token's price, the run is a run of the any-token ledger
    have hsim := List.foldl_hom (Gmx.Ledger.usd env tok) (g₁ := Gmx.Ledger.apply env tok dec)
      (g₂ := fun u op => u.apply env (op.toOp tok dec)) (l := ops) (init := { st := s, tokensIn := 0, tokensOut := 0 })
      (fun l0 op => Gmx.Ledger.usd_apply env tok dec l0 op)
    have h := C17_v1_sequence_no_profit_any_token he (ops.map (Gmx.TokOp.toOp tok dec)) s
    rw [List.foldl_map] at h
    simp only [Gmx.Ledger.usd, zero_mul] at hsim
    rw [hsim] at h
    have hp : 0 < Gmx.priceOf env tok := by
      unfold Gmx.priceOf; rw [hrow]
      have := he.price r (row_mem hrow)
      positivity
    exact le_of_mul_le_mul_right (h hfin) hp

/-- buy 1 WETH, buy 0.5 WETH, sell 1000 GLP, try to sell 10⁹ GLP (rejected), update, sell everything (`sell_glp(weth, 0)`):
    all but the fourth call are accepted, the holding returns to 0, 1.5 WETH went in and less (but more than 1.49) came out -/
def Gmx.demoLedger : Gmx.Ledger :=
  [Gmx.TokOp.buy 1, .buy (1 / 2), .sell 1000, .sell (10 ^ 9), .update, .sell 0].foldl
    (Gmx.Ledger.apply Gmx.demoEnv "weth" 18) { st := Gmx.demoState, tokensIn := 0, tokensOut := 0 }

example : Gmx.demoLedger.st.glp = 0 ∧ Gmx.demoLedger.tokensIn = 3 / 2 ∧ 0 < Gmx.demoLedger.tokensOut ∧
    Gmx.demoLedger.tokensOut < 3 / 2 ∧ 149 / 100 < Gmx.demoLedger.tokensOut := by
  decide +kernel

end Demeter
