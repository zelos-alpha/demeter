/-
  C03 / C01, Uniswap part: position keys stay unique (the positions container is a Python dict), so every position
  is one holding: valued once (C01), credited once by an add, debited once by a remove (C03).
-/
import Proofs.Lemmas.UniEff
import Proofs.Lemmas.UniPositions
import Proofs.Lemmas.UniPrims
namespace Demeter.Uni
open Demeter

def KeysRel (s s' : State) : Prop := KeysNodup s.positions → KeysNodup s'.positions

theorem keysRel_mapPos (s : State) (lo up : Int) (f : Pos → Pos) (hf : ∀ q, q.hasKey lo up = true → keyOf (f q) = keyOf q)
    (s' : State) (h : s'.positions = mapPos s.positions lo up f) : KeysRel s s' := by
  intro hn; rw [h]; exact mapPos_keys_nodup _ _ _ _ hf hn

theorem KeysRel.ofEff {K : Kern} {pool : Pool} {al : Allow} {n : Nat} {s s' : State} (h : Eff K pool al n s s') :
    KeysRel s s' := by
  intro hn
  cases h with
  | record => exact hn
  | add _ A => exact addToPositions_keys A.entity hn
  | collectCore _ hf => exact mapPos_const_keys_nodup hf rfl hn
  | collect _ _ _ _ hf =>
    simp only [collectFinish_positions]
    split
    · exact erasePos_keys_nodup _ _ _ (mapPos_const_keys_nodup hf rfl hn)
    · exact mapPos_const_keys_nodup hf rfl hn
  | remove _ hf => exact mapPos_const_keys_nodup hf rfl hn
  | swap => exact hn
  | flag => exact mapPos_keys_nodup _ _ _ _ (fun _ _ => rfl) hn

theorem keysRel_stepRel (K : Kern) (pool : Pool) : StepRel K pool KeysRel :=
  .ofEff (fun _ h => h) (fun h1 h2 h => h2 (h1 h)) KeysRel.ofEff

end Demeter.Uni

namespace Demeter
open Demeter.Uni

/-- **Every position is one holding.** Position keys stay unique under every operation list (accepted or rejected
    operations): the model's positions list is a dict, as in the code. -/
theorem C03_uni_keys_unique (K : Kern) (pool : Pool) (minError : Rat) (s : State) (ops : List Op)
    (h : (s.positions.map (fun p => (p.lower, p.upper))).Nodup) :
    ((runOps K pool minError s ops).positions.map (fun p => (p.lower, p.upper))).Nodup :=
  (keysRel_stepRel K pool).runOps minError ops s h

/-- … and with unique keys a position found under a key is *the* entry with that key: the `UniqueKey` hypothesis of
    the conservation theorems (C03) and "counted once" of the valuation (C01) hold in every reachable state. -/
theorem C03_uni_unique_of_keys (ps : List Pos) (lo up : Int) (p0 : Pos)
    (hn : (ps.map (fun p => (p.lower, p.upper))).Nodup) (hf : findPos ps lo up = some p0) :
    UniqueKey ps lo up p0 := uniqueKey_of_nodup hn hf

end Demeter
