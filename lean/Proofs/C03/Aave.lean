/-
  C03 (Aave part) — with the bar frozen, supply / withdraw / borrow / repay create no value: the holdings of the
  token concerned (wallet + supplied amount − owed amount, in token units at the bar's indices) change by at most
  the wallet's 1e-5 dust (`Asset.sub` snaps a nearly emptied balance to 0) and the 1e-18 residue clamp of
  `sub_base_amount`, every other token's holdings are untouched, hence so is the net value at any fixed price
  vector; a rejected call changes nothing; nothing becomes negative; a withdrawal never pays out more than the supply.

  Exact rational arithmetic (`aaveExact`); model = `/repo/demeter/aave/market.py` after 8d1be35 (non-positive
  amounts rejected — before it `supply(-x)` produced negative supplies and `borrow(-x)` a negative wallet).
  `update()` (liquidation) loses the bonus by design and is C12's subject; it is covered here by the harness only.
-/
import Proofs.C10
import Proofs.C04.Aave
import Proofs.Fixtures.Aave
import Proofs.Lemmas.AssetSub
namespace Demeter
open Aave

variable {env : Env}

def aaveWal (c : Core) (t : String) : Rat := (AList.get? c.wallet t).getD 0
def aaveSupBase (c : Core) (t : String) : Rat := ((AList.get? c.supplies t).map (·.base)).getD 0
def aaveBorBase (c : Core) (t : String) : Rat := ((AList.get? c.borrows t).map (·.base)).getD 0

def aaveTokenNet (L V : Rat) (c : Core) (t : String) : Rat := aaveWal c t + aaveSupBase c t * L - aaveBorBase c t * V

def aaveNetValue (P L V : String → Rat) (toks : List String) (c : Core) : Rat :=
  (toks.map (fun t => P t * aaveTokenNet (L t) (V t) c t)).sum

theorem aave_netValue_change (P L V : String → Rat) (c c' : Core) (tok : String) (δ : Rat)
    (hoth : ∀ t, t ≠ tok → aaveTokenNet (L t) (V t) c' t = aaveTokenNet (L t) (V t) c t)
    (htok : aaveTokenNet (L tok) (V tok) c' tok = aaveTokenNet (L tok) (V tok) c tok + δ) :
    ∀ toks : List String, toks.Nodup →
      aaveNetValue P L V toks c' = aaveNetValue P L V toks c + (if tok ∈ toks then P tok * δ else 0) := by
  intro toks
  induction toks with
  | nil => intro _; simp [aaveNetValue]
  | cons t rest ih =>
    intro hnd
    simp only [List.nodup_cons] at hnd
    have ih' := ih hnd.2
    unfold aaveNetValue at ih' ⊢
    simp only [List.map_cons, List.sum_cons, List.mem_cons]
    by_cases ht : t = tok
    · subst ht
      have hn : t ∉ rest := hnd.1
      simp only [hn, if_false, add_zero] at ih'
      rw [ih', htok]
      simp
      ring
    · rw [ih', hoth t ht]
      have : (tok = t) = False := by simp [Ne.symm ht]
      simp only [this, false_or]
      ring

/-- the bound from below is this one with the two states exchanged -/
theorem aave_netValue_le (P L V : String → Rat) (c c' : Core) (tok : String) (δ hi : Rat)
    (hoth : ∀ t, t ≠ tok → aaveTokenNet (L t) (V t) c' t = aaveTokenNet (L t) (V t) c t)
    (htok : aaveTokenNet (L tok) (V tok) c' tok = aaveTokenNet (L tok) (V tok) c tok + δ)
    (toks : List String) (hnd : toks.Nodup) (hP : 0 ≤ P tok) (hδ : δ ≤ hi) (hhi : 0 ≤ hi) :
    aaveNetValue P L V toks c' - aaveNetValue P L V toks c ≤ P tok * hi := by
  rw [aave_netValue_change P L V c c' tok δ hoth htok toks hnd]
  split
  · rw [add_sub_cancel_left]; exact mul_le_mul_of_nonneg_left hδ hP
  · rw [add_zero, sub_self]; exact mul_nonneg hP hhi

theorem aaveTokenNet_congr {c c' : Core} {t : String} (hw : AList.get? c'.wallet t = AList.get? c.wallet t)
    (hs : AList.get? c'.supplies t = AList.get? c.supplies t) (hb : AList.get? c'.borrows t = AList.get? c.borrows t)
    (L V : Rat) : aaveTokenNet L V c' t = aaveTokenNet L V c t := by
  simp only [aaveTokenNet, aaveWal, aaveSupBase, aaveBorBase]
  rw [hw, hs, hb]

theorem Aave.DebitEnds.dust {b a x : Rat} (h : DebitEnds b a x) : |x - (b - a)| ≤ assetDust * |b| := by
  rcases h with ⟨e, _⟩ | ⟨e, hb, hlt⟩
  · rw [e, sub_self, abs_zero]; exact mul_nonneg assetDust_pos.le (abs_nonneg b)
  · rw [e, zero_sub, abs_neg, abs_of_pos hb]; exact hlt.le

/-- **supply conserves**: token `tok`'s holdings (wallet + supply at the bar's index) change by at most the
    wallet dust; no other token's holdings change. -/
theorem C03_aave_supply_conserves {s s' : St} {tok : String} {amount : Rat} {coll : Bool}
    (h : supply aaveExact env tok amount coll s = (.ok (), s')) :
    ∃ st b δ, env.statusOf tok = .ok st ∧ AList.get? s.wallet tok = some b ∧ |δ| ≤ assetDust * |b| ∧
      (∀ V, aaveTokenNet st.liqIdx V s'.core tok = aaveTokenNet st.liqIdx V s.core tok + δ) ∧
      (∀ t L V, t ≠ tok → aaveTokenNet L V s'.core t = aaveTokenNet L V s.core t) := by
  obtain ⟨st, e, b, x, hst, he, hb, hoth, hbor, hwb, hw, hd⟩ := aave_supply_moves h
  refine ⟨st, b, x - (b - amount), hst, hwb, hd.dust, fun V => ?_, fun t L V ht => ?_⟩
  · simp only [aaveTokenNet, aaveWal, aaveSupBase, aaveBorBase, St.core]
    rw [hw, AList.get?_set_self, he, hbor, hwb]
    simp only [Option.map_some, Option.getD_some]
    linarith [hb]
  · exact aaveTokenNet_congr (by show AList.get? s'.wallet t = _; rw [hw]; exact AList.get?_set_ne _ (Ne.symm ht) _)
      (hoth t ht) (congrArg (AList.get? · t) hbor) L V

/-- **borrow conserves exactly**: the wallet receives what the debt grows by. -/
theorem C03_aave_borrow_conserves {s s' : St} {tok : String} {amount? : Option Rat}
    (h : borrow aaveExact env tok amount? s = (.ok (), s')) :
    ∃ st, env.statusOf tok = .ok st ∧
      (∀ L, aaveTokenNet L st.varIdx s'.core tok = aaveTokenNet L st.varIdx s.core tok) ∧
      (∀ t L V, t ≠ tok → aaveTokenNet L V s'.core t = aaveTokenNet L V s.core t) := by
  obtain ⟨st, e, amount, hst, _, _, he, hb, hoth, hsup, hw, hwoth⟩ := C10_borrow_exact h
  refine ⟨st, hst, fun L => ?_, fun t L V ht => ?_⟩
  · simp only [aaveTokenNet, aaveWal, aaveSupBase, aaveBorBase, St.core]
    rw [hw, he, hsup]
    simp only [Option.map_some, Option.getD_some]
    linarith [hb]
  · exact aaveTokenNet_congr (hwoth t ht) (congrArg (AList.get? · t) hsup) (hoth t ht) L V

/-- **withdraw creates no value**: the wallet receives exactly what the supply goes down by, except that a
    scaled remainder below `MIN_TOKEN_VALUE` is forfeited (`δ ≤ 0`, and `δ > −MIN_TOKEN_VALUE × index`). -/
theorem C03_aave_withdraw_conserves (hI : AavePosIdx env) {s s' : St} {tok : String}
    {amount? : Option Rat} (h : withdraw aaveExact env tok amount? s = (.ok (), s')) :
    ∃ st δ, env.statusOf tok = .ok st ∧ δ ≤ 0 ∧ -(Gen.aaveMinTokenValue * st.liqIdx) < δ ∧
      (∀ V, aaveTokenNet st.liqIdx V s'.core tok = aaveTokenNet st.liqIdx V s.core tok + δ) ∧
      (∀ t L V, t ≠ tok → aaveTokenNet L V s'.core t = aaveTokenNet L V s.core t) := by
  obtain ⟨st, info, amount, hst, hg, _, hpos, hle, hcase, hoth, hbor, hw, hwoth⟩ := C10_withdraw_exact h
  have hIpos : 0 < st.liqIdx := (hI tok st hst).1
  have hothers : ∀ t L V, t ≠ tok → aaveTokenNet L V s'.core t = aaveTokenNet L V s.core t :=
    fun t L V ht => aaveTokenNet_congr (hwoth t ht) (hoth t ht) (congrArg (AList.get? · t) hbor) L V
  rcases hcase with ⟨hlt, hnone⟩ | ⟨_, e, he, heb⟩
  · refine ⟨st, amount - info.base * st.liqIdx, hst, by linarith, ?_, fun V => ?_, hothers⟩
    · have := mul_lt_mul_of_pos_right hlt hIpos
      rw [sub_mul, div_mul_cancel₀ _ (ne_of_gt hIpos)] at this
      linarith
    · simp only [aaveTokenNet, aaveWal, aaveSupBase, aaveBorBase, St.core]
      rw [hw, hnone, hbor, hg]
      simp only [Option.map_some, Option.map_none, Option.getD_some, Option.getD_none]
      ring
  · refine ⟨st, 0, hst, le_refl _, by simp; exact mul_pos aave_minToken_pos hIpos, fun V => ?_, hothers⟩
    simp only [aaveTokenNet, aaveWal, aaveSupBase, aaveBorBase, St.core]
    rw [hw, he, hbor, hg]
    simp only [Option.map_some, Option.getD_some]
    linarith [heb]

/-- **repay (cash) creates at most the clamp quantum plus the wallet dust**: the debt goes down by what the wallet
    gives, except that a scaled remainder below `MIN_TOKEN_VALUE` is forgiven. -/
theorem C03_aave_repay_conserves (hI : AavePosIdx env) {s s' : St} {tok : String}
    {amount? : Option Rat} {collTok? : Option String}
    (h : repay aaveExact env tok amount? false collTok? s = (.ok (), s')) :
    ∃ st b δw δc, env.statusOf tok = .ok st ∧ AList.get? s.wallet tok = some b ∧ |δw| ≤ assetDust * |b| ∧
      δc < Gen.aaveMinTokenValue * st.varIdx ∧
      (∀ L, aaveTokenNet L st.varIdx s'.core tok = aaveTokenNet L st.varIdx s.core tok + δw + δc) ∧
      (∀ t L V, t ≠ tok → aaveTokenNet L V s'.core t = aaveTokenNet L V s.core t) := by
  obtain ⟨st, info, payback, b, x, hst, hIpos, hg, _, _, hwb, hw, hd, hsup, hbor⟩ := aave_repay_cash_inv hI h
  have hw' : (AList.get? s'.wallet tok).getD 0 = b - payback + (x - (b - payback)) := by
    rw [hw, AList.get?_set_self]; simp
  have hothers : ∀ t L V, t ≠ tok → aaveTokenNet L V s'.core t = aaveTokenNet L V s.core t :=
    fun t L V ht => aaveTokenNet_congr (by show AList.get? s'.wallet t = _; rw [hw]; exact AList.get?_set_ne _ (Ne.symm ht) _)
      (congrArg (AList.get? · t) hsup) (by show AList.get? s'.borrows t = _; rw [hbor]; exact AList.get?_eraseOrSet_ne _ ht _ _) L V
  rcases aave_borAfterSub_cases s.borrows tok info payback st.varIdx hIpos.ne' with ⟨hlt, hnone⟩ | ⟨_, e, he, heb⟩
  · refine ⟨st, b, _, info.base * st.varIdx - payback, hst, hwb, hd.dust, ?_, fun L => ?_, hothers⟩
    · have := mul_lt_mul_of_pos_right hlt hIpos
      rw [sub_mul, div_mul_cancel₀ _ (ne_of_gt hIpos)] at this
      linarith
    · simp only [aaveTokenNet, aaveWal, aaveSupBase, aaveBorBase, St.core]
      rw [hw', show s'.borrows = _ from hbor, hnone, hsup, hg, hwb]
      simp only [Option.map_some, Option.map_none, Option.getD_some, Option.getD_none]
      ring
  · refine ⟨st, b, _, 0, hst, hwb, hd.dust, mul_pos aave_minToken_pos hIpos, fun L => ?_, hothers⟩
    simp only [aaveTokenNet, aaveWal, aaveSupBase, aaveBorBase, St.core]
    rw [hw', show s'.borrows = _ from hbor, he, hsup, hg, hwb]
    simp only [Option.map_some, Option.getD_some]
    linarith [heb]

/-- **net value at any fixed price vector**: an accepted borrow leaves it exactly unchanged. -/
theorem C03_aave_borrow_net_value (P L V : String → Rat) (toks : List String) (hnd : toks.Nodup)
    {s s' : St} {tok : String} {amount? : Option Rat} (h : borrow aaveExact env tok amount? s = (.ok (), s'))
    (hV : ∀ st, env.statusOf tok = .ok st → V tok = st.varIdx) :
    aaveNetValue P L V toks s'.core = aaveNetValue P L V toks s.core := by
  obtain ⟨st, hst, htok, hoth⟩ := C03_aave_borrow_conserves h
  have := aave_netValue_change P L V s.core s'.core tok 0 (fun t ht => hoth t _ _ ht)
    (by rw [hV st hst, htok]; ring) toks hnd
  rw [this]; simp

/-- **supply: net value within the wallet dust** at any fixed non-negative price vector. -/
theorem C03_aave_supply_net_value (P L V : String → Rat) (toks : List String) (hnd : toks.Nodup)
    {s s' : St} {tok : String} {amount : Rat} {coll : Bool} (h : supply aaveExact env tok amount coll s = (.ok (), s'))
    (hP : 0 ≤ P tok) (hL : ∀ st, env.statusOf tok = .ok st → L tok = st.liqIdx) :
    ∃ b, AList.get? s.wallet tok = some b ∧
      |aaveNetValue P L V toks s'.core - aaveNetValue P L V toks s.core| ≤ P tok * (assetDust * |b|) := by
  obtain ⟨st, b, δ, hst, hwb, hδ, htok, hoth⟩ := C03_aave_supply_conserves h
  have hB : 0 ≤ assetDust * |b| := mul_nonneg assetDust_pos.le (abs_nonneg _)
  have htok' := htok (V tok)
  rw [← hL st hst] at htok'
  obtain ⟨h1, h2⟩ := abs_le.mp hδ
  refine ⟨b, hwb, abs_le.mpr ⟨?_, ?_⟩⟩
  · have := aave_netValue_le P L V s'.core s.core tok (-δ) _ (fun t ht => (hoth t _ _ ht).symm) (by rw [htok']; ring)
      toks hnd hP (by linarith) hB
    linarith
  · exact aave_netValue_le P L V s.core s'.core tok δ _ (fun t ht => hoth t _ _ ht) htok' toks hnd hP h2 hB

/-- **withdraw never raises the net value**, and lowers it by less than `price × MIN_TOKEN_VALUE × index`. -/
theorem C03_aave_withdraw_net_value (hI : AavePosIdx env) (P L V : String → Rat) (toks : List String) (hnd : toks.Nodup)
    {s s' : St} (hs : Good aaveExact env s) {tok : String} {amount? : Option Rat}
    (h : withdraw aaveExact env tok amount? s = (.ok (), s'))
    (hP : 0 ≤ P tok) (hL : ∀ st, env.statusOf tok = .ok st → L tok = st.liqIdx) :
    aaveNetValue P L V toks s'.core ≤ aaveNetValue P L V toks s.core ∧
    ∃ st, env.statusOf tok = .ok st ∧
      aaveNetValue P L V toks s.core - aaveNetValue P L V toks s'.core ≤ P tok * (Gen.aaveMinTokenValue * st.liqIdx) := by
  obtain ⟨st, δ, hst, hle, hgt, htok, hoth⟩ := C03_aave_withdraw_conserves hI h
  have hIpos : 0 < st.liqIdx := (hI tok st hst).1
  have htok' := htok (V tok)
  rw [← hL st hst] at htok'
  constructor
  · have := aave_netValue_le P L V s.core s'.core tok δ 0 (fun t ht => hoth t _ _ ht) htok' toks hnd hP hle (le_refl _)
    linarith
  · refine ⟨st, hst, ?_⟩
    exact aave_netValue_le P L V s'.core s.core tok (-δ) _ (fun t ht => (hoth t _ _ ht).symm) (by rw [htok']; ring)
      toks hnd hP (by linarith) (le_of_lt (mul_pos aave_minToken_pos hIpos))

/-- **repay (cash) raises the net value by less than the clamp quantum plus the wallet dust**. -/
theorem C03_aave_repay_net_value (hI : AavePosIdx env) (P L V : String → Rat) (toks : List String) (hnd : toks.Nodup)
    {s s' : St} (hs : Good aaveExact env s) {tok : String} {amount? : Option Rat} {collTok? : Option String}
    (h : repay aaveExact env tok amount? false collTok? s = (.ok (), s'))
    (hP : 0 ≤ P tok) (hV : ∀ st, env.statusOf tok = .ok st → V tok = st.varIdx) :
    ∃ st b, env.statusOf tok = .ok st ∧ AList.get? s.wallet tok = some b ∧
      aaveNetValue P L V toks s'.core - aaveNetValue P L V toks s.core ≤
        P tok * (assetDust * |b| + Gen.aaveMinTokenValue * st.varIdx) := by
  obtain ⟨st, b, δw, δc, hst, hwb, hδw, hδc, htok, hoth⟩ := C03_aave_repay_conserves hI h
  have hIpos : 0 < st.varIdx := (hI tok st hst).2
  have hδw' : δw ≤ assetDust * |b| := le_trans (le_abs_self _) hδw
  have hB : 0 ≤ assetDust * |b| := mul_nonneg assetDust_pos.le (abs_nonneg _)
  refine ⟨st, b, hst, hwb, ?_⟩
  exact aave_netValue_le P L V s.core s'.core tok (δw + δc) _ (fun t ht => hoth t _ _ ht)
    (by rw [hV st hst, htok]; ring) toks hnd hP (by linarith) (by have := mul_pos aave_minToken_pos hIpos; linarith)

/-- **a rejected operation changes no holding** (C04), hence no value. -/
theorem C03_aave_rejected_conserves {cx : ACtx} (s : St) (hs : Good cx env s) (op : Op) (hu : op ≠ .update) (e : Err)
    (h : (step cx env s op).1 = .error e) (P L V : String → Rat) (toks : List String) :
    aaveNetValue P L V toks (step cx env s op).2.core = aaveNetValue P L V toks s.core := by
  rw [C04_aave_reject_noop s hs op hu e h]

def AaveNonneg (c : Core) : Prop :=
  (∀ k b, AList.get? c.wallet k = some b → 0 ≤ b) ∧ (∀ k i, AList.get? c.supplies k = some i → 0 ≤ i.base) ∧
  (∀ k i, AList.get? c.borrows k = some i → 0 ≤ i.base)

theorem aave_get_cases {ν : Type} {m m' : AList String ν} {tok : String}
    (hoth : ∀ k, k ≠ tok → AList.get? m' k = AList.get? m k) {P : ν → Prop} (hm : ∀ k v, AList.get? m k = some v → P v)
    (htok : ∀ v, AList.get? m' tok = some v → P v) : ∀ k v, AList.get? m' k = some v → P v := by
  intro k v hk
  by_cases h : k = tok
  · subst h; exact htok v hk
  · rw [hoth k h] at hk; exact hm k v hk

theorem aave_optBase_nonneg {ν : Type} {m : AList String ν} {f : ν → Rat} (hm : ∀ k i, AList.get? m k = some i → 0 ≤ f i)
    (tok : String) : 0 ≤ ((AList.get? m tok).map f).getD 0 := by
  cases hg : AList.get? m tok with
  | none => exact le_refl _
  | some i => exact hm tok i hg

theorem aave_grown_nonneg {x h a I : Rat} (hI : 0 < I) (hh : 0 ≤ h) (ha : 0 < a) (hx : x * I = h * I + a) : 0 ≤ x :=
  nonneg_of_mul_nonneg_left (by rw [hx]; exact add_nonneg (mul_nonneg hh hI.le) ha.le) hI

theorem aave_rest_nonneg {x b p I : Rat} (hI : 0 < I) (hge : Gen.aaveMinTokenValue ≤ b - p / I) (hx : x * I = b * I - p) :
    0 ≤ x := by
  have h1 : x * I = (b - p / I) * I := by rw [hx, sub_mul, div_mul_cancel₀ _ hI.ne']
  rw [mul_right_cancel₀ hI.ne' h1]
  exact le_trans aave_minToken_pos.le hge

theorem aave_took_nonneg {w w' : Wallet} (hw : ∀ k b, AList.get? w k = some b → 0 ≤ b) {tok : String} {amount : Rat}
    (h : WalletTook w w' tok amount) : ∀ k b, AList.get? w' k = some b → 0 ≤ b := by
  obtain ⟨b, b', _, hwb', hcase, hwoth⟩ := h
  refine aave_get_cases (m := w) (m' := w') hwoth hw ?_
  intro v hv
  rw [hwb'] at hv; cases hv
  rcases hcase with ⟨e1, hnn⟩ | ⟨e0, _⟩
  · rw [e1]; exact hnn
  · rw [e0]

/-- **supply keeps everything non-negative** (the wallet refuses an overdraft, the amount is positive). -/
theorem C03_aave_supply_nonneg (hI : AavePosIdx env) {s s' : St} (hn : AaveNonneg s.core) {tok : String} {amount : Rat}
    {coll : Bool} (h : supply aaveExact env tok amount coll s = (.ok (), s')) : AaveNonneg s'.core := by
  obtain ⟨st, e, hst, he, hb, hoth, hbor, htook⟩ := C10_supply_exact h
  obtain ⟨st', w', _, hpos, hst', _, _, _, _⟩ := supply_accepted h
  rw [hst] at hst'; cases hst'
  have hIpos : 0 < st.liqIdx := (hI tok st hst).1
  refine ⟨aave_took_nonneg hn.1 htook, aave_get_cases (m := s.supplies) (m' := s'.supplies) hoth hn.2.1 ?_, by
    show ∀ k i, AList.get? s'.borrows k = some i → _
    rw [hbor]; exact hn.2.2⟩
  intro v hv
  rw [he] at hv; cases hv
  exact aave_grown_nonneg hIpos (aave_optBase_nonneg hn.2.1 tok) hpos hb

/-- **no over-redemption**: an accepted withdrawal pays out a positive amount that does not exceed the supply. -/
theorem C03_aave_no_over_redemption {s s' : St} (hs : Good aaveExact env s) {tok : String} {amount? : Option Rat}
    (h : withdraw aaveExact env tok amount? s = (.ok (), s')) :
    ∃ st info paid, env.statusOf tok = .ok st ∧ AList.get? s.supplies tok = some info ∧
      AList.get? s'.wallet tok = some ((AList.get? s.wallet tok).getD 0 + paid) ∧ 0 < paid ∧ paid ≤ info.base * st.liqIdx := by
  obtain ⟨st, info, amount, hst, hg, _, hpos, hle, _, _, _, hw, _⟩ := C10_withdraw_exact h
  exact ⟨st, info, amount, hst, hg, hw, hpos, hle⟩

theorem aave_credit_nonneg {w : Wallet} (hw : ∀ k b, AList.get? w k = some b → 0 ≤ b) {w' : Wallet} {tok : String} {amount : Rat}
    (hpos : 0 < amount) (h1 : AList.get? w' tok = some ((AList.get? w tok).getD 0 + amount))
    (h2 : ∀ k, k ≠ tok → AList.get? w' k = AList.get? w k) : ∀ k b, AList.get? w' k = some b → 0 ≤ b := by
  refine aave_get_cases (m := w) (m' := w') h2 hw ?_
  intro v hv
  rw [h1] at hv; cases hv
  have : 0 ≤ (AList.get? w tok).getD 0 := by simpa using aave_optBase_nonneg (f := id) hw tok
  linarith

/-- **withdraw keeps everything non-negative** (what remains of the supply is at least `MIN_TOKEN_VALUE`, or gone). -/
theorem C03_aave_withdraw_nonneg (hI : AavePosIdx env) {s s' : St} (hs : Good aaveExact env s) (hn : AaveNonneg s.core)
    {tok : String} {amount? : Option Rat} (h : withdraw aaveExact env tok amount? s = (.ok (), s')) :
    AaveNonneg s'.core := by
  obtain ⟨st, info, amount, hst, hg, _, hpos, hle, hcase, hoth, hbor, hw, hwoth⟩ := C10_withdraw_exact h
  have hIpos : 0 < st.liqIdx := (hI tok st hst).1
  refine ⟨aave_credit_nonneg hn.1 hpos hw hwoth, aave_get_cases (m := s.supplies) (m' := s'.supplies) hoth hn.2.1 ?_, by
    show ∀ k i, AList.get? s'.borrows k = some i → _
    rw [hbor]; exact hn.2.2⟩
  intro v hv
  rcases hcase with ⟨_, hnone⟩ | ⟨hge, e, he, heb⟩
  · rw [hnone] at hv; cases hv
  · rw [he] at hv; cases hv
    exact aave_rest_nonneg hIpos hge heb

/-- **borrow keeps everything non-negative**. -/
theorem C03_aave_borrow_nonneg (hI : AavePosIdx env) {s s' : St} (hn : AaveNonneg s.core) {tok : String}
    {amount? : Option Rat} (h : borrow aaveExact env tok amount? s = (.ok (), s')) : AaveNonneg s'.core := by
  obtain ⟨st, e, amount, hst, _, hpos2, he, hb, hoth, hsup, hw, hwoth⟩ := C10_borrow_exact h
  have hIpos : 0 < st.varIdx := (hI tok st hst).2
  refine ⟨aave_credit_nonneg hn.1 hpos2 hw hwoth, by
      show ∀ k i, AList.get? s'.supplies k = some i → _
      rw [hsup]; exact hn.2.1,
    aave_get_cases (m := s.borrows) (m' := s'.borrows) hoth hn.2.2 ?_⟩
  intro v hv
  rw [he] at hv; cases hv
  exact aave_grown_nonneg hIpos (aave_optBase_nonneg hn.2.2 tok) hpos2 hb

/-- **repay keeps everything non-negative** (the wallet refuses an overdraft; what remains of the debt is at least
    `MIN_TOKEN_VALUE`, or gone). -/
theorem C03_aave_repay_nonneg (hI : AavePosIdx env) {s s' : St} (hs : Good aaveExact env s) (hn : AaveNonneg s.core)
    {tok : String} {amount? : Option Rat} {collTok? : Option String}
    (h : repay aaveExact env tok amount? false collTok? s = (.ok (), s')) : AaveNonneg s'.core := by
  obtain ⟨st, info, payback, hst, hg, _, hpos, hcase, hoth, hsup, htook⟩ := C10_repay_exact hI h
  have hIpos : 0 < st.varIdx := (hI tok st hst).2
  refine ⟨aave_took_nonneg hn.1 htook, by
      show ∀ k i, AList.get? s'.supplies k = some i → _
      rw [hsup]; exact hn.2.1,
    aave_get_cases (m := s.borrows) (m' := s'.borrows) hoth hn.2.2 ?_⟩
  intro v hv
  rcases hcase with ⟨_, hnone⟩ | ⟨hge, e, he, heb⟩
  · rw [hnone] at hv; cases hv
  · rw [he] at hv; cases hv
    exact aave_rest_nonneg hIpos hge heb

example : AaveNonneg c04AaveSt.core := by
  refine ⟨?_, ?_, ?_⟩ <;> intro k v hk <;> simp [c04AaveSt, St.core, St.init, AList.get?_cons] at hk <;>
    obtain ⟨_, rfl⟩ := hk <;> norm_num

-- 10 scaled WETH at index 1.1 and price 1000, 5 WETH in the wallet, 7000 USDC owed: 16 × 1000 − 7000 = 9000
example : aaveNetValue (fun t => if t = "WETH" then 1000 else 1) (fun t => if t = "WETH" then 11/10 else 1)
    (fun _ => 1) ["WETH", "USDC"] c04AaveSt.core = 9000 := by
  simp [aaveNetValue, aaveTokenNet, aaveWal, aaveSupBase, aaveBorBase, c04AaveSt, St.core, St.init, AList.get?_cons]
  norm_num

end Demeter
