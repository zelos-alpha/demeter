/-
  C03, Uniswap part: the kernel the code uses (`Kern.std`, exact arithmetic) satisfies the hypotheses `Frozen` of the
  value-conservation theorems: its amounts are a total function of the liquidity, additive in it, independent of
  whether the liquidity is held as `int` or `Decimal`, and `new_position` reports exactly the amounts its
  liquidity is valued at.
-/
import Proofs.Lemmas.UniKernelStd
import Proofs.Lemmas.UniValue
namespace Demeter
open Demeter.Uni

/-- **The conservation theorems apply to the code's kernel.** For the kernel of helper.py / liquitidy_math.py under
    exact arithmetic, any pool with two distinct tokens and any status row whose price has a sqrt price, the
    hypotheses `Frozen` hold with the kernel's own amounts — so `C03_uni_add_conserves`, `C03_uni_remove_conserves`
    and `C03_uni_collect_conserves` are statements about the real liquidity math, not only about abstract kernels. -/
theorem C03_uni_kernel_frozen (sq : Rat → Rat) (pool : Pool) (row : Row) (sqrt : Nat) (hne : pool.tok0 ≠ pool.tok1)
    (hs : priceToSqrtStd NumCtx.exact pool row.price = .ok sqrt) :
    Frozen (Kern.std NumCtx.exact sq) pool row sqrt (stdA pool sqrt) :=
  { cx := rfl
    sqrt_ok := hs
    amounts := by
      intro lo up l d r h
      simp only [Kern.std, tokenAmountsStd] at h
      split at h
      · rename_i hl
        obtain ⟨c0, c1, _, _, hA⟩ := stdA_linear pool sqrt lo up
        rw [← Except.ok.inj h, hA, hl, Int.cast_zero, zero_mul, zero_mul]
      · unfold stdA
        rw [← amountsGen_exact_dec _ _ _ _ d, h]
    additive := by
      intro lo up l1 l2
      obtain ⟨c0, c1, _, _, h⟩ := stdA_linear pool sqrt lo up
      rw [h, h, h, Int.cast_add, add_mul, add_mul]
    newPos := by
      intro lo up a0 a1 u0 u1 L h
      unfold stdA
      rw [(newPosStd_eq_ok_iff.1 h).2.2.2]
    tokens := hne }

end Demeter
