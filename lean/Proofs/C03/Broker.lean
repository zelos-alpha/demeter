/-
  C03 (wallet/broker part) — `Asset.sub` never makes a balance negative (in every rounding context), debits the
  stated amount except for the documented snap-to-zero dust (relative 1e-5 of the balance), and a broker swap
  changes the wallet's value by exactly minus the reported fee (up to that dust).
-/
import Proofs.Lemmas.WalletLemmas
import Proofs.Lemmas.BrokerSwap
namespace Demeter
open WalletLemmas

/-- the dust constant is the float literal `0.00001` of `Asset.sub`: positive and within 1e-21 of 1e-5 -/
theorem C03_wallet_dust_value : 0 < assetDust ∧ assetDust < 1 / 100000 + 1 / 10 ^ 21 ∧ (1 : Rat) / 100000 - 1 / 10 ^ 21 < assetDust :=
  ⟨assetDust_pos, assetDust_bounds.2, assetDust_bounds.1⟩

/-- **no negative balance, any rounding context**: whatever `Decimal` rounding does, a debit without
    `allow_negative_balance` leaves a non-negative balance or is refused. -/
theorem C03_wallet_sub_nonneg (cx : NumCtx) (b a b' : Rat) (hb : 0 ≤ b)
    (h : assetSub cx b a false = some b') : 0 ≤ b' :=
  assetSub_nonneg cx hb h

/-- **exact debit up to dust** (exact arithmetic): an accepted debit removes exactly `amount`, or — the documented
    tolerance — zeroes the balance when `|balance − amount| < 1e-5 × balance`. -/
theorem C03_wallet_sub_exact (b a b' : Rat) (hb : 0 ≤ b)
    (h : assetSub NumCtx.exact b a false = some b') :
    b' = b - a ∨ (b' = 0 ∧ 0 < b ∧ |b - a| < assetDust * b) :=
  (assetSub_took (.inl hb) h).imp_left And.left

/-- an over-request is refused unless it is within the dust of the balance: **no overdraft** -/
theorem C03_wallet_sub_refuses_overdraft (b a : Rat) (hb : 0 ≤ b) (ha : b * (1 + assetDust) ≤ a) (hpos : 0 < a) :
    assetSub NumCtx.exact b a false = none := by
  have hd := assetDust_pos
  cases h : assetSub NumCtx.exact b a false with
  | none => rfl
  | some b' =>
    exfalso
    rcases assetSub_took (.inl hb) h with ⟨_, hn⟩ | ⟨_, hb', hlt⟩
    · rcases hb.lt_or_eq with hb' | hb'
      · linarith [mul_pos hb' hd]
      · rw [← hb'] at hn; linarith
    · linarith [neg_abs_le (b - a)]

/-- **a settled swap at a fair quote loses exactly the fee** (exact arithmetic, no negative-balance mode): for any two
    amounts with `received × price(to) = paid × price(from) × (1 − fee rate)` the wallet's value changes by
    `− paid × fee rate × price(from)`, plus at most the snap-to-zero dust when the amount paid is within 1e-5 of the whole
    balance.  Both swaps are this at their own pair of amounts. -/
theorem settle_loses_fee {w : Wallet} {fromTok toTok : String} {feeRate fa ta pf pt v : Rat} {p : Prices} {r : SwapResult}
    (hw : NonNeg w) (hpf : AList.get? p fromTok = some pf) (hpt : AList.get? p toTok = some pt) (hv : specWallet p w = some v)
    (hq : ta * pt = fa * pf * (1 - feeRate)) (h : settle NumCtx.exact w false fromTok toTok feeRate fa ta = .ok r) :
    r.fromAmount = fa ∧ ∃ bf v', AList.get? w fromTok = some bf ∧ specWallet p r.wallet = some v' ∧ r.fee = fa * feeRate ∧
      (v' = v - r.fee * pf ∨ (v' - (v - r.fee * pf) = (fa - bf) * pf ∧ |bf - fa| < assetDust * bf)) := by
  obtain ⟨w1, hd, rfl⟩ := settle_ok h
  obtain ⟨bf, bf', hbf, hs, rfl⟩ := Wallet.debit_false_ok hd
  have hval : specWallet p (Wallet.credit NumCtx.exact (AList.set w fromTok bf') toTok ta) = some (v + (bf' - bf) * pf + ta * pt) := by
    have h1 := specWallet_set p fromTok bf' pf hpf w v hv
    rw [Wallet.bal_of_get? hbf] at h1
    rw [Wallet.credit_eq, specWallet_set p toTok _ pt hpt _ _ h1, NumCtx.exact_add]
    congr 1
    ring
  refine ⟨rfl, bf, _, hbf, hval, rfl, ?_⟩
  simp only [NumCtx.exact_mul]
  rcases assetSub_took (.inl (AList.forall_get? hw hbf)) hs with ⟨rfl, _⟩ | ⟨rfl, _, hd⟩
  · left; rw [hq]; ring
  · right; exact ⟨by rw [hq]; ring, hd⟩

/-- **a swap loses exactly the reported fee** (`swap_by_from`, exact arithmetic, no negative-balance mode): the
    wallet's value at the bar's prices changes by `− fee × price(from)`, plus at most the snap-to-zero dust
    `1e-5 × balance × price` when the request is within 1e-5 of the whole balance. -/
theorem C03_broker_swap_from_loses_fee (w : Wallet) (fromTok toTok : String) (hne : fromTok ≠ toTok)
    (amount feeRate pf pt v : Rat) (p : Prices) (r : SwapResult)
    (hw : NonNeg w) (hpf : AList.get? p fromTok = some pf) (hpt : AList.get? p toTok = some pt)
    (hv : specWallet p w = some v)
    (h : swapByFrom NumCtx.exact w false fromTok toTok amount p feeRate = .ok r) :
    ∃ bf v', AList.get? w fromTok = some bf ∧ specWallet p r.wallet = some v' ∧ r.fee = amount * feeRate ∧
      (v' = v - r.fee * pf ∨ (v' - (v - r.fee * pf) = (amount - bf) * pf ∧ |bf - amount| < assetDust * bf)) := by
  obtain ⟨pf', pt', _, _, hpf', hpt', hpt0, hs⟩ := swapChecked_ok ((swapByFrom_eq ..).symm.trans h)
  obtain rfl := Option.some.inj (hpf.symm.trans hpf')
  obtain rfl := Option.some.inj (hpt.symm.trans hpt')
  exact (settle_loses_fee hw hpf hpt hv (div_mul_cancel₀ _ hpt0) hs).2

/-- **a swap loses exactly the reported fee** (`swap_by_to`): the caller names the amount received; the wallet pays
    `amount × price(to) / (1 − fee_rate) / price(from)` and the value lost is `fee × price(from)` with
    `fee = paid × fee_rate`, again up to the snap-to-zero dust. -/
theorem C03_broker_swap_to_loses_fee (w : Wallet) (fromTok toTok : String) (hne : fromTok ≠ toTok)
    (amount feeRate pf pt v : Rat) (p : Prices) (r : SwapResult)
    (hw : NonNeg w) (hpf : AList.get? p fromTok = some pf) (hpt : AList.get? p toTok = some pt)
    (hv : specWallet p w = some v)
    (h : swapByTo NumCtx.exact w false fromTok toTok amount p feeRate = .ok r) :
    ∃ bf v', AList.get? w fromTok = some bf ∧ specWallet p r.wallet = some v' ∧ r.fee = r.fromAmount * feeRate ∧
      (v' = v - r.fee * pf ∨ (v' - (v - r.fee * pf) = (r.fromAmount - bf) * pf ∧ |bf - r.fromAmount| < assetDust * bf)) := by
  obtain ⟨pt', pf', hlt, _, hpt', hpf', hpf0, hs⟩ := swapChecked_ok ((swapByTo_eq ..).symm.trans h)
  obtain rfl := Option.some.inj (hpf.symm.trans hpf')
  obtain rfl := Option.some.inj (hpt.symm.trans hpt')
  have hfr : (1 : Rat) - feeRate ≠ 0 := sub_ne_zero.mpr hlt.2.ne'
  obtain ⟨hfa, hrest⟩ := settle_loses_fee hw hpf hpt hv
    (show amount * pt = amount * pt / (1 - feeRate) / pf * pf * (1 - feeRate) by
      rw [div_mul_cancel₀ _ hpf0, div_mul_cancel₀ _ hfr]) hs
  rw [hfa]
  exact hrest

/-- no balance becomes negative in a swap of a non-negative amount at non-negative prices -/
theorem C03_broker_swap_from_nonneg (cx : NumCtx) (w : Wallet) (fromTok toTok : String)
    (amount feeRate : Rat) (p : Prices) (r : SwapResult) (hw : NonNeg w)
    (hcredit : ∀ b x : Rat, 0 ≤ b → 0 ≤ x → 0 ≤ cx.add b x)
    (hto : ∀ pf pt, AList.get? p fromTok = some pf → AList.get? p toTok = some pt →
      0 ≤ cx.div (cx.mul (cx.mul amount pf) (cx.sub 1 feeRate)) pt)
    (h : swapByFrom cx w false fromTok toTok amount p feeRate = .ok r) : NonNeg r.wallet := by
  obtain ⟨pf, pt, _, _, hpf, hpt, _, hs⟩ := swapChecked_ok ((swapByFrom_eq ..).symm.trans h)
  obtain ⟨w1, hd, rfl⟩ := settle_ok hs
  exact nonneg_credit (nonneg_debit hw hd) hcredit toTok (hto pf pt hpf hpt)

example : ((swapByFrom NumCtx.exact [("USDC", 1000), ("ETH", 1)] false "USDC" "ETH" 500 [("USDC", 1), ("ETH", 2000)] (3 / 1000)).toOption.map (·.wallet))
    = some [("USDC", 500), ("ETH", 1 + 997 / 4000)] := by decide +kernel
example : assetSub NumCtx.exact 100 (100 + 1 / 1000000) false = some 0 := by decide +kernel
example : assetSub NumCtx.exact 100 101 false = none := by decide +kernel

end Demeter
