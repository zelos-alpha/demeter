/-
  C03, Squeeth part — with the market frozen: no holding ever becomes negative, nothing is redeemed beyond what is
  held, mint / deposit / burn / withdraw conserve the account's value (up to the wallet's 1e-5 dust snap), a
  liquidation loses the 10 % bounty.  Two value effects that the properties' own valuation rules imply are known
  findings (witnesses below): re-valuation of an LP position between mark (pool) and index (vault) price, and the
  forgiven shortfall when an underwater vault is liquidated at the collateral cap.  Exact rational semantics.
-/
import Proofs.C14.Moves
import Proofs.C14.Amounts
import Proofs.C14.Liquidation
import Proofs.C01.Squeeth
import Proofs.Lemmas.SqueethLong
import Proofs.Lemmas.AssetSub
import Mathlib.Tactic.LinearCombination
namespace Demeter
open Squeeth Gen

namespace Squeeth
/-- mark price of oSQTH in the account's currency: `OSQTH × WETH` of the squeeth data row -/
def markO (e : Env) : Rat := e.osqth * e.weth

def walletValue (e : Env) (s : State) : Rat := bal s sqWethName * e.weth + bal s sqOsqthName * markO e

/-- one vault's contribution to `get_market_balance().net_value`: effective collateral × ETH price − debt at mark -/
def vaultValue (e : Env) (s : State) (vk : Nat) : Option Rat :=
  match AList.get? s.vaults vk, effColl NumCtx.exact e s vk with
  | some v, .ok c => some (c * e.weth - v.short * markO e)
  | _, _ => none

theorem effColl_frame (e : Env) (s s' : State) (vk : Nat) (v v' : Vault) (c : Rat)
    (hv : AList.get? s.vaults vk = some v) (hv' : AList.get? s'.vaults vk = some v') (hn : v'.nft = v.nft)
    (hp : s'.positions = s.positions) (hc : effColl NumCtx.exact e s vk = .ok c) :
    effColl NumCtx.exact e s' vk = .ok (c - v.coll + v'.coll) := by
  rw [effColl_eq hv] at hc
  rw [effColl_eq hv', hn]
  cases hnft : v.nft with
  | none =>
    simp only [hnft, Except.ok.injEq] at hc ⊢
    rw [← hc]; ring
  | some pos =>
    simp only [hnft] at hc ⊢
    have hpa : posAmount NumCtx.exact e s' pos = posAmount NumCtx.exact e s pos := by unfold posAmount; rw [hp]
    rw [hp, hpa]
    cases hpos : AList.get? s.positions pos with
    | none => rw [hpos] at hc; simp at hc
    | some p =>
      simp only [hpos, Except.ok.injEq, NumCtx.exact_add] at hc ⊢
      rw [← hc]; ring

theorem vaultValue_frame (e : Env) {s s' : State} {vk : Nat} {v v' : Vault} {c : Rat}
    (hv : AList.get? s.vaults vk = some v) (hv' : AList.get? s'.vaults vk = some v') (hn : v'.nft = v.nft)
    (hp : s'.positions = s.positions) (hc : effColl NumCtx.exact e s vk = .ok c) :
    vaultValue e s vk = some (c * e.weth - v.short * markO e) ∧
    vaultValue e s' vk = some ((c - v.coll + v'.coll) * e.weth - v'.short * markO e) := by
  have hc' := effColl_frame e s s' vk v v' c hv hv' hn hp hc
  unfold vaultValue
  rw [hv, hc, hv', hc']
  exact ⟨rfl, rfl⟩

/-- stated for two totals `t`, `t'` that differ by what the debit does beyond `amt`; the bound holds in the first case too
    (`assetSub_dust`), the C03 theorems of this file are worded so -/
theorem debit_value_within_dust {b amt b' π t t' : Rat} (hπ : 0 ≤ π) (h : assetSub NumCtx.exact b amt false = some b')
    (ht : t' - t = b' * π - (b - amt) * π) : t' = t ∨ ratAbs (t' - t) ≤ assetDust * ratAbs b * π := by
  rcases C14_debit_exact_or_dust b amt b' h with ⟨rfl, _⟩ | _
  · exact .inl (sub_eq_zero.mp (by rw [ht, sub_self]))
  · right
    rw [ht, ← sub_mul, ratAbs_mul_nonneg _ _ hπ, ratAbs_eq_abs, ratAbs_eq_abs]
    exact mul_le_mul_of_nonneg_right (assetSub_dust h) hπ

end Squeeth

/-- **mint conserves value**: the minted oSQTH in the wallet is worth exactly the debt the vault takes on (both at mark) -/
theorem C03_squeeth_mint_conserves_value (e : Env) (s : State) (vk : Nat) (v : Vault) (m c : Rat) (hm : 0 < m)
    (hv : AList.get? s.vaults vk = some v) (hc : effColl NumCtx.exact e s vk = .ok c) :
    ∃ x x', vaultValue e s vk = some x ∧ vaultValue e (mintBody NumCtx.exact s vk m).st vk = some x' ∧
      walletValue e (mintBody NumCtx.exact s vk m).st + x' = walletValue e s + x := by
  obtain ⟨_, hv', hbal, _, hoth, hpos⟩ := C14_mint_moves_exactly s vk v m hm hv
  obtain ⟨hx, hx'⟩ := vaultValue_frame e hv hv' rfl hpos hc
  refine ⟨_, _, hx, hx', ?_⟩
  unfold walletValue
  rw [bal_congr (hoth _ weth_ne_osqth), hbal]; ring


/-- **no negative holdings**: any operation, any arguments, accepted or rejected -/
theorem C03_squeeth_no_negative_holdings (e : Env) (s : State) (op : Op) (hp : 0 ≤ twap e .osqth)
    (hq : op.isTrade = true → PoolOk e) (h : Inv s) :
    Inv (step NumCtx.exact e s op).st := C14_amounts_never_negative e s op hp hq h

/-- … anywhere in a sequence at one fixed market state (vault operations and trades of the long side in any order; the pool's
    price is non-negative and its fee rate at most 1) -/
theorem C03_squeeth_no_negative_holdings_in_sequences (e : Env) (s : State) (ops : List Op) (hp : 0 ≤ twap e .osqth)
    (hq : PoolOk e) (h : Inv s) : Inv (runOps NumCtx.exact s (ops.map fun op => (e, op))) :=
  C14_amounts_never_negative_along_paths s _ (by
    intro eo heo
    obtain ⟨op, _, rfl⟩ := List.mem_map.mp heo
    exact hp) (by
    intro eo heo _
    obtain ⟨op, _, rfl⟩ := List.mem_map.mp heo
    exact hq) h

/-- **no over-redemption**: a burn takes `min(requested, debt)` oSQTH, a withdrawal pays `min(requested, collateral)` ETH -/
theorem C03_squeeth_no_over_redemption (e : Env) (s : State) (vk : Nat) :
    (∀ burn, 0 < burn → (burnBody NumCtx.exact s vk burn).err = none →
      ∃ v v', AList.get? s.vaults vk = some v ∧ AList.get? (burnBody NumCtx.exact s vk burn).st.vaults vk = some v' ∧
        v.short - v'.short ≤ v.short ∧ v.short - v'.short ≤ burn ∧ v'.coll = v.coll) ∧
    (∀ amount, 0 < amount → (withdrawCollBody NumCtx.exact e s vk amount).err = none →
      ∃ v v', AList.get? s.vaults vk = some v ∧ AList.get? (withdrawCollBody NumCtx.exact e s vk amount).st.vaults vk = some v' ∧
        v.coll - v'.coll ≤ v.coll ∧ v.coll - v'.coll ≤ amount ∧ v'.short = v.short ∧
        bal (withdrawCollBody NumCtx.exact e s vk amount).st sqWethName - bal s sqWethName = v.coll - v'.coll) := by
  constructor
  · intro burn hb h
    obtain ⟨v, _, _, hv, hv', _⟩ := C14_burn_moves_exactly s vk burn hb h
    refine ⟨v, _, hv, hv', ?_, ?_, rfl⟩ <;> simp only []
    · linarith [min_le_right burn v.short]
    · linarith [min_le_left burn v.short]
  · intro amount _ h
    obtain ⟨v, hv, hv', hb, _⟩ := C14_withdraw_moves_exactly e s vk amount h
    refine ⟨v, _, hv, hv', ?_, ?_, rfl, ?_⟩ <;> simp only []
    · linarith [min_le_right amount v.coll]
    · linarith [min_le_left amount v.coll]
    · rw [hb]; ring

/-- **withdraw conserves value**: the ETH leaves the vault's collateral and arrives in the wallet -/
theorem C03_squeeth_withdraw_conserves_value (e : Env) (s : State) (vk : Nat) (amount c : Rat)
    (h : (withdrawCollBody NumCtx.exact e s vk amount).err = none) (hc : effColl NumCtx.exact e s vk = .ok c) :
    ∃ x x', vaultValue e s vk = some x ∧ vaultValue e (withdrawCollBody NumCtx.exact e s vk amount).st vk = some x' ∧
      walletValue e (withdrawCollBody NumCtx.exact e s vk amount).st + x' = walletValue e s + x := by
  obtain ⟨v, hv, hv', hbal, _, hoth, hpos, _⟩ := C14_withdraw_moves_exactly e s vk amount h
  obtain ⟨hx, hx'⟩ := vaultValue_frame e hv hv' rfl hpos hc
  refine ⟨_, _, hx, hx', ?_⟩
  unfold walletValue
  rw [bal_congr (hoth _ osqth_ne_weth), hbal]; ring

/-- **deposit conserves value up to wallet dust**: exactly when `Asset.sub` subtracts exactly; when it snaps the
    remainder to zero the account's value moves by less than 1e-5 of the WETH balance it touched -/
theorem C03_squeeth_deposit_value_within_dust (e : Env) (s : State) (vk : Nat) (eth c : Rat) (hw : 0 ≤ e.weth)
    (h : (depositBody NumCtx.exact s vk eth).err = none) (hc : effColl NumCtx.exact e s vk = .ok c) :
    ∃ x x' b, vaultValue e s vk = some x ∧ vaultValue e (depositBody NumCtx.exact s vk eth).st vk = some x' ∧
      AList.get? s.wallet sqWethName = some b ∧
      (walletValue e (depositBody NumCtx.exact s vk eth).st + x' = walletValue e s + x ∨
       ratAbs ((walletValue e (depositBody NumCtx.exact s vk eth).st + x') - (walletValue e s + x)) ≤ assetDust * ratAbs b * e.weth) := by
  obtain ⟨v, b, b', hv, _, hv', hb, hsub, hb', _, hoth, hpos⟩ := C14_deposit_moves_exactly s vk eth h
  obtain ⟨hx, hx'⟩ := vaultValue_frame e hv hv' rfl hpos hc
  refine ⟨_, _, b, hx, hx', hb, ?_⟩
  unfold walletValue
  rw [bal_congr (hoth _ osqth_ne_weth), bal_of_get? hb, bal_of_get? hb']
  exact debit_value_within_dust hw hsub (by ring)

/-- **burn conserves value up to wallet dust** (same shape as deposit, on the oSQTH side) -/
theorem C03_squeeth_burn_value_within_dust (e : Env) (s : State) (vk : Nat) (burn c : Rat) (hb : 0 < burn) (hm : 0 ≤ markO e)
    (h : (burnBody NumCtx.exact s vk burn).err = none) (hc : effColl NumCtx.exact e s vk = .ok c) :
    ∃ x x' b, vaultValue e s vk = some x ∧ vaultValue e (burnBody NumCtx.exact s vk burn).st vk = some x' ∧
      AList.get? s.wallet sqOsqthName = some b ∧
      (walletValue e (burnBody NumCtx.exact s vk burn).st + x' = walletValue e s + x ∨
       ratAbs ((walletValue e (burnBody NumCtx.exact s vk burn).st + x') - (walletValue e s + x)) ≤ assetDust * ratAbs b * markO e) := by
  obtain ⟨v, b, b', hv, hv', hb0, hsub, hb', _, hoth, hpos⟩ := C14_burn_moves_exactly s vk burn hb h
  obtain ⟨hx, hx'⟩ := vaultValue_frame e hv hv' rfl hpos hc
  refine ⟨_, _, b, hx, hx', hb0, ?_⟩
  unfold walletValue
  rw [bal_congr (hoth _ weth_ne_osqth), bal_of_get? hb0, bal_of_get? hb']
  generalize min burn v.short = r at hsub ⊢
  exact debit_value_within_dust hm hsub (by ring)

theorem Squeeth.specLiq_pays_at_least_debt (p short coll : Rat) (hs : 0 ≤ short) (hp : 0 ≤ p) (hw : short * p ≤ coll) :
    (specLiq p short coll).1 * p ≤ (specLiq p short coll).2 := by
  have h1 : 0 ≤ short * p := mul_nonneg hs hp
  have h2 : 0 ≤ short / 2 * p := mul_nonneg (by linarith) hp
  rcases specLiq_cases p short coll with h | ⟨h, _⟩ | ⟨h, _⟩ <;> rw [h]
  · exact hw
  · show short * p ≤ short * p * (11 / 10)
    linarith
  · show short / 2 * p ≤ short / 2 * p * (11 / 10)
    linarith

/-- **a liquidation creates no value** for a vault that is not under water (frozen market: TWAP = the row's oSQTH
    price): the vault's value falls by the bounty `(paid − burned × price) × ETH price ≥ 0`, the wallet is untouched.
    (For an underwater vault the cap forgives the shortfall — the known finding witnessed below.) -/
theorem C03_squeeth_liquidation_creates_no_value_partial (e : Env) (s : State) (vk : Nat) (v : Vault) (d : Bool)
    (hv : AList.get? s.vaults vk = some v) (hn : v.nft = none) (hs : 0 ≤ v.short) (hp : 0 ≤ e.osqth) (hw : 0 ≤ e.weth)
    (hfrozen : twap e .osqth = e.osqth) (hu : vaultStatus NumCtx.exact e s vk = .ok (false, d))
    (hsolvent : v.short * e.osqth ≤ v.coll) :
    ∃ x x', vaultValue e s vk = some x ∧ vaultValue e (step NumCtx.exact e s (.liquidate vk)).st vk = some x' ∧
      x' ≤ x ∧ (step NumCtx.exact e s (.liquidate vk)).st.wallet = s.wallet := by
  have hp' : 0 ≤ twap e .osqth := by rw [hfrozen]; exact hp
  rw [C14_liquidate_without_lp e s vk v d hv hn hs hp' hu, hfrozen]
  have hpay := specLiq_pays_at_least_debt e.osqth v.short v.coll hs hp hsolvent
  generalize specLiq e.osqth v.short v.coll = a at hpay
  refine ⟨v.coll * e.weth - v.short * markO e, (v.coll - a.2) * e.weth - (v.short - a.1) * markO e, ?_, ?_, ?_, rfl⟩
  · unfold vaultValue; rw [hv, effColl_nft_none hv hn]
  · unfold vaultValue effColl
    simp only [Res.ok_st, State.record, State.setVault, AList.get?_set_self]
  · unfold markO; nlinarith


namespace Squeeth
/-- the account's reported net value as the code computes it: wallet at the row's prices + `SqueethMarket.get_market_balance().net_value`
    + `UniLpMarket.get_market_balance().net_value` (in WETH) × ETH price -/
def reportedValue (e : Env) (s : State) : Option Rat :=
  match marketBalance NumCtx.exact e s with
  | .ok b => some (walletValue e s + b.netValue + uniNetValue NumCtx.exact e s * e.weth)
  | .error _ => none

/-- `x' ≤ x` where both valuations exist, as a `Bool` for the evaluated witnesses below -/
def valueNotRaised : Option Rat → Option Rat → Bool
  | some x, some x' => decide (x' ≤ x)
  | _, _ => true

/-- frozen market, index oSQTH/ETH = 0.5 · 2000 / 10000 = 0.1, mark (pool and data row) = 0.09 -/
def findEnv : Env := { nf := 1/2, weth := 2000, osqth := 9/100, now := none, rows := [], uniPrice := 9/100, uniOpen := true, mean := fun _ => 0 }
def findState : State :=
  { wallet := [("WETH", 1), ("OSQTH", 0)], vaults := [(1, { coll := 1, short := 0, nft := none }), (2, { coll := 0, short := 1, nft := none })],
    maxId := 2, positions := [((18000, 21000), { liquidity := 10^19, pending0 := 0, pending1 := 0, transferred := false })], log := [] }
end Squeeth

/-- FINDING (C03 `squeeth.value-created:lp-deposit-index-above-mark`): lending an LP position to a vault re-values its
    oSQTH from the pool's mark price to the index price — with index 0.1 > mark 0.09 the accepted
    `deposit_uni_position` raises the reported net value although nothing was traded -/
theorem C03_squeeth_fails_lp_revaluation :
    ¬ (∀ (e : Env) (s : State) (vk : Nat) (pos : PosKey), e.now = none → e.uniPrice = e.osqth →
        (step NumCtx.exact e s (.depositUni vk pos)).err = none →
        valueNotRaised (reportedValue e s) (reportedValue e (step NumCtx.exact e s (.depositUni vk pos)).st) = true) := by
  intro h
  have := h findEnv findState 1 (18000, 21000) rfl rfl (by decide +kernel)
  revert this
  decide +kernel

/-- FINDING (C03 `squeeth.value-created:liquidation-of-underwater-vault`): vault 2 owes 1 oSQTH (180 at mark) and holds
    nothing; `update` burns the debt for the capped payment of 0 ETH and the reported net value rises by the shortfall -/
theorem C03_squeeth_fails_underwater_liquidation :
    ¬ (∀ (e : Env) (s : State), e.now = none → (step NumCtx.exact e s .update).err = none →
        valueNotRaised (reportedValue e s) (reportedValue e (step NumCtx.exact e s .update).st) = true) := by
  intro h
  have := h findEnv findState rfl (by decide +kernel)
  revert this
  decide +kernel


namespace Squeeth
theorem trade_loses_fee_within_dust (e : Env) (s : State) (op : Op) (tok : String) (π : Rat)
    (hside : ((∃ o q, op = .buy o q) ∧ tok = sqWethName ∧ π = e.weth) ∨ ((∃ o q, op = .sell o q) ∧ tok = sqOsqthName ∧ π = markO e))
    (hπ : 0 ≤ π) (hf0 : 0 ≤ e.uniFee) (hfrozen : e.uniPrice = e.osqth) (h : (step NumCtx.exact e s op).err = none) :
    ∃ fee x got, (step NumCtx.exact e s op).out = [fee, x, got] ∧ 0 ≤ fee ∧
      (walletValue e (step NumCtx.exact e s op).st = walletValue e s - fee * π ∨
       ratAbs (walletValue e (step NumCtx.exact e s op).st - (walletValue e s - fee * π)) ≤ assetDust * ratAbs (bal s tok) * π) := by
  have hop : op.isTrade = true := by
    rcases hside with ⟨⟨o, q, rfl⟩, _⟩ | ⟨⟨o, q, rfl⟩, _⟩ <;> rfl
  rcases trade_ok_exact e s op hop h with h0 | ⟨f, t, amt, price, w1, hft, ha, hd, hwal, hout⟩
  · rw [h0]; exact ⟨0, 0, 0, rfl, le_refl 0, Or.inl (by simp)⟩
  · refine ⟨_, _, _, hout, mul_nonneg ha hf0, ?_⟩
    rcases hside with ⟨⟨o, q, rfl⟩, rfl, rfl⟩ | ⟨⟨o, q, rfl⟩, rfl, rfl⟩
    · rcases hft with ⟨_, rfl, rfl, hp⟩ | ⟨⟨_, _, hb⟩, _⟩
      · obtain ⟨b, b', hb, hsub, hb', hbt, _⟩ := bal_swap (got := (amt - amt * e.uniFee) * price) osqth_ne_weth hd
        rw [hfrozen] at hp
        unfold walletValue bal markO
        rw [hwal, hb', hbt, hb]
        -- `price · OSQTH = 1`: the oSQTH that arrives is worth the WETH that left, less the fee
        exact debit_value_within_dust hπ hsub (by simp only [Option.getD_some]; linear_combination (amt - amt * e.uniFee) * e.weth * hp)
      · cases hb
    · rcases hft with ⟨⟨_, _, hb⟩, _⟩ | ⟨_, rfl, rfl, rfl⟩
      · cases hb
      · obtain ⟨b, b', hb, hsub, hb', hbt, _⟩ := bal_swap (got := (amt - amt * e.uniFee) * e.uniPrice) weth_ne_osqth hd
        unfold walletValue bal
        rw [hwal, hb', hbt, hb, hfrozen]
        exact debit_value_within_dust hπ hsub (by simp only [Option.getD_some]; unfold markO; ring)
end Squeeth

/-- **a buy loses exactly the reported fee** (frozen bar: the pool trades at the price the account values oSQTH with): an accepted
    `buy_squeeth` reports `(fee, spent, got)` with `fee ≥ 0` in WETH, and the wallet's value falls by exactly `fee × ETH price` — or,
    when `Asset.sub` snaps the WETH remainder to zero, differs from that by less than 1e-5 of the WETH balance it touched -/
theorem C03_squeeth_buy_loses_fee_within_dust (e : Env) (s : State) (o q : Option Rat) (hw : 0 ≤ e.weth) (hf0 : 0 ≤ e.uniFee)
    (hfrozen : e.uniPrice = e.osqth) (h : (step NumCtx.exact e s (.buy o q)).err = none) :
    ∃ fee spent got, (step NumCtx.exact e s (.buy o q)).out = [fee, spent, got] ∧ 0 ≤ fee ∧
      (walletValue e (step NumCtx.exact e s (.buy o q)).st = walletValue e s - fee * e.weth ∨
       ratAbs (walletValue e (step NumCtx.exact e s (.buy o q)).st - (walletValue e s - fee * e.weth)) ≤
         assetDust * ratAbs (bal s sqWethName) * e.weth) :=
  trade_loses_fee_within_dust e s (.buy o q) sqWethName e.weth (Or.inl ⟨⟨o, q, rfl⟩, rfl, rfl⟩) hw hf0 hfrozen h

/-- **a sell loses exactly the reported fee**: the fee is in oSQTH, the wallet's value falls by `fee × mark price` (or differs from
    that by less than 1e-5 of the oSQTH balance when the remainder is snapped to zero) -/
theorem C03_squeeth_sell_loses_fee_within_dust (e : Env) (s : State) (o q : Option Rat) (hm : 0 ≤ markO e) (hf0 : 0 ≤ e.uniFee)
    (hfrozen : e.uniPrice = e.osqth) (h : (step NumCtx.exact e s (.sell o q)).err = none) :
    ∃ fee sold got, (step NumCtx.exact e s (.sell o q)).out = [fee, sold, got] ∧ 0 ≤ fee ∧
      (walletValue e (step NumCtx.exact e s (.sell o q)).st = walletValue e s - fee * markO e ∨
       ratAbs (walletValue e (step NumCtx.exact e s (.sell o q)).st - (walletValue e s - fee * markO e)) ≤
         assetDust * ratAbs (bal s sqOsqthName) * markO e) :=
  trade_loses_fee_within_dust e s (.sell o q) sqOsqthName (markO e) (Or.inr ⟨⟨o, q, rfl⟩, rfl, rfl⟩) hm hf0 hfrozen h

/-- **on a frozen bar a trade of the long side never raises the account's net value** beyond the wallet's 1e-5 dust: the reported net
    value (wallet at the row's prices + `SqueethMarket.get_market_balance().net_value` + the pool's net value × ETH price) after
    `buy_squeeth` / `sell_squeeth` — any arguments, accepted or rejected — is at most the value before plus 1e-5 of the WETH and oSQTH
    balances; the market parts do not move at all (`C01_squeeth_trade_moves_no_market_value`), the wallet loses the fee -/
theorem C03_squeeth_trade_never_raises_net_value (e : Env) (s : State) (op : Op) (hop : op.isTrade = true) (hw : 0 ≤ e.weth)
    (hm : 0 ≤ markO e) (hf0 : 0 ≤ e.uniFee) (hfrozen : e.uniPrice = e.osqth) (x : Rat) (hx : reportedValue e s = some x) :
    ∃ x', reportedValue e (step NumCtx.exact e s op).st = some x' ∧
      x' - x = walletValue e (step NumCtx.exact e s op).st - walletValue e s ∧
      x' ≤ x + assetDust * (ratAbs (bal s sqWethName) * e.weth + ratAbs (bal s sqOsqthName) * markO e) := by
  have hd1 : 0 ≤ assetDust * ratAbs (bal s sqWethName) * e.weth :=
    mul_nonneg (mul_nonneg assetDust_pos.le (ratAbs_nonneg _)) hw
  have hd2 : 0 ≤ assetDust * ratAbs (bal s sqOsqthName) * markO e :=
    mul_nonneg (mul_nonneg assetDust_pos.le (ratAbs_nonneg _)) hm
  unfold reportedValue at hx ⊢
  cases hb : marketBalance NumCtx.exact e s with
  | error er => simp [hb] at hx
  | ok b =>
    simp only [hb, Option.some.injEq] at hx
    obtain ⟨_, hu, _, hmb⟩ := C01_squeeth_trade_moves_no_market_value NumCtx.exact e s op hop
    obtain ⟨-, -, -, -, -, -, hl, -⟩ := C01_squeeth_balance_from_raw_state e s b hb
    obtain ⟨l', hl'⟩ := Option.isSome_iff_exists.mp (trade_keeps_entries e s op hop sqOsqthName (by unfold Uni.Has; rw [hl]; rfl))
    rw [hmb b l' hb hl', hu]
    refine ⟨_, rfl, by rw [← hx]; ring, ?_⟩
    have hsum : assetDust * (ratAbs (bal s sqWethName) * e.weth + ratAbs (bal s sqOsqthName) * markO e) =
        assetDust * ratAbs (bal s sqWethName) * e.weth + assetDust * ratAbs (bal s sqOsqthName) * markO e := by ring
    rw [hsum, ← hx]
    cases herr : (step NumCtx.exact e s op).err with
    | some er =>
      obtain ⟨_, hr⟩ := step_rejected (.inr hop) (by rw [herr]; exact Option.some_ne_none er)
      rw [hr, Res.fail_st]
      linarith
    | none =>
      cases op with
      | buy o q =>
        obtain ⟨fee, _, _, _, hfee, h1 | h1⟩ := C03_squeeth_buy_loses_fee_within_dust e s o q hw hf0 hfrozen herr
        · linarith [mul_nonneg hfee hw]
        · linarith [mul_nonneg hfee hw, le_ratAbs (walletValue e (step NumCtx.exact e s (.buy o q)).st - (walletValue e s - fee * e.weth))]
      | sell o q =>
        obtain ⟨fee, _, _, _, hfee, h1 | h1⟩ := C03_squeeth_sell_loses_fee_within_dust e s o q hm hf0 hfrozen herr
        · linarith [mul_nonneg hfee hm]
        · linarith [mul_nonneg hfee hm, le_ratAbs (walletValue e (step NumCtx.exact e s (.sell o q)).st - (walletValue e s - fee * markO e))]
      | _ => simp [Op.isTrade] at hop

example : findEnv.uniPrice = findEnv.osqth ∧ 0 ≤ findEnv.weth ∧ 0 ≤ markO findEnv ∧ 0 ≤ findEnv.uniFee := by
  refine ⟨rfl, ?_, ?_, ?_⟩ <;> norm_num [findEnv, markO]
example : (step NumCtx.exact findEnv findState (.buy (some 2) none)).err = none := by decide +kernel
example : (step NumCtx.exact findEnv (step NumCtx.exact findEnv findState (.buy (some 2) none)).st (.sell (some 1) none)).err = none := by decide +kernel
example : (reportedValue findEnv (step NumCtx.exact findEnv findState (.buy (some 2) none)).st).map (fun x' => decide (x' < ((reportedValue findEnv findState).getD 0))) =
    some true := by decide +kernel
example : (reportedValue findEnv findState).isSome = true := by decide +kernel
example : (step NumCtx.exact findEnv findState (.burnWithdraw 1 0 (1/2))).err = none := by decide +kernel

end Demeter
