/-
  C03, GMX part — on a frozen row, `buy_glp` / `sell_glp` (v1) and `deposit` / `withdraw` (v2) never create value beyond the
  wallet's dust band, never make a holding or a wallet balance negative, and never redeem more than is held.
  Exact rational semantics (`NumCtx.exact`); v2 for every power function.
-/
import Proofs.Lemmas.GmxV1Step
import Proofs.Lemmas.GmxV2Value
import Proofs.Fixtures.Gmx
import Proofs.C01.Gmx
import Proofs.Lemmas.GmxValue
import Proofs.Lemmas.WalletLemmas
namespace Demeter
open Demeter.Gmx

section V1
open GmxV1

def Gmx.netWorth (price : String → Rat) (env : Env) (s : State) : Rat :=
  walletValue price s.wallet + netValue NumCtx.exact env s

/-- the frozen price vector is the one derived from the same row (`get_price_from_data`: price column / 10³⁰) -/
def Gmx.PricesFromRow (price : String → Rat) (env : Env) : Prop :=
  ∀ r ∈ env.rows, price (walletKey r.name) = r.price / 10 ^ 30

/-- the row is price-consistent: `glp_price × supply = ⌊aum/10¹²⌋`, the pool value in USDG wei that mints and redemptions are
    priced at.  The identity of the recorded data, `glp_price = (aum/10³⁰)/(glp/10¹⁸)`, is this without the round-down: the two
    agree when `aum` is a multiple of `10¹²` and differ by less than one USDG wei otherwise (the harness allows for that). -/
def Gmx.PriceConsistent (env : Env) : Prop := env.glpPrice * env.glpSupply = aumU env

theorem Gmx.glpPrice_eq {env : Env} (he : EnvPos env) (hc : Gmx.PriceConsistent env) :
    env.glpPrice = aumU env / env.glpSupply := by
  rw [eq_div_iff he.glpSupply.ne']; exact hc

/-- **buying never hands out more value than it takes**: the GLP minted, at the row's GLP price, is worth at most the
    tokens requested, at the row's token price. -/
theorem C03_gmx_v1_mint_value_le_paid {env : Env} (he : EnvPos env) (hc : Gmx.PriceConsistent env) {s s' : State} {tok : String}
    {dec : Nat} {a g : Rat} (h : buyGlp NumCtx.exact env s tok dec a = (.ok g, s')) :
    ∃ r, env.row? tok = some r ∧ g * env.glpPrice ≤ a * (r.price / 10 ^ 30) ∧ 0 ≤ g := by
  obtain ⟨r, hr, hg, hv⟩ := Gmx.buyGlp_value he h
  exact ⟨r, hr, by rw [Gmx.glpPrice_eq he hc]; exact hv, hg⟩

/-- **selling never pays out more value than the GLP redeemed is worth**, and never more GLP than is held. -/
theorem C03_gmx_v1_redeem_value_le_held {env : Env} (he : EnvPos env) (hc : Gmx.PriceConsistent env) {s s' : State} {tok : String}
    {dec : Nat} {ga out : Rat} (h : sellGlp NumCtx.exact env s tok dec ga = (.ok out, s')) :
    let g := if ga = 0 then s.glp else ga
    ∃ r, env.row? tok = some r ∧ out * (r.price / 10 ^ 30) ≤ g * env.glpPrice ∧ 0 ≤ out ∧ 0 ≤ g ∧ g ≤ s.glp := by
  intro g
  obtain ⟨r, hr, hout, hv⟩ := Gmx.sellGlp_value (g := g) he rfl h
  obtain ⟨hg0, hgle, _⟩ := Gmx.sellGlp_ok (g := g) rfl h
  exact ⟨r, hr, by rw [Gmx.glpPrice_eq he hc]; exact hv, hout, hg0, hgle⟩

def Gmx.dustOf (price : String → Rat) (s : State) : Op → Rat
  | .buy tok _ _ => assetDust * balanceOf s.wallet (walletKey tok) * price (walletKey tok)
  | _ => 0

def Gmx.Inv (s : State) : Prop := 0 ≤ s.glp ∧ ∀ p ∈ s.wallet, 0 ≤ p.2

/-- **one call, accepted or rejected, never raises the net worth beyond the wallet's dust**: `dustOf` is `1e-5 ×` the balance a
    `buy_glp` pays from, at that token's price, and 0 for `sell_glp`; `update` (`_update_fee`: the reward accrues, and the net value with it) is the bar loop's,
    not a frozen-market operation -/
theorem C03_gmx_v1_no_value_created {price : String → Rat} {env : Env} (he : EnvPos env) (hc : Gmx.PriceConsistent env)
    (hpr : Gmx.PricesFromRow price env) (hp0 : ∀ k, 0 ≤ price k) (s : State) (hinv : Gmx.Inv s) (op : Op) (hop : op ≠ .update) :
    Gmx.netWorth price env (step NumCtx.exact env s op).2 ≤ Gmx.netWorth price env s + Gmx.dustOf price s op := by
  have hd := assetDust_pos
  have hdust : 0 ≤ Gmx.dustOf price s op := by
    cases op with
    | buy tok _ _ =>
      have : 0 ≤ balanceOf s.wallet (walletKey tok) := WalletLemmas.nonneg_bal hinv.2 _
      have := hp0 (walletKey tok)
      simp only [Gmx.dustOf]; positivity
    | _ => exact le_refl _
  have hpk : ∀ {tok r}, env.row? tok = some r → price (walletKey tok) = r.price / 10 ^ 30 := fun hr => by
    have := hpr _ (row_mem hr); rwa [Gmx.row_name hr] at this
  rcases Gmx.step_cases he s op with ⟨e, h⟩ | ⟨r, rfl, h⟩ | ⟨tok, dec, a, g, r, w, mint, rfl, hr, ha, _, hv, hw, h⟩ |
    ⟨tok, dec, ga, g, out, r, rfl, _, hr, _, _, _, hv, h⟩ <;> rw [h]
  · linarith
  · exact absurd rfl hop
  · have hwv := walletValue_debit (price := price) ha (hp0 _) hw
    unfold Gmx.netWorth
    rw [(C01_gmx_v1_balance env _).1, (C01_gmx_v1_balance env _).1, Gmx.glpPrice_eq he hc]
    simp only [Gmx.dustOf]
    rw [hpk hr] at hwv ⊢
    linarith
  · unfold Gmx.netWorth
    rw [(C01_gmx_v1_balance env _).1, (C01_gmx_v1_balance env _).1, Gmx.glpPrice_eq he hc]
    simp only [Gmx.dustOf, add_zero]
    rw [walletValue_credit, hpk hr]
    linarith

/-- **no holding ever becomes negative**: GLP and every wallet balance, for every operation, accepted or rejected -/
theorem C03_gmx_v1_inv_preserved {env : Env} (he : EnvPos env) (s : State) (hinv : Gmx.Inv s) (op : Op) :
    Gmx.Inv (step NumCtx.exact env s op).2 := by
  rcases Gmx.step_cases he s op with ⟨e, h⟩ | ⟨r, _, h⟩ | ⟨tok, _, a, _, _, w, _, _, _, _, hg, _, hw, h⟩ |
    ⟨tok, _, _, _, out, _, _, _, _, _, hle, hout, _, h⟩ <;> rw [h]
  · exact hinv
  · exact hinv
  · exact ⟨add_nonneg hinv.1 hg, WalletLemmas.nonneg_debit hinv.2 hw⟩
  · -- the payout is non-negative (needs positive prices), so the credited balance is
    exact ⟨sub_nonneg.mpr hle, WalletLemmas.nonneg_credit_exact hinv.2 _ hout⟩

def Gmx.runSeq (price : String → Rat) (env : Env) : List Op → State → State × Rat
  | [], s => (s, 0)
  | op :: ops, s =>
    let r := Gmx.runSeq price env ops (step NumCtx.exact env s op).2
    (r.1, Gmx.dustOf price s op + r.2)

/-- **lifted to sequences**: after any list of buy/sell calls (accepted or rejected, any tokens, any amounts) on a frozen
    price-consistent row the net value is at most the initial one plus the accumulated dust allowance, and no holding is negative. -/
theorem C03_gmx_v1_sequence {price : String → Rat} {env : Env} (he : EnvPos env) (hc : Gmx.PriceConsistent env)
    (hpr : Gmx.PricesFromRow price env) (hp0 : ∀ k, 0 ≤ price k) (ops : List Op) (hops : ∀ op ∈ ops, op ≠ .update)
    (s : State) (hinv : Gmx.Inv s) :
    Gmx.netWorth price env (Gmx.runSeq price env ops s).1 ≤ Gmx.netWorth price env s + (Gmx.runSeq price env ops s).2 ∧
    Gmx.Inv (Gmx.runSeq price env ops s).1 := by
  induction ops generalizing s with
  | nil => simp [Gmx.runSeq]; exact hinv
  | cons op ops ih =>
    have h1 := C03_gmx_v1_no_value_created he hc hpr hp0 s hinv op (hops op List.mem_cons_self)
    have hinv' := C03_gmx_v1_inv_preserved he s hinv op
    obtain ⟨h2, h3⟩ := ih (fun o ho => hops o (List.mem_cons_of_mem _ ho)) _ hinv'
    simp only [Gmx.runSeq]
    exact ⟨by linarith, h3⟩
end V1

section V2
open GmxV2 Gmx2

variable {pw : Rat → Rat → Rat}

/-- `get_market_balance().net_value` of the GM market -/
def Gmx2.shareValue (ps : Pool Rat) (amount : Rat) : Rat := if amount > 0 then amount * ps.poolValue / ps.supply else 0

def Gmx2.netWorth (price : String → Rat) (ps : Pool Rat) (s : State Rat) : Rat :=
  walletValue price s.wallet + Gmx2.shareValue ps s.amount

theorem Gmx2.shareValue_eq {ps : Pool Rat} {x : Rat} (hx : 0 ≤ x) : Gmx2.shareValue ps x = x * (ps.poolValue / ps.supply) := by
  unfold Gmx2.shareValue
  by_cases h : x > 0
  · rw [if_pos h]; ring
  · rw [if_neg h]; have : x = 0 := le_antisymm (not_lt.mp h) hx; subst this; simp

/-- **minting never hands out more value than it takes when the price impact is not positive** -/
theorem C03_gmx_v2_mint_value_le_paid {cfg : Config Rat} (hc : CfgOK cfg) {ps : Pool Rat} (hp : PoolPos ps) {la sa : Rat}
    (hla : 0 ≤ la) (hsa : 0 ≤ sa) {r : LPResult Rat} {tag : String}
    (hm : mintAmount (ratOps pw) cfg ps la sa = .ok (r, tag)) (himp : r.priceImpactUsd ≤ 0) :
    r.gmAmount * (ps.poolValue / ps.supply) ≤ la * ps.longPrice + sa * ps.shortPrice := by
  exact Gmx2.mint_value_le_paid hc hp hla hsa hm himp

/-- **a deposit with a non-positive price impact never raises the account's net value by more than the dust allowance**
    (`1e-5 ×` the two wallet balances it touches, at their prices); the statement is false for a positive impact, see below -/
theorem C03_gmx_v2_deposit_partial {price : String → Rat} {cfg : Config Rat} (hc : CfgOK cfg) {ps : Pool Rat} (hp : PoolPos ps)
    {lk sk : String} (hne : lk ≠ sk) (hpl : price lk = ps.longPrice) (hps : price sk = ps.shortPrice)
    {s s' : State Rat} (hs : 0 ≤ s.amount) {la sa : Rat} {r : LPResult Rat} {tag : String}
    (h : deposit (ratOps pw) NumCtx.exact cfg ps lk sk s la sa = (.ok (r, tag), s'))
    (himp : r.priceImpactUsd ≤ 0) :
    Gmx2.netWorth price ps s' ≤ Gmx2.netWorth price ps s
      + assetDust * (balanceOf s.wallet lk * ps.longPrice + balanceOf s.wallet sk * ps.shortPrice) := by
  obtain ⟨hla, hsa, hm, hamt, _, w1, hw1, hw2⟩ := Gmx2.deposit_ok h
  obtain ⟨_, _, hl, hsh, _⟩ := mintAmount_ok hp hm
  have hgm := Gmx2.gm_nonneg hc hp hm
  have hval := C03_gmx_v2_mint_value_le_paid hc hp hla hsa hm himp
  rw [hl] at hw1
  rw [hsh] at hw2
  have d1 := walletValue_debit (price := price) hla (by rw [hpl]; exact hp.longPrice.le) hw1
  have d2 := walletValue_debit (price := price) hsa (by rw [hps]; exact hp.shortPrice.le) hw2
  have hbal : balanceOf w1 sk = balanceOf s.wallet sk := by
    obtain ⟨b, b', _, _, rfl⟩ := Wallet.debit_false_ok hw1
    unfold balanceOf; rw [AList.get?_set_ne _ hne _]
  rw [hbal] at d2
  rw [hpl] at d1
  rw [hps] at d2
  unfold Gmx2.netWorth
  rw [hamt, Gmx2.shareValue_eq hs, Gmx2.shareValue_eq (by linarith)]
  linarith

/-- **a withdrawal never raises the account's net value**: it pays out the value of the shares less the fee, and never more
    shares than are held -/
theorem C03_gmx_v2_withdraw_no_value_created {price : String → Rat} {cfg : Config Rat} (hc : CfgOK cfg) {ps : Pool Rat} (hp : PoolPos ps)
    {lk sk : String} (hpl : price lk = ps.longPrice) (hps : price sk = ps.shortPrice)
    {s s' : State Rat} {amt : Option Rat} {r : LPResult Rat}
    (h : withdraw (ratOps pw) NumCtx.exact cfg ps lk sk s amt = (.ok r, s')) :
    Gmx2.netWorth price ps s' ≤ Gmx2.netWorth price ps s ∧ 0 ≤ amt.getD s.amount ∧ amt.getD s.amount ≤ s.amount := by
  obtain ⟨_, _, _, _, _, hw⟩ := Gmx2.withdraw_ok h
  obtain ⟨h0, h1, hamt, hv⟩ := Gmx2.withdraw_value hc hp h
  refine ⟨?_, h0, h1⟩
  unfold Gmx2.netWorth
  rw [hw, hamt, walletValue_credit, walletValue_credit, hpl, hps,
    Gmx2.shareValue_eq (by linarith : 0 ≤ s.amount - amt.getD s.amount), Gmx2.shareValue_eq (by linarith : 0 ≤ s.amount)]
  linarith

def Gmx2.mintedValue (pw : Rat → Rat → Rat) (cx : NumCtx) (cfg : Config Rat) (ps : Pool Rat) (lk sk : String) (s : State Rat)
    (la sa : Rat) : Option (Rat × Rat) :=
  match deposit (ratOps pw) cx cfg ps lk sk s la sa with
  | (.ok (r, _), _) => some (r.gmAmount * (ps.poolValue / ps.supply), r.priceImpactUsd)
  | _ => none

/-- **witness: a deposit with a positive price impact creates value on a frozen row.**  Default configuration, demo pool
    (10 M USD long / 30 M USD short): 500 long tokens worth 1 000 000 USD mint GM worth ≈ 1 007 300 USD
    (finding `gmx.v2.deposit.value_created.positive_impact`; the impact pool pays for rebalancing deposits by design). -/
theorem C03_fails_gmx_v2_deposit_positive_impact :
    ∃ v imp, Gmx2.mintedValue Gmx2.sq NumCtx.exact Gmx2.defaultCfg Gmx2.demoPool "WETH" "USDC" Gmx2.demoState 500 0 = some (v, imp) ∧
      0 < imp ∧ 500 * Gmx2.demoPool.longPrice + 0 * Gmx2.demoPool.shortPrice < v :=
  ⟨9513679516389187250097578125 / 9444732965739290427392, 73668917132766468017578125 / 9444732965739290427392,
   by decide +kernel, by norm_num, by norm_num [Gmx2.demoPool]⟩

end V2

/-- 8·10²⁴ GLP at 1.25 USD = ⌊10³⁷/10¹²⌋; that the demo row meets `EnvPos` is `Gmx.demoEnv_pos` in Proofs/C17.lean -/
example : Gmx.PriceConsistent Gmx.demoEnv := by
  unfold Gmx.PriceConsistent aumU Gmx.demoEnv; simp only []; decide +kernel
example : Gmx.Inv Gmx.demoState := by
  refine ⟨by norm_num [Gmx.demoState], ?_⟩
  intro p hp; simp [Gmx.demoState] at hp; subst hp; norm_num
/-- a heavy-side deposit has a negative impact: the hypothesis of `C03_gmx_v2_deposit_partial` is satisfiable -/
example : ∃ v imp, Gmx2.mintedValue Gmx2.sq NumCtx.exact Gmx2.defaultCfg Gmx2.demoPool "WETH" "USDC" Gmx2.demoState 0 40000 = some (v, imp)
    ∧ imp < 0 ∧ v < 40000 :=
  ⟨185737096189679848863278125 / 4722366482869645213696, -3025336863585609619921875 / 4722366482869645213696,
   by decide +kernel, by norm_num, by norm_num⟩

end Demeter
