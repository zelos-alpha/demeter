/-
  C03, Uniswap part, at sequence level (exact arithmetic, frozen status row): over every list of operations that
  carry no caller-chosen execution price, accepted or rejected, helpers failing half-way included, no holding ever becomes
  negative and the value of the account's holdings in this market never rises by more than the wallet's dust snap: one factor
  `(1 + 1e-5)` per wallet-debiting transaction (`_add_liquidity_by_tick`, `swap`), none for remove / collect / transfers.

  The property excludes "swaps with a caller-chosen execution price"; `Op.marketPriced` is that exclusion, extended to
  the `sqrt_price_x96` / `tick` arguments of add and remove (`remove_liquidity(sqrt_price_x96 = X)` *does* create
  value: known finding, `C03_uni_fails_remove_chosen_price`; the same argument of add loses value, which an abstract
  kernel cannot show).
-/
import Proofs.Lemmas.UniSeqPrim
import Proofs.C03.UniKernel
import Proofs.C03.UniValue
import Proofs.C01.UniLent
namespace Demeter.Uni
open Demeter

variable {K : Kern} {pool : Pool} {row : Row} {sqrt : Nat} {A : Int → Int → Int → Rat × Rat}

theorem noGain_gstepRel (F : FrozenPos K pool row sqrt A) :
    GStepRel K pool (Allow.market K pool) (NoGain pool row A) :=
  .ofEff (Allow.market_admits F.base) NoGain.refl NoGain.trans (NoGain.mono F) (NoGain.ofEff F)

/-- **the property's exclusion**: the operation carries no caller-chosen execution price — no `price` for
    swap / buy / sell (0 counts as not given, as in the code), no `sqrt_price_x96` / `tick` for add and remove.
    (`even_rebalance(price)` only sizes its trade with `price`; it executes at the market price.) -/
def Op.marketPriced : Op → Bool
  | .addRaw _ _ _ _ sq => sq.isNone
  | .addByTick _ _ _ _ sq t _ => sq.isNone && t.isNone
  | .remove _ _ _ _ sq _ => sq.isNone
  | .swap _ _ _ p _ => (givenPrice p).isNone
  | .buy _ p => (givenPrice p).isNone
  | .sell _ p => (givenPrice p).isNone
  | _ => true

theorem allowed_of_marketPriced (op : Op) (h : op.marketPriced = true) : op.allowed (Allow.market K pool) := by
  cases op <;> simp only [Op.marketPriced, Option.isNone_iff_eq_none, Bool.and_eq_true] at h <;>
    simp only [Op.allowed, Allow.market]
  case addRaw => exact h
  case addByTick => exact Or.inl ⟨h.1, h.2, trivial⟩
  case remove => exact h
  case swap => intro s; unfold FairSwap; rw [h]
  case buy => exact Or.inl h
  case sell => exact Or.inl h

end Demeter.Uni

namespace Demeter
open Demeter.Uni

variable {K : Kern} {pool : Pool} {row : Row} {sqrt : Nat} {A : Int → Int → Int → Rat × Rat}

/-- **One operation, anywhere.** From a sound state (frozen row, overdraft not allowed, unique keys, no negative
    holding) every market-priced operation — accepted or rejected, also a helper that fails half-way — ends in a sound
    state whose holdings (wallet + all positions incl. uncollected amounts) are worth at most `(1 + dust)^k` times what
    they were, `k` = the number of wallet-debiting transactions the operation can perform (0 for remove, collect,
    remove-all and the transfers: these never raise the value at all). -/
theorem C03_uni_step_no_value_created (F : FrozenPos K pool row sqrt A) (minError : Rat) (s : State) (op : Op)
    (hs : Sound row s) (hop : op.marketPriced = true) :
    Sound row (step K pool minError s op).2 ∧
    allVal pool row A (step K pool minError s op).2 ≤ (1 + Gen.assetSubDust) ^ op.debits * allVal pool row A s :=
  (noGain_gstepRel F).step minError s op (allowed_of_marketPriced op hop) hs

/-- **No holding negative in any reachable state.** Along every list of market-priced operations the soundness
    invariant is kept: every wallet balance, every position's liquidity and both its uncollected amounts stay ≥ 0
    (and the keys stay unique, the row and the overdraft setting untouched). -/
theorem C03_uni_nonneg_invariant (F : FrozenPos K pool row sqrt A) (minError : Rat) (s : State) (ops : List Op)
    (hs : Sound row s) (hops : ∀ op ∈ ops, op.marketPriced = true) :
    Sound row (runOps K pool minError s ops) ∧
    (∀ k, 0 ≤ bal (runOps K pool minError s ops).wallet k) ∧
    (∀ p ∈ (runOps K pool minError s ops).positions, 0 ≤ p.liq ∧ 0 ≤ p.pending0 ∧ 0 ≤ p.pending1) := by
  have h := ((noGain_gstepRel F).runOps minError ops s (fun op ho => allowed_of_marketPriced op (hops op ho)) hs).1
  exact ⟨h, h.wallet_nonneg, h.pos_nonneg⟩

/-- **No value created over any operation sequence.** The holdings after any list of market-priced operations are
    worth at most `(1 + dust)^n` times the holdings before, `n` = the number of wallet-debiting transactions in the
    list (at most two per operation); `dust` is the generated `Asset.sub` constant, within 1e-21 of the property's
    1e-5. With no add and no swap in the list the value does not rise at all. -/
theorem C03_uni_sequence_no_value_created (F : FrozenPos K pool row sqrt A) (minError : Rat) (s : State) (ops : List Op)
    (hs : Sound row s) (hops : ∀ op ∈ ops, op.marketPriced = true) :
    allVal pool row A (runOps K pool minError s ops) ≤ (1 + Gen.assetSubDust) ^ debitsOf ops * allVal pool row A s ∧
    debitsOf ops ≤ 2 * ops.length ∧ |Gen.assetSubDust - 1 / 100000| < 1 / 10 ^ 21 :=
  ⟨((noGain_gstepRel F).runOps minError ops s (fun op ho => allowed_of_marketPriced op (hops op ho)) hs).2,
   debitsOf_le ops, assetDust_near⟩

/-- **… and by no operation anywhere in it**: for every split `ops = before ++ op :: after` the operation `op`,
    executed in the state the prefix leads to, raises the value by at most its own dust factor. -/
theorem C03_uni_no_value_created_anywhere (F : FrozenPos K pool row sqrt A) (minError : Rat) (s : State)
    (before after : List Op) (op : Op) (hs : Sound row s) (hops : ∀ o ∈ before ++ op :: after, o.marketPriced = true) :
    allVal pool row A (step K pool minError (runOps K pool minError s before) op).2 ≤
      (1 + Gen.assetSubDust) ^ op.debits * allVal pool row A (runOps K pool minError s before) := by
  have hb := (C03_uni_nonneg_invariant F minError s before hs
    (fun o ho => hops o (List.mem_append_left _ ho))).1
  exact (C03_uni_step_no_value_created F minError _ op hb
    (hops op (List.mem_append_right _ (List.mem_cons_self ..)))).2

/-- **The reported value.** With no position lent out and no transfer among the operations, what
    `get_market_balance` + the wallet report (`netVal`, the valuation of `C03_uni_*_conserves` and of C01, which skips
    lent positions) is the value of the holdings, before and after: the bound holds for the reported net value. -/
theorem C03_uni_sequence_reported_value (F : FrozenPos K pool row sqrt A) (minError : Rat) (s : State) (ops : List Op)
    (hs : Sound row s) (hops : ∀ op ∈ ops, op.marketPriced = true) (hnt : ∀ op ∈ ops, op.isTransfer = false)
    (hfree : ∀ p ∈ s.positions, p.transferred = false) :
    netVal pool row A (runOps K pool minError s ops) ≤ (1 + Gen.assetSubDust) ^ debitsOf ops * netVal pool row A s := by
  have hinv := (C03_uni_nonneg_invariant F minError s ops hs hops).1
  have hfree' : ∀ p ∈ (runOps K pool minError s ops).positions, p.transferred = false := by
    intro p hp
    have h1 := C01_uni_ops_keep_lent_positions K pool minError s ops hnt p.lower p.upper
    unfold isTransferred at h1
    rw [findPos_of_mem hinv.keys hp] at h1
    simp only [] at h1
    rw [h1]
    cases hf : findPos s.positions p.lower p.upper with
    | none => rfl
    | some q => exact hfree q (List.mem_of_find?_eq_some hf)
  rw [netVal_eq_allVal pool row A hfree', netVal_eq_allVal pool row A hfree]
  exact (C03_uni_sequence_no_value_created F minError s ops hs hops).1

/-- **The sequence theorems apply to the code's kernel**: `Kern.std` under exact arithmetic, any pool with two distinct
    tokens and a fee rate in [0, 1], any row with a positive price that has a sqrt price. -/
theorem C03_uni_kernel_frozen_pos (sq : Rat → Rat) (pool : Pool) (row : Row) (sqrt : Nat) (hne : pool.tok0 ≠ pool.tok1)
    (hs : priceToSqrtStd NumCtx.exact pool row.price = .ok sqrt) (hp : 0 < row.price) (hf0 : 0 ≤ pool.feeRate)
    (hf1 : pool.feeRate ≤ 1) : FrozenPos (Kern.std NumCtx.exact sq) pool row sqrt (stdA pool sqrt) :=
  { base := C03_uni_kernel_frozen sq pool row sqrt hne hs
    price_pos := hp
    fee_nonneg := hf0
    fee_le_one := hf1
    A_nonneg := stdA_nonneg pool sqrt
    newPos_nonneg := fun _ _ _ _ _ _ _ h0 h1 h => (newPosStd_ok_range NumCtx.exact (fun _ hx => hx) h0 h1 h).2 }

namespace Uni

theorem linKern_frozenPos : FrozenPos linKern linPool linRow 5 (fun _ _ l => ((l : Rat) * 5, (l : Rat) * 5)) :=
  { base := linKern_frozen
    price_pos := by decide +kernel
    fee_nonneg := by decide +kernel
    fee_le_one := by decide +kernel
    A_nonneg := by
      intro lo up l hl
      constructor <;> positivity
    newPos_nonneg := by
      intro lo up a0 a1 u0 u1 L h0 h1 h
      simp only [linKern] at h
      injection h with h
      injection h with _ h
      injection h with _ h
      rw [← h]
      exact Rat.le_floor_iff.mpr (by simpa using div_nonneg h0 (by norm_num : (0 : Rat) ≤ 5)) }

theorem linState_sound : Sound linRow linState :=
  { row_eq := rfl
    noNeg := rfl
    keys := by unfold KeysNodup; decide
    wallet_nonneg := by
      intro k
      unfold bal linState AList.get?
      simp only [List.find?_cons, List.find?_nil]
      repeat' split
      all_goals simp
    pos_nonneg := by
      intro p hp
      simp only [linState, List.mem_singleton] at hp
      subst hp
      decide +kernel }

/-- market-priced, touching every primitive -/
def seqOps : List Op :=
  [.addRaw 6 6 0 10 none, .remove 0 10 (some 3) false none true, .collect 0 10 (some 1) none true true,
   .swap 1 "a" "b" none true, .evenRebalance none, .addRaw 5 5 10 20 none, .transferOut 10 20, .removeAll]

end Uni

example : (∀ op ∈ seqOps, op.marketPriced = true) ∧ debitsOf seqOps = 4 ∧
    allVal linPool linRow (fun _ _ l => ((l : Rat) * 5, (l : Rat) * 5)) linState = 117 ∧
    allVal linPool linRow (fun _ _ l => ((l : Rat) * 5, (l : Rat) * 5)) (runOps linKern linPool 0 linState seqOps) < 117 ∧
    (runOps linKern linPool 0 linState seqOps).positions.length = 1 := by
  decide +kernel

end Demeter
