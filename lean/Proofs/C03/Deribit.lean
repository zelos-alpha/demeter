/-
  C03 (Deribit part) — at a frozen market state with bids ≤ mark ≤ asks no sequence of buy / sell / deposit /
  withdraw, accepted or rejected, raises the account value beyond wallet dust; cash, wallet and option amounts
  never become negative; a sell never pays for more than is held.

  Model: Demeter/Deribit.lean (repaired code: /repo 4fb272a 1e18c04 sell checks the holding first, 409c53b
  negative deposits/withdrawals rejected).  Value = wallet(token) + exchange cash + Σ amount × round(mark), the
  valuation `get_market_balance` itself uses (C15_equity).  Exact arithmetic (`DCtx.exact`).

  Finding `deribit.buy/sell.value-created.offgrid-mark-rounded-*` (DESIGN §6.4; "D-8" in harness/c03_deribit.py and below): the
  value theorems take `FrozenOK` (bids ≤ ROUND(mark) ≤ asks).  On the property's own raw quantifier
  (`FrozenRaw`, bids ≤ mark ≤ asks) they hold under `MarkOnGrid` or `PricesOnGrid` and fail without; the non-negativity
  and over-redemption parts need neither.
-/
import Proofs.C15
import Proofs.Lemmas.WalletLemmas
namespace Demeter
open Demeter.Deribit

namespace Deribit
def walletBal (c : TokenCfg) (s : DState) : Rat := (AList.get? s.wallet c.token).getD 0

theorem walletBal_eq (c : TokenCfg) (s : DState) : walletBal c s = Wallet.bal s.wallet c.token := rfl

def acctValue (c : TokenCfg) (s : DState) : Rat := walletBal c s + s.cash + markValue c s.book s.positions

/-- the frozen market data the property allows: books with non-negative sizes (sides may be unsorted and may repeat a
    price: orders are matched against the normalised side) and bids ≤ mark ≤ asks, with the mark as the
    valuation uses it (rounded to the fee step), non-negative marks and bid prices -/
structure FrozenOK (c : TokenCfg) (book : List Instr) : Prop where
  inv : BookInv book
  mark_nonneg : ∀ i ∈ book, 0 ≤ i.mark
  asks_ge : ∀ i ∈ book, ∀ l ∈ i.asks, roundDec c.feeExp i.mark ≤ l.price
  bids_le : ∀ i ∈ book, ∀ l ∈ i.bids, l.price ≤ roundDec c.feeExp i.mark
  bids_nonneg : ∀ i ∈ book, ∀ l ∈ i.bids, 0 ≤ l.price

def PosInv (s : DState) : Prop := (s.positions.map Prod.fst).Nodup ∧ ∀ kp ∈ s.positions, kp.2.name = kp.1

/-- the part of the frozen-data constraint that does not mention the mark: non-negative sizes and bid prices.  It is all that
    "nothing becomes negative" and "no over-redemption" need — those hold for every mark, on or off the fee grid. -/
structure BookSane (book : List Instr) : Prop where
  inv : BookInv book
  bids_nonneg : ∀ i ∈ book, ∀ l ∈ i.bids, 0 ≤ l.price

theorem FrozenOK.sane {c : TokenCfg} {book : List Instr} (hf : FrozenOK c book) : BookSane book := ⟨hf.inv, hf.bids_nonneg⟩

theorem FrozenOK.side {c : TokenCfg} {book : List Instr} (hf : FrozenOK c book) {i : Instr} (hi : i ∈ book) (isBuy : Bool) :
    ∀ l ∈ i.side isBuy, 0 ≤ sgn isBuy * (l.price - roundDec c.feeExp i.mark) ∧ 0 ≤ l.price := by
  intro l hl
  cases isBuy
  · have := hf.bids_le i hi l hl
    exact ⟨by rw [sgn_false]; linarith, hf.bids_nonneg i hi l hl⟩
  · have := hf.asks_ge i hi l hl
    exact ⟨by rw [sgn_true]; linarith, le_trans (roundDec_nonneg _ (hf.mark_nonneg i hi)) this⟩

/-- **an order never creates value** (exact arithmetic, bids ≤ mark ≤ asks): the account value drops by the fee and by what
    the fills paid beyond the mark (`Deal.value_eq`), and neither is negative -/
theorem Deal.no_value_created {c : TokenCfg} {isBuy : Bool} {s : DState} {r : Req} (d : Deal DCtx.exact c isBuy s r)
    (hc : 0 ≤ c.tradeFee) (hf : FrozenOK c s.book) (hp : PosInv s) : acctValue c d.after ≤ acctValue c s := by
  obtain ⟨hsum, hamt0, _⟩ := d.exact_fills hf.inv
  have hx : ∀ x ∈ d.fills, 0 ≤ sgn isBuy * (x.price - roundDec c.feeExp d.ins.mark) ∧ 0 ≤ x.price := by
    intro x hx
    obtain ⟨l0, h0, hpe⟩ := d.fill_row hx
    exact hpe ▸ hf.side (findInstr_mem d.find) isBuy l0 h0
  have hspread := fillCost_spread d.fills _ _ (fun x hx' => ⟨hamt0 x hx', (hx x hx').1⟩)
  have hfee : 0 ≤ d.fee := by
    rw [d.fee_eq, premiumOf_exact]
    exact (tradeFee_range c hc _ _ d.amount_pos.le (ListSum.nonneg _ _ fun x hx' => mul_nonneg (hamt0 x hx') (hx x hx').2)).1
  have := d.value_eq hp.1 hp.2 hsum
  show walletBal c s + _ + _ ≤ walletBal c s + _ + _
  linarith

end Deribit

/-- **a buy never creates value** (exact arithmetic, asks ≥ mark): the account value drops by the fee and
    by what was paid above mark -/
theorem C03_deribit_buy_no_value_created (c : TokenCfg) (hc : 0 ≤ c.tradeFee) (s s' : DState) (r : Req) (res : Res)
    (hf : FrozenOK c s.book) (hp : PosInv s) (h : buy DCtx.exact c s r = (.ok res, s')) :
    acctValue c s' ≤ acctValue c s := by
  obtain ⟨d, _, rfl⟩ := trade_ok (isBuy := true) h
  exact d.no_value_created hc hf hp

/-- **a sell never creates value** (exact arithmetic, bids ≤ mark) -/
theorem C03_deribit_sell_no_value_created (c : TokenCfg) (hc : 0 ≤ c.tradeFee) (s s' : DState) (r : Req) (res : Res)
    (hf : FrozenOK c s.book) (hp : PosInv s) (h : sell DCtx.exact c s r = (.ok res, s')) :
    acctValue c s' ≤ acctValue c s := by
  obtain ⟨d, _, rfl⟩ := trade_ok (isBuy := false) h
  exact d.no_value_created hc hf hp


/-- **a deposit creates at most wallet dust** (exact arithmetic): `Asset.sub` snaps a remainder below 1e-5 of
    the balance to zero, so the exchange may receive up to `dust × |wallet balance|` more than the wallet gave -/
theorem C03_deribit_deposit_dust (c : TokenCfg) (s s' : DState) (a : Rat) (res : Res)
    (h : deposit DCtx.exact c s a = (.ok res, s')) :
    acctValue c s' ≤ acctValue c s + assetDust * |walletBal c s| ∧ 0 ≤ a := by
  obtain ⟨ha, w, hw, _, hs'⟩ := deposit_ok h
  obtain ⟨b', hb', rfl⟩ := Wallet.debit_eq hw
  refine ⟨?_, ha⟩
  rw [hs']
  simp only [acctValue, walletBal_eq, exact_num, NumCtx.exact_add, Wallet.bal_set, if_pos]
  linarith [(abs_le.mp (assetSub_dust hb')).2]

/-- **a withdrawal moves value, it creates none**, and it never takes more than the cash held -/
theorem C03_deribit_withdraw_conserves (c : TokenCfg) (s s' : DState) (a : Rat) (res : Res)
    (h : withdraw DCtx.exact c s a = (.ok res, s')) :
    acctValue c s' = acctValue c s ∧ 0 ≤ a ∧ a ≤ s.cash ∧ 0 ≤ s'.cash := by
  obtain ⟨ha, hleft, _, hs'⟩ := withdraw_ok h
  refine ⟨?_, ha, by simpa using hleft, by rw [hs']; exact hleft⟩
  rw [hs']
  simp only [acctValue, walletBal_eq, Wallet.bal_credit, if_pos, exact_num, NumCtx.exact_add, NumCtx.exact_sub]
  ring

namespace Deribit

/-- what the user can call (the frozen-market operations of the property; `update` is the bar loop's) -/
def Op.isUser : Op → Bool
  | .update => false
  | _ => true

theorem Op.ne_update {op : Op} (hu : op.isUser = true) : op ≠ .update := by
  rintro rfl; cases hu

def NamesNodup (book : List Instr) : Prop := (book.map (·.name)).Nodup

/-- fills written back change sizes only: prices, marks and names do not move -/
theorem frozenOK_step (c : TokenCfg) (s : DState) (op : Op) (hf : FrozenOK c s.book) (hn : NamesNodup s.book) :
    FrozenOK c (step DCtx.exact c s op).2.book ∧ NamesNodup (step DCtx.exact c s op).2.book := by
  by_cases hu : op = .update
  · rw [hu]
    show FrozenOK c (update DCtx.exact c s).book ∧ NamesNodup (update DCtx.exact c s).book
    rw [(update_frame DCtx.exact c s).1]; exact ⟨hf, hn⟩
  · refine step_deal (P := fun s' => FrozenOK c s'.book ∧ NamesNodup s'.book) op hu ⟨hf, hn⟩ (fun isBuy r d _ => ?_)
      (fun _ _ _ _ _ => ⟨hf, hn⟩) (fun _ _ _ _ => ⟨hf, hn⟩) (fun _ _ => ⟨hf, hn⟩)
    have hrow := d.after_row hn
    refine ⟨⟨d.after_bookInv hf.inv, fun i hi => ?_, fun i hi l hl => ?_, fun i hi l hl => ?_, fun i hi l hl => ?_⟩,
      by unfold NamesNodup; rw [d.after_book, setSide_names]; exact hn⟩
    · obtain ⟨i0, hi0, hm, _⟩ := hrow i hi
      rw [hm]; exact hf.mark_nonneg i0 hi0
    · obtain ⟨i0, hi0, hm, hs⟩ := hrow i hi
      obtain ⟨l0, hl0, hp⟩ := hs true l hl
      rw [hm, ← hp]; exact hf.asks_ge i0 hi0 l0 hl0
    · obtain ⟨i0, hi0, hm, hs⟩ := hrow i hi
      obtain ⟨l0, hl0, hp⟩ := hs false l hl
      rw [hm, ← hp]; exact hf.bids_le i0 hi0 l0 hl0
    · obtain ⟨i0, hi0, _, hs⟩ := hrow i hi
      obtain ⟨l0, hl0, hp⟩ := hs false l hl
      rw [← hp]; exact hf.bids_nonneg i0 hi0 l0 hl0

theorem posInv_step (c : TokenCfg) (s : DState) (op : Op) (hu : op.isUser = true) (hp : PosInv s) :
    PosInv (step DCtx.exact c s op).2 := by
  refine ⟨step_keysNodup _ c s op (Op.ne_update hu) hp.1, ?_⟩
  refine step_deal (P := fun s' => ∀ kp ∈ s'.positions, kp.2.name = kp.1) op (Op.ne_update hu) hp.2 (fun isBuy r d _ kp hkp => ?_)
    (fun _ _ _ _ _ => hp.2) (fun _ _ _ _ => hp.2) (fun _ _ => hp.2)
  rcases Deal.mem_putPos hkp with h | ⟨hk, ho⟩
  · exact hp.2 kp h
  · rw [(d.newPos_spec).2.1 _ ho, hk]
    cases hg : AList.get? s.positions r.name with
    | none => rfl
    | some p => exact hp.2 _ (AList.mem_of_get? hg)

def dustBound (c : TokenCfg) : DState → List Op → Rat
  | _, [] => 0
  | s, o :: os =>
    (match o with
      | .deposit _ => assetDust * |walletBal c s|
      | _ => 0) + dustBound c (step DCtx.exact c s o).2 os

end Deribit

/-- **one operation, accepted or rejected, never creates value beyond the deposit dust** -/
theorem C03_deribit_step_no_value_created (c : TokenCfg) (hc : 0 ≤ c.tradeFee) (s : DState) (op : Op)
    (hu : op.isUser = true) (hf : FrozenOK c s.book) (hp : PosInv s) :
    acctValue c (step DCtx.exact c s op).2 ≤ acctValue c s + dustBound c s [op] := by
  have hd : 0 ≤ assetDust * |walletBal c s| := mul_nonneg assetDust_pos.le (abs_nonneg _)
  have h0 : acctValue c s ≤ acctValue c s + dustBound c s [op] := by
    simp only [dustBound]
    split <;> linarith
  refine step_deal (P := fun s' => acctValue c s' ≤ acctValue c s + dustBound c s [op]) op (Op.ne_update hu) h0
    (fun isBuy r d ho => ?_) (fun a w ho ha hw => ?_) (fun a ho ha hl => ?_) (fun b _ => h0)
  · have : dustBound c s [op] = 0 := by subst ho; cases isBuy <;> simp [dustBound, tradeOp]
    rw [this, add_zero]; exact d.no_value_created hc hf hp
  · subst ho; simp only [dustBound, add_zero]
    exact (C03_deribit_deposit_dust c s _ a _ (deposit_eq ha hw)).1
  · subst ho; simp only [dustBound, add_zero]
    rw [(C03_deribit_withdraw_conserves c s _ a _ (withdraw_eq ha hl)).1]

/-- **no sequence of operations creates value** (induction over the sequence; every rejected call included):
    after any list of buys, sells, deposits, withdrawals and balance reads at a frozen market with
    bids ≤ mark ≤ asks (instrument names unique in the book; position keys unique, each record under its own name) the
    account value is at most the initial one plus the dust of the deposits made. -/
theorem C03_deribit_sequence_no_value_created (c : TokenCfg) (hc : 0 ≤ c.tradeFee) (ops : List Op) (s : DState)
    (hu : ∀ o ∈ ops, o.isUser = true) (hf : FrozenOK c s.book) (hn : NamesNodup s.book) (hp : PosInv s) :
    acctValue c (runOps DCtx.exact c s ops) ≤ acctValue c s + dustBound c s ops := by
  induction ops generalizing s with
  | nil => simp [runOps, dustBound]
  | cons o os ih =>
    have ho := hu o List.mem_cons_self
    have h1 := C03_deribit_step_no_value_created c hc s o ho hf hp
    obtain ⟨hf', hn'⟩ := frozenOK_step c s o hf hn
    have hp' := posInv_step c s o ho hp
    have h2 := ih (step DCtx.exact c s o).2 (fun o' ho' => hu o' (List.mem_cons_of_mem _ ho')) hf' hn' hp'
    simp only [dustBound, add_zero] at h1
    show acctValue c (runOps DCtx.exact c (step DCtx.exact c s o).2 os) ≤ _
    simp only [dustBound]
    linarith


namespace Deribit
def NonNeg (s : DState) : Prop :=
  0 ≤ s.cash ∧ (∀ kp ∈ s.positions, 0 ≤ kp.2.amount) ∧ (s.allowNeg = false → ∀ tb ∈ s.wallet, 0 ≤ tb.2)

theorem held_nonneg {s : DState} (hnn : NonNeg s) (k : String) : 0 ≤ held s k := by
  unfold held
  cases hg : AList.get? s.positions k with
  | none => simp
  | some p => simpa using hnn.2.1 _ (AList.mem_of_get? hg)

/-- an order leaves nothing negative: a buy is refused unless the cash covers it, a sell receives at least its fee (bid prices
    are not negative, the fee is at most 25 % of the premium) and never more contracts than are held -/
theorem Deal.after_nonNeg {c : TokenCfg} {isBuy : Bool} {s : DState} {r : Req} (d : Deal DCtx.exact c isBuy s r)
    (hc : 0 ≤ c.tradeFee) (hf : BookSane s.book) (hnn : NonNeg s) : NonNeg d.after := by
  obtain ⟨hamt, _, hsell⟩ := d.newPos_spec
  refine ⟨?_, fun kp hkp => ?_, hnn.2.2⟩
  · cases isBuy with
    | true => exact d.buy_covered
    | false =>
      obtain ⟨_, hamt0, _⟩ := d.exact_fills hf.inv
      have hcost0 : 0 ≤ fillCost d.fills := ListSum.nonneg _ _ (fun x hx => by
        obtain ⟨l0, h0, hpe⟩ := d.fill_row hx
        exact mul_nonneg (hamt0 x hx) (hpe ▸ hf.bids_nonneg _ (findInstr_mem d.find) l0 h0))
      have hfee : d.fee ≤ fillCost d.fills := by
        rw [d.fee_eq, premiumOf_exact]; linarith [(tradeFee_range c hc _ _ d.amount_pos.le hcost0).2]
      rw [d.after_cash, sgn_false]
      linarith [hnn.1]
  · rcases Deal.mem_putPos hkp with h | ⟨_, ho⟩
    · exact hnn.2.1 kp h
    · have : kp.2.amount = held s r.name + sgn isBuy * roundDec c.tradeExp r.amount := by rw [← hamt, ho]; rfl
      rw [this]
      cases isBuy with
      | true => rw [sgn_true]; linarith [held_nonneg hnn r.name, d.amount_pos]
      | false => exact hsell rfl

end Deribit

/-- **no holding ever becomes negative** (exact arithmetic, bid prices ≥ 0; the mark plays no role): cash, every option amount
    and every wallet balance stay non-negative through any operation, accepted or rejected -/
theorem C03_deribit_nonneg_preserved_raw (c : TokenCfg) (hc : 0 ≤ c.tradeFee) (s : DState) (op : Op) (hu : op.isUser = true)
    (hf : BookSane s.book) (hnn : NonNeg s) : NonNeg (step DCtx.exact c s op).2 := by
  refine step_deal op (Op.ne_update hu) hnn (fun _ _ d _ => d.after_nonNeg hc hf hnn) (fun a w _ ha hw => ?_)
    (fun a _ ha hleft => ?_) (fun _ _ => hnn)
  · exact ⟨by simp only [exact_num, NumCtx.exact_add]; linarith [hnn.1], hnn.2.1,
      fun hneg => WalletLemmas.nonneg_debit (hnn.2.2 hneg) (hneg ▸ hw)⟩
  · exact ⟨hleft, hnn.2.1, fun hneg => WalletLemmas.nonneg_credit_exact (hnn.2.2 hneg) c.token ha⟩

/-- the same under the hypothesis the sequence theorems carry (`FrozenOK`, bids ≤ round(mark) ≤ asks) -/
theorem C03_deribit_nonneg_preserved (c : TokenCfg) (hc : 0 ≤ c.tradeFee) (s : DState) (op : Op) (hu : op.isUser = true)
    (hf : FrozenOK c s.book) (hnn : NonNeg s) : NonNeg (step DCtx.exact c s op).2 :=
  C03_deribit_nonneg_preserved_raw c hc s op hu hf.sane hnn

/-- **no over-redemption** (the mark plays no role): an accepted sell is filled for exactly the (rounded) amount, which is at
    most the holding; an accepted withdrawal is at most the cash (`C03_deribit_withdraw_conserves`) -/
theorem C03_deribit_no_over_redemption_raw (c : TokenCfg) (s s' : DState) (r : Req) (fills : List Fill) (fee : Rat)
    (hf : BookSane s.book) (h : sell DCtx.exact c s r = (.ok (.trade fills fee), s')) :
    ∃ p, AList.get? s.positions r.name = some p ∧ fillSum fills ≤ p.amount := by
  obtain ⟨d, rfl, rfl, rfl⟩ := trade_deal (isBuy := false) h
  obtain ⟨p, hget, hle, _⟩ := d.newPos_sell
  exact ⟨p, hget, (d.exact_fills hf.inv).1 ▸ hle⟩

/-- the same under `FrozenOK` -/
theorem C03_deribit_no_over_redemption (c : TokenCfg) (s s' : DState) (r : Req) (fills : List Fill) (fee : Rat)
    (hf : FrozenOK c s.book) (h : sell DCtx.exact c s r = (.ok (.trade fills fee), s')) :
    ∃ p, AList.get? s.positions r.name = some p ∧ fillSum fills ≤ p.amount :=
  C03_deribit_no_over_redemption_raw c s s' r fills fee hf.sane h

/- The property's own quantifier: the RAW book, bids ≤ mark ≤ asks  (D-8)

  `FrozenOK` compares the levels with `roundDec c.feeExp i.mark`, the mark as `get_market_balance` values a holding (rounded
  half-up to the fee step, 1e-6 for ETH, 1e-8 for BTC).  The property text constrains the raw row: bid ≤ mark ≤ ask.  The two
  differ when the mark is not a multiple of the fee step, and then the value theorems are false for the code
  (`C03_deribit_fails_offgrid_mark`, `…_sell`): the gain per contract is below |round(mark) − mark| ≤ half a fee step and needs
  round(mark) > 1.125 × price (buy), i.e. marks below about 4e-6. -/

namespace Deribit
/-- the frozen market data exactly as the property constrains it: every bid ≤ the row's mark ≤ every ask (raw mark, nothing
    rounded), plus the sanity of the data (non-negative sizes, marks and bid prices) -/
structure FrozenRaw (book : List Instr) : Prop where
  inv : BookInv book
  mark_nonneg : ∀ i ∈ book, 0 ≤ i.mark
  asks_ge : ∀ i ∈ book, ∀ l ∈ i.asks, i.mark ≤ l.price
  bids_le : ∀ i ∈ book, ∀ l ∈ i.bids, l.price ≤ i.mark
  bids_nonneg : ∀ i ∈ book, ∀ l ∈ i.bids, 0 ≤ l.price

/-- grid contract (NOT in the property text): every mark is a multiple of the fee step, i.e. the valuation's
    `round_decimal(mark_price, min_fee_decimal)` returns the mark unchanged -/
def MarkOnGrid (c : TokenCfg) (book : List Instr) : Prop := ∀ i ∈ book, roundDec c.feeExp i.mark = i.mark

theorem FrozenRaw.sane {book : List Instr} (hf : FrozenRaw book) : BookSane book := ⟨hf.inv, hf.bids_nonneg⟩

theorem frozenOK_of_raw {c : TokenCfg} {book : List Instr} (hf : FrozenRaw book) (hg : MarkOnGrid c book) : FrozenOK c book :=
  ⟨hf.inv, hf.mark_nonneg, fun i hi l hl => by rw [hg i hi]; exact hf.asks_ge i hi l hl,
    fun i hi l hl => by rw [hg i hi]; exact hf.bids_le i hi l hl, hf.bids_nonneg⟩

/-- a second grid contract (NOT in the property text either, but what an exchange's tick size gives: Deribit quotes options in
    ticks of 0.0001 / 0.0005, multiples of the fee step): every PRICE of the book is a multiple of the fee step; the mark may
    be anything -/
def PricesOnGrid (c : TokenCfg) (book : List Instr) : Prop :=
  ∀ i ∈ book, (∀ l ∈ i.asks, roundDec c.feeExp l.price = l.price) ∧ (∀ l ∈ i.bids, roundDec c.feeExp l.price = l.price)

/-- for EVERY mark: rounding is monotone and leaves the prices where they are -/
theorem frozenOK_of_raw_prices {c : TokenCfg} {book : List Instr} (hf : FrozenRaw book) (hg : PricesOnGrid c book) :
    FrozenOK c book :=
  ⟨hf.inv, hf.mark_nonneg,
    fun i hi l hl => by rw [← (hg i hi).1 l hl]; exact roundDec_mono _ (hf.mark_nonneg i hi) (hf.asks_ge i hi l hl),
    fun i hi l hl => by rw [← (hg i hi).2 l hl]; exact roundDec_mono _ (hf.bids_nonneg i hi l hl) (hf.bids_le i hi l hl),
    hf.bids_nonneg⟩

theorem frozenRaw_of_ok {c : TokenCfg} {book : List Instr} (hf : FrozenOK c book) (hg : MarkOnGrid c book) : FrozenRaw book :=
  ⟨hf.inv, hf.mark_nonneg, fun i hi l hl => by have := hf.asks_ge i hi l hl; rwa [hg i hi] at this,
    fun i hi l hl => by have := hf.bids_le i hi l hl; rwa [hg i hi] at this, hf.bids_nonneg⟩
end Deribit

/-- **a buy never creates value**, raw quantifier bids ≤ mark ≤ asks — partial: under the grid contract `MarkOnGrid`
    (without it the statement is false, `C03_deribit_fails_offgrid_mark`) -/
theorem C03_deribit_buy_no_value_created_ongrid_partial (c : TokenCfg) (hc : 0 ≤ c.tradeFee) (s s' : DState) (r : Req)
    (res : Res) (hf : FrozenRaw s.book) (hg : MarkOnGrid c s.book) (hp : PosInv s)
    (h : buy DCtx.exact c s r = (.ok res, s')) : acctValue c s' ≤ acctValue c s :=
  C03_deribit_buy_no_value_created c hc s s' r res (frozenOK_of_raw hf hg) hp h

/-- **a sell never creates value**, raw quantifier — partial: under `MarkOnGrid` (false without it,
    `C03_deribit_fails_offgrid_mark_sell`) -/
theorem C03_deribit_sell_no_value_created_ongrid_partial (c : TokenCfg) (hc : 0 ≤ c.tradeFee) (s s' : DState) (r : Req)
    (res : Res) (hf : FrozenRaw s.book) (hg : MarkOnGrid c s.book) (hp : PosInv s)
    (h : sell DCtx.exact c s r = (.ok res, s')) : acctValue c s' ≤ acctValue c s :=
  C03_deribit_sell_no_value_created c hc s s' r res (frozenOK_of_raw hf hg) hp h

/-- **one operation, accepted or rejected, creates no value beyond the deposit dust**, raw quantifier — partial: under `MarkOnGrid` -/
theorem C03_deribit_step_no_value_created_ongrid_partial (c : TokenCfg) (hc : 0 ≤ c.tradeFee) (s : DState) (op : Op)
    (hu : op.isUser = true) (hf : FrozenRaw s.book) (hg : MarkOnGrid c s.book) (hp : PosInv s) :
    acctValue c (step DCtx.exact c s op).2 ≤ acctValue c s + dustBound c s [op] :=
  C03_deribit_step_no_value_created c hc s op hu (frozenOK_of_raw hf hg) hp

/-- **no sequence of operations creates value**, raw quantifier — partial: under `MarkOnGrid` at the start (marks do not move
    along the sequence, `frozenOK_step`) -/
theorem C03_deribit_sequence_no_value_created_ongrid_partial (c : TokenCfg) (hc : 0 ≤ c.tradeFee) (ops : List Op) (s : DState)
    (hu : ∀ o ∈ ops, o.isUser = true) (hf : FrozenRaw s.book) (hg : MarkOnGrid c s.book) (hn : NamesNodup s.book)
    (hp : PosInv s) : acctValue c (runOps DCtx.exact c s ops) ≤ acctValue c s + dustBound c s ops :=
  C03_deribit_sequence_no_value_created c hc ops s hu (frozenOK_of_raw hf hg) hn hp

/-- **no sequence of operations creates value**, raw quantifier, any marks — partial: under the tick-size contract
    `PricesOnGrid` (every book price a multiple of the fee step).  The D-8 witnesses need a price off the fee grid. -/
theorem C03_deribit_sequence_no_value_created_pricegrid_partial (c : TokenCfg) (hc : 0 ≤ c.tradeFee) (ops : List Op) (s : DState)
    (hu : ∀ o ∈ ops, o.isUser = true) (hf : FrozenRaw s.book) (hg : PricesOnGrid c s.book) (hn : NamesNodup s.book)
    (hp : PosInv s) : acctValue c (runOps DCtx.exact c s ops) ≤ acctValue c s + dustBound c s ops :=
  C03_deribit_sequence_no_value_created c hc ops s hu (frozenOK_of_raw_prices hf hg) hn hp

/-- one operation (accepted or rejected), raw quantifier, any marks — partial: under `PricesOnGrid` -/
theorem C03_deribit_step_no_value_created_pricegrid_partial (c : TokenCfg) (hc : 0 ≤ c.tradeFee) (s : DState) (op : Op)
    (hu : op.isUser = true) (hf : FrozenRaw s.book) (hg : PricesOnGrid c s.book) (hp : PosInv s) :
    acctValue c (step DCtx.exact c s op).2 ≤ acctValue c s + dustBound c s [op] :=
  C03_deribit_step_no_value_created c hc s op hu (frozenOK_of_raw_prices hf hg) hp

namespace Deribit
def c03Instr : Instr := { exInstr with asks := [⟨29 / 1000, 605, false⟩, ⟨59 / 2000, 197, true⟩] }
def c03State : DState := { exState with book := [c03Instr] }
def c03Buy (a : Rat) : Op := .buy (exReq a none)
def c03Sell (a : Rat) : Op := .sell (exReq a none)
/-- D-8: a mark off the 1e-6 fee grid that rounds UP (0.0000016 → 0.000002), the best ask on the mark -/
def c03OffInstr : Instr :=
  { c03Instr with mark := 16 / 10000000, asks := [⟨16 / 10000000, 5000, false⟩], bids := [⟨1 / 1000000, 50, false⟩] }
def c03OffState : DState := { c03State with cash := 105, book := [c03OffInstr], wallet := [("ETH", 0)] }
/-- D-8, sell side: a mark that rounds DOWN (0.0000014 → 0.000001), the best bid on the mark, 1000 contracts held -/
def c03OffSellInstr : Instr :=
  { c03Instr with mark := 14 / 10000000, asks := [⟨2 / 1000000, 50, false⟩], bids := [⟨14 / 10000000, 5000, false⟩] }
def c03OffPos : Position :=
  { name := "ETH-22SEP23-1650-C", expiry := 30000, strike := 1650, kind := .call, amount := 1000, avgBuy := 3 / 100,
    buyAmt := 1000, avgSell := 0, sellAmt := 0 }
def c03OffSellState : DState :=
  { c03State with
    cash := 105, book := [c03OffSellInstr], wallet := [("ETH", 0)], positions := [("ETH-22SEP23-1650-C", c03OffPos)] }
end Deribit

section
open Deribit
example : FrozenOK ethCfg c03State.book := by
  refine ⟨?_, ?_, ?_, ?_, ?_⟩
  · unfold BookInv; decide +kernel
  all_goals decide +kernel
example : PosInv c03State := by unfold PosInv; decide +kernel
example : NonNeg c03State := by unfold NonNeg; decide +kernel
example : (0 : Rat) ≤ ethCfg.tradeFee ∧ (0 : Rat) ≤ btcCfg.tradeFee := by
  rw [C15_constants.1, C15_constants.2.1]; norm_num
example : acctValue ethCfg (runOps DCtx.exact ethCfg c03State [c03Buy 700, c03Sell 600, .withdraw 1, .deposit 1, c03Sell 100, c03Sell 1]) ≤
    acctValue ethCfg c03State := by decide +kernel
example : ¬ acctValue ethCfg c03State ≤ acctValue ethCfg (runOps DCtx.exact ethCfg c03State [c03Buy 700, c03Sell 600]) := by
  decide +kernel
example : FrozenRaw c03State.book := by
  refine ⟨?_, ?_, ?_, ?_, ?_⟩
  · unfold BookInv; decide +kernel
  all_goals decide +kernel
example : MarkOnGrid ethCfg c03State.book := by unfold MarkOnGrid; decide +kernel
example : FrozenRaw [{ c03Instr with mark := 287004 / 10000000 }] ∧ PricesOnGrid ethCfg [{ c03Instr with mark := 287004 / 10000000 }] ∧
    ¬ MarkOnGrid ethCfg [{ c03Instr with mark := 287004 / 10000000 }] := by
  refine ⟨⟨?_, ?_, ?_, ?_, ?_⟩, ?_, ?_⟩
  · unfold BookInv; decide +kernel
  · decide +kernel
  · decide +kernel
  · decide +kernel
  · decide +kernel
  · unfold PricesOnGrid; decide +kernel
  · unfold MarkOnGrid; decide +kernel
example : BookSane c03State.book ∧ BookSane c03OffState.book := by
  refine ⟨⟨?_, ?_⟩, ⟨?_, ?_⟩⟩
  · unfold BookInv; decide +kernel
  · decide +kernel
  · unfold BookInv; decide +kernel
  · decide +kernel
end

section
open Deribit

/-- **D-8, positive form** (what the real code does, reproduced on /repo 155b57b: net value 105 → 105.0002000): the raw book
    satisfies bid 0.000001 ≤ mark 0.0000016 ≤ ask 0.0000016, the market buy of 1000 is accepted, filled at 0.0000016 with
    fee 0.0002, and the account value goes from 105 to 105.0002 -/
theorem C03_deribit_offgrid_mark_buy_raises_value :
    FrozenRaw c03OffState.book ∧ PosInv c03OffState ∧ NonNeg c03OffState ∧
    (step DCtx.exact ethCfg c03OffState (c03Buy 1000)).1 = .ok (.trade [⟨16 / 10000000, 1000⟩] (2 / 10000)) ∧
    acctValue ethCfg c03OffState = 105 ∧
    acctValue ethCfg (step DCtx.exact ethCfg c03OffState (c03Buy 1000)).2 = 105 + 2 / 10000 ∧
    ¬ MarkOnGrid ethCfg c03OffState.book := by
  refine ⟨⟨?_, ?_, ?_, ?_, ?_⟩, ?_, ?_, ?_, ?_, ?_, ?_⟩
  · unfold BookInv; decide +kernel
  · decide +kernel
  · decide +kernel
  · decide +kernel
  · decide +kernel
  · unfold PosInv; decide +kernel
  · unfold NonNeg; decide +kernel
  · decide +kernel
  · decide +kernel
  · decide +kernel
  · unfold MarkOnGrid; decide +kernel

/-- **D-8: the full-strength statement (raw quantifier, no grid contract) is false for buy** -/
theorem C03_deribit_fails_offgrid_mark :
    ¬ (∀ (c : TokenCfg) (s s' : DState) (r : Req) (res : Res), 0 ≤ c.tradeFee → FrozenRaw s.book → PosInv s →
        buy DCtx.exact c s r = (.ok res, s') → acctValue c s' ≤ acctValue c s) := by
  intro hall
  obtain ⟨hf, hp, _, hok, h0, h1, _⟩ := C03_deribit_offgrid_mark_buy_raises_value
  have hc : (0 : Rat) ≤ ethCfg.tradeFee := by rw [C15_constants.1]; norm_num
  have := hall ethCfg c03OffState (step DCtx.exact ethCfg c03OffState (c03Buy 1000)).2 _ _ hc hf hp (Prod.ext hok rfl)
  rw [h0, h1] at this
  norm_num at this

/-- **D-8, sell side** (reproduced on /repo 155b57b: 105.001000 → 105.0012250): bid 0.0000014 ≤ mark 0.0000014 ≤ ask 0.000002,
    1000 contracts held and valued at round(mark) = 0.000001; selling them at the bid pays 0.0014 − fee 0.000175 -/
theorem C03_deribit_offgrid_mark_sell_raises_value :
    FrozenRaw c03OffSellState.book ∧ PosInv c03OffSellState ∧ NonNeg c03OffSellState ∧
    (step DCtx.exact ethCfg c03OffSellState (c03Sell 1000)).1 = .ok (.trade [⟨14 / 10000000, 1000⟩] (175 / 1000000)) ∧
    acctValue ethCfg c03OffSellState = 105 + 1 / 1000 ∧
    acctValue ethCfg (step DCtx.exact ethCfg c03OffSellState (c03Sell 1000)).2 = 105 + 1225 / 1000000 := by
  refine ⟨⟨?_, ?_, ?_, ?_, ?_⟩, ?_, ?_, ?_, ?_, ?_⟩
  · unfold BookInv; decide +kernel
  · decide +kernel
  · decide +kernel
  · decide +kernel
  · decide +kernel
  · unfold PosInv; decide +kernel
  · unfold NonNeg; decide +kernel
  · decide +kernel
  · decide +kernel
  · decide +kernel

/-- **D-8: the full-strength statement (raw quantifier, no grid contract) is false for sell** -/
theorem C03_deribit_fails_offgrid_mark_sell :
    ¬ (∀ (c : TokenCfg) (s s' : DState) (r : Req) (res : Res), 0 ≤ c.tradeFee → FrozenRaw s.book → PosInv s →
        sell DCtx.exact c s r = (.ok res, s') → acctValue c s' ≤ acctValue c s) := by
  intro hall
  obtain ⟨hf, hp, _, hok, h0, h1⟩ := C03_deribit_offgrid_mark_sell_raises_value
  have hc : (0 : Rat) ≤ ethCfg.tradeFee := by rw [C15_constants.1]; norm_num
  have := hall ethCfg c03OffSellState (step DCtx.exact ethCfg c03OffSellState (c03Sell 1000)).2 _ _ hc hf hp (Prod.ext hok rfl)
  rw [h0, h1] at this
  norm_num at this
end

end Demeter
