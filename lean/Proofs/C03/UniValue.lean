/-
  C03, Uniswap part, value conservation at a frozen status row (exact arithmetic): removing liquidity, collecting
  and adding liquidity move value between wallet and positions without creating or destroying any — up to the
  wallet's own dust snap on a debit (`C03_uni_debit_dust`).
-/
import Proofs.Lemmas.UniValue
namespace Demeter
open Demeter.Uni

/-- **Removing liquidity conserves value exactly.** An accepted `remove_liquidity(collect=False)` at the market
    price leaves the net value unchanged: what leaves the position's liquidity is what enters its uncollected
    amounts, valued at the same sqrt price. Any requested liquidity (none / part / all / more than held). -/
theorem C03_uni_remove_conserves {K : Kern} {pool : Pool} {row : Row} {sqrt : Nat} {A : Int → Int → Int → Rat × Rat}
    (F : Frozen K pool row sqrt A) (s : State) (hrow : s.row = some row) (lo up : Int) (l : Option Int) (p0 : Pos)
    (hu : UniqueKey s.positions lo up p0) (v : List Rat) (s' : State)
    (h : removeNoCollect K pool s lo up l none = (.ok v, s')) :
    netVal pool row A s' = netVal pool row A s := by
  rcases removeNoCollect_cases K pool s lo up l none with
    ⟨_, h'⟩ | ⟨p, sq, g0, g1, hf, _, _, _, hsq, hamt, ⟨_, _, h'⟩ | ⟨_, _, h'⟩⟩ <;> rw [h'] at h
  · cases h
  · cases h
  · injection h with _ h2
    subst h2
    rw [findPos_unique hu] at hf
    injection hf with hf; subst hf
    rw [resolveSqrt_frozen F hrow] at hsq
    injection hsq with hsq; subst hsq
    have hg := F.amounts _ _ _ _ _ hamt
    obtain ⟨rfl, rfl⟩ : g0 = _ ∧ g1 = _ := ⟨congrArg Prod.fst hg, congrArg Prod.snd hg⟩
    unfold netVal
    rw [sumOver_eq, sumOver_eq]
    show walletVal pool row.price s.wallet + sumAll _ (mapPos s.positions lo up _) = _
    rw [sumAll_mapPos _ hu, posValue_removePos F hu.hasKey]
    show _ + (_ - _ + (if p0.transferred then 0 else _)) = _
    ring

/-- **Collecting conserves value exactly.** An accepted `collect_fee` (to the user) moves the collected amounts
    from the position's uncollected amounts into the wallet — for every cap, including caps above what is pending —
    and deleting the then-empty position loses nothing. -/
theorem C03_uni_collect_conserves {K : Kern} {pool : Pool} {row : Row} {sqrt : Nat} {A : Int → Int → Int → Rat × Rat}
    (F : Frozen K pool row sqrt A) (s : State) (lo up : Int) (m0 m1 : Option Rat) (rd : Bool) (p0 : Pos)
    (hu : UniqueKey s.positions lo up p0) (v : List Rat) (s' : State)
    (h : collect K pool s lo up m0 m1 rd true = (.ok v, s')) :
    netVal pool row A s' = netVal pool row A s := by
  rcases collect_cases K pool s lo up m0 m1 rd true with
    ⟨_, h'⟩ | ⟨p, hf, htr, _, _, _, ⟨_, _, h'⟩ | ⟨_, _, h'⟩⟩ <;> rw [h'] at h
  · cases h
  · cases h
  · injection h with _ h2
    subst h2
    rw [findPos_unique hu] at hf
    injection hf with hf; subst hf
    have hval := posValue_collectPos F p0 (capAt m0 p0.pending0) (capAt m1 p0.pending1)
    unfold netVal
    rw [sumOver_eq, sumOver_eq, collectFinish_wallet, collectFinish_positions, collectWallet, if_pos rfl, F.cx,
      walletVal_credit2 _ _ _ _ _ F.tokens]
    rw [F.cx] at hval
    split
    · -- the dry position is deleted: it was worth nothing
      rename_i hdry
      have hz := posValue_of_isDry F hdry
      rw [hval] at hz
      rw [sumAll_erasePos_mapPos _ hu _ hu.hasKey]
      simp only [htr, Bool.false_eq_true, if_false]
      linarith
    · rw [sumAll_mapPos _ hu]
      show _ + (_ - (if p0.transferred then 0 else _) + (if p0.transferred then 0 else _)) = _
      rw [htr, if_neg Bool.false_ne_true, if_neg Bool.false_ne_true, hval]
      ring

/-- **Adding liquidity conserves value up to the wallet's dust.** An accepted `_add_liquidity_by_tick` at the market
    price (new position, or more liquidity for an existing one that is not lent out) changes the net value by
    exactly the dust the two wallet debits snapped: `ε0`, `ε1` are each 0 or smaller than `1e-5` of the balance they
    touch. The position is worth what it cost, valued at the sqrt price it was sized with. -/
theorem C03_uni_add_conserves {K : Kern} {pool : Pool} {row : Row} {sqrt : Nat} {A : Int → Int → Int → Rat × Rat}
    (F : Frozen K pool row sqrt A) (s : State) (hrow : s.row = some row) (hneg : s.allowNeg = false) (a0 a1 : Rat) (lo up : Int)
    (hpos : findPos s.positions lo up = none ∨ ∃ p0, UniqueKey s.positions lo up p0 ∧ p0.transferred = false)
    (v : Int × Int × Rat × Rat × Int) (s' : State) (h : addRaw K pool s a0 a1 lo up none = (.ok v, s')) :
    ∃ e0 e1 : Rat, netVal pool row A s' = netVal pool row A s + tokVal pool row.price e0 e1 ∧
      (e0 = 0 ∨ |e0| < assetDust * |if bal s.wallet pool.tok0 ≠ 0 then bal s.wallet pool.tok0 else v.2.2.1|) ∧
      (e1 = 0 ∨ |e1| < assetDust * |if bal s.wallet pool.tok1 ≠ 0 then bal s.wallet pool.tok1 else v.2.2.2.1|) := by
  obtain ⟨lo', up', u0, u1, liq⟩ := v
  obtain ⟨sq, ent, w2, ok, rfl⟩ := addRaw_accepted h
  have hsq := ok.resolved
  have hd := ok.debit
  rw [resolveSqrt_frozen F hrow] at hsq
  injection hsq with hsq; subst hsq
  rw [F.cx, hneg] at hd
  obtain ⟨e0, e1, hw, hb0, hb1⟩ := debit2_value pool row.price s.wallet w2 u0 u1 F.tokens hd
  refine ⟨e0, e1, ?_, hb0, hb1⟩
  -- the position is worth what it cost: `A lo up liq = (u0, u1)`
  have hp := sumAll_addToPositions
    (fun p => if p.transferred then 0 else posValue pool row.price (fun p => A p.lower p.upper p.liq) p)
    (tokVal pool row.price (A lo up liq).1 (A lo up liq).2) ok.entity
    (fun p0 hf => by
      rcases hpos with hnone | ⟨q, hu, htr⟩
      · rw [hnone] at hf; cases hf
      · rw [findPos_unique hu] at hf
        injection hf with hf; subst hf
        refine ⟨hu, ?_⟩
        simp only [htr, Bool.false_eq_true, if_false]
        exact posValue_addLiq F hu.hasKey liq)
    (fun _ _ _ => (if_neg Bool.false_ne_true).trans (posValue_mkPos _ _ _ _ _ _ _))
  unfold netVal
  simp only [markUpdate, sumOver_eq, hw, hp, F.newPos lo up a0 a1 u0 u1 liq ok.newPos]
  ring

end Demeter

namespace Demeter.Uni
open Demeter

/-- a kernel with linear amounts that depend on the sqrt price: at sqrt price `s` one unit of liquidity holds
    `(s, 10 - s)` of the two tokens -/
def linKern : Kern :=
  { cx := NumCtx.exact
    priceToSqrt := fun _ _ => .ok 5
    sqrtToPrice := fun _ _ => .ok 1
    tickToPrice := fun _ _ => .ok 1
    newPos := fun _ s _ _ a0 _ => .ok (((a0 / (s : Rat)).floor * (s : Rat)), ((a0 / (s : Rat)).floor * (10 - (s : Rat))), (a0 / (s : Rat)).floor)
    amounts := fun _ s _ _ l _ => .ok ((l : Rat) * (s : Rat), (l : Rat) * (10 - (s : Rat)))
    tickToSqrt := fun _ => .ok 5 }

def linPool : Pool :=
  { tok0 := "a", tok1 := "b", d0 := 6, d1 := 18, feeRate := 3 / 1000, spacing := 10, q0 := true, decFac := 1 }

def linState : State :=
  { positions := [{ (default : Pos) with lower := 0, upper := 10, liq := 7 }], lastTick := none,
    row := some { closeTick := 0, curLiq := 1000, in0 := 0, in1 := 0, price := 2 }, ts := none, isOpen := true,
    hasUpdate := false, wallet := [("a", 10), ("b", 1)], allowNeg := false, actions := [] }

def linRow : Row := { closeTick := 0, curLiq := 1000, in0 := 0, in1 := 0, price := 2 }

theorem linKern_frozen : Frozen linKern linPool linRow 5 (fun _ _ l => ((l : Rat) * 5, (l : Rat) * 5)) :=
  { cx := rfl
    sqrt_ok := rfl
    amounts := by
      intro lo up l d r h
      simp only [linKern] at h
      injection h with h; rw [← h]; norm_num
    additive := by intro lo up l1 l2; simp only [Int.cast_add]; ext <;> simp <;> ring
    newPos := by
      intro lo up a0 a1 u0 u1 L h
      simp only [linKern] at h
      injection h with h
      injection h with h0 h
      injection h with h1 h2
      rw [← h0, ← h1, ← h2]; norm_num
    tokens := by decide }

end Demeter.Uni

namespace Demeter
open Demeter.Uni

/-- the hypotheses of the three conservation theorems are satisfiable: a frozen market with a non-trivial
    (sqrt-price dependent, linear) kernel and a state with one position of liquidity 7 -/
example : ∃ (s : State) (p0 : Pos), Frozen linKern linPool linRow 5 (fun _ _ l => ((l : Rat) * 5, (l : Rat) * 5)) ∧
    s.row = some linRow ∧ UniqueKey s.positions 0 10 p0 ∧ p0.transferred = false ∧ s.allowNeg = false :=
  ⟨linState, { (default : Pos) with lower := 0, upper := 10, liq := 7 }, linKern_frozen, rfl,
   ⟨[], [], rfl, (fun _ h => by cases h), (fun _ h => by cases h), rfl⟩, rfl, rfl⟩

/-- **Known finding (caller-chosen pool price).** `remove_liquidity(..., sqrt_price_x96 = X)` computes what it pays
    into the position's uncollected amounts at the caller's `X`, while the position was (and the rest is) valued at
    the market's sqrt price: with the kernel above, market sqrt price 5 and `X = 1`, removing liquidity 7 of a
    position raises the net value from 117 (position 105 + wallet 12) to 145 (uncollected amounts worth 133 + wallet 12). The property excludes only *swaps* with a caller-chosen price,
    so `C03_uni_remove_conserves` is the partial statement (`sqrt? = none`) and this is its failing complement. -/
theorem C03_uni_fails_remove_chosen_price :
    ∃ (s s' : State) (v : List Rat),
      removeNoCollect linKern linPool s 0 10 none (some 1) = (.ok v, s') ∧
      netVal linPool linRow (fun _ _ l => ((l : Rat) * 5, (l : Rat) * 5)) s <
        netVal linPool linRow (fun _ _ l => ((l : Rat) * 5, (l : Rat) * 5)) s' := by
  refine ⟨linState, _, _, rfl, ?_⟩
  decide +kernel

end Demeter
