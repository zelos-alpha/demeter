/-
  C05 — "… then on-bar, then the market update …": the update of a bar runs on a market status that contains the strategy's own writes
  of that bar.

  A concrete market keeps the status it was last refreshed with (`UniLpMarket.set_market_status` re-reads the pool row and adds the
  strategy's own liquidity to it; `write_func` operations set `has_update`).  What `update()` computes (fee share own/(pool+own), C08) is
  right only if every accepted write of the bar is followed by a refresh of THAT market before its `update()`.  The theorems below say
  so for the bar loop of Demeter/Actuator.lean, for every number of markets and every position of the written market in the broker —
  an early `return` at the first market without pending writes (instead of skipping it) falsifies them.
-/
import Proofs.Lemmas.CoreRefresh
import Proofs.Fixtures.Core
namespace Demeter
open Core

/-- **C05 — a market written to in a bar is refreshed again before the market update of that bar.**  The trace of one iteration of the
    loop, from every state, splits into `early ++ second refresh ++ late` with phases ≤ 9, = 10, ≥ 11; for every market `m` of the broker,
    whatever its position: the second refresh contains a `set_market_status` of `m` if and only if `early` contains an accepted
    `write_func` operation on `m`; and `late` contains the `update()` of `m`.  So every accepted write of `before_bar`, a trigger action, an
    open callback or `on_bar` is followed — after all writes of the bar's head, before `update()` — by a refresh of the market it went to. -/
theorem C05_written_market_refreshed_before_update (cfg : Cfg) (sc : Script) (row : Nat) (ts : Int) (st : St) (price : Option Int) :
    let p := barParts cfg sc row ts st price
    p.trace row ts = p.early row ts ++ p.s2.1 ++ p.late row ts ∧
    (∀ e ∈ p.early row ts, e.phase ≤ 9) ∧ (∀ e ∈ p.s2.1, e.phase = 10) ∧ (∀ e ∈ p.late row ts, 11 ≤ e.phase) ∧
    (∀ m, m < cfg.markets.length → ((ts, m) ∈ p.s2.1.filterMap set2Of ↔ (p.early row ts).any (okOn m) = true)) ∧
    (∀ m, m < cfg.markets.length → (ts, m) ∈ (p.late row ts).filterMap updateOf) := by
  intro p
  have pe : ∀ e ∈ (barParts cfg sc row ts st price).early row ts, e.phase ≤ 9 := fun e he => by
    rw [← BarParts.filter_early (barParts_segs_at cfg sc row ts st price)] at he
    exact of_decide_eq_true (List.mem_filter.mp he).2
  have pl : ∀ e ∈ (barParts cfg sc row ts st price).late row ts, 11 ≤ e.phase := fun e he => by
    rw [← BarParts.filter_late (barParts_segs_at cfg sc row ts st price)] at he
    exact of_decide_eq_true (List.mem_filter.mp he).2
  refine ⟨BarParts.trace_eq _ _ _, pe,
    fun e he => (setUpdatedFrom_at cfg ts 0 _ _ e he).2, pl, ?_, ?_⟩
  · intro m hm
    rw [barParts_second_refresh]
    simp only [List.mem_map, List.mem_filter, List.mem_range, Prod.mk.injEq, true_and]
    constructor
    · rintro ⟨k, ⟨_, hk⟩, rfl⟩
      exact hk
    · intro h
      exact ⟨m, ⟨hm, h⟩, rfl⟩
  · intro m hm
    have hu : (barParts cfg sc row ts st price).u.1.filterMap updateOf = _ := runUpdFrom_updates sc ts row 0 cfg.markets _
    rw [BarParts.late, List.filterMap_append, List.filterMap_append, hu, ← List.range_eq_range']
    exact List.mem_append_left _ (List.mem_append_left _ (List.mem_map.mpr ⟨m, List.mem_range.mpr hm, rfl⟩))

/-! A concrete market status: what `update()` sees.

  `own` = the strategy's liquidity in the market, `seen` = the own liquidity contained in the status row the market holds (the row is
  rebuilt as pool + own by every `set_market_status`).  `update()` computes the fee share from the row: it is right iff `seen = own`. -/

structure Core.LpView where
  own : Nat
  seen : Nat
  stale : List Int      -- timestamps of `update()` calls that ran on a row not containing all of `own`
deriving Repr, DecidableEq

/-- `amt` = the liquidity an accepted operation with a given label adds -/
def Core.lpStep (m : Nat) (amt : String → Nat) (v : LpView) : Ev → LpView
  | .set _ m' _ _ _ => if m' = m then { v with seen := v.own } else v
  | .opOk _ _ m' tag => if m' = m then { v with own := v.own + amt tag } else v
  | .update ts m' => if m' = m ∧ v.seen ≠ v.own then { v with stale := v.stale ++ [ts] } else v
  | _ => v

def Core.lpRun (m : Nat) (amt : String → Nat) (v : LpView) (l : List Ev) : LpView := l.foldl (lpStep m amt) v

/-- non-vacuity and the defect the theorem excludes, on the run of `Core.exCfg` (market 1 is the hourly one, written to at 09:00 by a
    trigger action and by `on_bar`): the faithful trace never updates on a stale row; the same trace with the second refresh of market 1
    removed (what an early `return` at market 0, which has no pending write, produces) does -/
example : (lpRun 1 (fun _ => 5) ⟨0, 0, []⟩ (run Core.exCfg (install [("", .atTime 32400)]) Core.exScript).trace).stale = [] := by decide +kernel

example : (lpRun 1 (fun _ => 5) ⟨0, 0, []⟩
    ((run Core.exCfg (install [("", .atTime 32400)]) Core.exScript).trace.filter (fun e => (set2Of e).isNone))).stale = [32400] := by decide +kernel

end Demeter
