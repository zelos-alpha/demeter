/-
  C05 — hooks that raise, hooks that trade from inside `notify()`, hooks that change `strategy.triggers`.

  Model: Demeter/Actuator/Hooks.lean (`runG`): the bar loop of demeter/core/actuator.py for scripted strategies whose hooks — `initialize`,
  `before_bar`, a trigger's `do`, a market's `open` callback, `on_bar`, `after_bar`, `notify` — run a list of statements: issue an operation,
  append a trigger to `strategy.triggers`, remove one, raise.  `run` (Demeter/Actuator.lean, the subject of Proofs/C05.lean) is the same loop
  for hooks that only issue operations; the first theorem says so, and with it every theorem of Proofs/C05.lean is a theorem about `runG` on
  such scripts.  The other theorems hold for every script.

  What the property demands of a failing run is not said in its text ("a run visits each bar … exactly once"); what is proved here is what
  the code does: the calls made, the action list and the account history of a run that a hook ended with an exception are a PREFIX of those of
  the same strategy without the raise, nothing is recorded twice or out of order, and the next `run()` starts from scratch.
-/
import Proofs.Lemmas.CoreHooksTrigs
import Proofs.Lemmas.CoreHooksCut
import Proofs.Fixtures.Core
namespace Demeter
open Core

/-- **the general model extends the basic one**: on a script whose hooks only issue operations (from every hook, `notify` included) `runG` is
    `run` — call trace, account rows, action list, triggers left, outcome -/
theorem C05_general_run_of_plain_script_is_run (cfg : Cfg) (trigs : List Trig) (sc : Script) :
    runG cfg trigs (ofScript sc) = run cfg trigs sc := runG_plain cfg trigs sc

/-- **C05 — what a run leaves behind, however it ends.**  For every configuration, trigger list and scripted strategy — hooks that trade (also
    from inside `notify`), install and remove triggers, raise — and whether `run()` returns or raises:
    `Actuator.actions` is, in order, exactly what the call trace shows as recorded; the account history is, in order, exactly the rows the
    trace shows as appended; the actions handed to `Strategy.notify` are — in order, once each — an initial stretch of `Actuator.actions`, and
    all of it if the run ended normally.  No action is delivered twice, none out of order, none that was not recorded. -/
theorem C05_hook_raises_books_of_any_run (cfg : Cfg) (trigs : List Trig) (g : GScript) :
    (runG cfg trigs g).actions = recOf (runG cfg trigs g).trace ∧
    (runG cfg trigs g).rows = (runG cfg trigs g).trace.filterMap rowOf ∧
    (runG cfg trigs g).trace.filterMap notifyAct <+: (runG cfg trigs g).actions ∧
    ((runG cfg trigs g).err = none → (runG cfg trigs g).trace.filterMap notifyAct = (runG cfg trigs g).actions) :=
  runG_books cfg trigs g

/-- **C05 — prefix.**  Let `g'` be `g` with hook bodies cut short by a `raise` (`GCut`: any hooks, any bars, any positions inside the bodies, any
    exception classes).  Then the run of `g'` is the run of `g` (no cut was reached), or it ends in an exception `e` and
      * the calls it made are an initial stretch of the calls of the run of `g`,
      * its account history is an initial stretch of that run's account history,
      * its action list is an initial stretch of that run's action list:
    everything recorded up to the failing statement is what the run without the raise records, in the same order, and nothing else is. -/
theorem C05_hook_raises_prefix_of_full_run (cfg : Cfg) (trigs : List Trig) (g' g : GScript) (hg : GCut g' g) :
    runG cfg trigs g' = runG cfg trigs g ∨
    ∃ e p, (runG cfg trigs g').err = some e ∧ (runG cfg trigs g').trace = p ++ [.raised e] ∧ p <+: (runG cfg trigs g).trace ∧
      (runG cfg trigs g').rows <+: (runG cfg trigs g).rows ∧ (runG cfg trigs g').actions <+: (runG cfg trigs g).actions := by
  -- the statement about the traces first; rows and actions follow from the books
  have key : runG cfg trigs g' = runG cfg trigs g ∨
      ∃ e p, (runG cfg trigs g').err = some e ∧ (runG cfg trigs g').trace = p ++ [.raised e] ∧ p <+: (runG cfg trigs g).trace := by
    rcases runG_cases cfg trigs with ⟨e, he⟩ | ⟨ts0, bars, _, hr⟩
    · exact Or.inl (by rw [he g', he g])
    · rw [hr g', hr g]
      rcases runCore_cut cfg trigs g' g hg ts0 bars with heq | ⟨hne, hpre⟩
      · exact Or.inl (by rw [heq])
      · cases hce : (runCore cfg trigs g' ts0 bars).1.2.2 with
        | none => exact absurd hce hne
        | some e =>
          refine Or.inr ⟨_, (runCore cfg trigs g' ts0 bars).1.1, by unfold finishG; rw [hce], by unfold finishG; rw [hce], ?_⟩
          refine hpre.trans ?_
          unfold finishG
          cases (runCore cfg trigs g ts0 bars).1.2.2 <;> exact List.prefix_append _ _
  rcases key with h | ⟨e, p, h1, h2, h3⟩
  · exact Or.inl h
  · refine Or.inr ⟨e, p, h1, h2, h3, ?_, ?_⟩
    · rw [(C05_hook_raises_books_of_any_run cfg trigs g').2.1, (C05_hook_raises_books_of_any_run cfg trigs g).2.1, h2]
      rw [filterMap_concat_none (f := rowOf) rfl]
      exact List.IsPrefix.filterMap _ h3
    · rw [(C05_hook_raises_books_of_any_run cfg trigs g').1, (C05_hook_raises_books_of_any_run cfg trigs g).1, h2]
      rw [recOf, filterMap_concat_none (f := recordedAct) rfl]
      exact List.IsPrefix.filterMap _ h3

theorem core_runStmts_cut_if (ts : Int) (h : Hook) (e : PyErr) (j : Nat) (body : List HStmt) (st : St) (c : Prop) [Decidable c] :
    Cut (runStmts ts h (if c then cutBody j e body else body) st) (runStmts ts h body st) := by
  split
  · exact runStmts_cut ts h e j body st
  · exact Cut.refl _

theorem core_raiseIn_cut (b : BarScript) (h : Hook) (tag : String) (j : Nat) (e : PyErr) : BarCut (b.raiseIn h tag j e) b := by
  cases h with
  | init => exact BarCut.refl b
  | before => exact { BarCut.refl b with before := fun ts st => runStmts_cut ts _ e j _ st }
  | fire id => exact { BarCut.refl b with fire := fun ts i st => core_runStmts_cut_if ts _ e j _ st (i = id) }
  | openCb m => exact { BarCut.refl b with openCb := fun ts i st => core_runStmts_cut_if ts _ e j _ st (i = m) }
  | on => exact { BarCut.refl b with on := fun ts st => runStmts_cut ts _ e j _ st }
  | after => exact { BarCut.refl b with after := fun ts st => runStmts_cut ts _ e j _ st }
  | notify => exact { BarCut.refl b with notify := fun ts t st => core_runStmts_cut_if ts _ e j _ st (t = tag) }

theorem core_raiseAt_cut (g : GScript) (row : Nat) (h : Hook) (tag : String) (j : Nat) (e : PyErr) : GCut (g.raiseAt row h tag j e) g := by
  have hbar : ∀ h', GCut { g with bar := fun r => if r = row then (g.bar r).raiseIn h' tag j e else g.bar r } g := by
    intro h'
    refine ⟨fun _ _ => Cut.refl _, fun r => ?_, rfl, rfl⟩
    show BarCut (if r = row then (g.bar r).raiseIn h' tag j e else g.bar r) (g.bar r)
    split
    · exact core_raiseIn_cut _ _ _ _ _
    · exact BarCut.refl _
  cases h with
  | init => exact ⟨fun ts st => runStmts_cut ts _ e j _ st, fun r => BarCut.refl _, rfl, rfl⟩
  | _ => exact hbar _

/-- **C05 — a hook raises at bar `k`** (`on_bar`, `before_bar`, `after_bar`, the `do` of trigger `id`, a market's `open` callback, `notify`
    answering the delivery of the action labelled `tag`, or `initialize`), after `j` statements of its body, with exception `e`: the run is the run
    without the raise (the hook is not called on that bar: the trigger is not due, the market closed, the action never delivered, or the run
    ends earlier for a reason of its own) or it ends in an exception and calls, account history and action list are initial stretches of the run
    without the raise -/
theorem C05_hook_raises_prefix_single_raise (cfg : Cfg) (trigs : List Trig) (g : GScript) (k : Nat) (h : Hook) (tag : String) (j : Nat)
    (e : PyErr) :
    runG cfg trigs (g.raiseAt k h tag j e) = runG cfg trigs g ∨
    ∃ e' p, (runG cfg trigs (g.raiseAt k h tag j e)).err = some e' ∧ (runG cfg trigs (g.raiseAt k h tag j e)).trace = p ++ [.raised e'] ∧
      p <+: (runG cfg trigs g).trace ∧
      (runG cfg trigs (g.raiseAt k h tag j e)).rows <+: (runG cfg trigs g).rows ∧
      (runG cfg trigs (g.raiseAt k h tag j e)).actions <+: (runG cfg trigs g).actions :=
  C05_hook_raises_prefix_of_full_run cfg trigs _ g (core_raiseAt_cut g k h tag j e)

/-- the source wraps the bar loop in `except RuntimeError` whose handler builds the account frame before re-raising, and `DemeterError`
    derives from `RuntimeError` (generated from demeter/core/actuator.py and demeter/_typing.py) -/
theorem C05_hook_raises_handler_in_source :
    Gen.coreRuntimeErrorHandlerBuildsFrame = true ∧ Gen.coreDemeterErrorIsRuntimeError = true := ⟨rfl, rfl⟩

/-- **what leaves `run()`** when `e` comes out of the bar loop: `e` itself — unless it is a `RuntimeError` (a `DemeterError`, e.g. the uncaught
    refusal of an operation) and no account row exists yet (the first bar), then pandas' `IndexError` from the handler's
    `_generate_account_status_df()` replaces it -/
theorem C05_hook_raises_exception_class (rows : List (Int × Option Int)) (e : PyErr) :
    loopExit rows e = if e.isRuntime = true ∧ rows = [] then PyErr.indexError else e := by
  unfold loopExit
  rw [C05_hook_raises_handler_in_source.1]
  cases e <;> cases rows <;> simp [PyErr.isRuntime, C05_hook_raises_handler_in_source.2]

/-- **C05 — a second `run()` after a failed one.**  `Actuator.run` hands `strategy.triggers` back as it found it (`finally`), `reset()` empties the
    action list and the account history, the first refresh sets every market's flags, the triggers are reset: whatever the first run's hooks did
    — traded, installed NEW trigger objects, removed triggers, raised — and however it ended, the second run (any script `g₂`) is the run of a
    fresh Actuator on the same strategy: same calls, account history, actions, outcome. -/
theorem C05_hook_raises_next_run_starts_clean (cfg : Cfg) (trigs : List Trig) (g₁ g₂ : GScript)
    (hn : (trigs.map (·.id)).Nodup) (hfresh : g₁.Fresh (trigs.map (·.id))) :
    actuatorRunG cfg (trigsAfterRunG cfg trigs g₁) g₂ = actuatorRunG cfg trigs g₂ := by
  unfold actuatorRunG
  rw [startTrigs_eq, startTrigs_eq, trigsAfterRunG_reset cfg trigs g₁ hn hfresh]

/-- every call of a bar carries the bar's timestamp (any script, any state, any outcome) -/
theorem C05_notify_ops_stamped_with_their_bar (cfg : Cfg) (b : BarScript) (fuel tfuel row : Nat) (ts : Int) (st : St) :
    (∀ e ∈ (barStepG cfg b fuel tfuel row ts st).1, e.ts = some ts) ∧
    (∀ e ∈ (barStepG cfg b fuel tfuel row ts st).1, ∀ a, recordedAct e = some a → a.stamp = ts) := by
  have h := barStepG_ts cfg b fuel tfuel row ts st
  refine ⟨h, fun e he a ha => ?_⟩
  have h1 := recordedAct_stamp ha
  have h2 := h e he
  rw [h1] at h2
  exact (Option.some.inj h2)

/-- **C05 — an operation accepted inside `notify()`** (any bar, any state the bar starts in): the `notify` loop runs over the live list of the
    bar's actions, so the action such an operation records is appended to `Actuator.actions` (stamped with the bar, previous theorem), and — the
    loop having come to an end — is delivered later in the SAME loop: the deliveries of the bar are exactly the bar's pending actions followed by
    everything recorded while the loop ran, once each, in order; the account row of the bar was appended before the first delivery and is not
    touched.  If the hook raises in the middle, the deliveries made are an initial stretch of that list. -/
theorem C05_notify_ops_delivered_in_the_same_bar (b : BarScript) (fuel : Nat) (ts : Int) (price : Option Int) (st : St) :
    (barTailG b fuel ts price st).2.1.all = st.all ++ recOf (barTailG b fuel ts price st).1 ∧
    (barTailG b fuel ts price st).2.1.rows = st.rows ++ [(ts, price)] ∧
    (barTailG b fuel ts price st).1.filterMap notifyAct <+: st.cur ++ recOf (barTailG b fuel ts price st).1 ∧
    ((barTailG b fuel ts price st).2.2 = none →
      (barTailG b fuel ts price st).1.filterMap notifyAct = st.cur ++ recOf (barTailG b fuel ts price st).1) := by
  obtain ⟨t1, t2, t3, _, d1, d2⟩ := barTailG_books b fuel ts price st
  exact ⟨t1, by rw [t2, t3], d1, d2⟩

/-- **C05 — every delivery happens in the bar its action is stamped with**, for every script (hooks that trade from `notify`, change the trigger
    list, raise) and every outcome: a `notify` call made at bar `t` hands over an action stamped `t` — the action was recorded in this very bar
    (for the first bar: or by `initialize()`, which runs under the first bar's timestamp) -/
theorem C05_notify_ops_every_delivery_in_its_own_bar (cfg : Cfg) (trigs : List Trig) (g : GScript) :
    ∀ e ∈ (runG cfg trigs g).trace, NotifyOnTime e :=
  runG_onTime cfg trigs g

/-- the full run: four account rows, six actions, every one delivered; the trigger 1 is passed over on bar 1 (trigger 0 removed itself in front of
    it), trigger 7 fires on the bar it is installed on -/
example : (runG Core.exCfg Core.exTrigs Core.exG).err = none ∧
    (runG Core.exCfg Core.exTrigs Core.exG).rows.map (·.1) = [32280, 32340, 32400, 32460] ∧
    (runG Core.exCfg Core.exTrigs Core.exG).actions.map (·.tag) = ["i", "o0", "o1", "o2", "n2", "o3"] ∧
    (runG Core.exCfg Core.exTrigs Core.exG).trace.filterMap fireOfEv =
      [⟨32280, 0, ""⟩, ⟨32280, 1, ""⟩, ⟨32340, 0, ""⟩, ⟨32400, 1, ""⟩, ⟨32400, 7, ""⟩, ⟨32460, 1, ""⟩, ⟨32460, 7, ""⟩] := by decide +kernel

/-- `on_bar` raises on bar 2 after its trade: two account rows (the bars before), the trade of bar 2 is in the action list and never delivered -/
example : (runG Core.exCfg Core.exTrigs (Core.exG.raiseAt 2 .on "" 1 .hookError)).err = some .hookError ∧
    (runG Core.exCfg Core.exTrigs (Core.exG.raiseAt 2 .on "" 1 .hookError)).rows.map (·.1) = [32280, 32340] ∧
    (runG Core.exCfg Core.exTrigs (Core.exG.raiseAt 2 .on "" 1 .hookError)).actions.map (·.tag) = ["i", "o0", "o1", "o2"] ∧
    (runG Core.exCfg Core.exTrigs (Core.exG.raiseAt 2 .on "" 1 .hookError)).trace.filterMap notifyAct =
      [⟨"i", 32280, 0⟩, ⟨"o0", 32280, 0⟩, ⟨"o1", 32340, 0⟩] := by decide +kernel

/-- `notify` raises while answering the delivery of `o2`, after its own trade: the row of bar 2 is there (appended before the deliveries) -/
example : (runG Core.exCfg Core.exTrigs (Core.exG.raiseAt 2 .notify "o2" 1 .hookRuntimeError)).err = some .hookRuntimeError ∧
    (runG Core.exCfg Core.exTrigs (Core.exG.raiseAt 2 .notify "o2" 1 .hookRuntimeError)).rows.map (·.1) = [32280, 32340, 32400] ∧
    (runG Core.exCfg Core.exTrigs (Core.exG.raiseAt 2 .notify "o2" 1 .hookRuntimeError)).actions.map (·.tag) = ["i", "o0", "o1", "o2", "n2"] := by
  decide +kernel

/-- an uncaught `DemeterError` on the first bar leaves `run()` as `IndexError`; on a later bar, or another class on the first bar, as itself -/
example : (runG Core.exCfg Core.exTrigs (Core.exG.raiseAt 0 .before "" 0 .demeterError)).err = some .indexError ∧
    (runG Core.exCfg Core.exTrigs (Core.exG.raiseAt 1 .before "" 0 .demeterError)).err = some .demeterError ∧
    (runG Core.exCfg Core.exTrigs (Core.exG.raiseAt 0 .before "" 0 .hookError)).err = some .hookError ∧
    (runG Core.exCfg Core.exTrigs (Core.exG.raiseAt 0 .init "" 0 .demeterError)).err = some .demeterError := by decide +kernel

/-- the action of trigger 0 raises on bar 1 (after removing the trigger): one row; and the next run of the same Actuator is the full run -/
example : (runG Core.exCfg Core.exTrigs (Core.exG.raiseAt 1 (.fire 0) "" 1 .hookError)).rows.map (·.1) = [32280] ∧
    (actuatorRunG Core.exCfg (trigsAfterRunG Core.exCfg Core.exTrigs (Core.exG.raiseAt 1 (.fire 0) "" 1 .hookError)) Core.exG).rows =
      (actuatorRunG Core.exCfg Core.exTrigs Core.exG).rows ∧
    Core.exG.Fresh (Core.exTrigs.map (·.id)) := by
  refine ⟨by decide +kernel, by decide +kernel, ?_⟩
  refine ⟨by intro s hs; simp [Core.exG] at hs; subst hs; trivial,
    fun row => ⟨by simp [Core.exG], fun i s hs => ?_, by simp [Core.exG], by simp [Core.exG, HStmt.fresh], by simp [Core.exG],
    fun t s hs => ?_⟩⟩
  · simp only [Core.exG] at hs
    split at hs
    · simp at hs; subst hs; trivial
    · split at hs
      · simp at hs; subst hs
        show (7 : Nat) ∉ Core.exTrigs.map (·.id)
        decide
      · simp at hs
  · simp only [Core.exG] at hs
    split at hs
    · simp at hs; subst hs; trivial
    · simp at hs

end Demeter
