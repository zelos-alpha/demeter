/-
  C05 — markets that cannot be closed (`MarketCfg.strict`).

  `run` / `runG` treat a market whose frame has no row for a bar as CLOSED on that bar (`setEv … isOpen = false, src = none`) and go on.  That is
  what the code does for a `DeribitOptionMarket` only.  `UniLpMarket`, `AaveV3Market`, `SqueethMarket`, `GmxMarket`, `GmxV2Market` look the row up
  unguarded and raise `KeyError` (flags `Gen.coreStrictStatus…`, read from the six `set_market_status` bodies by tools/consts_core.py and compared
  with the behaviour of the real objects by harness/c05.py on every run).  Model: Demeter/Actuator/Strict.lean (`runStrict`).

  So the theorems of Proofs/C05*.lean about `runG` are theorems about the code under the guard the code has: every strict market has a row on
  every bar (`strictFails cfg ts = false` on the bar index) — then `runStrict = runG`; without the guard the run raises, which is proved too.
-/
import Proofs.Fixtures.Core
import Demeter.Actuator.Strict
namespace Demeter
open Core

/-- which classes are strict, as read from the source: all but the option market -/
theorem C05_strict_classes_in_source :
    MarketClass.uni.strict = true ∧ MarketClass.aave.strict = true ∧ MarketClass.squeeth.strict = true ∧ MarketClass.gmx.strict = true ∧
    MarketClass.gmxV2.strict = true ∧ MarketClass.deribit.strict = false := by decide

theorem core_split_none_iff (cfg : Cfg) : ∀ bars : List Int, (splitAtStrictFail cfg bars).2 = none ↔ ∀ ts ∈ bars, strictFails cfg ts = false
  | [] => by simp [splitAtStrictFail]
  | ts :: bars => by
    unfold splitAtStrictFail
    cases hf : strictFails cfg ts with
    | true => simp [hf]
    | false => simp [hf, core_split_none_iff cfg bars]

/-- **C05 — under the guard the code has, the strict loop is the loop of Proofs/C05*.lean.**  If every market whose `set_market_status` raises on
    a missing row has a row on every bar of the run, then `runStrict` is `runG`: call trace, account rows, action list, triggers left, outcome —
    for every trigger list and scripted strategy. -/
theorem C05_strict_run_is_runG_when_rows_exist (cfg : Cfg) (trigs : List Trig) (g : GScript)
    (hrows : ∀ ts ∈ barIndex cfg, strictFails cfg ts = false) : runStrict cfg trigs g = runG cfg trigs g := by
  unfold runStrict
  cases hcb : checkBacktest cfg with
  | some e => unfold runG; rw [hcb]
  | none =>
    cases hb : barIndex cfg with
    | nil => unfold runG; rw [hcb]; simp only [hb]
    | cons ts0 bars =>
      rw [hb] at hrows
      cases hp : priceAt cfg ts0 with
      | none => simp only [hp]; unfold runG; rw [hcb]; simp only [hb, hp]
      | some pr =>
        simp only [hp, hrows ts0 (List.mem_cons_self ..), Bool.false_eq_true, if_false]
        have hn := (core_split_none_iff cfg bars).mpr (fun t ht => hrows t (List.mem_cons_of_mem _ ht))
        cases hs : splitAtStrictFail cfg bars with
        | mk good o =>
          rw [hs] at hn
          subst hn
          rfl

/-- a configuration without strict markets (option markets, the probe markets of the harness): nothing to guard -/
theorem C05_strict_run_is_runG_without_strict_markets (cfg : Cfg) (trigs : List Trig) (g : GScript)
    (h : ∀ mc ∈ cfg.markets, mc.strict = false) : runStrict cfg trigs g = runG cfg trigs g := by
  refine C05_strict_run_is_runG_when_rows_exist cfg trigs g (fun ts _ => ?_)
  unfold strictFails
  rw [List.any_eq_false]
  intro mc hmc
  simp [h mc hmc]

/-- **C05 — without the guard the run raises.**  If on some bar of the run a strict market has no row, `run()` does not return normally: it
    ends in an exception (`err ≠ none`; which exception, and which account rows exist by then, is not stated). -/
theorem C05_strict_market_without_row_ends_the_run (cfg : Cfg) (trigs : List Trig) (g : GScript)
    (hbad : ∃ ts ∈ barIndex cfg, strictFails cfg ts = true) : (runStrict cfg trigs g).err ≠ none := by
  -- a run that returns normally went through the one branch of `runStrict` that is `runG`: the one in which no bar fails
  intro hnone
  obtain ⟨t, ht, htf⟩ := hbad
  unfold runStrict at hnone
  split at hnone; · cases hnone
  split at hnone; · cases hnone
  rename_i ts0 bars hb
  split at hnone; · cases hnone
  split at hnone; · cases hnone
  rename_i h0
  split at hnone
  · rename_i hs
    rw [hb] at ht
    rcases List.mem_cons.mp ht with rfl | h'
    · exact h0 htf
    · rw [(core_split_none_iff cfg bars).mp (by rw [hs]) t h'] at htf
      cases htf
  · dsimp only at hnone
    split at hnone; · cases hnone
    split at hnone <;> cases hnone

/-- a strict refresh in which no market raised (second component `false`) leaves the trace of the plain refresh `setAllFrom` -/
theorem C05_strict_refresh_stops_at_the_failing_market (cfg : Cfg) (ts : Int) (stage : Nat) : ∀ (i : Nat) (ms : List MarketCfg),
    (setAllStrictFrom cfg ts stage i ms).2 = false → (setAllStrictFrom cfg ts stage i ms).1 = (setAllFrom cfg ts stage i ms).1
  | _, [], _ => rfl
  | i, mc :: rest, h => by
    unfold setAllStrictFrom at h ⊢
    split at h
    · cases h
    · rename_i hc
      simp only [hc, Bool.false_eq_true, if_false, setAllFrom]
      rw [C05_strict_refresh_stops_at_the_failing_market cfg ts stage (i + 1) rest h]

def Core.exCfgStrict : Cfg :=
  { Core.exCfg with markets := [{ idx := [32280, 32340, 32400, 32460], openCb := true }, { idx := [32400], openCb := false, strict := true }] }

/-- **witness**: with an hourly market of a strict class next to a minutely one, the code raises `KeyError` from the very first refresh (08:58 has
    no hourly row) after refreshing the first market — while the loop that treats the market as closed runs all four bars -/
theorem C05_fails_strict_market_is_not_merely_closed :
    (runStrict Core.exCfgStrict Core.exTrigs Core.exG).err = some .keyError ∧
    (runStrict Core.exCfgStrict Core.exTrigs Core.exG).trace = [.set 32280 0 0 true (some 32280), .raised .keyError] ∧
    (runG Core.exCfgStrict Core.exTrigs Core.exG).err = none ∧
    (runG Core.exCfgStrict Core.exTrigs Core.exG).rows.length = 4 := by decide +kernel

/-- non-vacuity of the guard: the minutely market strict, the hourly one tolerant — every bar has its row, the run is the run of `runG` -/
example : (∀ ts ∈ barIndex { Core.exCfg with markets := [{ idx := [32280, 32340, 32400, 32460], openCb := true, strict := true }, { idx := [32400], openCb := false }] },
    strictFails { Core.exCfg with markets := [{ idx := [32280, 32340, 32400, 32460], openCb := true, strict := true }, { idx := [32400], openCb := false }] } ts = false) := by
  decide

/-- a strict market that loses its row on a later bar (09:00 missing): two account rows, then `KeyError` -/
example : (runStrict { Core.exCfg with markets := [{ idx := [32280, 32340, 32400, 32460], openCb := true }, { idx := [32280, 32340, 32460], openCb := false, strict := true }] }
      Core.exTrigs Core.exG).err = some .keyError ∧
    (runStrict { Core.exCfg with markets := [{ idx := [32280, 32340, 32400, 32460], openCb := true }, { idx := [32280, 32340, 32460], openCb := false, strict := true }] }
      Core.exTrigs Core.exG).rows.map (·.1) = [32280, 32340] := by decide +kernel

end Demeter
