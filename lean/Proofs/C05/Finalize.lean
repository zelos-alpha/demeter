/-
  C05 — operations issued by `finalize()` (after the last bar) are recorded AND delivered.

  Model: Demeter/Actuator/Finalize.lean (`runFull` = `runG` + what `finalize()` does + the deliveries after it).  The property says "every
  accepted operation produces its action record … and is delivered to the strategy's notification hook exactly once".  Up to fix 0438378 an
  operation accepted from `finalize()` was recorded (stamped with the last bar — the clock still shows it) and never delivered: the
  statement below held only for strategies whose `finalize()` issues no operation.  The source flag
  `Gen.coreFinalizeDeliversActions` (tools/consts_core.py) says whether `_run` hands `_currents.actions` to `notify()` after `finalize()`.
-/
import Proofs.Lemmas.CoreHooksPlain
import Proofs.Fixtures.Core
import Demeter.Actuator.Finalize
namespace Demeter
open Core

/-- the flag as read from the source -/
theorem C05_finalize_delivery_in_source : Gen.coreFinalizeDeliversActions = true := by decide

/-- **what follows the `finalize` call** (from a state with an empty `_currents.actions`, deliveries switched on, the `notify` loop ending):
    the deliveries are — in order, once each — exactly the records made by `finalize()`'s own operations followed by the records made by the
    answers from `notify()`; `Actuator.actions` grows by exactly these; nothing is left in `_currents.actions`; the account history is
    untouched; every such record is stamped with the last bar; `finalize()`'s own operations deliver nothing themselves. -/
theorem C05_finalize_tail_delivered_exactly_once (f : FinScript) (ts : Int) (st : St) (hcur : st.cur = [])
    (hend : (finalizeTail true f ts st).ended = true) :
    (finalizeTail true f ts st).deliveries.filterMap notifyAct =
      recOf (finalizeTail true f ts st).own ++ recOf (finalizeTail true f ts st).deliveries ∧
    (finalizeTail true f ts st).st.all = st.all ++ (recOf (finalizeTail true f ts st).own ++ recOf (finalizeTail true f ts st).deliveries) ∧
    (finalizeTail true f ts st).st.cur = [] ∧
    (finalizeTail true f ts st).st.rows = st.rows ∧
    (∀ a ∈ recOf (finalizeTail true f ts st).own ++ recOf (finalizeTail true f ts st).deliveries, a.stamp = ts) ∧
    (finalizeTail true f ts st).own.filterMap notifyAct = [] := by
  unfold finalizeTail at hend ⊢
  simp only [if_true] at hend ⊢
  have f0 := runOps_rel (Frame.phaseRel ts) .after f.ops st
  have f1 := runNotify_rel (Frame.phaseRel ts) f.asScript 0 ((runOps ts .after f.ops st).2.cur.length + f.fuel) 0 (runOps ts .after f.ops st).2
  have f2 := runNotify_deliveries f.asScript ts 0 _ 0 _ hend
  obtain ⟨a1, _, a3, a4⟩ := f0
  obtain ⟨b1, _, b3, b4⟩ := f1
  rw [hcur, List.nil_append] at a3
  refine ⟨?_, ?_, trivial, ?_, ?_, runOps_fm_nil (doOp_noNotify ts .after) f.ops st⟩
  · rw [f2, List.drop_zero, b3, a3]
  · show (runNotify f.asScript ts 0 _ 0 _).2.1.all = _
    rw [b4, a4, List.append_assoc]
  · show (runNotify f.asScript ts 0 _ 0 _).2.1.rows = _
    rw [b1, a1]
  · intro a ha
    rcases List.mem_append.mp ha with h | h
    · exact recOf_stamp (fun e he => ((runOps_at ts .after f.ops st) e he).1) a h
    · exact recOf_stamp (fun e he => ((runNotify_at f.asScript ts 0 _ 0 _) e he).1) a h

/-- without the deliveries (the code before fix 0438378): whatever `finalize()` records stays in `_currents.actions` -/
theorem C05_finalize_tail_undelivered_without_the_fix (f : FinScript) (ts : Int) (st : St) (hcur : st.cur = []) :
    (finalizeTail false f ts st).deliveries = [] ∧ (finalizeTail false f ts st).st.cur = recOf (finalizeTail false f ts st).own ∧
    (finalizeTail false f ts st).st.all = st.all ++ recOf (finalizeTail false f ts st).own := by
  unfold finalizeTail
  simp only [Bool.false_eq_true, ↓reduceIte]
  obtain ⟨_, _, a3, a4⟩ := runOps_rel (Frame.phaseRel ts) .after f.ops st
  rw [hcur, List.nil_append] at a3
  exact ⟨trivial, a3, a4⟩

theorem core_finalSt_eq (cfg : Cfg) (trigs : List Trig) (g : GScript) :
    finalSt cfg trigs g = match startOf cfg with
      | .error _ => none
      | .ok (ts0, bars) =>
        match (runCore cfg trigs g ts0 bars).1.2.2 with
        | none => some ((runCore cfg trigs g ts0 bars).1.2.1, (ts0 :: bars).getLast?.getD ts0)
        | some _ => none := by
  unfold finalSt startOf
  cases checkBacktest cfg with
  | some e => rfl
  | none =>
    cases barIndex cfg with
    | nil => rfl
    | cons ts0 bars =>
      dsimp only
      cases priceAt cfg ts0 <;> rfl

theorem core_finalSt_spec (cfg : Cfg) (trigs : List Trig) (g : GScript) :
    ((runG cfg trigs g).err = none ↔ (finalSt cfg trigs g).isSome) ∧
    ∀ st last, finalSt cfg trigs g = some (st, last) →
      st.all = (runG cfg trigs g).actions ∧ st.rows = (runG cfg trigs g).rows ∧ st.cur = [] ∧ (barIndex cfg).getLast? = some last := by
  rw [core_finalSt_eq]
  cases hs : startOf cfg with
  | error e => rw [runG_eq, runFrom, hs]; exact ⟨by simp, by intro st last h; cases h⟩
  | ok p =>
    obtain ⟨ts0, bars⟩ := p
    rw [runG_of_start hs, (startOf_ok_iff.mp hs).2.1]
    dsimp only
    unfold finishG
    cases hc : (runCore cfg trigs g ts0 bars).1.2.2 with
    | some e => exact ⟨by simp, by intro st last h; cases h⟩
    | none =>
      refine ⟨by simp, ?_⟩
      rintro _ _ ⟨rfl, rfl⟩
      exact ⟨rfl, rfl, runCore_cur_nil hc, by simp [List.getLast?_cons]⟩

/-- **C05 — every accepted operation is delivered exactly once, `finalize()` included.**  For every configuration, trigger list, scripted
    strategy (hooks that trade — also from `notify` —, install and remove triggers) and every `finalize()` that issues operations (accepted,
    refused, ungated; answered from `notify()`), with the flag as the source has it: if the run ends normally (and the `notify` loop after
    `finalize()` ends), then the actions handed to `notify()` over the whole run — the bars and what follows `finalize()` — are, in order and
    once each, exactly `Actuator.actions`; these are exactly what the call trace shows as recorded; nothing is left in `_currents.actions`. -/
theorem C05_finalize_operations_delivered_exactly_once (cfg : Cfg) (trigs : List Trig) (g : GScript) (f : FinScript)
    (hok : (runFull Gen.coreFinalizeDeliversActions cfg trigs g f).loop.err = none)
    (hend : ∀ t, (runFull Gen.coreFinalizeDeliversActions cfg trigs g f).tail = some t → t.ended = true) :
    (runFull Gen.coreFinalizeDeliversActions cfg trigs g f).trace.filterMap notifyAct = (runFull Gen.coreFinalizeDeliversActions cfg trigs g f).actions ∧
    (runFull Gen.coreFinalizeDeliversActions cfg trigs g f).actions = recOf (runFull Gen.coreFinalizeDeliversActions cfg trigs g f).trace ∧
    (runFull Gen.coreFinalizeDeliversActions cfg trigs g f).undelivered = [] ∧
    (∃ t, (runFull Gen.coreFinalizeDeliversActions cfg trigs g f).tail = some t) := by
  rw [C05_finalize_delivery_in_source] at hok hend ⊢
  obtain ⟨s1, s2⟩ := core_finalSt_spec cfg trigs g
  have hsome := s1.mp hok
  unfold runFull at hend ⊢
  cases hf : finalSt cfg trigs g with
  | none => rw [hf] at hsome; cases hsome
  | some p =>
    obtain ⟨st, last⟩ := p
    obtain ⟨e1, _, e3, _⟩ := s2 st last hf
    have hend' := hend (finalizeTail true f last st) (by simp [hf])
    obtain ⟨t1, t2, t3, _, _, t6⟩ := C05_finalize_tail_delivered_exactly_once f last st e3 hend'
    obtain ⟨k1, _, _, k4⟩ := runG_books cfg trigs g
    simp only [FullRun.trace, FullRun.actions, FullRun.undelivered, Option.map_some]
    refine ⟨?_, ?_, t3, ⟨_, rfl⟩⟩
    · rw [List.filterMap_append, List.filterMap_append, k4 hok, t6, List.append_nil, t1, t2, e1]
    · rw [t2, e1, recOf_append, recOf_append, ← k1, List.append_assoc]

/-- the same for `Actuator.run` as called (triggers started afresh) -/
theorem C05_finalize_operations_delivered_exactly_once_actuator (cfg : Cfg) (trigs : List Trig) (g : GScript) (f : FinScript)
    (hok : (actuatorRunFull cfg trigs g f).loop.err = none)
    (hend : ∀ t, (actuatorRunFull cfg trigs g f).tail = some t → t.ended = true) :
    (actuatorRunFull cfg trigs g f).trace.filterMap notifyAct = (actuatorRunFull cfg trigs g f).actions ∧
    (actuatorRunFull cfg trigs g f).undelivered = [] :=
  let h := C05_finalize_operations_delivered_exactly_once cfg (startTrigs trigs) g f hok hend
  ⟨h.1, h.2.2.1⟩

/-- a `finalize()` that issues no operation adds nothing: `runFull` is `runG` (every theorem about `runG` speaks about such strategies) -/
theorem C05_finalize_without_operations_is_runG (deliver : Bool) (cfg : Cfg) (trigs : List Trig) (g : GScript) (fuel : Nat) :
    (runFull deliver cfg trigs g { ops := [], fuel := fuel }).trace = (runG cfg trigs g).trace ∧
    (runFull deliver cfg trigs g { ops := [], fuel := fuel }).actions = (runG cfg trigs g).actions := by
  obtain ⟨_, s2⟩ := core_finalSt_spec cfg trigs g
  unfold runFull
  cases hf : finalSt cfg trigs g with
  | none => exact ⟨rfl, rfl⟩
  | some p =>
    obtain ⟨st, last⟩ := p
    obtain ⟨e1, _, e3, _⟩ := s2 st last hf
    have hn : ∀ n, runNotify ({ ops := [], fuel := fuel } : FinScript).asScript last 0 n 0 st = ([], st, true) :=
      runNotify_none (by rw [e3]; rfl)
    cases deliver with
    | false => simp [FullRun.trace, FullRun.actions, finalizeTail, runOps, e1]
    | true => simp [FullRun.trace, FullRun.actions, finalizeTail, runOps, hn, e1]

/-- `finalize()` of the example strategy closes its position (an accepted operation on market 0), tries one on the hourly market (closed at
    09:01: refused) and `notify()` answers the delivery of the first with one more trade -/
def Core.exFin : FinScript :=
  { ops := [⟨0, true, "fin1", true⟩, ⟨1, true, "fin2", true⟩], notify := fun t => if t == "fin1" then [⟨0, true, "fin3", false⟩] else [], fuel := 4 }

/-- **witness**: without the deliveries after `finalize()` (the code up to 0438378) the run of the example strategy ends normally with `fin1`
    in `Actuator.actions`, stamped with the last bar, never handed to `notify()` and left in `_currents.actions` -/
theorem C05_fails_finalize_operation_never_delivered_before_fix :
    (runFull false Core.exCfg Core.exTrigs Core.exG Core.exFin).loop.err = none ∧
    (runFull false Core.exCfg Core.exTrigs Core.exG Core.exFin).actions.map (·.tag) = ["i", "o0", "o1", "o2", "n2", "o3", "fin1"] ∧
    (runFull false Core.exCfg Core.exTrigs Core.exG Core.exFin).trace.filterMap notifyAct ≠
      (runFull false Core.exCfg Core.exTrigs Core.exG Core.exFin).actions ∧
    (runFull false Core.exCfg Core.exTrigs Core.exG Core.exFin).undelivered = [⟨"fin1", 32460, 0⟩] := by decide +kernel

/-- the same run with the source as it is: `fin1` and the answer `fin3` are delivered, in that order, stamped with the last bar 09:01; `fin2` is
    refused (the hourly market is closed) -/
example : (actuatorRunFull Core.exCfg Core.exTrigs Core.exG Core.exFin).loop.err = none ∧
    (actuatorRunFull Core.exCfg Core.exTrigs Core.exG Core.exFin).actions.map (·.tag) = ["i", "o0", "o1", "o2", "n2", "o3", "fin1", "fin3"] ∧
    (actuatorRunFull Core.exCfg Core.exTrigs Core.exG Core.exFin).trace.filterMap notifyAct =
      (actuatorRunFull Core.exCfg Core.exTrigs Core.exG Core.exFin).actions ∧
    ((actuatorRunFull Core.exCfg Core.exTrigs Core.exG Core.exFin).actions.drop 6).map (·.stamp) = [32460, 32460] ∧
    (actuatorRunFull Core.exCfg Core.exTrigs Core.exG Core.exFin).undelivered = [] ∧
    ((actuatorRunFull Core.exCfg Core.exTrigs Core.exG Core.exFin).tail.map (·.ended)) = some true := by decide +kernel

end Demeter
