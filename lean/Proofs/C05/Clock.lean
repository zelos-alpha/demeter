/-
  C05 — "its action record stamped with the bar in which it ran": the stamp comes from `_currents.timestamp`, not from an argument.

  Model: Demeter/Actuator/Clock.lean.  `clockActions c cur trace` is the action list `_record_action_list` builds when the calls of `trace` are
  made and the clock field is treated as `c` says.  For the source as it is — the three flags `Gen.coreActionStampedFromCurrents`,
  `Gen.coreClockSetBeforeBeforeBar`, `Gen.coreClockSetBeforeInitialize` — it is the action list of `runG`, for every configuration, trigger list
  and scripted strategy, however the run ends: the argument `ts` that `doOp` receives in the model IS the value of the field at that moment.
  With the assignment one statement later (seeded change C05-m6) it is not.
-/
import Proofs.Lemmas.CoreHooksBooks
import Proofs.Fixtures.Core
import Demeter.Actuator.Clock
namespace Demeter
open Core

/-- the flags as read from the source -/
theorem C05_clock_in_source : ClockCfg.current = ⟨true, true, true⟩ := by decide

namespace Core

/-- the three source flags all set: the value of `ClockCfg.current` (`C05_clock_in_source`), under a name the proofs can unfold -/
def cNow : ClockCfg := ⟨true, true, true⟩

def actView (a : Act) : String × Option Int × Nat := (a.tag, some a.stamp, a.m)

def Synced (l : List Ev) : Prop := ∀ cur, clockActions cNow cur l = (recOf l).map actView

theorem clockActions_append (c : ClockCfg) : ∀ (l1 l2 : List Ev) (cur : Option Int),
    clockActions c cur (l1 ++ l2) = clockActions c cur l1 ++ clockActions c (clockAfter c cur l1) l2
  | [], _, _ => rfl
  | e :: l1, l2, cur => by
    simp only [List.cons_append, clockActions, clockAfter, List.foldl_cons]
    have ih := clockActions_append c l1 l2 (clockStep c cur e)
    unfold clockAfter at ih
    cases e.record with
    | none => exact ih
    | some p => simp only [ih, List.cons_append]

theorem Synced.nil : Synced [] := fun _ => rfl

theorem Synced.append {l1 l2 : List Ev} (h1 : Synced l1) (h2 : Synced l2) : Synced (l1 ++ l2) := by
  intro cur
  rw [clockActions_append, h1 cur, h2, recOf_append, List.map_append]

theorem clockStep_other (cur : Option Int) (e : Ev) (h1 : ∀ ts, e ≠ .initialize ts) (h2 : ∀ ts r p, e ≠ .before ts r p) :
    clockStep cNow cur e = cur := by
  cases e <;> first | rfl | (exact absurd rfl (h1 _)) | (exact absurd rfl (h2 _ _ _))

theorem record_eq (e : Ev) : e.record = (recordedAct e).map (fun a => (a.tag, a.m)) := by
  cases e <;> try rfl
  rename_i ts h m tag ok
  cases ok <;> rfl

theorem synced_at (t : Int) : ∀ (l : List Ev), (∀ e ∈ l, e.ts = some t) →
    clockActions cNow (some t) l = (recOf l).map actView ∧ clockAfter cNow (some t) l = some t
  | [], _ => ⟨rfl, rfl⟩
  | e :: l, h => by
    have he : e.ts = some t := h e (List.mem_cons_self ..)
    have hstep : clockStep cNow (some t) e = some t := by
      cases e <;> first | rfl | (simp only [Ev.ts, Option.some.injEq] at he; subst he; rfl)
    obtain ⟨ih1, ih2⟩ := synced_at t l (fun x hx => h x (List.mem_cons_of_mem _ hx))
    refine ⟨?_, by simp only [clockAfter, List.foldl_cons, hstep]; exact ih2⟩
    simp only [clockActions, hstep, record_eq]
    cases hr : recordedAct e with
    | none =>
      simp only [Option.map_none, recOf, List.filterMap_cons, hr]
      exact ih1
    | some a =>
      have hs : a.stamp = t := Option.some.inj ((recordedAct_stamp hr).symm.trans he)
      simp only [Option.map_some, List.filterMap_cons, hr, List.map_cons, show cNow.stampFromCurrents = true from rfl, if_true, ih1, recOf]
      simp [actView, hs]

/-- a call that makes no record and in front of which the field is not assigned -/
def Ev.quiet (e : Ev) : Prop := recordedAct e = none ∧ (∀ ts, e ≠ .initialize ts) ∧ (∀ ts r p, e ≠ .before ts r p)

theorem quiet_stretch : ∀ (l : List Ev) (c0 : Option Int), (∀ e ∈ l, e.quiet) →
    clockActions cNow c0 l = [] ∧ clockAfter cNow c0 l = c0 ∧ recOf l = []
  | [], _, _ => ⟨rfl, rfl, rfl⟩
  | e :: l, c0, h => by
    obtain ⟨h1, h2, h3⟩ := h e (List.mem_cons_self ..)
    obtain ⟨i1, i2, i3⟩ := quiet_stretch l c0 (fun x hx => h x (List.mem_cons_of_mem _ hx))
    have hs := clockStep_other c0 e h2 h3
    refine ⟨?_, ?_, ?_⟩
    · simp only [clockActions, record_eq, h1, Option.map_none, hs]; exact i1
    · simp only [clockAfter, List.foldl_cons, hs]; exact i2
    · simp only [recOf, List.filterMap_cons, h1]; exact i3

/-- `pre`: the status refreshes; `a`: the call in front of which the field is assigned -/
theorem synced_segment (t : Int) (pre rest : List Ev) (a : Ev) (hpre : ∀ e ∈ pre, e.quiet)
    (ha : (a = .initialize t) ∨ (∃ r p, a = .before t r p)) (hrest : ∀ e ∈ rest, e.ts = some t) :
    Synced (pre ++ a :: rest) := by
  intro cur
  obtain ⟨q1, q2, q3⟩ := quiet_stretch pre cur hpre
  rw [clockActions_append, q1, q2, recOf_append, q3, List.nil_append, List.nil_append]
  have hstep : clockStep cNow cur a = some t := by
    rcases ha with rfl | ⟨r, p, rfl⟩ <;> rfl
  have hrec : recordedAct a = none := by
    rcases ha with rfl | ⟨r, p, rfl⟩ <;> rfl
  obtain ⟨s1, _⟩ := synced_at t rest hrest
  simp only [clockActions, record_eq, hrec, Option.map_none, hstep, recOf, List.filterMap_cons]
  exact s1

theorem setAllFrom_quiet (cfg : Cfg) (ts : Int) (stage : Nat) (i : Nat) (ms : List MarketCfg) :
    ∀ e ∈ (setAllFrom cfg ts stage i ms).1, e.quiet := by
  rw [setAllFrom_eq]
  exact List.forall_mem_map.mpr fun _ _ => ⟨rfl, fun _ h => Ev.noConfusion h, fun _ _ _ h => Ev.noConfusion h⟩

theorem barStepG_synced (cfg : Cfg) (b : BarScript) (fuel tfuel row : Nat) (ts : Int) (st : St) :
    Synced (barStepG cfg b fuel tfuel row ts st).1 := by
  rcases barStepG_shape cfg b fuel tfuel row ts st with h | ⟨price, rest, h⟩
  · rw [h]; exact Synced.nil
  · have hts := barStepG_ts cfg b fuel tfuel row ts st
    rw [h]
    refine synced_segment ts _ rest _ (setAllFrom_quiet cfg ts 1 0 cfg.markets) (Or.inr ⟨row, price, rfl⟩) ?_
    intro e he
    exact hts e (by rw [h]; exact List.mem_append_right _ (List.mem_cons_of_mem _ he))

theorem initG_synced (cfg : Cfg) (trigs : List Trig) (g : GScript) (ts0 : Int) : Synced (initG cfg trigs g ts0).1 := by
  unfold initG
  show Synced (((setAllFrom cfg ts0 0 0 cfg.markets).1 ++ [Ev.initialize ts0]) ++ _)
  rw [List.append_assoc]
  exact synced_segment ts0 _ _ _ (setAllFrom_quiet cfg ts0 0 0 cfg.markets) (Or.inl rfl) (runStmts_ts ts0 .init g.init _)

theorem runCore_synced (cfg : Cfg) (trigs : List Trig) (g : GScript) (ts0 : Int) (bars : List Int) :
    Synced (runCore cfg trigs g ts0 bars).1.1 :=
  loopFrom_walk (P := fun _ r => Synced r.1) (st := ⟨[], [], [], [], []⟩) (Rel.seq_of_append (R := fun _ evs _ => Synced evs) Synced.append) (fun _ => Synced.nil)
    (fun row ts st => barStepG_synced cfg _ _ _ row ts st) _ (initG_synced cfg trigs g ts0)

end Core

/-- **C05 — the records are stamped from the clock, and the clock shows the bar.**  For every configuration, trigger list and scripted strategy
    (hooks that trade from every hook, `notify` included, install and remove triggers, raise), however the run ends: the action list that
    `_record_action_list` builds by stamping each record with `_currents.timestamp` — the field being assigned where the source assigns it, starting
    from an unassigned field — is exactly `Actuator.actions` of the model, record by record: label, market, and the stamp, which is the bar in
    which the operation ran. -/
theorem C05_records_stamped_from_the_clock (cfg : Cfg) (trigs : List Trig) (g : GScript) :
    clockActions ClockCfg.current none (runG cfg trigs g).trace = (runG cfg trigs g).actions.map (fun a => (a.tag, some a.stamp, a.m)) := by
  rw [C05_clock_in_source, (runG_books cfg trigs g).1]
  have key : Synced (runG cfg trigs g).trace := by
    rcases runG_cases cfg trigs with ⟨e, he⟩ | ⟨ts0, bars, _, hr⟩
    · rw [he g]; intro cur; rfl
    · rw [hr g]
      unfold finishG
      split <;> exact Synced.append (runCore_synced cfg trigs g ts0 bars) (fun cur => rfl)
  exact key none

def Core.exGBefore : GScript :=
  { Core.exG with bar := fun r => { (Core.exG.bar r) with before := if r = 1 then [.op ⟨0, true, "b1", true⟩] else [] } }

/-- **witness** (seeded change C05-m6: `self._currents.timestamp = …` moved behind `before_bar()`): the record of the operation `before_bar`
    issues on the bar 08:59 is stamped 08:58, the bar before — the clock-built list is then not the list of records stamped with their bar -/
theorem C05_fails_when_clock_is_set_after_before_bar :
    clockActions ⟨true, false, true⟩ none (runG Core.exCfg Core.exTrigs Core.exGBefore).trace ≠
      (runG Core.exCfg Core.exTrigs Core.exGBefore).actions.map (fun a => (a.tag, some a.stamp, a.m)) ∧
    ("b1", some 32280, 0) ∈ clockActions ⟨true, false, true⟩ none (runG Core.exCfg Core.exTrigs Core.exGBefore).trace ∧
    (⟨"b1", 32340, 0⟩ : Act) ∈ (runG Core.exCfg Core.exTrigs Core.exGBefore).actions := by decide +kernel

/-- non-vacuity: the same run under the source as it is -/
example : clockActions ClockCfg.current none (runG Core.exCfg Core.exTrigs Core.exGBefore).trace =
    [("i", some 32280, 0), ("o0", some 32280, 0), ("b1", some 32340, 0), ("o1", some 32340, 0), ("o2", some 32400, 0), ("n2", some 32400, 0),
     ("o3", some 32460, 0)] := by decide +kernel

end Demeter
