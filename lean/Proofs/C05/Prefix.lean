/-
  C05 — the account history of ANY run, failed or not, is an initial stretch of the bar index.

  `C05_account_rows` (Proofs/C05.lean) says "one row per bar, in order" for runs that end normally (`err = none`).  For a run that a hook, a
  trigger or a missing price row ended, `C05_hook_raises_books_of_any_run` says what the rows are in terms of the trace; this file states it
  against the bar index directly.
-/
import Proofs.Lemmas.CoreHooksBooks
import Proofs.Fixtures.Core
namespace Demeter
open Core

/-- **C05 — the account history of any run is an initial stretch of the bar index.**  For every configuration, trigger list and scripted strategy
    (hooks that trade, change the trigger list, raise) and however the run ends: the timestamps of the account rows are — in order, once each — the
    first bars of the run's bar index; all of them if the run ended normally. -/
theorem C05_account_rows_prefix_of_bar_index (cfg : Cfg) (trigs : List Trig) (g : GScript) :
    (runG cfg trigs g).rows.map (·.1) <+: barIndex cfg ∧
    ((runG cfg trigs g).err = none → (runG cfg trigs g).rows.map (·.1) = barIndex cfg) := by
  rcases runG_cases cfg trigs with ⟨e, he⟩ | ⟨ts0, bars, hbi, hr⟩
  · rw [he g]
    exact ⟨List.nil_prefix, fun h => by cases h⟩
  · rw [hr g, hbi, finishG_rows, (runCore_books cfg trigs g ts0 bars).2.1, finishG_err_none]
    have hi := (initG_quiet cfg trigs g ts0).1.2.2.2
    cases hie : (initG cfg trigs g ts0).2.2 with
    | some e =>
      rw [runCore_eq, loopFrom_err hie, hi]
      exact ⟨List.nil_prefix, fun h => by rw [hie] at h; cases h⟩
    | none =>
      rw [runCore_eq, loopFrom_ok hie, andThen_ok hie]
      simp only [List.filterMap_append, hi, List.nil_append]
      exact runBarsG_rows_prefix cfg g (ts0 :: bars) 0 _

/-- non-vacuity: `on_bar` raises on bar 2 of four — the rows are the first two bars -/
example : (runG Core.exCfg Core.exTrigs (Core.exG.raiseAt 2 .on "" 1 .hookError)).rows.map (·.1) = [32280, 32340] ∧
    barIndex Core.exCfg = [32280, 32340, 32400, 32460] := by decide +kernel

end Demeter
