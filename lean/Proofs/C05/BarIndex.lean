/-
  C05 — "a run visits each bar of the (optionally resampled) time index exactly once": which timestamps ARE the bars.

  `runBars` recurses over `barIndex cfg`, so "once per element of `barIndex`" holds by the shape of the recursion (Proofs/C05.lean states it
  for the hooks and the account rows).  What is not by construction is that `barIndex cfg` is the right list: that it COVERS the data of the
  driving market and contains nothing else (resampled: empty bins between the first and the last row are bars too, as pandas'
  `resample().first()` keeps them).
-/
import Proofs.C05
import Proofs.Lemmas.CoreBarIndex
namespace Demeter
open Core

/-- **C05 — the bar index covers the driving market's data, and nothing else.**  For every configuration with at least one market whose frames
    have a non-decreasing time index there is a market `mc` — one with the largest number of distinct timestamps (`get_test_range`) — such that
      * raw interval: the bars are exactly the timestamps of `mc`'s frame (`t` is a bar ⇔ the frame has a row at `t`);
      * coarser interval `Δ`: every row of `mc`'s frame at `t` lies in the bin `[b, b + Δ)` of the bar `b = binLabel Δ (midnight of the first row) t`,
        and every bar is a bin label `first bin + i·Δ` not after the last row. -/
theorem C05_bar_index_covers (cfg : Cfg) (hΔ : 0 < cfg.Δ) (hne : cfg.markets ≠ []) (hraw : ∀ mc ∈ cfg.markets, mc.idx.Pairwise (· ≤ ·)) :
    ∃ mc ∈ cfg.markets, (∀ m' ∈ cfg.markets, (distinctTimes m'.idx).length ≤ (distinctTimes mc.idx).length) ∧
      (cfg.resample = false → ∀ t, t ∈ barIndex cfg ↔ t ∈ mc.idx) ∧
      (cfg.resample = true → ∀ a b, mc.idx.head? = some a → mc.idx.getLast? = some b →
        (∀ t ∈ mc.idx, binLabel cfg.Δ (dayStart a) t ∈ barIndex cfg ∧ binLabel cfg.Δ (dayStart a) t ≤ t ∧ t < binLabel cfg.Δ (dayStart a) t + cfg.Δ) ∧
        (∀ x ∈ barIndex cfg, ∃ i : Nat, x = binLabel cfg.Δ (dayStart a) a + (i : Int) * cfg.Δ ∧ x ≤ b)) := by
  obtain ⟨mc, hmc, he⟩ := longestIdx_mem cfg.markets hne
  refine ⟨mc, hmc, ?_, ?_, ?_⟩
  · intro m' hm'
    have := C05_bar_index_market_has_most_timestamps cfg.markets m' hm'
    rw [he] at this; exact this
  · intro hr t
    unfold barIndex frameIdx
    rw [hr, he]
    simp only [Bool.false_eq_true, if_false]
    exact distinctTimes_mem_iff mc.idx t
  · intro hr a b hh hl
    have hbar : barIndex cfg = resampleIdx cfg.Δ (distinctTimes mc.idx) := by
      unfold barIndex frameIdx
      rw [hr, he]
      rfl
    have hb := pairwise_bounds Int.le_refl (hraw mc hmc)
    have hab : a ≤ b := (hb a (List.mem_of_head? hh)).2 b hl
    obtain ⟨_, _, c3, c4⟩ := resampleIdx_spec cfg.Δ hΔ _ a b (by rw [(distinctTimes_ends mc.idx).1, hh]) (by rw [(distinctTimes_ends mc.idx).2, hl]) hab
    rw [hbar]
    exact ⟨fun t ht => c3 t ((hb t ht).1 a hh) ((hb t ht).2 b hl), c4⟩

/-- non-vacuity: a driving market with rows at 08:03, 08:04, 08:11 under 5-minute bars: bars 08:00, 08:05, 08:10 (the empty bin included) -/
example : barIndex { markets := [{ idx := [29040, 29040], openCb := false }, { idx := [28980, 29040, 29460], openCb := false }], priceIdx := [28980, 29460],
                     Δ := 300, resample := true } = [28800, 29100, 29400] := by decide
example : barIndex { markets := [{ idx := [28980, 28980, 29040, 29460, 29460], openCb := false }], priceIdx := [28980, 29460], Δ := 60, resample := false }
    = [28980, 29040, 29460] := by decide

end Demeter
