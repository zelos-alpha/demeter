/-
  C11 — refinement: the cache-carrying state machine `Demeter.Aave` (the model C10/C13/C04/C03/C01 are stated for, tied to
  `AaveV3Market` step by step by `driver_aave`) *simulates* the pure risk model `Demeter.AaveRisk` (the model the C11
  limit theorems are stated for) under the abstraction map

        proj env s  =  { supplies := s.supplies.map (entry ↦ entry + its token's row of the bar),
                         debts    := s.borrows.map  (…) }                      (`Proofs/Lemmas/AaveRefine.lean`)

  in every coherent state (`Good`: what `C13_coherent` proves of every reachable state), for every arithmetic context and
  whatever mixture of warm and cold caches the reads meet.  Consequently the C11 theorems (stated over `AaveRisk`) speak
  about the state machine as well; two of them are transferred explicitly at the end.
-/
import Proofs.Lemmas.AaveRefineRun
import Proofs.C11
import Proofs.Lemmas.AaveExact
import Proofs.Fixtures.Aave
namespace Demeter
open Aave M

variable {cx : ACtx} {env : Env}

/-- **the figures of the state machine are the risk model's figures of the projected portfolio**, in every coherent
    state and for every arithmetic context; reading them changes nothing but caches. -/
theorem C11_sm_figures_refine (s : St) (hs : Good cx env s) :
    (∃ s', healthFactor cx env s = (.ok (toX (AaveRisk.healthFactor cx.toNumCtx (proj env s))), s') ∧
        Good cx env s' ∧ s'.frame = s.frame) ∧
    (∃ s', maxLtv cx env s = (.ok (toX (AaveRisk.maxLtv cx.toNumCtx (proj env s))), s') ∧
        Good cx env s' ∧ s'.frame = s.frame) :=
  ⟨run_healthFactor hs.at, run_maxLtv hs.at⟩

/-- **`borrow` of the state machine simulates `borrow` of the risk model** (explicit amount, open market, a token the
    bar has data for; `Aave.Sim`): accepted iff the risk model accepts on the projected portfolio — then the new positions
    project to the risk model's new portfolio, the supplies are untouched and the wallet is credited with the amount —,
    otherwise refused with the exception that corresponds to the risk model's cause, positions/wallet/log intact. -/
theorem C11_sm_borrow_refines {s : St} (hs : Good cx env s) (hopen : env.isOpen = true) {tok : String} (hd : HasData env tok)
    (a : Rat) :
    Sim s (fun (r : AaveRisk.Portfolio × Rat) s' => proj env s' = r.1 ∧ r.2 = a ∧ s'.supplies = s.supplies ∧
        s'.wallet = Wallet.credit cx.toNumCtx s.wallet tok a)
      (AaveRisk.borrow cx.toNumCtx (proj env s) tok (rowOf env tok) (some a)) (borrow cx env tok (some a) s) := by
  obtain ⟨⟨st, h1⟩, ⟨pr, h2⟩, ⟨r, h3⟩⟩ := hd
  obtain ⟨s1, e1, hat1⟩ := run_collateralValue hs.at
  obtain ⟨s2, e2, hat2⟩ := run_maxLtv hat1
  obtain ⟨s3, e3, hat3⟩ := run_healthFactor hat2
  obtain ⟨s4, e4, hat4⟩ := run_borrowsView hat3
  have htc : dsum cx (vals (collVals cx env s.supplies)) = AaveRisk.totalCollateral cx.toNumCtx (proj env s) :=
    totalColl_proj s.supplies s.borrows
  have htd : dsum cx ((vals (s.borrows.map (fun p => (p.1, borViewOf cx env p)))).map (·.value)) =
      AaveRisk.totalDebt cx.toNumCtx (proj env s) := totalDebt_views s.supplies s.borrows
  rw [AaveRisk.borrow_eq, rowOf_eq h1 h2 h3]
  unfold borrow guardOpen borrowAmountOf
  rw [run_bind_require_true hopen, run_bind_pure]
  refine Sim.require rfl (by simp) (fun _ => ?_)
  rw [h1, run_bind_ofRes_ok, h3, run_bind_ofRes_ok]
  refine Sim.require rfl (by simp) (fun _ => ?_)
  rw [run_bind_ok e1, htc]
  refine Sim.require hat1.2 (by simp) (fun hc0 => ?_)
  rw [run_bind_ok e2, show AaveRisk.maxLtv cx.toNumCtx (proj env s) = some (cx.div (AaveRisk.weightedLtv cx.toNumCtx (proj env s))
    (AaveRisk.totalCollateral cx.toNumCtx (proj env s))) by unfold AaveRisk.maxLtv AaveRisk.safeDiv; rw [if_neg hc0]]
  refine Sim.require hat2.2 (by simp [toX, XRat.ne0]) (fun hm0 => ?_)
  rw [run_bind_ok e3, toX_gtR, hfThreshold_eq]
  refine Sim.require hat3.2 (by simp) (fun _ => ?_)
  rw [h2, run_bind_ofRes_ok, run_bind_ok e4, htd]
  rw [divX_toX_some hm0, run_bind_ofRes_ok]
  refine Sim.require hat4.2 (by simp) (fun _ => ?_)
  by_cases hi0 : st.varIdx = 0
  · rw [if_pos hi0]
    refine Sim.refuse ?_ hat4.2
    simp only [divE, if_pos hi0]
    rfl
  simp only [divE, if_neg hi0]
  refine Sim.accept rfl ⟨?_, rfl, (supplies_of_frame hat4.2 :), ?_⟩
  · show projPos env s4.supplies (AList.set s4.borrows tok _) = _
    unfold projPos proj
    rw [supplies_of_frame hat4.2, borrows_of_frame hat4.2, borrowEntry_proj, rowOf_eq h1 h2 h3]
    rfl
  · show Wallet.credit cx.toNumCtx s4.wallet tok a = _
    rw [wallet_of_frame hat4.2]

/-- **`change_collateral` of the state machine simulates the risk model's** (`Aave.Sim`): same acceptance, the new
    positions project to the risk model's new portfolio, debts, wallet and log untouched; a refusal (unknown supply:
    `KeyError`; token not admitted as collateral by the risk table when switching the flag on, health factor below 1 after
    switching the flag off: `AssertionError`) leaves positions, wallet and log as they were (the flag is written back). -/
theorem C11_sm_change_collateral_refines {s : St} (hs : Good cx env s) (hopen : env.isOpen = true) (tok : String) (flag : Bool) :
    Sim s (fun (p' : AaveRisk.Portfolio) s' => proj env s' = p' ∧ s'.borrows = s.borrows ∧ s'.wallet = s.wallet ∧
        s'.actions = s.actions)
      (AaveRisk.changeCollateral cx.toNumCtx (proj env s) tok flag) (changeCollateral cx env tok flag s) := by
  unfold AaveRisk.changeCollateral
  rw [proj_supplies, findSupply_proj]
  unfold changeCollateral guardOpen
  rw [run_bind_require_true hopen]
  cases hg : AList.get? s.supplies tok with
  | none => exact Sim.refuse (run_bind_queryPos_err (e := .keySupply) (by simp [hg, optRes]) _) rfl
  | some info =>
    simp only [Option.map_some]
    rw [run_bind_lookupSupply hg, projSup_coll]
    by_cases hc : info.coll = flag
    · rw [if_pos hc, if_pos (by simp [hc])]
      exact Sim.accept rfl ⟨rfl, rfl, rfl, rfl⟩
    · have hbeq : (info.coll == flag) = false := by simp [hc]
      rw [if_neg hc]
      simp only [hbeq, Bool.false_eq_true, if_false]
      -- the risk row of a held token exists (coherence), so `rowOf` shows the table's `usageAsCollateralEnabled`
      obtain ⟨⟨st, h1⟩, ⟨pr, h2⟩, ⟨r, h3⟩⟩ := hs.1.cv tok (aget_mem_keys hg)
      have hcan : (projSup env (tok, info)).row.canColl = r.canColl := by
        show (rowOf env tok).canColl = _
        rw [rowOf_eq h1 h2 h3]
      rw [hcan]
      have hcf : ∀ (i : SupplyInfo) (f : Unit → M Unit), (commitFlag tok i >>= f) s = f () (commitFlag tok i s).2 :=
        fun _ _ => rfl
      have hflag := good_commitFlag hs hg flag
      have hproj : projPos env (AList.set s.supplies tok { info with coll := flag }) s.borrows =
          { proj env s with supplies := AaveRisk.setSupplyColl (s.supplies.map (projSup env)) tok flag } := by
        unfold projPos proj projPos
        rw [set_proj_supply_coll _ _ _ _ hg]
      cases flag with
      | true =>
        unfold checkCanCollateral
        simp only [if_true, Bool.not_true, Bool.false_eq_true, if_false, true_and]
        rw [run_bind_assoc, h3, run_bind_ofRes_ok]
        refine Sim.require rfl (by simp) (fun _ => ?_)
        exact Sim.accept rfl ⟨hproj, rfl, rfl, rfl⟩
      | false =>
        have hchk : checkCanCollateral env tok false s = (.ok (), s) := rfl
        rw [run_bind_ok hchk, hcf]
        simp only [Bool.not_false, if_true, true_and, Bool.false_eq_true, false_and, if_false]
        obtain ⟨s2, e2, hat2⟩ := run_healthFactor hflag.at
        have hp2 : proj env (commitFlag tok { info with coll := false } s).2 = _ := hproj
        rw [hp2] at e2
        rw [run_bind_ok (run_onError_ok e2), toX_ltR, hfThreshold_eq]
        cases hlt : (AaveRisk.healthFactor cx.toNumCtx { proj env s with
            supplies := AaveRisk.setSupplyColl (s.supplies.map (projSup env)) tok false }).ltB Gen.arHfLiqThreshold
        · simp only [Bool.false_eq_true, if_false]
          exact Sim.accept rfl ⟨(proj_of_frame hat2.2).trans hproj, (borrows_of_frame hat2.2 :), (wallet_of_frame hat2.2 :),
            (actions_of_frame hat2.2 :)⟩
        · simp only [if_true]
          exact Sim.refuse rfl (Flagged.back hg ⟨s, .refl s, hat2.2, fun _ => hat2.1⟩).1

theorem Aave.sm_borrow_ok {s s' : St} (hs : Good cx env s) (hopen : env.isOpen = true) {tok : String}
    (hd : HasData env tok) {a : Rat} (h : borrow cx env tok (some a) s = (.ok (), s')) :
    AaveRisk.borrow cx.toNumCtx (proj env s) tok (rowOf env tok) (some a) = .ok (proj env s', a) := by
  obtain ⟨⟨p', x⟩, hr, hp, hx, _⟩ := (C11_sm_borrow_refines hs hopen hd a).ok_inv h
  rw [hr, hp, ← hx]

theorem Aave.sm_changeCollateral_ok {s s' : St} (hs : Good cx env s) (hopen : env.isOpen = true) {tok : String}
    {flag : Bool} (h : changeCollateral cx env tok flag s = (.ok (), s')) :
    AaveRisk.changeCollateral cx.toNumCtx (proj env s) tok flag = .ok (proj env s') := by
  obtain ⟨p', hr, hp, _⟩ := (C11_sm_change_collateral_refines hs hopen tok flag).ok_inv h
  rw [hr, hp]

/-- **borrow only if covered, on the state machine**: whatever caches were warm, a borrow the state machine accepts keeps
    all debt including the new one within `Σ_coll valueᵢ·LTVᵢ` of the positions it started from. -/
theorem C11_sm_borrow_only_if_covered {env : Env} {s s' : St} (hs : Good aaveExact env s) (hopen : env.isOpen = true)
    {tok : String} (hd : HasData env tok) (hwf : (proj env s).WF) {a : Rat}
    (h : borrow aaveExact env tok (some a) s = (.ok (), s')) :
    AaveRisk.totalDebt NumCtx.exact (proj env s) + a * (rowOf env tok).price ≤ AaveRisk.weightedLtv NumCtx.exact (proj env s)
    ∧ (proj env s').supplies = (proj env s).supplies
    ∧ (proj env s').debts =
        AaveRisk.addDebt NumCtx.exact (proj env s).debts tok (rowOf env tok) (a / (rowOf env tok).borIndex) := by
  have hr := sm_borrow_ok hs hopen hd h
  have he : proj env s' = ⟨(proj env s).supplies,
      AaveRisk.addDebt NumCtx.exact (proj env s).debts tok (rowOf env tok) (a / (rowOf env tok).borIndex)⟩ :=
    congrArg Prod.fst ((AaveRisk.borrow_ok_iff _ _ _ _ _ _).mp hr).2
  rw [he]
  exact ⟨(C11_borrow_only_if_covered hwf hr).1, rfl, rfl⟩

/-- **a borrow beyond the limit is refused by the state machine**, positions, wallet and log intact. -/
theorem C11_sm_borrow_beyond_limit_rejected {env : Env} {s : St} (hs : Good aaveExact env s) (hopen : env.isOpen = true)
    {tok : String} (hd : HasData env tok) (hwf : (proj env s).WF) (a : Rat)
    (hb : AaveRisk.weightedLtv NumCtx.exact (proj env s) <
      AaveRisk.totalDebt NumCtx.exact (proj env s) + a * (rowOf env tok).price) :
    ∃ e s', borrow aaveExact env tok (some a) s = (.error e, s') ∧ s'.frame = s.frame := by
  obtain ⟨c, hc⟩ := C11_borrow_beyond_limit_rejected hwf tok (rowOf env tok) a hb
  exact ⟨_, (C11_sm_borrow_refines (cx := aaveExact) hs hopen hd a).refused hc⟩

example : HasData c11rEnv "USDC" := ⟨⟨_, rfl⟩, ⟨_, rfl⟩, ⟨_, rfl⟩⟩
example : Good aaveExact c11rEnv c11rSt :=
  good_of_fresh_pair ⟨⟨_, rfl⟩, ⟨_, rfl⟩, ⟨_, rfl⟩⟩ ⟨⟨_, rfl⟩, ⟨_, rfl⟩, ⟨_, rfl⟩⟩ _ _
/-- the risk model accepts 8000 USDC more (limit 8800 − 100) and refuses 9000 -/
example : (AaveRisk.borrow NumCtx.exact (proj c11rEnv c11rSt) "USDC" (rowOf c11rEnv "USDC") (some 8000)).toOption.isSome = true := by
  decide +kernel
example : AaveRisk.borrow NumCtx.exact (proj c11rEnv c11rSt) "USDC" (rowOf c11rEnv "USDC") (some 9000) = .error .notCovered := by
  decide +kernel

end Demeter
