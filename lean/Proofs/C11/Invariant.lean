/-
  C11 — the health factor as an invariant of sequences of accepted `borrow` / `withdraw` / `change_collateral` calls within
  one bar.
  Side conditions of a step (all explicit in `UserStep`): the borrowed token's row is the one attached to its existing
  debt entry; a withdrawal does not leave a remainder below MIN_TOKEN_VALUE (see `C11_withdraw_hf_dust_term_needed`);
  the risk table gives a token it admits as collateral (`usageAsCollateralEnabled`) a positive liquidation threshold — a
  property of the CSV alone, re-checked by the harness on every file; `change_collateral(…, True)` itself refuses a token
  that is not admitted (repair 500c37d), so a flag that is switched on has a positive threshold *by the code's own check*.
-/
import Proofs.C11
namespace Demeter
open AaveRisk

namespace AaveRisk

theorem UserStep.preserves {p q : Portfolio} (h : UserStep p q) (hwf : p.WF) (hs : p.Sane) (hh : Healthy p) :
    q.WF ∧ q.Sane ∧ Healthy q := by
  cases h with
  | borrow tok row a _ x hr hrow hb =>
    obtain ⟨he, h1, _, hle⟩ := borrow_debt_le hwf hs hrow hb
    cases he
    exact ⟨wf_addDebt hwf hr (div_nonneg (le_of_lt h1) (le_of_lt hr.bi_pos)), hs, Or.inr hle⟩
  | withdraw tok a _ x hw hnosnap =>
    obtain ⟨s, hf, _, he⟩ := (withdraw_ok_iff NumCtx.exact p tok a _).mp hw
    obtain ⟨hsm, hst⟩ := mem_of_findSupply hf
    have hq : q = { p with supplies := putSupplyBase p.supplies tok (subBase NumCtx.exact s.base (a / s.row.liqIndex)) } :=
      congrArg Prod.fst he
    have hwf' : q.WF := by rw [hq]; exact wf_putSupplyBase hwf tok (subBase_nonneg _ _ _)
    refine ⟨hwf', by rw [hq]; exact sane_putSupplyBase hs tok _, ?_⟩
    by_cases hcoll : s.coll = true
    · obtain ⟨_, _, hkey, _⟩ := C11_withdraw_hf hwf hf hcoll hw
      rw [hnosnap s hf] at hkey
      unfold Healthy
      rcases hkey with h0 | hle
      · exact Or.inl h0
      · right; simpa using hle
    · have hc : s.coll = false := by simpa using hcoll
      have hW : weightedLt NumCtx.exact q = weightedLt NumCtx.exact p := by
        subst hst
        rw [hq, weightedLt_putSupplyBase hwf.supKeys hsm]
        unfold gLt; simp [hc]
      have hD : totalDebt NumCtx.exact q = totalDebt NumCtx.exact p := by rw [hq]; rfl
      unfold Healthy; rw [hW, hD]; exact hh
  | changeCollateral tok flag _ hc hlt =>
    obtain ⟨s, hf, ⟨_, rfl⟩ | ⟨hne, hcan, hhf, hq⟩⟩ := (changeCollateral_ok_iff _ p tok flag q).mp hc
    · exact ⟨hwf, hs, hh⟩
    · obtain ⟨hsm, hst⟩ := mem_of_findSupply hf
      subst hst
      obtain ⟨hb0, hr0, _⟩ := hwf.sup s hsm
      have hwf' : q.WF := by
        rw [hq]
        exact wf_updSupply hwf hsm (fun x => { x with coll := flag }) (fun _ => rfl)
          ⟨hb0, hr0, fun hfl => hlt s hf (hcan hfl)⟩
      have hsane : q.Sane := by
        rw [hq]; exact hs.updSupply _ (fun x => { x with coll := flag }) (fun _ => rfl) _
      refine ⟨hwf', hsane, ?_⟩
      cases flag with
      | false => exact (healthy_iff_not_ltB_one hwf'.totalDebt_nonneg).mpr (hq ▸ hhf rfl)
      | true =>
        have hW : weightedLt NumCtx.exact q = weightedLt NumCtx.exact p - gLt s + gLt { s with coll := true } := by
          rw [hq]; exact weightedLt_updSupply hwf.supKeys hsm _ _
        have h0 : gLt s = 0 := if_neg hne
        have h1 : 0 ≤ gLt { s with coll := true } :=
          mul_nonneg (hwf.supply_value_nonneg (s := s) hsm) hr0.lt_nonneg
        have hD : totalDebt NumCtx.exact q = totalDebt NumCtx.exact p := by rw [hq]; rfl
        refine healthy_of_le hwf' hh (le_of_eq hD) (fun hle => ?_)
        rw [hD, hW]
        linarith

end AaveRisk

/-- **HF ≥ 1 is an invariant of accepted user operations**: from a well-formed account with sane risk parameters that
    has no debt or a health factor ≥ 1, every sequence of accepted `borrow` / `withdraw` / `change_collateral` calls
    (within a bar, side conditions in `UserStep`) leads to a well-formed account that has no debt or a health factor ≥ 1. -/
theorem C11_hf_invariant {p q : Portfolio} (hwf : p.WF) (hs : p.Sane) (hh : Healthy p) (h : UserSteps p q) :
    q.WF ∧ q.Sane ∧ (healthFactor NumCtx.exact q = none ∨ ∃ x, healthFactor NumCtx.exact q = some x ∧ 1 ≤ x) := by
  have key : q.WF ∧ q.Sane ∧ Healthy q := by
    induction h with
    | refl => exact ⟨hwf, hs, hh⟩
    | tail _ hstep ih => exact hstep.preserves ih.1 ih.2.1 ih.2.2
  exact ⟨key.1, key.2.1, (healthy_iff_hf key.1).mp key.2.2⟩

namespace AaveRisk
example : c11P.WF ∧ Healthy c11P := ⟨c11P_wf, Or.inr (by decide +kernel)⟩

example : ∃ q, UserSteps c11P q ∧ q.debts ≠ c11P.debts := by
  have hchk : (match AaveRisk.borrow NumCtx.exact c11P "USDC" c11RowU (some 5000) with
      | .ok r => decide (r.1.debts ≠ c11P.debts) | _ => false) = true := by decide +kernel
  cases h : AaveRisk.borrow NumCtx.exact c11P "USDC" c11RowU (some 5000) with
  | error c => rw [h] at hchk; cases hchk
  | ok r =>
    rw [h] at hchk
    refine ⟨r.1, UserSteps.tail (UserSteps.refl _) (UserStep.borrow c11P "USDC" c11RowU 5000 r.1 r.2 ?_ ?_ h), by simpa using hchk⟩
    · exact Row.wfB_sound (by decide +kernel)
    · intro d hd _
      simp only [c11P, List.mem_singleton] at hd
      subst hd; rfl
end AaveRisk

end Demeter
