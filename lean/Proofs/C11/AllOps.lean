/-
  C11 — "after every accepted user operation an account with debt has HF ≥ 1", for ALL the user operations and stated precisely.

  `C11_hf_invariant` covers the three calls that can lower the health factor (borrow, withdraw, change_collateral).  `UserStepAll`
  has the other ones too — `supply` (a new position or a top-up), `repay` from the wallet, `repay` with collateral — as the state
  changes the calls make (the post-states of `Aave.supply_accepted`, `Aave.repay_cash_accepted`, `Aave.repay_coll_accepted` for the
  cache-carrying state machine; `repay` with collateral at the bar's prices and zero swap fee).
  Side conditions beyond those of `UserStep`, explicit in `UserStepAll`: a newly supplied token's row is well formed with LTV ≤ LT
  and, if admitted as collateral, a positive threshold; a repayment with collateral snaps no dust off the collateral, whose
  threshold is at most 1.

  What the statement does NOT say — and the code does not guarantee — is HF ≥ 1 after an accepted operation in a bar whose prices moved:
  `supply`, `repay`, `repay` with collateral and `change_collateral(…, True)` are accepted while HF < 1 (they only improve it), and the
  account is still below 1 afterwards: `C11_unhealthy_after_price_move_accepted`.  The invariant is therefore "HF ≥ 1 is *kept*",
  within a bar, from a healthy state; between bars `update()` (C12) is what restores it.
-/
import Proofs.C11.Invariant
namespace Demeter
open AaveRisk

namespace AaveRisk

/-- `supply`: `_supplies[t].base_amount += x` on an existing entry, or a new entry at the end of the dict -/
def addSupply (ss : List Supply) (tok : String) (row : Row) (coll : Bool) (x : Rat) : List Supply :=
  match findSupply? ss tok with
  | some s => setSupplyBase ss tok (s.base + x)
  | none => ss ++ [{ tok := tok, base := 0 + x, coll := coll, row := row }]

theorem UserStepAll.preserves {p q : Portfolio} (h : UserStepAll p q) (hwf : p.WF) (hs : p.Sane) (hh : Healthy p) :
    q.WF ∧ q.Sane ∧ Healthy q := by
  cases h with
  | risk hu => exact hu.preserves hwf hs hh
  | supplyMore tok s x hf hx =>
    obtain ⟨hsm, hst⟩ := mem_of_findSupply hf
    subst hst
    obtain ⟨hb, hr, hl⟩ := hwf.sup s hsm
    have hwf' : ({ p with supplies := setSupplyBase p.supplies s.tok (s.base + x) } : Portfolio).WF :=
      wf_updSupply hwf hsm (fun y => { y with base := s.base + x }) (fun _ => rfl)
        ⟨add_nonneg hb (le_of_lt hx), hr, hl⟩
    refine ⟨hwf', hs.updSupply _ (fun y => { y with base := s.base + x }) (fun _ => rfl) _, ?_⟩
    · refine healthy_of_le hwf' hh (le_of_eq rfl) (fun hle => le_trans hle ?_)
      have hW : weightedLt NumCtx.exact ({ p with supplies := setSupplyBase p.supplies s.tok (s.base + x) } : Portfolio)
          = weightedLt NumCtx.exact p - gLt s + gLt { s with base := s.base + x } :=
        weightedLt_updSupply hwf.supKeys hsm _ _
      rw [hW]
      have : gLt s ≤ gLt { s with base := s.base + x } := by
        unfold gLt
        simp only [Supply.value_exact]
        split
        · have h1 := hr.li_pos; have h2 := hr.price_pos; have h3 := hr.lt_nonneg
          have : 0 ≤ x * s.row.liqIndex * s.row.price * s.row.lt := by positivity
          linarith
        · exact le_refl _
      linarith
  | supplyNew tok row coll x hf hx hr hltv hcan htab =>
    have hwf' : ({ p with supplies := p.supplies ++ [{ tok := tok, base := 0 + x, coll := coll, row := row }] } : Portfolio).WF := by
      refine ⟨?_, hwf.deb, ?_, hwf.debKeys⟩
      · intro y hy
        simp only [List.mem_append, List.mem_singleton] at hy
        rcases hy with h1 | rfl
        · exact hwf.sup y h1
        · exact ⟨by show (0 : Rat) ≤ 0 + x; linarith, hr, fun hc => htab (hcan hc)⟩
      · simp only [List.map_append, List.map_cons, List.map_nil]
        exact List.concat_eq_append ▸ hwf.supKeys.concat (findSupply_none hf)
    refine ⟨hwf', ?_, ?_⟩
    · intro y hy
      simp only [List.mem_append, List.mem_singleton] at hy
      rcases hy with h1 | rfl
      · exact hs y h1
      · exact hltv
    · refine healthy_of_le hwf' hh (le_of_eq rfl) (fun hle => ?_)
      have hD : totalDebt NumCtx.exact ({ p with supplies := p.supplies ++ [{ tok := tok, base := 0 + x, coll := coll, row := row }] } : Portfolio)
          = totalDebt NumCtx.exact p := rfl
      rw [hD]
      refine le_trans hle ?_
      rw [weightedLt_sum, weightedLt_sum]
      simp only [List.map_append, List.map_cons, List.map_nil, List.sum_append, List.sum_cons, List.sum_nil, add_zero]
      have : 0 ≤ gLt { tok := tok, base := 0 + x, coll := coll, row := row } :=
        hwf'.gLt_nonneg (List.mem_append_right _ (List.mem_singleton_self _))
      linarith
  | repay tok d x hf hx =>
    obtain ⟨hdm, hdt⟩ := mem_of_findDebt hf
    subst hdt
    have hwf' := wf_putDebtBase hwf d.tok (subBase_nonneg NumCtx.exact d.base x)
    have hD := totalDebt_putDebtBase_le hwf hdm (subBase_le hx (hwf.deb d hdm).1) p.supplies
    rw [sub_self, zero_mul, zero_mul, sub_zero] at hD
    exact ⟨hwf', hs, healthy_of_le hwf' hh hD (fun h => le_trans hD (le_trans h (le_of_eq rfl)))⟩
  | repayCollateral tok ctok d c x y hfd hfc hcc hx hxd _ _ hval hdust hlt1 =>
    obtain ⟨hdm, hdt⟩ := mem_of_findDebt hfd
    obtain ⟨hcm, hct⟩ := mem_of_findSupply hfc
    have hdr := (hwf.deb d hdm).2
    have hwf1 := wf_putSupplyBase hwf ctok (subBase_nonneg NumCtx.exact c.base y)
    have hwf' := wf_putDebtBase hwf1 tok (subBase_nonneg NumCtx.exact d.base x)
    have hsane : ({ p with supplies := putSupplyBase p.supplies ctok (subBase NumCtx.exact c.base y) } : Portfolio).Sane :=
      sane_putSupplyBase hs ctok _
    refine ⟨hwf', hsane, ?_⟩
    have hbi := hdr.bi_pos; have hpd := hdr.price_pos
    have hV : 0 ≤ x * d.row.borIndex * d.row.price := by positivity
    have hD : totalDebt NumCtx.exact (⟨putSupplyBase p.supplies ctok (subBase NumCtx.exact c.base y), putDebtBase p.debts tok (subBase NumCtx.exact d.base x)⟩ : Portfolio)
        ≤ totalDebt NumCtx.exact p - x * d.row.borIndex * d.row.price := by
      subst hdt
      have := totalDebt_putDebtBase_le hwf hdm (subBase_le_sub hxd) (putSupplyBase p.supplies ctok (subBase NumCtx.exact c.base y))
      rwa [sub_sub_cancel] at this
    have hW : weightedLt NumCtx.exact (⟨putSupplyBase p.supplies ctok (subBase NumCtx.exact c.base y), putDebtBase p.debts tok (subBase NumCtx.exact d.base x)⟩ : Portfolio)
        = weightedLt NumCtx.exact p - y * c.row.liqIndex * c.row.price * c.row.lt := by
      subst hct
      rw [weightedLt_putSupplyBase hwf.supKeys hcm, subBase_exact, hdust]
      unfold gLt
      simp only [hcc, if_true, Supply.value_exact]
      ring
    refine healthy_of_le hwf' hh (by linarith) (fun hle => ?_)
    rw [hW, hval]
    have := mul_le_of_le_one_right hV hlt1
    linarith

end AaveRisk

/-- **HF ≥ 1 is kept by every accepted user operation** — borrow, withdraw, change_collateral, supply (new or top-up), repay,
    repay with collateral — in any number and order within a bar (side conditions in `UserStep`, `UserStepAll`), from a
    well-formed healthy account. -/
theorem C11_hf_invariant_all_ops {p q : Portfolio} (hwf : p.WF) (hs : p.Sane) (hh : Healthy p) (h : UserStepsAll p q) :
    q.WF ∧ q.Sane ∧ (healthFactor NumCtx.exact q = none ∨ ∃ x, healthFactor NumCtx.exact q = some x ∧ 1 ≤ x) := by
  have key : q.WF ∧ q.Sane ∧ Healthy q := by
    induction h with
    | refl => exact ⟨hwf, hs, hh⟩
    | tail _ hstep ih => exact hstep.preserves ih.1 ih.2.1 ih.2.2
  exact ⟨key.1, key.2.1, (healthy_iff_hf key.1).mp key.2.2⟩

namespace AaveRisk
/-- `c11P` after WETH fell from 1000 to 100: 10 WETH (1000 USD) against 1000 USDC, HF = 0.825 -/
def c11RowWLow : Row := { c11RowW with price := 100 }
def c11PLow : Portfolio := { supplies := [{ tok := "WETH", base := 10, coll := true, row := c11RowWLow }],
                             debts := [{ tok := "USDC", base := 1000, row := c11RowU }] }
def c11PLowSupplied : Portfolio := { c11PLow with supplies := setSupplyBase c11PLow.supplies "WETH" (10 + 1) }
def c11PLowRepaid : Portfolio := { c11PLow with debts := putDebtBase c11PLow.debts "USDC" (subBase NumCtx.exact 1000 50) }
end AaveRisk

/-- **witness**: with HF = 0.825 at the start of a bar, `supply(WETH, 1)` and `repay(USDC, 50)` are steps the code accepts (no
    health-factor check on either path) and the health factor afterwards is still below 1 (0.9075 and 0.868…): "HF ≥ 1 after every
    accepted user operation" holds only as an invariant kept from a healthy state. -/
theorem C11_unhealthy_after_price_move_accepted :
    UserStepAll c11PLow c11PLowSupplied ∧ UserStepAll c11PLow c11PLowRepaid ∧
    (healthFactor NumCtx.exact c11PLow).ltB 1 = true ∧
    (healthFactor NumCtx.exact c11PLowSupplied).ltB 1 = true ∧ (healthFactor NumCtx.exact c11PLowRepaid).ltB 1 = true := by
  refine ⟨?_, ?_, by decide +kernel, by decide +kernel, by decide +kernel⟩
  · exact UserStepAll.supplyMore c11PLow "WETH" { tok := "WETH", base := 10, coll := true, row := c11RowWLow } 1
      (by decide +kernel) (by norm_num)
  · exact UserStepAll.repay c11PLow "USDC" { tok := "USDC", base := 1000, row := c11RowU } 50 (by decide +kernel) (by norm_num)

example : ∃ q, UserStepsAll c11P q ∧ q ≠ c11P := by
  refine ⟨_, UserStepsAll.tail (UserStepsAll.refl _)
    (UserStepAll.supplyMore c11P "WETH" { tok := "WETH", base := 10, coll := true, row := c11RowW } 1 (by decide +kernel) (by norm_num)), ?_⟩
  decide +kernel

end Demeter
