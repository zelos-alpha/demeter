/-
  C11 — "after every accepted user operation an account with debt has health factor ≥ 1", on the cache-carrying state
  machine: `C11_hf_invariant` (risk model) transferred along the three simulation theorems, for histories inside one bar
  that interleave accepted `borrow` / `withdraw` / `change_collateral` calls with arbitrary reads of the derived views
  (which warm caches in any pattern) — the class of histories in which a stale cache could let an operation through.
-/
import Proofs.C11.RefineWithdraw
import Proofs.C11.Refine
import Proofs.C11.Invariant
namespace Demeter
open Aave M

def Aave.EnvWF (env : Env) : Prop := ∀ k, HasData env k → (rowOf env k).WF

/-- one step of a user's history inside a bar, on the state machine (exact arithmetic): an accepted risk-increasing call
    (with the side conditions of `AaveRisk.UserStep`), or a read of any derived view -/
inductive Aave.SmUserStep (env : Env) : St → St → Prop
  | borrow {s s' : St} (tok : String) (a : Rat) : HasData env tok →
      borrow aaveExact env tok (some a) s = (.ok (), s') → SmUserStep env s s'
  | withdraw {s s' : St} (tok : String) (a : Rat) : HasData env tok →
      withdraw aaveExact env tok (some a) s = (.ok (), s') →
      (∀ info, AList.get? s.supplies tok = some info → AaveRisk.snapDust info.base (a / (rowOf env tok).liqIndex) = 0) →
      SmUserStep env s s'
  | changeCollateral {s s' : St} (tok : String) (flag : Bool) :
      changeCollateral aaveExact env tok flag s = (.ok (), s') →
      ((rowOf env tok).canColl = true → 0 < (rowOf env tok).lt) → SmUserStep env s s'
  | read (s : St) (v : View) : SmUserStep env s (step aaveExact env s (.read v)).2

inductive Aave.SmUserSteps (env : Env) : St → St → Prop
  | refl (s : St) : SmUserSteps env s s
  | tail {s t u : St} : SmUserSteps env s t → SmUserStep env t u → SmUserSteps env s u

variable {env : Env}

theorem Aave.smUserStep_sim (hE : EnvOK env) (hopen : env.isOpen = true) (hW : EnvWF env) {t u : St}
    (ht : Good aaveExact env t) (h : SmUserStep env t u) :
    Good aaveExact env u ∧ (proj env u = proj env t ∨ AaveRisk.UserStep (proj env t) (proj env u)) := by
  cases h with
  | borrow tok a hd hb =>
    have hg : Good aaveExact env (borrow aaveExact env tok (some a) t).2 := inv_borrow hE tok (some a) t ht
    rw [hb] at hg
    refine ⟨hg, Or.inr ?_⟩
    refine AaveRisk.UserStep.borrow _ tok (rowOf env tok) a _ a (hW tok hd) ?_ (sm_borrow_ok ht hopen hd hb)
    intro d hdm hdt
    obtain ⟨⟨k, i⟩, _, rfl⟩ := mem_debts_proj hdm
    exact congrArg (rowOf env) hdt
  | withdraw tok a hd hwd hdust =>
    have hg : Good aaveExact env (withdraw aaveExact env tok (some a) t).2 := inv_withdraw tok (some a) t ht
    rw [hwd] at hg
    refine ⟨hg, Or.inr ?_⟩
    refine AaveRisk.UserStep.withdraw _ tok a _ a (sm_withdraw_ok ht hopen hd hwd) ?_
    intro sp hsp
    obtain ⟨info, hg', rfl⟩ := findSupply_proj_inv hsp
    exact hdust info hg'
  | changeCollateral tok flag hcc hlt =>
    have hg : Good aaveExact env (changeCollateral aaveExact env tok flag t).2 := inv_changeCollateral tok flag t ht
    rw [hcc] at hg
    refine ⟨hg, Or.inr ?_⟩
    refine AaveRisk.UserStep.changeCollateral _ tok flag _ (sm_changeCollateral_ok ht hopen hcc) ?_
    intro sp hsp hcan
    obtain ⟨info, _, rfl⟩ := findSupply_proj_inv hsp
    exact hlt hcan
  | read v =>
    have h := (reads_readView (cx := aaveExact) (env := env) v t).1
    exact ⟨h.2 ht, Or.inl (proj_of_frame h.1)⟩

/-- **HF ≥ 1 after every accepted user operation, on the state machine**: from a coherent state of a well-formed bar whose
    account is well formed, has sane risk parameters and no debt or health factor ≥ 1, every history of accepted
    `borrow` / `withdraw` / `change_collateral` calls (side conditions of `SmUserStep`: `sub_base_amount` snaps no dust, a
    re-flagged token the table admits as collateral has a positive threshold) interleaved with arbitrary reads ends in a
    coherent state whose account has no debt or health factor ≥ 1 — what its `health_factor` view shows. -/
theorem C11_sm_hf_invariant (hE : EnvOK env) (hopen : env.isOpen = true) (hW : EnvWF env) {s s' : St}
    (hs : Good aaveExact env s) (hwf : (proj env s).WF) (hsane : (proj env s).Sane) (hh : AaveRisk.Healthy (proj env s))
    (h : SmUserSteps env s s') :
    Good aaveExact env s' ∧ (proj env s').WF ∧
      (AaveRisk.healthFactor NumCtx.exact (proj env s') = none ∨
        ∃ x, AaveRisk.healthFactor NumCtx.exact (proj env s') = some x ∧ 1 ≤ x) := by
  have key : Good aaveExact env s' ∧ AaveRisk.UserSteps (proj env s) (proj env s') := by
    induction h with
    | refl => exact ⟨hs, AaveRisk.UserSteps.refl _⟩
    | tail _ hstep ih =>
      obtain ⟨hg, hu⟩ := ih
      obtain ⟨hg', hstep'⟩ := smUserStep_sim hE hopen hW hg hstep
      refine ⟨hg', ?_⟩
      rcases hstep' with he | hst
      · rw [he]; exact hu
      · exact AaveRisk.UserSteps.tail hu hst
  obtain ⟨q1, _, q3⟩ := C11_hf_invariant hwf hsane hh key.2
  exact ⟨key.1, q1, q3⟩

example : EnvWF c11rEnv := by
  intro k hk
  obtain ⟨⟨st, h⟩, _, _⟩ := hk
  unfold Env.statusOf c11rEnv at h
  by_cases h1 : k = "WETH"
  · subst h1; exact AaveRisk.Row.wfB_sound (by decide +kernel)
  · by_cases h2 : k = "USDC"
    · subst h2; exact AaveRisk.Row.wfB_sound (by decide +kernel)
    · exfalso; simp [AList.get?_cons, optRes, Ne.symm h1, Ne.symm h2] at h

example : AaveRisk.Healthy (proj c11rEnv c11rSt) := Or.inr (by decide +kernel)

example : (proj c11rEnv c11rSt).Sane := by
  intro sp hsp
  simp only [proj, projPos, c11rSt, St.init, List.map_cons, List.map_nil, List.mem_singleton] at hsp
  subst hsp
  simp [projSup, rowOf, c11rEnv, AList.get?]
  norm_num

example : SmUserSteps c11rEnv c11rSt (step aaveExact c11rEnv c11rSt (.read .healthFactor)).2 :=
  .tail (.refl _) (.read _ _)

end Demeter
