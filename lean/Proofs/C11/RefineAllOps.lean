/-
  C11 — the tie of `UserStepAll` to the cache-carrying state machine (which is compared bit-exactly with the code): an accepted
  cash `repay` of the state machine in a coherent state, and an accepted `supply` to an existing position in any state, is a
  `UserStepAll.repay` / `UserStepAll.supplyMore` step of the projected portfolio — so `C11_hf_invariant_all_ops` applies to it: an
  account with HF ≥ 1 (or no debt) still has it afterwards, as its own `health_factor` view shows (`C11_sm_figures_refine`).  The
  transfer for a `supply` that opens a position and for `repay` with collateral is not proved here (their post-states are
  `Aave.supply_accepted` / `Aave.repay_coll_accepted`).
-/
import Proofs.Lemmas.AaveInv
import Proofs.C11.AllOps
import Proofs.Lemmas.AaveRefineOps
import Proofs.Lemmas.AaveExact
import Proofs.Fixtures.Aave
namespace Demeter
open Aave M

variable {env : Env}

/-- **an accepted cash repayment on the state machine is a `repay` step of the risk model** -/
theorem C11_sm_repay_is_user_step {s s' : St} (hs : Good aaveExact env s) {tok : String} {amount? : Option Rat}
    (h : repay aaveExact env tok amount? false none s = (.ok (), s')) :
    AaveRisk.UserStepAll (proj env s) (proj env s') := by
  obtain ⟨st, info, payback, _, _, hst, _, hg, _, hpos, _, _, hsup, hbor, _⟩ := repay_cash_accepted h
  have hp : proj env s' = (⟨(proj env s).supplies, AaveRisk.putDebtBase (proj env s).debts tok
      (AaveRisk.subBase NumCtx.exact info.base (aaveExact.div payback st.varIdx))⟩ : AaveRisk.Portfolio) := by
    unfold proj projPos
    rw [hsup, hbor]
    unfold borAfterSub
    rw [put_proj_debt s.borrows tok info _ hg hs.2.nd, subBase_eq]
    rfl
  rw [hp]
  exact AaveRisk.UserStepAll.repay (proj env s) tok (projBor env (tok, info)) (aaveExact.div payback st.varIdx)
    (findDebt_proj_get hg) (le_of_lt hpos)

/-- … hence it keeps "no debt or HF ≥ 1" -/
theorem C11_sm_repay_keeps_healthy {s s' : St} (hs : Good aaveExact env s) (hwf : (proj env s).WF) (hsane : (proj env s).Sane)
    (hh : AaveRisk.Healthy (proj env s)) {tok : String} {amount? : Option Rat}
    (h : repay aaveExact env tok amount? false none s = (.ok (), s')) :
    (proj env s').WF ∧ AaveRisk.Healthy (proj env s') := by
  obtain ⟨hw, _, hf⟩ := C11_hf_invariant_all_ops hwf hsane hh (.tail (.refl _) (C11_sm_repay_is_user_step hs h))
  exact ⟨hw, (AaveRisk.healthy_iff_hf hw).mpr hf⟩

/-- **an accepted `supply` on top of an existing position is a `supplyMore` step of the risk model** (positive liquidity index) -/
theorem C11_sm_supply_more_is_user_step {s s' : St} {tok : String} {amount : Rat} {coll : Bool} {info : SupplyInfo}
    (hg : AList.get? s.supplies tok = some info) (hli : ∀ st, env.statusOf tok = .ok st → 0 < st.liqIdx)
    (h : supply aaveExact env tok amount coll s = (.ok (), s')) :
    AaveRisk.UserStepAll (proj env s) (proj env s') := by
  obtain ⟨st, w', _, hpos, hst, _, _, _, hcore⟩ := supply_accepted h
  have hsup : s'.supplies = AList.set s.supplies tok { info with base := info.base + amount / st.liqIdx } := by
    have := hcore.1
    rw [hg] at this
    exact this
  have hbor : s'.borrows = s.borrows := hcore.2.1
  have hp : proj env s' = (⟨AaveRisk.setSupplyBase (proj env s).supplies tok ((projSup env (tok, info)).base + amount / st.liqIdx),
      (proj env s).debts⟩ : AaveRisk.Portfolio) := by
    unfold proj projPos
    rw [hsup, hbor, set_proj_supply_base s.supplies tok info _ hg]
    rfl
  rw [hp]
  exact AaveRisk.UserStepAll.supplyMore (proj env s) tok (projSup env (tok, info)) (amount / st.liqIdx)
    (findSupply_proj_get hg) (div_pos hpos (hli st hst))

/-! non-vacuity: both kinds of call are accepted once the wallet of `c11rSt` is funded -/
def c11rStFunded : St := { c11rSt with wallet := [("USDC", 50), ("WETH", 1)] }

example : (match repay aaveExact c11rEnv "USDC" (some 50) false none c11rStFunded with
    | (.ok (), s') => decide (s'.borrows = [("USDC", ⟨50, 1⟩)]) | _ => false) = true := by decide +kernel
example : (match supply aaveExact c11rEnv "WETH" 1 true c11rStFunded with
    | (.ok (), s') => decide (s'.supplies = [("WETH", ⟨10 + 1 / (11/10), true, 1⟩)]) | _ => false) = true := by decide +kernel

end Demeter
