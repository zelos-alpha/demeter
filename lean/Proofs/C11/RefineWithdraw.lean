/-
  C11 — refinement, continued: `withdraw` of the cache-carrying state machine simulates `withdraw` of the risk model.
  The interesting part is the trial deduction (`Aave.run_trialHealthFactor`): while `health_factor` is evaluated, `_supplies`
  holds the reduced balance and `_supplies_cache` is stale (the state is *not* coherent at that moment); the figure is
  nevertheless the risk model's health factor of `withdrawTrial`, because `health_factor` reads only the three value caches,
  two of which were just reset and the third of which belongs to the untouched borrow side.
-/
import Proofs.Lemmas.AaveRefineRun
import Proofs.C11
import Proofs.Lemmas.AaveExact
namespace Demeter
open Aave M

variable {cx : ACtx} {env : Env}

/-- **`withdraw` of the state machine simulates `withdraw` of the risk model** (explicit amount, open market, a token the
    bar has data for; `Aave.Sim`): accepted iff the risk model accepts on the projected portfolio — then the new positions
    project to the risk model's new portfolio, the debts are untouched and the wallet is credited with the amount —,
    otherwise refused with the corresponding exception, positions/wallet/log intact (the trial deduction is undone). -/
theorem C11_sm_withdraw_refines {s : St} (hs : Good cx env s) (hopen : env.isOpen = true) {tok : String}
    (hd : HasData env tok) (a : Rat) :
    Sim s (fun (r : AaveRisk.Portfolio × Rat) s' => proj env s' = r.1 ∧ r.2 = a ∧ s'.borrows = s.borrows ∧
        s'.wallet = Wallet.credit cx.toNumCtx s.wallet tok a)
      (AaveRisk.withdraw cx.toNumCtx (proj env s) tok (some a)) (withdraw cx env tok (some a) s) := by
  obtain ⟨⟨st, h1⟩, ⟨pr, h2⟩, ⟨r, h3⟩⟩ := hd
  rw [AaveRisk.withdraw_eq, proj_supplies, findSupply_proj]
  unfold withdraw guardOpen
  rw [run_bind_require_true hopen, h1, run_bind_ofRes_ok]
  cases hg : AList.get? s.supplies tok with
  | none => exact Sim.refuse (run_bind_err (getSupply_missing hg)) rfl
  | some info =>
    simp only [Option.map_some]
    obtain ⟨sa, ea, hata⟩ := run_getSupply hs.at hg
    rw [run_bind_ok ea]
    have hamt : (supViewOf cx env (tok, info)).amount = (projSup env (tok, info)).amount cx.toNumCtx := rfl
    have hli' : (projSup env (tok, info)).row.liqIndex = st.liqIdx := by simp only [projSup, rowOf_eq h1 h2 h3]
    simp only [Option.getD_some, hamt, hli', projSup_coll, projSup_base]
    refine Sim.require hata.2 (by simp) (fun _ => ?_)
    refine Sim.require hata.2 (by simp) (fun _ => ?_)
    have hga : AList.get? sa.supplies tok = some info := by rw [supplies_of_frame hata.2]; exact hg
    rw [run_bind_lookupSupply hga]
    unfold checkWithdrawHf
    by_cases hli : st.liqIdx = 0
    · -- a zero liquidity index: the division raises, before the trial (collateral) or inside `__sub_supply_amount`
      rw [if_pos hli]
      refine Sim.refuse ?_ hata.2
      cases hcoll : info.coll
      · simp only [Bool.false_eq_true, if_false]
        rw [run_bind_pure, run_bind_err (subSupplyAmount_divZero hga h1 hli a)]
        rfl
      · simp only [if_true, divE, if_pos hli]
        rfl
    rw [if_neg hli]
    cases hcoll : info.coll
    · simp only [Bool.false_eq_true, false_and, if_false]
      rw [run_bind_pure]
      obtain ⟨t', et, tp, tb, tw⟩ := withdraw_tail hs hata.2 hg h1 hli a
      exact Sim.accept et ⟨tp, rfl, tb, tw⟩
    · simp only [if_true, true_and, divE, if_neg hli]
      rw [run_bind_assoc, run_bind_ofRes_ok, run_bind_assoc]
      obtain ⟨s3, htr, hs3fr⟩ := run_trialHealthFactor hata hg a
      rw [show (rowOf env tok).liqIndex = st.liqIdx from hli'] at htr
      rw [run_bind_ok htr, toX_ltR, hfThreshold_eq]
      refine Sim.require hs3fr (by simp) (fun _ => ?_)
      obtain ⟨t', et, tp, tb, tw⟩ := withdraw_tail hs hs3fr hg h1 hli a
      exact Sim.accept et ⟨tp, rfl, tb, tw⟩

theorem Aave.sm_withdraw_ok {s s' : St} (hs : Good cx env s) (hopen : env.isOpen = true) {tok : String}
    (hd : HasData env tok) {a : Rat} (h : withdraw cx env tok (some a) s = (.ok (), s')) :
    AaveRisk.withdraw cx.toNumCtx (proj env s) tok (some a) = .ok (proj env s', a) := by
  obtain ⟨⟨p', x⟩, hr, hp, hx, _⟩ := (C11_sm_withdraw_refines hs hopen hd a).ok_inv h
  rw [hr, hp, ← hx]

/-- **HF ≥ 1 after a collateral withdrawal accepted by the state machine** (exact arithmetic, whatever caches were warm):
    the debts are untouched and, unless `sub_base_amount` snapped dust away, an account with debt ends with health
    factor ≥ 1 — `C11_withdraw_hf` transferred along the simulation. -/
theorem C11_sm_withdraw_hf {env : Env} {s s' : St} (hs : Good aaveExact env s) (hopen : env.isOpen = true)
    {tok : String} (hd : HasData env tok) (hwf : (proj env s).WF) {info : SupplyInfo}
    (hg : AList.get? s.supplies tok = some info) (hcoll : info.coll = true) {a : Rat}
    (h : withdraw aaveExact env tok (some a) s = (.ok (), s')) :
    (proj env s').debts = (proj env s).debts ∧
    (AaveRisk.snapDust info.base (a / (rowOf env tok).liqIndex) = 0 → 0 < AaveRisk.totalDebt NumCtx.exact (proj env s') →
      ∃ hf, AaveRisk.healthFactor NumCtx.exact (proj env s') = some hf ∧ 1 ≤ hf) := by
  obtain ⟨_, hdebts, _, hhf⟩ := C11_withdraw_hf hwf (findSupply_proj_get hg) hcoll (sm_withdraw_ok hs hopen hd h)
  exact ⟨hdebts, hhf⟩

end Demeter
