/-
  C11 — the helpers `get_max_borrow_amount` / `get_max_withdraw_amount`: their amounts are accepted, bounded by the
  supply, and amounts beyond the limit are rejected (exact context); under the 35-digit Decimal rounding the max-withdraw
  amount can be refused (`C11_fails_max_withdraw_rounded`, a kernel-checked witness).
-/
import Proofs.C11
namespace Demeter
open AaveRisk

namespace AaveRisk

theorem maxBorrowAmount_exact_eq (p : Portfolio) (row : Row) :
    maxBorrowAmount NumCtx.exact p row =
      if totalCollateral NumCtx.exact p = 0 then .error .arith else
      if row.price = 0 then .error .arith else
      .ok ((totalCollateral NumCtx.exact p * (weightedLtv NumCtx.exact p / totalCollateral NumCtx.exact p)
              - totalDebt NumCtx.exact p) * Gen.arMaxBorrowMargin / row.price) := rfl

theorem borrow_none_eq {cx : NumCtx} {p : Portfolio} (tok : String) {row : Row} {a : Rat}
    (h : maxBorrowAmount cx p row = .ok a) : borrow cx p tok row none = borrow cx p tok row (some a) := by
  unfold borrow; rw [h]; rfl

theorem minWithdrawKept_exact_eq (p : Portfolio) (s : Supply) :
    minWithdrawKept NumCtx.exact p s =
      if s.coll = false then .ok 0 else
      if s.row.lt = 0 then .error .arith else
      if s.row.price = 0 then .error .arith else
      .ok ((Gen.arHfLiqThreshold * totalDebt NumCtx.exact p - othersLt NumCtx.exact p s.tok) / s.row.lt / s.row.price) := rfl

/-- for a collateral, the kept amount of `get_min_withdraw_kept_amount` is the balance at which the trial state of
    `withdraw` has health factor exactly 1: the withdrawal of `a` passes the test iff it leaves at least that much -/
theorem minWithdrawKept_coll {p : Portfolio} (hwf : p.WF) {s : Supply} (hs : s ∈ p.supplies) (hcoll : s.coll = true) (a : Rat) :
    ∃ kept, minWithdrawKept NumCtx.exact p s = .ok kept
      ∧ kept * s.row.price * s.row.lt = totalDebt NumCtx.exact p - (weightedLt NumCtx.exact p - gLt s)
      ∧ (totalDebt NumCtx.exact p ≤ weightedLt NumCtx.exact (withdrawTrial NumCtx.exact p s a)
          ↔ kept ≤ s.base * s.row.liqIndex - a) := by
  obtain ⟨_, hr, hlt⟩ := hwf.sup s hs
  have hltpos := hlt hcoll
  have hpr := hr.price_pos
  have hli := hr.li_pos
  have hk : (Gen.arHfLiqThreshold * totalDebt NumCtx.exact p - othersLt NumCtx.exact p s.tok) / s.row.lt / s.row.price
      * s.row.price * s.row.lt = totalDebt NumCtx.exact p - (weightedLt NumCtx.exact p - gLt s) := by
    rw [othersLt_exact hwf.supKeys hs, hfLiqThreshold_eq_one]
    field_simp
  refine ⟨_, by rw [minWithdrawKept_exact_eq, if_neg (by simp [hcoll]), if_neg (ne_of_gt hltpos), if_neg (ne_of_gt hpr)],
    hk, ?_⟩
  generalize (Gen.arHfLiqThreshold * totalDebt NumCtx.exact p - othersLt NumCtx.exact p s.tok) / s.row.lt / s.row.price
    = kept at hk
  have hg : gLt { s with base := s.base - a / s.row.liqIndex }
      = (s.base * s.row.liqIndex - a) * s.row.price * s.row.lt := by
    unfold gLt; simp only [hcoll, if_true, Supply.value_exact]; field_simp
  rw [weightedLt_withdrawTrial hwf.supKeys hs, hg]
  constructor
  · intro h
    have h1 : kept * s.row.price * s.row.lt ≤ (s.base * s.row.liqIndex - a) * s.row.price * s.row.lt := by linarith
    exact le_of_mul_le_mul_right (le_of_mul_le_mul_right h1 hltpos) hpr
  · intro h
    have h1 := mul_le_mul_of_nonneg_right (mul_le_mul_of_nonneg_right h (le_of_lt hpr)) (le_of_lt hltpos)
    linarith

end AaveRisk

/-- **The helper's value**: `get_max_borrow_amount = (collateral × weighted max-LTV − debt) × 0.99 / price`. -/
theorem C11_max_borrow_value {p : Portfolio} {row : Row} {a : Rat} (h : maxBorrowAmount NumCtx.exact p row = .ok a) :
    Gen.arMaxBorrowMargin = 99 / 100 ∧ totalCollateral NumCtx.exact p ≠ 0 ∧ row.price ≠ 0
    ∧ a = (weightedLtv NumCtx.exact p - totalDebt NumCtx.exact p) * (99 / 100) / row.price := by
  rw [maxBorrowAmount_exact_eq] at h
  split at h; · cases h
  split at h; · cases h
  rename_i h1 h2
  simp only [Except.ok.injEq] at h
  refine ⟨by unfold Gen.arMaxBorrowMargin; norm_num, h1, h2, ?_⟩
  rw [← h, mul_div_cancel₀ _ h1]; unfold Gen.arMaxBorrowMargin; norm_num

/-- **The max-borrow amount is accepted** (when it is positive and the token can be borrowed), both when passed
    explicitly and as `borrow(token, None)`. -/
theorem C11_max_borrow_accepted {p : Portfolio} (hwf : p.WF) (hs : p.Sane) (tok : String) {row : Row} (hr : row.WF)
    (hcb : row.canBorrow = true) {a : Rat} (hmax : maxBorrowAmount NumCtx.exact p row = .ok a) (ha : 0 < a) :
    ∃ p', borrow NumCtx.exact p tok row (some a) = .ok (p', a) ∧ borrow NumCtx.exact p tok row none = .ok (p', a) := by
  obtain ⟨_, htc, _, hval⟩ := C11_max_borrow_value hmax
  have hp := hr.price_pos
  have htc0 : 0 < totalCollateral NumCtx.exact p := lt_of_le_of_ne hwf.totalCollateral_nonneg (Ne.symm htc)
  have hB := hwf.totalDebt_nonneg
  have hav : a * row.price = (weightedLtv NumCtx.exact p - totalDebt NumCtx.exact p) * (99 / 100) := by
    rw [hval]; field_simp
  have hgap : 0 < weightedLtv NumCtx.exact p - totalDebt NumCtx.exact p := by
    have : 0 < a * row.price := by positivity
    rw [hav] at this; linarith
  have hW : 0 < weightedLtv NumCtx.exact p := by linarith
  have hm : 0 < weightedLtv NumCtx.exact p / totalCollateral NumCtx.exact p := div_pos hW htc0
  have hle := hwf.weightedLtv_le_weightedLt hs
  have hhf : (healthFactor NumCtx.exact p).gtB Gen.arHfLiqThreshold = true := by
    rw [healthFactor_exact]
    split
    · rfl
    · rename_i hne
      have hBpos : 0 < totalDebt NumCtx.exact p := lt_of_le_of_ne hB (Ne.symm hne)
      simp only [XRat.gtB, decide_eq_true_eq]
      rw [hfLiqThreshold_eq_one, lt_div_iff₀ hBpos]; linarith
  have hcov : (totalDebt NumCtx.exact p + a * row.price) / (weightedLtv NumCtx.exact p / totalCollateral NumCtx.exact p)
      ≤ totalCollateral NumCtx.exact p := by
    rw [div_le_iff₀ hm, hav, mul_div_cancel₀ _ htc]; linarith
  have hacc : borrow NumCtx.exact p tok row (some a)
      = .ok ({ p with debts := addDebt NumCtx.exact p.debts tok row (a / row.borIndex) }, a) :=
    (borrow_ok_iff NumCtx.exact p tok row a _).mpr
      ⟨⟨ha, hcb, htc, ne_of_gt hm, hhf, hcov, ne_of_gt hr.bi_pos⟩, rfl⟩
  exact ⟨_, hacc, by rw [borrow_none_eq tok hmax, hacc]⟩

/-- **The max-withdraw amount never exceeds what is supplied** (repaired: the kept amount is floored at 0). -/
theorem C11_max_withdraw_le_supplied {p : Portfolio} {tok : String} {a : Rat}
    (h : maxWithdrawAmount NumCtx.exact p tok = .ok a) :
    ∃ s, findSupply? p.supplies tok = some s ∧ a ≤ s.amount NumCtx.exact ∧ a ≤ supplyAmountOf NumCtx.exact p tok := by
  obtain ⟨s, kept, hf, _, rfl⟩ := (maxWithdrawAmount_ok_iff _ p tok a).mp h
  have hle : s.amount NumCtx.exact - (if kept > 0 then kept else 0) ≤ s.amount NumCtx.exact := by
    split <;> linarith
  refine ⟨s, hf, hle, ?_⟩
  unfold supplyAmountOf; rw [hf]; exact hle

/-- **The max-withdraw amount is accepted** in exact arithmetic.  (`_partial`: under the 35-digit Decimal rounding the
    implementation can refuse it, `C11_fails_max_withdraw_rounded`; known finding `max_withdraw.rejected-by-rounding`.)
    Full statement that fails on the code: `∀ p tok a, maxWithdrawAmount NumCtx.py p tok = .ok a → 0 < a →
    ∃ r, withdraw NumCtx.py p tok (some a) = .ok r`. -/
theorem C11_max_withdraw_accepted_partial {p : Portfolio} (hwf : p.WF) {tok : String} {a : Rat}
    (hmax : maxWithdrawAmount NumCtx.exact p tok = .ok a) (ha : 0 < a) :
    ∃ p', withdraw NumCtx.exact p tok (some a) = .ok (p', a) := by
  obtain ⟨s, hf, hle, _⟩ := C11_max_withdraw_le_supplied hmax
  obtain ⟨s', kept0, hf', hk0, hmax⟩ := (maxWithdrawAmount_ok_iff _ p tok a).mp hmax
  cases hf.symm.trans hf'
  obtain ⟨hsm, _⟩ := mem_of_findSupply hf
  refine ⟨_, (withdraw_ok_iff NumCtx.exact p tok a _).mpr
    ⟨s, hf, ⟨ha, hle, ne_of_gt (hwf.sup s hsm).2.1.li_pos, fun hcoll => ?_⟩, rfl⟩⟩
  obtain ⟨kept, hkept, _, hiff⟩ := minWithdrawKept_coll hwf hsm hcoll a
  rw [Except.ok.inj (hk0.symm.trans hkept), NumCtx.exact_sub, Supply.amount_exact] at hmax
  refine (healthy_iff_not_ltB_one (p := withdrawTrial NumCtx.exact p s a) hwf.totalDebt_nonneg).mp (Or.inr (hiff.mpr ?_))
  rw [← hmax]
  split
  · linarith
  · rename_i hn; linarith [not_lt.mp hn]

/-- **Beyond the max-withdraw amount the withdrawal is rejected.** -/
theorem C11_withdraw_beyond_max_rejected {p : Portfolio} (hwf : p.WF) {tok : String} {m a : Rat}
    (hmax : maxWithdrawAmount NumCtx.exact p tok = .ok m) (hgt : m < a) :
    ∃ c, withdraw NumCtx.exact p tok (some a) = .error c := by
  cases hw : withdraw NumCtx.exact p tok (some a) with
  | error c => exact ⟨c, rfl⟩
  | ok r =>
    exfalso
    obtain ⟨s, hf, ha, hle, hli0, h4⟩ := (C11_withdraw_accept_iff p tok a).mp ⟨r, hw⟩
    obtain ⟨s', kept0, hf', hk0, hmax⟩ := (maxWithdrawAmount_ok_iff _ p tok m).mp hmax
    cases hf.symm.trans hf'
    obtain ⟨hsm, hst⟩ := mem_of_findSupply hf
    obtain ⟨hb, hr, hlt⟩ := hwf.sup s hsm
    rw [Supply.amount_exact] at hle
    rw [NumCtx.exact_sub, Supply.amount_exact] at hmax
    by_cases hcoll : s.coll = true
    · obtain ⟨kept, hkept, hk, hiff⟩ := minWithdrawKept_coll hwf hsm hcoll a
      rw [Except.ok.inj (hk0.symm.trans hkept)] at hmax
      by_cases hkp : kept > 0
      · rw [if_pos hkp] at hmax
        -- with a positive kept amount there is debt, so the trial state had `Σ debt ≤ Σ value·LT`
        have hBpos : 0 < totalDebt NumCtx.exact p := by
          have : 0 < kept * s.row.price * s.row.lt := mul_pos (mul_pos hkp hr.price_pos) (hlt hcoll)
          have := hwf.gLt_le_weightedLt hsm
          linarith
        rcases (healthy_iff_not_ltB_one (p := withdrawTrial NumCtx.exact p s a) hwf.totalDebt_nonneg).mpr (h4 hcoll) with h0 | hle2
        · exact absurd h0 (ne_of_gt hBpos)
        · have := hiff.mp hle2
          linarith
      · rw [if_neg hkp] at hmax; linarith
    · have hc : s.coll = false := by simpa using hcoll
      rw [minWithdrawKept_exact_eq, if_pos hc] at hk0
      cases hk0
      simp only [gt_iff_lt, lt_self_iff_false, if_false, sub_zero] at hmax
      linarith

namespace AaveRisk
/-- `get_max_withdraw_amount(WETH)` of `c11P` (10 WETH at 1000 USD, LT 0.825, debt 1000 USDC) under CPython's rounding -/
def c11MaxW : Rat := 87878787878787878787878787878787879 / 10000000000000000000000000000000000
end AaveRisk

/-- **Finding (known: `max_withdraw.rejected-by-rounding`)**: under the 35-digit half-even rounding of CPython's Decimal
    the property "the max-withdraw amount is itself accepted" is false: for 10 WETH at 1000 USD (LT 0.825) against
    1000 USDC the helper returns 8.7878…79 and withdrawing exactly that is refused (HF after = 1 − 4·10⁻³⁵). -/
theorem C11_fails_max_withdraw_rounded :
    ¬ (∀ (p : Portfolio) (tok : String) (a : Rat), p.WF → maxWithdrawAmount NumCtx.py p tok = .ok a → 0 < a →
        ∃ r, withdraw NumCtx.py p tok (some a) = .ok r) := by
  intro h
  have h1 : maxWithdrawAmount NumCtx.py c11P "WETH" = .ok c11MaxW := by decide +kernel
  have h2 : withdraw NumCtx.py c11P "WETH" (some c11MaxW) = .error .hfLowAfter := by decide +kernel
  obtain ⟨r, hr⟩ := h c11P "WETH" c11MaxW c11P_wf h1 (by decide +kernel)
  rw [h2] at hr; cases hr

namespace AaveRisk
example : maxBorrowAmount NumCtx.exact c11P c11RowU = .ok 6930 := by decide +kernel
example : maxWithdrawAmount NumCtx.exact c11P "WETH" = .ok (290 / 33) := by decide +kernel
example : c11P.Sane := by
  intro s hs
  simp only [c11P, List.mem_singleton] at hs
  subst hs; decide +kernel
end AaveRisk

end Demeter
