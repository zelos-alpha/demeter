/-
  The Deribit world the examples of C15, C03 and C04 run on: one open ETH call with three ask and two bid levels (the last ask a
  float residue), an account of 100 ETH cash and 5 ETH in the wallet on an open bar, and a request for it by amount and price.
  Elaborated with Mathlib in scope, as the statements about it are.
-/
import Proofs.Lemmas.Deribit
namespace Demeter
open Demeter.Deribit

def Deribit.exInstr : Instr :=
  { name := "ETH-22SEP23-1650-C", stateOpen := true, kind := .call, strike := 1650, expiry := 30000,
    mark := 287 / 10000, underlying := 165194 / 100, delta := 52071 / 100000, gamma := 342 / 100000,
    asks := [⟨57 / 2000, 5, false⟩, ⟨29 / 1000, 605, false⟩, ⟨59 / 2000, 197, true⟩],
    bids := [⟨28 / 1000, 51, false⟩, ⟨55 / 2000, 585, false⟩] }

def Deribit.exState : DState :=
  { cash := 100, positions := [], book := [Deribit.exInstr], wallet := [("ETH", 5)], allowNeg := false, actions := [],
    cache := none, flagOpen := true, now := 360, price := 165194 / 100, priceDec := false }

def Deribit.exReq (a : Rat) (p : Option Rat) : Req :=
  { name := "ETH-22SEP23-1650-C", amount := a, priceTok := p, priceUsd := none, mult := none }

end Demeter
