/-
  A small concrete world of the Uniswap market model for examples and counterexamples: a kernel with constant answers,
  a pool, and a market with an open status, no position and a wallet holding both pool tokens.
-/
import Demeter.Uni.Step
import Proofs.Lemmas.Exact
namespace Demeter.Uni

/-- a stand-in kernel with constant answers: enough to run `addRaw` by `decide` -/
def toyKern : Kern :=
  { cx := NumCtx.exact
    priceToSqrt := fun _ _ => .ok 1
    sqrtToPrice := fun _ _ => .ok 1
    tickToPrice := fun _ _ => .ok 1
    newPos := fun _ _ _ _ _ _ => .ok (5, 5, 7)
    amounts := fun _ _ _ _ _ _ => .ok (0, 0)
    tickToSqrt := fun _ => .ok 1 }

def toyPool : Pool :=
  { tok0 := "a", tok1 := "b", d0 := 6, d1 := 18, feeRate := 3 / 1000, spacing := 10, q0 := true, decFac := 1 }

def toyState : State :=
  { positions := [], lastTick := none, row := none, ts := none, isOpen := true, hasUpdate := false,
    wallet := [("a", 10), ("b", 1)], allowNeg := false, actions := [] }

end Demeter.Uni
