/-
  Concrete worlds of the Aave state machine that the examples and `fails_*` theorems of several property directories share: an exact
  arithmetic context (`c04AaveCx`), a two-token bar (`c04AaveEnv`; `c11rEnv` is the same bar), three states with 10 WETH of collateral
  and a USDC debt of 7000 with a wallet (`c04AaveSt`), of 100 (`c11rSt`, healthy) and of 10 000 (`c12rSt`, liquidatable), a test for
  "raised exactly this" (`c04AaveErrIs`), and the WETH row of the examples on the pure risk layer (`AaveRisk.c11RowW`).
-/
import Demeter.Aave
import Demeter.AaveRisk
namespace Demeter
open Aave

def c04AaveCx : ACtx := { rnd := id, dsqrt := dsqrt35, dpow := fun x n => x ^ n }

def c04AaveEnv : Env :=
  { status := [("WETH", ⟨1/100, 3/100, 11/10, 12/10⟩), ("USDC", ⟨1/100, 3/100, 1, 1⟩)],
    price := [("WETH", 1000), ("USDC", 1)],
    risk := [("WETH", ⟨true, 8/10, 825/1000, 5/100, true⟩), ("USDC", ⟨true, 8/10, 85/100, 4/100, true⟩)],
    isOpen := true }

def c04AaveSt : St :=
  { St.init with supplies := [("WETH", ⟨10, true, 1⟩)], borrows := [("USDC", ⟨7000, 1⟩)], wallet := [("WETH", 5)] }

def c04AaveErrIs {α : Type} (r : Res α) (e : Err) : Bool :=
  match r with
  | .error e' => e' == e
  | .ok _ => false

def c11rEnv : Env :=
  { status := [("WETH", ⟨1/100, 3/100, 11/10, 12/10⟩), ("USDC", ⟨1/100, 3/100, 1, 1⟩)],
    price := [("WETH", 1000), ("USDC", 1)],
    risk := [("WETH", ⟨true, 8/10, 825/1000, 5/100, true⟩), ("USDC", ⟨true, 8/10, 85/100, 4/100, true⟩)],
    isOpen := true }

/-- 10 WETH of collateral (11 000 USD at index 1.1), 100 USDC of debt -/
def c11rSt : St := { St.init with supplies := [("WETH", ⟨10, true, 1⟩)], borrows := [("USDC", ⟨100, 1⟩)] }

/-- 10 WETH (11 000 USD, LT 0.825) against 10 000 USDC of debt: HF = 0.9075, inside (0, 1) -/
def c12rSt : St := { St.init with supplies := [("WETH", ⟨10, true, 1⟩)], borrows := [("USDC", ⟨10000, 1⟩)] }

namespace AaveRisk
def c11RowW : Row := { liqIndex := 1, borIndex := 1, price := 1000, ltv := 8/10, lt := 825/1000, bonus := 5/100, canColl := true, canBorrow := true }
end AaveRisk

end Demeter
