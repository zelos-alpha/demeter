/-
  Concrete configurations, scripts and trigger lists of the Actuator models that the examples and counter-examples of several property
  directories (C01, C02, C05, C18) run; and the scripts "one hook raises at one place" that the statements about raising hooks speak of.
-/
import Demeter.Actuator.Hooks
namespace Demeter
open Core

/-! a minutely and an hourly market, raw 1-minute bars from 08:58 -/

def Core.exCfg : Cfg :=
  { markets := [{ idx := [32280, 32340, 32400, 32460], openCb := true }, { idx := [32400], openCb := false }], priceIdx := [32280, 32340, 32400, 32460], Δ := 60, resample := false }

def Core.exScript : Script :=
  { init := [⟨0, true, "i", true⟩], before := fun _ => [], fire := fun _ _ => [⟨1, true, "f", true⟩], openCb := fun _ _ => [],
    on := fun r => if r = 2 then [⟨1, true, "a", true⟩, ⟨0, false, "b", true⟩] else [⟨1, true, "c", true⟩, ⟨1, true, "free", false⟩],
    after := fun _ => [],
    upd := fun r m => if r = 3 ∧ m = 0 then ["liq"] else [] }

/-- a general script on the two markets of `Core.exCfg`: a strategy that trades in `on_bar` of every bar and answers the delivery of `o2`
    from inside `notify` with another trade; two triggers due on every bar (`Core.exTrigs`): the action of trigger 0 removes that trigger on
    bar 1, the action of trigger 1 installs trigger 7 on bar 2 -/
def Core.exG : GScript :=
  { init := [.op ⟨0, true, "i", true⟩],
    bar := fun r =>
      { before := [], fire := fun i => if i = 0 ∧ r = 1 then [.tdel 0] else if i = 1 ∧ r = 2 then [.tadd ⟨7, "", .range 0 100000⟩] else [],
        openCb := fun _ => [], on := [.op ⟨0, true, s!"o{r}", true⟩], after := [], upd := fun _ => [],
        notify := fun t => if t == "o2" then [.op ⟨0, true, "n2", false⟩] else [] },
    fuel := 4, tfuel := 4 }

def Core.exTrigs : List Trig := install [("", .range 0 100000), ("", .range 0 100000)]

def Core.rerunCfg : Cfg := { markets := [{ idx := [0, 60, 120, 180], openCb := false }], priceIdx := [0, 60, 120, 180], Δ := 60, resample := false }
def Core.rerunScript : Script :=
  { init := [], before := fun _ => [], fire := fun _ _ => [], openCb := fun _ _ => [], on := fun _ => [], after := fun _ => [], upd := fun _ _ => [] }
def Core.rerunTrigs : List Trig := install [("", .period 120 true 0 none), ("", .atTime 60)]

/-- `b` with the body of hook `h` (for `notify`: the answer to the delivery of `tag`) replaced by its first `j` statements followed by `raise e` -/
def Core.BarScript.raiseIn (b : BarScript) (h : Hook) (tag : String) (j : Nat) (e : PyErr) : BarScript :=
  match h with
  | .init => b
  | .before => { b with before := cutBody j e b.before }
  | .fire id => { b with fire := fun i => if i = id then cutBody j e (b.fire i) else b.fire i }
  | .openCb m => { b with openCb := fun i => if i = m then cutBody j e (b.openCb i) else b.openCb i }
  | .on => { b with on := cutBody j e b.on }
  | .after => { b with after := cutBody j e b.after }
  | .notify => { b with notify := fun t => if t = tag then cutBody j e (b.notify t) else b.notify t }

/-- `g` with one raise: in hook `h` on bar `row` (`initialize` has no bar), after `j` statements of its body -/
def Core.GScript.raiseAt (g : GScript) (row : Nat) (h : Hook) (tag : String) (j : Nat) (e : PyErr) : GScript :=
  match h with
  | .init => { g with init := cutBody j e g.init }
  | _ => { g with bar := fun r => if r = row then (g.bar r).raiseIn h tag j e else g.bar r }

end Demeter
