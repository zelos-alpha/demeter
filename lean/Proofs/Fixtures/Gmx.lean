/-
  Concrete GMX worlds for the examples and witnesses of C17 and C03: a two-token GLP row and an empty v1 holding; the GM
  pool configuration with the defaults found in the source, a pool with 10 M USD long against 30 M USD short, a v2 holding,
  and squaring as the power function.
-/
import Demeter.GmxV1
import Demeter.GmxV2
import Demeter.Gen.ConstsGmx
-- not for a lemma: with Mathlib in scope `10 ^ 30 : Rat` elaborates through `Monoid.npow`, without it through core's `HPow`;
-- the statements about these worlds (`Gmx.demoEnv_pos`, the examples) were elaborated with Mathlib, so the worlds are too
import Proofs.Lemmas.Gmx
namespace Demeter

section
open Demeter.GmxV1

/-- two tokens, WETH 20 % under its target weight; AUM 10⁷ USD, GLP supply 8·10⁶ -/
def Gmx.demoEnv : Env :=
  { rows := [{ name := "weth", price := 2000 * 10 ^ 30, usdg := 4 * 10 ^ 24, weight := 1 },
             { name := "usdc", price := 10 ^ 30, usdg := 5 * 10 ^ 24, weight := 1 }],
    tokenSet := ["weth", "usdc"], glpSupply := 8 * 10 ^ 24, aum := 10 ^ 37, usdgSupply := 10 ^ 25,
    interval := 10 ^ 15, glpPrice := 5 / 4, wavaxPrice := 30 * 10 ^ 30 }

def Gmx.demoState : State := { glp := 0, reward := 0, wallet := [("WETH", 3)], actions := [] }

end

section
open Demeter.GmxV2

/-- `PoolConfig()` with the defaults found in the source (exact binary values of the float literals) -/
def Gmx2.defaultCfg : Config Rat :=
  { impactExponent := Gen.gmx2ImpactExponent, impactFactorPos := Gen.gmx2ImpactFactorPos, impactFactorNeg := Gen.gmx2ImpactFactorNeg,
    depositFeePos := Gen.gmx2DepositFeePos, depositFeeNeg := Gen.gmx2DepositFeeNeg, withdrawFeePos := Gen.gmx2WithdrawFeePos,
    withdrawFeeNeg := Gen.gmx2WithdrawFeeNeg }

/-- 10 M USD of the long token against 30 M USD of the short token, 1 M tokens in the impact pool -/
def Gmx2.demoPool : Pool Rat :=
  { longAmount := 5000, shortAmount := 30000000, virtualLong := none, virtualShort := none, poolValue := 40000000, supply := 40000000,
    impactPool := 1000000, longPrice := 2000, shortPrice := 1 }

def Gmx2.demoState : State Rat := { amount := 0, wallet := [("WETH", 1000), ("USDC", 50000)], actions := [] }

def Gmx2.sq (x _ : Rat) : Rat := x * x

end

end Demeter
