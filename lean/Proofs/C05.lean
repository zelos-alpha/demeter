/-
  C05 — each bar runs once, in order, with a fixed phase order; logs align with bars.

  Model: Demeter/Actuator.lean (`run`): the bar loop of demeter/core/actuator.py over abstract markets (time index, is_open,
  has_update, open callback; operations and update() effects uninterpreted), real trigger objects (Demeter/Trigger.lean), a
  scripted strategy (what every hook does on every bar, for all scripts).  The theorems are about the call trace, the
  account rows and the action list of every run that ends normally (`err = none`: the price frame has a row for every bar,
  the triggers can be evaluated); what ends a run abnormally is part of the model and of the correspondence check.
-/
import Proofs.Lemmas.CoreRefresh
import Proofs.Lemmas.CoreGate
import Proofs.Lemmas.CoreTrig
import Proofs.Lemmas.CoreHooksPlain
import Proofs.Lemmas.CoreHooksBooks
import Proofs.Lemmas.CoreBarIndex
import Proofs.Fixtures.Core
namespace Demeter
open Core

/-- **C05 — each bar once, in increasing order.**  The `before_bar` calls of a run are, in order, exactly the bars of the
    (resampled) index with row ids 0, 1, 2, …; so are the `on_bar` and `after_bar` calls and the account rows. -/
theorem C05_each_bar_once_in_order (cfg : Cfg) (trigs : List Trig) (sc : Script) (h : (run cfg trigs sc).err = none) :
    (run cfg trigs sc).trace.filterMap beforeOf = (barIndex cfg).zipIdx ∧
    (run cfg trigs sc).trace.filterMap onOf = (barIndex cfg).zipIdx ∧
    (run cfg trigs sc).trace.filterMap afterOf = (barIndex cfg).zipIdx ∧
    (run cfg trigs sc).trace.filterMap rowOf = (barIndex cfg).map (fun ts => (ts, priceRow cfg ts)) := by
  -- each of the four sees, of a bar, the one call of its phase
  have once : ∀ (l : List Int) (n : Nat), (l.zipIdx n).flatMap (fun x => [(x.1, x.2)]) = l.zipIdx n := fun l n => by simp
  refine ⟨?_, ?_, ?_, ?_⟩
  · rw [core_run_fm_bars beforeOf beforeOf_phase (by omega) cfg trigs sc (fun ts row => [(ts, row)])
      (fun row ts st => BarParts.fm_seg beforeOf_phase (barParts_segs_at cfg sc row ts st _) (l := [.before ts row _]) rfl) h, once]
  · rw [core_run_fm_bars onOf onOf_phase (by omega) cfg trigs sc (fun ts row => [(ts, row)])
      (fun row ts st => BarParts.fm_seg onOf_phase (barParts_segs_at cfg sc row ts st _) (l := [.on ts row _]) rfl) h, once]
  · rw [core_run_fm_bars afterOf afterOf_phase (by omega) cfg trigs sc (fun ts row => [(ts, row)])
      (fun row ts st => BarParts.fm_seg afterOf_phase (barParts_segs_at cfg sc row ts st _) (l := [.after ts row _]) rfl) h, once]
  · rw [core_run_fm_bars rowOf rowOf_phase (by omega) cfg trigs sc (fun ts _ => [(ts, priceRow cfg ts)])
      (fun row ts st => BarParts.fm_seg rowOf_phase (barParts_segs_at cfg sc row ts st _) (l := [.row ts _]) rfl) h]
    rw [flatMap_zipIdx_fst (fun ts => [(ts, priceRow cfg ts)]), ← List.map_eq_flatMap]

theorem core_distinctTimes_of_strict : ∀ l : List Int, l.Pairwise (· < ·) → distinctTimes l = l :=
  distinctTimes_sorted

/-- **C05 — the bar index is that of the market with the most DISTINCT TIMESTAMPS** (`get_test_range`), however many rows the frames hold
    per timestamp: no market has more distinct timestamps than the chosen index -/
theorem C05_bar_index_market_has_most_timestamps : ∀ ms : List MarketCfg, ∀ mc ∈ ms, (distinctTimes mc.idx).length ≤ (longestIdx ms).length
  | [], _, h => nomatch h
  | m :: rest, mc, h => by
    unfold longestIdx
    rcases List.mem_cons.mp h with rfl | h'
    · split <;> omega
    · have := C05_bar_index_market_has_most_timestamps rest mc h'
      split <;> omega

/-- the bars of a run are strictly increasing in time: the resampled index is an arithmetic grid, the raw index is the distinct
    timestamps of the data's own (non-decreasing) time index -/
theorem C05_bar_index_increasing (cfg : Cfg) (hΔ : 0 < cfg.Δ) (hraw : ∀ mc ∈ cfg.markets, mc.idx.Pairwise (· ≤ ·)) :
    (barIndex cfg).Pairwise (· < ·) := by
  unfold barIndex frameIdx
  split
  · unfold resampleIdx
    split
    · exact grid_pairwise _ _ hΔ _
    · exact List.Pairwise.nil
  · by_cases hne : cfg.markets = []
    · rw [hne]; exact List.Pairwise.nil
    · obtain ⟨m, hm, he⟩ := longestIdx_mem cfg.markets hne
      rw [he]; exact distinctTimes_pairwise _ (hraw m hm)

/-- **C05 — fixed phase order.**  Along the whole call trace the pair (bar timestamp, phase) never decreases, where the
    phases of a bar are: first refresh of every market, `before_bar`, what it does, trigger actions, open callbacks, `on_bar`,
    what it does, second refresh, `market.update()`, `after_bar`, what it does, account row, `notify`; in particular the
    market update comes after `on_bar` and before `after_bar`, and `notify` is last. -/
theorem C05_phase_order (cfg : Cfg) (trigs : List Trig) (sc : Script) (h : (run cfg trigs sc).err = none)
    (hidx : (barIndex cfg).Pairwise (· < ·)) : (run cfg trigs sc).trace.Pairwise KeyLe := by
  obtain ⟨ts0, bars, hb, _, _, hl, htr, _, _, _⟩ := run_ok h
  rw [htr]
  rw [hb] at hidx
  exact runTrace_sorted cfg trigs sc ts0 bars hidx hl

/-- every event of the trace of a normal run carries the timestamp of a bar of the index -/
theorem C05_events_on_bars (cfg : Cfg) (trigs : List Trig) (sc : Script) (h : (run cfg trigs sc).err = none)
    (hidx : (barIndex cfg).Pairwise (· < ·)) : ∀ e ∈ (run cfg trigs sc).trace, ∃ t ∈ barIndex cfg, e.ts = some t := by
  rw [← runG_plain] at h ⊢
  intro e he
  rcases runG_events_on_bars cfg trigs (ofScript sc) e he with h' | ⟨x, _, hx⟩
  · exact h'
  · rw [h] at hx; cases hx

/-- **C05 — one account-history row per bar, carrying that bar's timestamp and token prices.** -/
theorem C05_account_rows (cfg : Cfg) (trigs : List Trig) (sc : Script) (h : (run cfg trigs sc).err = none) :
    (run cfg trigs sc).rows = (barIndex cfg).map (fun ts => (ts, priceRow cfg ts)) ∧
    (run cfg trigs sc).rows.length = (barIndex cfg).length := by
  -- the account history is what the trace shows as rows — the books of the general model, of which `run` is the case `ofScript sc` —,
  -- and those are one per bar
  have hrows : (run cfg trigs sc).rows = (barIndex cfg).map (fun ts => (ts, priceRow cfg ts)) := by
    rw [← (C05_each_bar_once_in_order cfg trigs sc h).2.2.2, ← runG_plain]
    exact (runG_books cfg trigs (ofScript sc)).2.1
  exact ⟨hrows, by rw [hrows, List.length_map]⟩

/-- **C05 — every accepted operation yields one action record** (and so does everything `market.update()` records):
    `Actuator.actions` is, in order, exactly what the trace shows as recorded; each record is stamped with the timestamp of
    the event that recorded it, i.e. with the bar in which it ran. -/
theorem C05_actions_recorded (cfg : Cfg) (trigs : List Trig) (sc : Script) (h : (run cfg trigs sc).err = none) :
    (run cfg trigs sc).actions = (run cfg trigs sc).trace.filterMap recordedAct ∧
    ∀ e ∈ (run cfg trigs sc).trace, ∀ a, recordedAct e = some a → e.ts = some a.stamp :=
  ⟨by rw [← runG_plain]; exact (runG_books cfg trigs (ofScript sc)).1, fun _ _ _ ha => recordedAct_stamp ha⟩

/-- **C05 — delivered to `notify` exactly once, at the end of its bar.**  The actions handed to `Strategy.notify` during
    the run are, in order and with multiplicity, exactly the recorded actions (= `Actuator.actions`); every `notify` call
    happens in the bar its action is stamped with, and (phase order) after everything else of that bar.  "Recorded" covers the
    operations of every phase: `initialize`, `before_bar`, trigger actions, open callbacks, `on_bar`, `market.update()`, `after_bar` AND
    operations issued from inside `notify` itself — the loop runs over the live list, so such an action is delivered later in the same
    loop, in the same bar (also on the last bar), never in the next one. -/
theorem C05_notify_exactly_once (cfg : Cfg) (trigs : List Trig) (sc : Script) (h : (run cfg trigs sc).err = none) :
    (run cfg trigs sc).trace.filterMap notifyAct = (run cfg trigs sc).actions ∧
    (∀ e ∈ (run cfg trigs sc).trace, NotifyOnTime e) ∧
    (∀ e ∈ (run cfg trigs sc).trace, (notifyAct e).isSome → e.phase = 15) := by
  rw [← runG_plain] at h ⊢
  exact ⟨(runG_books cfg trigs (ofScript sc)).2.2.2 h, runG_onTime cfg trigs (ofScript sc), fun e _ he => notifyAct_phase e he⟩

/-- **C05 — the market update and the first refresh touch every market exactly once per bar, in broker order.** -/
theorem C05_update_once_per_market_per_bar (cfg : Cfg) (trigs : List Trig) (sc : Script) (h : (run cfg trigs sc).err = none) :
    (run cfg trigs sc).trace.filterMap updateOf =
      (barIndex cfg).flatMap (fun ts => (List.range cfg.markets.length).map (fun m => (ts, m))) ∧
    (run cfg trigs sc).trace.filterMap set1Of =
      (barIndex cfg).flatMap (fun ts => (List.range cfg.markets.length).map (fun m => (ts, m))) := by
  have flat := flatMap_zipIdx_fst (fun ts : Int => (List.range cfg.markets.length).map (fun m => (ts, m)))
  constructor
  · rw [core_run_fm_bars updateOf updateOf_phase (by omega) cfg trigs sc (fun ts _ => (List.range cfg.markets.length).map (fun m => (ts, m)))
      (fun row ts st => barTrace_updates cfg sc row ts st _) h, flat]
  · rw [core_run_fm_bars set1Of set1Of_phase (by omega) cfg trigs sc (fun ts _ => (List.range cfg.markets.length).map (fun m => (ts, m)))
      (fun row ts st => barTrace_sets cfg sc row ts st _) h, flat]

/-- **C05/C18 — the trigger part of the bar loop.**  The trigger actions called during a run are, in order, exactly the calls
    of `trigRun` over the bar index (Demeter/Trigger.lean, the subject of C18), and the triggers left installed are the ones it
    retains: hooks, operations, refreshes and updates do not interfere with trigger evaluation and retirement. -/
theorem C05_trigger_calls_are_trigRun (cfg : Cfg) (trigs : List Trig) (sc : Script) (h : (run cfg trigs sc).err = none) :
    (run cfg trigs sc).trace.filterMap fireOfEv = (trigRun (barIndex cfg) trigs).1 ∧
    (run cfg trigs sc).trigsLeft = (trigRun (barIndex cfg) trigs).2.1 ∧
    (trigRun (barIndex cfg) trigs).2.2 = none :=
  core_run_trig cfg trigs sc h

/-- **C05 — `is_open` is true exactly on the market's own timestamps** (its data index, resampled like every frame when the
    interval is not one minute): the flag every refresh reports, and the flag that gates operations and open callbacks. -/
theorem C05_is_open_iff_own_timestamp (cfg : Cfg) (mc : MarketCfg) (ts : Int) :
    marketOpen cfg mc ts = true ↔ ts ∈ marketIdx cfg.resample mc.sparse cfg.Δ mc.idx := by
  simp [marketOpen]

/-- a market whose `_resample` keeps every bin (every market but the option book) is open on every bar from its first to its last row -/
theorem C05_is_open_dense (cfg : Cfg) (mc : MarketCfg) (ts : Int) (hd : mc.sparse = false) :
    marketOpen cfg mc ts = true ↔ ts ∈ frameIdx cfg.resample cfg.Δ mc.idx := by
  simp [marketOpen, marketIdx, hd]

/-- a market whose `_resample` drops the empty bins (the option book) is open on a bar of a resampled run exactly when the bar is a bin
    label of its frame and one of its rows falls into `[ts, ts + Δ)`: a hole covering a whole bar leaves the market closed there — the bar
    itself is still a bar of the run (`C05_each_bar_once…` do not depend on any market being open) -/
theorem C05_is_open_sparse (cfg : Cfg) (mc : MarketCfg) (ts : Int) (hs : mc.sparse = true) (hr : cfg.resample = true) :
    marketOpen cfg mc ts = true ↔
      ts ∈ resampleIdx cfg.Δ mc.idx ∧ ∃ t ∈ mc.idx, ts ≤ t ∧ t < ts + cfg.Δ := by
  simp [marketOpen, marketIdx, sparseIdx, hs, hr]

/-- an hourly market in a minutely run is open exactly on the whole hours it has data for -/
theorem C05_hourly_market_open_on_whole_hours (cfg : Cfg) (mc : MarketCfg) (ts : Int) (hraw : cfg.resample = false)
    (hhour : ∀ t ∈ mc.idx, t % 3600 = 0) :
    (marketOpen cfg mc ts = true ↔ ts ∈ mc.idx) ∧ (marketOpen cfg mc ts = true → ts % 3600 = 0) := by
  have e : marketOpen cfg mc ts = true ↔ ts ∈ mc.idx := by simp [marketOpen, marketIdx, frameIdx, hraw]
  exact ⟨e, fun h => hhour ts (e.mp h)⟩

/-- **C05 — operations are gated by `is_open`.**  In every run that ends normally, for every event of the trace at a bar
    `t`: an accepted operation and an open callback happen only on a market whose index contains `t`; an operation refused as
    "not open" happens only on a market whose index does not contain `t` (and vice versa: on an open market a refusal is the
    market's own); every refresh reports `is_open = (t ∈ index)`. -/
theorem C05_operations_gated_by_is_open (cfg : Cfg) (trigs : List Trig) (sc : Script) (h : (run cfg trigs sc).err = none)
    (hidx : (barIndex cfg).Pairwise (· < ·)) :
    ∀ e ∈ (run cfg trigs sc).trace, ∀ t, e.ts = some t → OpGate cfg t e := by
  obtain ⟨ts0, bars, _, _, _, hl, htr, _, _, _⟩ := run_ok h
  rw [htr]
  intro e he t het
  simp only [List.mem_append, List.mem_singleton] at he
  rcases he with (h' | h') | rfl
  · rw [((initTrace_sorted cfg trigs sc ts0).2 e h').1] at het
    cases het
    exact initTrace_gate cfg trigs sc ts0 e h'
  · exact runBars_gate cfg sc (ts0 :: bars) 0 _ hl e h' t het
  · trivial

/-- a gated operation on a closed market is refused with "… is not open", records nothing and changes nothing -/
theorem C05_closed_market_refuses (ts : Int) (hk : Hook) (op : OpSpec) (st : St) (s : MSt)
    (hs : st.ms[op.m]? = some s) (hclosed : s.isOpen = false) (hg : op.gated = true) :
    doOp ts hk op st = ([.opRej ts hk op.m op.tag true], st) ∧ recordedAct (.opRej ts hk op.m op.tag true) = none := by
  constructor
  · unfold doOp
    rw [hs]
    simp [hclosed, hg]
  · rfl

/-- **C05 — the resampled index.**  For a positive interval `Δ` the index of a frame resampled with `first()` is the
    arithmetic grid of bin labels (anchored at midnight of the first day) from the bin of the first row to the bin of the last;
    every raw row between them falls into exactly the bin `[label, label + Δ)` of a member of the index. -/
theorem C05_resampled_index (Δ : Int) (hΔ : 0 < Δ) (a b : Int) (mid : List Int) (hab : a ≤ b) :
    let idx := a :: (mid ++ [b])
    let o := dayStart a
    (resampleIdx Δ idx).Pairwise (· < ·) ∧
    (resampleIdx Δ idx).head? = some (binLabel Δ o a) ∧
    (∀ t, a ≤ t → t ≤ b → binLabel Δ o t ∈ resampleIdx Δ idx ∧ binLabel Δ o t ≤ t ∧ t < binLabel Δ o t + Δ) ∧
    (∀ x ∈ resampleIdx Δ idx, ∃ i : Nat, x = binLabel Δ o a + (i : Int) * Δ ∧ x ≤ b) :=
  resampleIdx_spec Δ hΔ (a :: (mid ++ [b])) a b rfl
    (by rw [show a :: (mid ++ [b]) = (a :: mid) ++ [b] from rfl, List.getLast?_append]; rfl) hab

/-- the call trace of a normal run is: the refresh before `initialize`, `initialize` and what it does, then one stretch per bar of
    the index — each the trace of `barParts` (one iteration of the loop) from some state —, then `finalize` -/
theorem C05_trace_is_made_of_bars (cfg : Cfg) (trigs : List Trig) (sc : Script) (h : (run cfg trigs sc).err = none) :
    ∃ (pre : List Ev) (segs : List (List Ev)) (fin : Ev),
      (run cfg trigs sc).trace = pre ++ segs.flatten ++ [fin] ∧ segs.length = (barIndex cfg).length ∧
      (∀ e ∈ pre, e.phase ≤ 2) ∧ fin.phase = 16 ∧
      ∀ (k : Nat) (hk : k < (barIndex cfg).length), ∃ st price,
        segs[k]? = some ((barParts cfg sc k (barIndex cfg)[k] st price).trace k (barIndex cfg)[k]) := by
  obtain ⟨ts0, bars, hb, _, _, hl, htr, _, _, _⟩ := run_ok h
  obtain ⟨e1, e2, _⟩ := runBars_normal hl
  generalize barsOf cfg sc 0 (ts0 :: bars) (initRun cfg trigs sc ts0).2 = B at e1 e2
  have hlen : B.length = (ts0 :: bars).length := by rw [← List.length_map (as := B), e2, List.length_zipIdx]
  refine ⟨initTrace cfg trigs sc ts0, B.map (barTrace cfg sc), Ev.finalize ((ts0 :: bars).getLast?.getD ts0), ?_,
    by rw [List.length_map, hlen, hb], ?_, rfl, ?_⟩
  · rw [htr, ← List.flatMap_def]; exact congrArg (_ ++ · ++ _) e1
  · exact fun e he => ((initTrace_sorted cfg trigs sc ts0).2 e he).2.2
  · intro k hk
    simp only [hb] at hk ⊢
    have hx : (B[k]'(hlen ▸ hk)).2.1 = (ts0 :: bars)[k] ∧ (B[k]'(hlen ▸ hk)).1 = k := by
      have := congrArg (·[k]?) e2
      simp only [List.getElem?_map, List.getElem?_eq_getElem (hlen ▸ hk), Option.map_some, List.getElem?_zipIdx,
        List.getElem?_eq_getElem hk, Option.some.injEq, Prod.mk.injEq, Nat.zero_add] at this
      exact this
    refine ⟨(B[k]'(hlen ▸ hk)).2.2, priceRow cfg (ts0 :: bars)[k], ?_⟩
    rw [List.getElem?_map, List.getElem?_eq_getElem (hlen ▸ hk), Option.map_some, barTrace, hx.1, hx.2]

/-- **C05 — the second refresh touches exactly the markets with `has_update`.**  In every iteration of the loop, from every
    state: the second `set_market_status` round of the bar touches, once each and in broker order, exactly the markets on which
    an operation was accepted earlier in that bar (in `before_bar`, a trigger action, an open callback or `on_bar`; the first
    refresh cleared the flags, so operations of earlier bars, of `initialize` or of `after_bar` do not count). -/
theorem C05_second_refresh_iff_has_update (cfg : Cfg) (sc : Script) (row : Nat) (ts : Int) (st : St) (price : Option Int) :
    ((barParts cfg sc row ts st price).trace row ts).filterMap set2Of =
      ((List.range cfg.markets.length).filter
        (fun m => ((barParts cfg sc row ts st price).trace row ts).any (okEarly m))).map (fun m => (ts, m)) := by
  rw [BarParts.fm_seg set2Of_phase (barParts_segs_at cfg sc row ts st price) (l := (barParts cfg sc row ts st price).s2.1) rfl,
    barParts_second_refresh]
  simp only [BarParts.any_okEarly (barParts_segs_at cfg sc row ts st price)]

/-- **which runs the theorems above are about (necessary conditions, every script).**  A run that ends normally passed `_check_backtest`
    (interval ≥ 1 minute, a market, price range covering the default market's data), had at least one bar, found a price row for every bar
    of the index and could evaluate every installed trigger. -/
theorem C05_run_ends_normally_only_if (cfg : Cfg) (trigs : List Trig) (sc : Script) (hn : (trigs.map (·.id)).Nodup)
    (h : (run cfg trigs sc).err = none) :
    checkBacktest cfg = none ∧ barIndex cfg ≠ [] ∧ (∀ t ∈ barIndex cfg, (priceAt cfg t).isSome) ∧ (∀ x ∈ trigs, WF x.k) := by
  obtain ⟨ts0, bars, hb, hc, _, hl, _, _, _, _⟩ := run_ok h
  refine ⟨hc, by rw [hb]; simp, ?_, ?_⟩
  · rw [hb]; exact runBars_prices cfg sc (ts0 :: bars) 0 _ hl
  · have h3 := (core_run_trig cfg trigs sc h).2.2
    rw [hb] at h3
    intro x hx
    by_contra hne
    exact (raises_iff_malformed ts0 bars trigs hn).mpr ⟨x, hx, hne⟩ h3

/-- **… and for a strategy that does not act from inside `notify` these conditions are sufficient**: nothing else can end the run (the scripted
    hooks catch the refusals of their own operations).  A hook that does act from inside `notify` adds one condition: its loop over the live
    action list has to come to an end in every bar (`runNotify`); when it does, every theorem above applies. -/
theorem C05_run_ends_normally_iff (cfg : Cfg) (trigs : List Trig) (sc : Script) (hn : (trigs.map (·.id)).Nodup)
    (hq : ∀ r t, sc.notify r t = []) :
    (run cfg trigs sc).err = none ↔
      checkBacktest cfg = none ∧ barIndex cfg ≠ [] ∧ (∀ t ∈ barIndex cfg, (priceAt cfg t).isSome) ∧ (∀ x ∈ trigs, WF x.k) := by
  constructor
  · exact C05_run_ends_normally_only_if cfg trigs sc hn
  · rintro ⟨hc, hne, hp, hwf⟩
    obtain ⟨ts0, bars, hb⟩ := List.exists_cons_of_ne_nil hne
    rw [hb] at hp
    rw [run_of_start (startOf_ok_iff.mpr ⟨hc, hb, hp ts0 (List.mem_cons_self ..)⟩)]
    have ht : (initRun cfg trigs sc ts0).2.trigs = trigs := (runOps_rel (Frame.phaseRel ts0) .init sc.init _).2.1
    exact runBars_none cfg sc hq (ts0 :: bars) 0 (initRun cfg trigs sc ts0).2 hp (by rw [ht]; exact hwf)

example : (run Core.exCfg (install [("", .atTime 32400)]) Core.exScript).err = none := by decide +kernel

example : (run Core.exCfg (install [("", .atTime 32400)]) Core.exScript).actions =
    [⟨"i", 32280, 0⟩, ⟨"free", 32280, 1⟩, ⟨"free", 32340, 1⟩, ⟨"f", 32400, 1⟩, ⟨"a", 32400, 1⟩, ⟨"free", 32460, 1⟩,
     ⟨"liq", 32460, 0⟩] := by decide +kernel

example : (barIndex Core.exCfg).Pairwise (· < ·) := by decide

def Core.exNotifyScript (fuel : Nat) : Script :=
  { init := [], before := fun _ => [], fire := fun _ _ => [], openCb := fun _ _ => [],
    on := fun r => if r = 1 ∨ r = 3 then [⟨0, true, "a", true⟩] else [], after := fun _ => [], upd := fun _ _ => [],
    notify := fun _ t => if t == "a" then [⟨0, true, "b", false⟩, ⟨1, true, "x", true⟩] else if t == "b" then [⟨0, true, "c", true⟩] else [],
    fuel := fuel }

/-- the answers `b` (to `a`) and `c` (to `b`) are recorded and delivered in the bar of `a` — 32340 and the last bar 32460 —; `x` goes to
    the hourly market, closed on both bars, and is refused -/
example : (run Core.exCfg [] (Core.exNotifyScript 2)).err = none ∧
    (run Core.exCfg [] (Core.exNotifyScript 2)).actions =
      [⟨"a", 32340, 0⟩, ⟨"b", 32340, 0⟩, ⟨"c", 32340, 0⟩, ⟨"a", 32460, 0⟩, ⟨"b", 32460, 0⟩, ⟨"c", 32460, 0⟩] ∧
    (run Core.exCfg [] (Core.exNotifyScript 2)).trace.filterMap notifyAct = (run Core.exCfg [] (Core.exNotifyScript 2)).actions := by decide +kernel

/-- with less fuel than the hook's answers need, the model says so instead of dropping a delivery -/
example : (run Core.exCfg [] (Core.exNotifyScript 1)).err = some .diverges := by decide +kernel

/-- two hours of an option book with five rows per hour and three minutes of a minutely market: ten rows against three, yet the bars are
    the three minutes (a choice by row count would run two hourly bars) -/
example : barIndex { markets := [{ idx := [0, 0, 0, 0, 0, 3600, 3600, 3600, 3600, 3600], openCb := false }, { idx := [0, 60, 120], openCb := false }], priceIdx := [0, 60, 120],
                     Δ := 60, resample := false } = [0, 60, 120] := by decide

end Demeter
