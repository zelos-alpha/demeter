/-
  C01, Uniswap part — `UniLpMarket.get_market_balance` = an independent valuation of the raw positions:
  the sum, over the positions that are not transferred out, of (liquidity amounts at the bar's price + uncollected
  amounts), base side valued at the bar's price.  Each such position enters exactly once.
  Arithmetic statements are for the exact context.
-/
import Demeter.Uni.Views
import Proofs.Lemmas.Exact
import Proofs.Lemmas.UniValue
namespace Demeter.Uni
open Demeter

theorem balanceLoop_exact (K : Kern) (hK : K.cx = NumCtx.exact) (pool : Pool) (sqrt : Nat) (amt : Pos → Rat × Rat) :
    ∀ (ps : List Pos) (bf qf d0 d1 : Rat),
      (∀ p ∈ ps, p.transferred = false → K.amounts pool sqrt p.lower p.upper p.liq p.liqDec = .ok (amt p)) →
      balanceLoop K pool sqrt ps (bf, qf, d0, d1) =
        .ok (bf + sumOver (fun p => (pool.conv p.pending0 p.pending1).1) ps,
             qf + sumOver (fun p => (pool.conv p.pending0 p.pending1).2) ps,
             d0 + sumOver (fun p => (amt p).1) ps, d1 + sumOver (fun p => (amt p).2) ps)
  | [], bf, qf, d0, d1, _ => by simp [balanceLoop, sumOver]
  | p :: ps, bf, qf, d0, d1, h => by
    unfold balanceLoop
    by_cases ht : p.transferred = true
    · rw [if_pos ht]
      rw [balanceLoop_exact K hK pool sqrt amt ps bf qf d0 d1 (fun q hq => h q (List.mem_cons_of_mem _ hq))]
      simp [sumOver, ht]
    · have ht' : p.transferred = false := by simpa using ht
      rw [if_neg ht]
      simp only [h p (List.mem_cons_self ..) ht', hK, NumCtx.exact_add]
      rw [balanceLoop_exact K hK pool sqrt amt ps _ _ _ _ (fun q hq => h q (List.mem_cons_of_mem _ hq))]
      simp only [sumOver, ht', Bool.false_eq_true, if_false]
      congr 1
      ext <;> simp <;> ring

theorem sumOver_add (f g : Pos → Rat) (ps : List Pos) : sumOver (fun p => f p + g p) ps = sumOver f ps + sumOver g ps := by
  induction ps with
  | nil => simp [sumOver]
  | cons p ps ih => simp only [sumOver, ih]; split <;> ring

theorem sumOver_mul (f : Pos → Rat) (c : Rat) (ps : List Pos) : sumOver (fun p => f p * c) ps = sumOver f ps * c := by
  induction ps with
  | nil => simp [sumOver]
  | cons p ps ih => simp only [sumOver, ih]; split <;> ring

theorem sumOver_posValue (pool : Pool) (price : Rat) (amt : Pos → Rat × Rat) (ps : List Pos) :
    sumOver (posValue pool price amt) ps =
      (sumOver (fun p => (pool.conv p.pending0 p.pending1).1) ps + sumOver (fun p => (pool.conv (amt p).1 (amt p).2).1) ps) * price +
      (sumOver (fun p => (pool.conv p.pending0 p.pending1).2) ps + sumOver (fun p => (pool.conv (amt p).1 (amt p).2).2) ps) := by
  rw [← sumOver_add, ← sumOver_add, ← sumOver_mul, ← sumOver_add]
  exact congrArg (sumOver · ps) (funext fun p => by rw [posValue, conv_fst_add, conv_snd_add])

theorem conv_sumOver (pool : Pool) (f g : Pos → Rat) (ps : List Pos) :
    pool.conv (sumOver f ps) (sumOver g ps) =
      (sumOver (fun p => (pool.conv (f p) (g p)).1) ps, sumOver (fun p => (pool.conv (f p) (g p)).2) ps) := by
  unfold Pool.conv; cases pool.q0 <;> rfl

end Demeter.Uni

namespace Demeter
open Demeter.Uni

/-- **Reported value = independent valuation.** Whenever `get_market_balance` returns, its net value is the plain
    sum, over the positions that are not transferred out, of each position's value (uncollected amounts plus the
    token amounts of its liquidity at the bar's price, base side valued at the bar's price) — every such position
    exactly once, transferred positions not at all; the reported parts (base/quote in positions, base/quote
    uncollected) are the corresponding plain sums and the position count is the number of non-transferred
    positions. For every kernel; arithmetic exact. -/
theorem C01_uni_balance_eq_spec (K : Kern) (hK : K.cx = NumCtx.exact) (pool : Pool) (s : State) (row : Row) (sqrt : Nat)
    (amt : Pos → Rat × Rat) (hrow : s.row = some row) (hsqrt : K.priceToSqrt pool row.price = .ok sqrt)
    (hamt : ∀ p ∈ s.positions, p.transferred = false → K.amounts pool sqrt p.lower p.upper p.liq p.liqDec = .ok (amt p)) :
    ∃ b, getMarketBalance K pool s = .ok b ∧
      b.netValue = sumOver (posValue pool row.price amt) s.positions ∧
      b.baseUncollected = sumOver (fun p => (pool.conv p.pending0 p.pending1).1) s.positions ∧
      b.quoteUncollected = sumOver (fun p => (pool.conv p.pending0 p.pending1).2) s.positions ∧
      b.baseInPosition = sumOver (fun p => (pool.conv (amt p).1 (amt p).2).1) s.positions ∧
      b.quoteInPosition = sumOver (fun p => (pool.conv (amt p).1 (amt p).2).2) s.positions ∧
      b.positionCount = (s.positions.filter (fun p => !p.transferred)).length := by
  have hloop := balanceLoop_exact K hK pool sqrt amt s.positions 0 0 0 0 hamt
  unfold getMarketBalance
  simp only [priceOf, hrow, hsqrt, hloop, hK, NumCtx.exact_add, NumCtx.exact_mul, zero_add, mul_one]
  refine ⟨_, rfl, ?_, rfl, rfl, ?_, ?_, rfl⟩
  · rw [sumOver_posValue, conv_sumOver]; ring
  · rw [conv_sumOver]
  · rw [conv_sumOver]

/-- **Transferred positions are skipped, everything else is not**: the valuation sum does not change when a
    transferred position is removed from (or added to) the list, and it changes by exactly the position's value when
    a non-transferred one is. -/
theorem C01_uni_transferred_skipped (f : Pos → Rat) (ps qs : List Pos) (p : Pos) :
    sumOver f (ps ++ p :: qs) = sumOver f (ps ++ qs) + (if p.transferred then 0 else f p) := by
  rw [sumOver_eq, sumOver_eq, sumAll_mid]

/-- `transfer_position_out` / `_in` change nothing but the flag: wallet, keys, liquidity and pending fees stay -/
theorem C01_uni_transfer_flag_only (s : State) (lo up : Int) (s' : State)
    (h : transferOut s lo up = (.ok [], s') ∨ transferIn s lo up = (.ok [], s')) :
    s'.wallet = s.wallet ∧ s'.positions.length = s.positions.length ∧
    s'.positions.map (fun p => (p.lower, p.upper, p.liq, p.pending0, p.pending1)) =
      s.positions.map (fun p => (p.lower, p.upper, p.liq, p.pending0, p.pending1)) := by
  obtain ⟨b, rfl⟩ : ∃ b, s' = { s with positions := mapPos s.positions lo up (fun p => { p with transferred := b }) } := by
    rcases h with h | h
    · rcases transferOut_cases s lo up with h' | h' <;> rw [h'] at h <;> cases h
      exact ⟨true, rfl⟩
    · rcases transferIn_cases s lo up with h' | h' <;> rw [h'] at h <;> cases h
      exact ⟨false, rfl⟩
  exact ⟨rfl, by simp [mapPos], map_mapPos _ _ _ _ _ (fun _ _ => rfl)⟩

example : sumOver (fun p => (p.liq : Rat)) [{ (default : Pos) with liq := 5 }, { (default : Pos) with liq := 7, transferred := true }] = 5 := by
  simp [sumOver]; rfl

end Demeter
