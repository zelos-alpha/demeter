/-
  C01 (Deribit part), induction over the runs the driver replays (`runBarX`: the strategy also acts from `after_bar`, before the bar's
  account row, and from `Strategy.notify`, after it — those calls are reported from the next bar on).  The bar theorem and the
  invariant `Pre` it hands from bar to bar are in Proofs/C01/Deribit.lean.
-/
import Proofs.C01.Deribit
namespace Demeter
open Demeter.Deribit

namespace Deribit
def GoodBarsX (c : TokenCfg) : DState → List XBar → Prop
  | _, [] => True
  | s, x :: xs =>
    (NoUpdateX x ∧
      ((x.1.now % (Gen.deribitFreqMinutes : Int) == 0) = true ∨
        ((x.1.now % (Gen.deribitFreqMinutes : Int) == 0) = false ∧ x.1.flagOpen = false ∧ SameMarks x.1.book s.book))) ∧
    GoodBarsX c (runBarX DCtx.exact c s x.1 x.2.1 x.2.2).state xs

def AllReportedX (c : TokenCfg) : DState → List XBar → Prop
  | _, [] => True
  | s, x :: xs =>
    (∃ bal, (runBarX DCtx.exact c s x.1 x.2.1 x.2.2).balance = some bal ∧
      bal.netValue = (rowState DCtx.exact c s x.1 x.2.1).cash +
        markValue c (rowState DCtx.exact c s x.1 x.2.1).book (rowState DCtx.exact c s x.1 x.2.1).positions) ∧
    AllReportedX c (runBarX DCtx.exact c s x.1 x.2.1 x.2.2).state xs
end Deribit

/-- **at every bar of every run the driver replays** (induction over the bars, `Pre` is the invariant): starting with no cached
    valuation, or a coherent one, the option market's reported value is cash + Σ amount × round(mark) at each bar — whatever the
    strategy trades on open bars from `on_bar`, `after_bar` AND `notify`, and deposits or withdraws on closed ones — and the cache
    handed from bar to bar stays absent or coherent -/
theorem C01_deribit_runX_reports_value (c : TokenCfg) (xs : List Deribit.XBar) (s : DState) (hp : Deribit.Pre c s)
    (hg : Deribit.GoodBarsX c s xs) :
    Deribit.AllReportedX c s xs ∧ Deribit.Pre c (Deribit.runBarsX DCtx.exact c s xs) := by
  induction xs generalizing s with
  | nil => exact ⟨trivial, hp⟩
  | cons x xs ih =>
    obtain ⟨⟨hx, hb⟩, hrest⟩ := hg
    obtain ⟨bal, h1, h2, _, _, hpre', _⟩ :=
      C01_deribit_barX_reports_value c s x hx.2.2 (hb.imp id fun ⟨h1, h2, h3⟩ => ⟨h1, h2, h3, hp⟩)
    obtain ⟨i1, i2⟩ := ih _ hpre' hrest
    exact ⟨⟨⟨bal, h1, h2⟩, i1⟩, i2⟩

namespace Deribit
def c01Req (a : Rat) : Req := { name := "ETH-22SEP23-1650-C", amount := a, priceTok := none, priceUsd := none, mult := none }
def c01XBars : List XBar :=
  [ ({ now := 60, flagOpen := true, book := [c01Instr], price := 1650, priceDec := true, ops := [.deposit 1] }, [.buy (c01Req 10)], [.buy (c01Req 5)]),
    ({ now := 61, flagOpen := false, book := [c01Instr], price := 1650, priceDec := true, ops := [] }, [], [.buy (c01Req 1)]) ]
end Deribit

section
open Deribit
-- minute 60: the row holds the 10 contracts bought in after_bar (4 − 0.293 + 10 × 0.0287), not yet the 5 bought from notify …
example : (runBarX DCtx.exact ethCfg c01State c01XBars[0].1 c01XBars[0].2.1 c01XBars[0].2.2).balance.map (·.netValue) =
    some (4 - (29 / 100 + 3 / 1000) + 287 / 1000) := by decide +kernel
-- … which dropped the cache, so minute 61 (closed) revalues: 15 contracts at mark, cash less 5 × 0.029 + 0.0015
example : (runBarX DCtx.exact ethCfg c01State c01XBars[0].1 c01XBars[0].2.1 c01XBars[0].2.2).state.cache = none := by decide +kernel
example : (runBarX DCtx.exact ethCfg (runBarsX DCtx.exact ethCfg c01State (c01XBars.take 1)) c01XBars[1].1 c01XBars[1].2.1 c01XBars[1].2.2).balance.map (·.netValue) =
    some (4 - (29 / 100 + 3 / 1000) - (145 / 1000 + 15 / 10000) + 15 * (287 / 10000)) := by decide +kernel
example : GoodBarsX ethCfg c01State c01XBars := by
  -- the two late buys took 15 of the 605 contracts offered at 0.029; the mark is what it was
  have hsm : ∀ {bk : List Instr}, bk = [{ c01Instr with asks := [⟨29 / 1000, 590, true⟩] }] → SameMarks [c01Instr] bk := by
    rintro _ rfl n
    simp only [findInstr, List.find?, c01Instr]
    by_cases h : "ETH-22SEP23-1650-C" = n <;> simp [h]
  exact ⟨⟨by simp only [NoUpdateX, NoUpdate]; decide +kernel, Or.inl (by decide)⟩,
    ⟨by simp only [NoUpdateX, NoUpdate]; decide +kernel, Or.inr ⟨by decide, rfl, hsm (by decide +kernel)⟩⟩, trivial⟩
end

end Demeter
