/-
  C01 (Deribit part) — what the option market reports at every bar is its cash plus its options at mark (mark
  rounded to the fee step, as coded).  On the hourly grid the valuation is recomputed; on the closed minutes in
  between the premium of the hour is reused (positions cannot change there: trades are gated, expiry runs on the
  grid only) and the cash part is the current one, so deposits and withdrawals made between two hours are
  reflected; a market that has no valuation yet makes one.

  Model: Demeter/Deribit.lean `getMarketBalance` (repaired code: /repo c97518c current cash on closed bars,
  7955ce6 first valuation off the hour), Demeter/Deribit/Run.lean (bar loop).  Exact arithmetic.

  The bar theorem is about `runBarX`, the bar the driver replays: the strategy may also act from `after_bar` (after `update()`, before
  the bar's account row) and from `Strategy.notify` (after the row); the row is `get_market_balance()` on the state the `after_bar`
  calls left (`rowState`).  What carries the closed minutes of an hour is `Pre`: no cached valuation, or a coherent one (its premium is the value of the CURRENT positions at the marks of the CURRENT
  book).  A trade made from `notify` on the hourly bar changes the positions after the hour's valuation was cached: `buy`/`sell` drop
  the cache (/repo 7a93584), which is what `Deribit.step_pre` needs — with the cache kept, `Pre` fails after the trade and the rows of
  the following 59 closed minutes are short by amount × mark.
-/
import Proofs.Lemmas.DeribitValue
import Proofs.Lemmas.DeribitRun
namespace Demeter
open Demeter.Deribit

namespace Deribit

def CInv (c : TokenCfg) (s : DState) : Prop :=
  ∃ b, s.cache = some b ∧ b.netValue = b.cash + b.premium ∧ b.premium = markValue c s.book s.positions

def Pre (c : TokenCfg) (s : DState) : Prop := s.cache = none ∨ CInv c s

/-- the 60 bars of one hour share the hour's rows -/
def SameMarks (b1 b2 : List Instr) : Prop :=
  ∀ n, (findInstr b1 n).map (·.mark) = (findInstr b2 n).map (·.mark)

theorem markValue_sameMarks (c : TokenCfg) {b1 b2 : List Instr} (h : SameMarks b1 b2) (ps : List (String × Position)) :
    markValue c b1 ps = markValue c b2 ps := by
  unfold markValue
  congr 1
  apply List.map_congr_left
  intro kp _
  have := h kp.2.name
  cases h1 : findInstr b1 kp.2.name <;> cases h2 : findInstr b2 kp.2.name <;> rw [h1, h2] at this
  · cases this
  · cases this
  · exact congrArg (fun m => kp.2.amount * roundDec c.feeExp m) (Option.some.inj this)

theorem pre_setStatus (c : TokenCfg) {s : DState} {b : Bar} (hsm : SameMarks b.book s.book) (hp : Pre c s) :
    Pre c (setStatus s b) :=
  hp.imp id fun ⟨b0, hb0, hcoh, hprem⟩ => ⟨b0, hb0, hcoh, hprem.trans (markValue_sameMarks c hsm s.positions).symm⟩

theorem gmb_report (c : TokenCfg) (s : DState) (h : s.onGrid = true ∨ Pre c s) :
    ∃ bal, (getMarketBalance DCtx.exact c s).1 = .ok (.balance (some bal)) ∧
      bal.netValue = s.cash + markValue c s.book s.positions ∧ bal.cash = s.cash ∧
      bal.premium = markValue c s.book s.positions ∧
      CInv c (getMarketBalance DCtx.exact c s).2 ∧
      (getMarketBalance DCtx.exact c s).2.cash = s.cash ∧ (getMarketBalance DCtx.exact c s).2.positions = s.positions ∧
      (getMarketBalance DCtx.exact c s).2.book = s.book := by
  obtain ⟨f1, f2, f3⟩ := freshBalance_spec c s
  by_cases hf : s.onGrid = true ∨ s.cache = none
  · rw [gmb_fresh DCtx.exact c s hf]
    exact ⟨_, rfl, f1, f2, f3, ⟨_, rfl, by rw [f1, f2, f3], f3⟩, rfl, rfl, rfl⟩
  · obtain ⟨b, hb, hcoh, hprem⟩ : CInv c s :=
      (h.resolve_left fun hg => hf (Or.inl hg)).resolve_left fun hn => hf (Or.inr hn)
    rw [gmb_cached DCtx.exact c s b (by simpa using fun hg => hf (Or.inl hg)) hb]
    split
    · rename_i hc
      exact ⟨b, rfl, by rw [hcoh, hc, hprem], hc, hprem, ⟨b, hb, hcoh, hprem⟩, rfl, rfl, rfl⟩
    · exact ⟨_, rfl, by rw [← hprem]; rfl, rfl, hprem, ⟨_, rfl, rfl, hprem⟩, rfl, rfl, rfl⟩

/-- a trade drops the cache, cash movements do not touch what it is about, a balance read refreshes it -/
theorem step_pre (c : TokenCfg) (s : DState) (o : Op) (ho : o ≠ .update) (hp : Pre c s) : Pre c (step DCtx.exact c s o).2 := by
  refine step_deal o ho hp (fun _ _ _ _ => Or.inl rfl) (fun _ _ _ _ _ => hp) (fun _ _ _ _ => hp) (fun b hb => ?_)
  · obtain ⟨_, _, _, _, _, hci, _⟩ := gmb_report c s (Or.inr hp)
    exact Or.inr (hb ▸ hci)

theorem closed_step (c : TokenCfg) (s : DState) (op : Op) (hg : s.onGrid = false) (hf : s.flagOpen = false) (hp : Pre c s) :
    Pre c (step DCtx.exact c s op).2 ∧ (step DCtx.exact c s op).2.positions = s.positions ∧
    (step DCtx.exact c s op).2.book = s.book ∧ (step DCtx.exact c s op).2.now = s.now ∧
    (step DCtx.exact c s op).2.flagOpen = s.flagOpen ∧ (op.isWrite = true → ∃ e, (step DCtx.exact c s op).1 = .error e) := by
  by_cases hu : op = .update
  · subst hu
    rw [show (step DCtx.exact c s .update).2 = s from update_off_grid DCtx.exact c s hg]
    exact ⟨hp, rfl, rfl, rfl, rfl, fun hw => by simp [Op.isWrite] at hw⟩
  · obtain ⟨h2, h3, h4, h5⟩ := step_deal (P := fun s' => s'.positions = s.positions ∧ s'.book = s.book ∧ s'.now = s.now ∧
      s'.flagOpen = s.flagOpen) op hu ⟨rfl, rfl, rfl, rfl⟩ (fun _ _ d _ => absurd d.isOpen (by simp [hf]))
      (fun _ _ _ _ _ => ⟨rfl, rfl, rfl, rfl⟩) (fun _ _ _ _ => ⟨rfl, rfl, rfl, rfl⟩) (fun _ _ => ⟨rfl, rfl, rfl, rfl⟩)
    refine ⟨step_pre c s op hu hp, h2, h3, h4, h5, fun hw => ?_⟩
    cases op with
    | buy r => exact ⟨_, congrArg Prod.fst (closed_gate DCtx.exact c s r hf).1⟩
    | sell r => exact ⟨_, congrArg Prod.fst (closed_gate DCtx.exact c s r hf).2⟩
    | _ => simp [Op.isWrite] at hw

def ClosedAt (c : TokenCfg) (s : DState) : Prop := s.onGrid = false ∧ s.flagOpen = false ∧ Pre c s

def ClosedIn (c : TokenCfg) (s : DState) (B : List Instr) (s' : DState) : Prop :=
  ClosedAt c s' ∧ s'.positions = s.positions ∧ s'.book = B

theorem ClosedIn.status {c : TokenCfg} {s : DState} {b : Bar} (hg : (b.now % (Gen.deribitFreqMinutes : Int) == 0) = false)
    (hfo : b.flagOpen = false) (hsm : SameMarks b.book s.book) (hpre : Pre c s) :
    ∀ s', s' = s ∨ ClosedIn c s b.book s' → ClosedIn c s b.book (setStatus s' b) := by
  rintro s' (rfl | ⟨h1, h2, h3⟩)
  · exact ⟨⟨hg, hfo, pre_setStatus c hsm hpre⟩, rfl, rfl⟩
  · exact ⟨⟨hg, hfo, pre_setStatus c (by rw [h3]; exact fun _ => rfl) h1.2.2⟩, h2, rfl⟩

theorem ClosedIn.step {c : TokenCfg} {s : DState} {B : List Instr} (o : Op) (s' : DState) (h : ClosedIn c s B s') :
    ClosedIn c s B (step DCtx.exact c s' o).2 := by
  obtain ⟨h1, h2, h3, h4, h5, _⟩ := closed_step c s' o h.1.1 h.1.2.1 h.1.2.2
  exact ⟨⟨by unfold DState.onGrid; rw [h4]; exact h.1.1, h5.trans h.1.2.1, h1⟩, h2.trans h.2.1, h3.trans h.2.2⟩

/-- the last component is demeter's `has_update`: on a closed minute no write succeeds -/
theorem closed_ops (c : TokenCfg) (ops : List Op) (s : DState) (h : ClosedAt c s) :
    ClosedAt c (runOpsO DCtx.exact c s ops).2.1 ∧ (runOpsO DCtx.exact c s ops).2.1.positions = s.positions ∧
    (runOpsO DCtx.exact c s ops).2.1.book = s.book ∧ (runOpsO DCtx.exact c s ops).2.2 = false := by
  obtain ⟨h1, h2, h3⟩ := runOpsO_preserves (P := ClosedIn c s s.book) DCtx.exact c ops s ⟨h, rfl, rfl⟩ fun o _ => ClosedIn.step o
  refine ⟨h1, h2, h3, ?_⟩
  clear h1 h2 h3
  induction ops generalizing s with
  | nil => rfl
  | cons o os ih =>
    obtain ⟨_, _, _, _, _, h6⟩ := closed_step c s o h.1 h.2.1 h.2.2
    simp only [runOpsO]
    rw [ih _ (ClosedIn.step (B := s.book) o s ⟨h, rfl, rfl⟩).1]
    simp only [Bool.false_or, Bool.and_eq_false_imp]
    intro hw
    obtain ⟨e, he⟩ := h6 hw
    rw [he]; rfl

def rowState (cx : DCtx) (c : TokenCfg) (s : DState) (b : Bar) (after : List Op) : DState :=
  (getMarketBalance cx c (runOpsO cx c (postUpdate cx c s b) after).2.1).2

theorem runBarX_balance (cx : DCtx) (c : TokenCfg) (s : DState) (b : Bar) (after notify : List Op) :
    (runBarX cx c s b after notify).balance =
      match (getMarketBalance cx c (runOpsO cx c (postUpdate cx c s b) after).2.1).1 with
      | .ok (.balance bal) => bal
      | _ => none := rfl

end Deribit

/-- **open bar**: the reported value is cash + Σ amount × round(mark), recomputed -/
theorem C01_deribit_open_bar_value (c : TokenCfg) (s : DState) (hg : s.onGrid = true) :
    ∃ b, (getMarketBalance DCtx.exact c s).1 = .ok (.balance (some b)) ∧
      b.netValue = s.cash + markValue c s.book s.positions ∧ b.cash = s.cash := by
  obtain ⟨b, h1, h2, h3, _⟩ := gmb_report c s (Or.inl hg)
  exact ⟨b, h1, h2, h3⟩

/-- **first valuation**: a market that has no cached valuation yet values itself, on the grid or not -/
theorem C01_deribit_first_valuation (c : TokenCfg) (s : DState) (hn : s.cache = none) :
    ∃ b, (getMarketBalance DCtx.exact c s).1 = .ok (.balance (some b)) ∧
      b.netValue = s.cash + markValue c s.book s.positions := by
  obtain ⟨b, h1, h2, _⟩ := gmb_report c s (Or.inr (Or.inl hn))
  exact ⟨b, h1, h2⟩

/-- **closed bar**: the cached premium is kept, the cash is the current one — whatever was deposited or withdrawn
    since the valuation was cached -/
theorem C01_deribit_closed_bar_value (cx : DCtx) (c : TokenCfg) (s : DState) (b : Balance) (hg : s.onGrid = false)
    (hc : s.cache = some b) :
    ∃ b', (getMarketBalance cx c s).1 = .ok (.balance (some b')) ∧ b'.cash = s.cash ∧ b'.premium = b.premium ∧
      b'.delta = b.delta ∧ b'.gamma = b.gamma ∧
      b'.netValue = (if b.cash = s.cash then b.netValue else cx.num.add s.cash b.premium) := by
  rw [gmb_cached cx c s b hg hc]
  split
  · rename_i h; exact ⟨b, rfl, h, rfl, rfl, rfl, rfl⟩
  · exact ⟨_, rfl, rfl, rfl, rfl, rfl, rfl⟩

/-- **every bar with late hooks reports cash + options at mark, and hands a usable cache on** (exact arithmetic).  A bar on the hourly
    grid unconditionally; a closed bar (off the grid, trade gate shut, sharing the hour's marks) whenever the cache it inherits is
    absent or coherent.  The row is about `rowState` — the market after `update()` and the `after_bar` calls; whatever `notify` does
    afterwards (trades included, on an open bar) leaves the cache absent or coherent for the next bar. -/
theorem C01_deribit_barX_reports_value (c : TokenCfg) (s : DState) (x : Deribit.XBar) (hnf : ∀ o ∈ x.2.2, o ≠ Op.update)
    (h : (x.1.now % (Gen.deribitFreqMinutes : Int) == 0) = true ∨
         ((x.1.now % (Gen.deribitFreqMinutes : Int) == 0) = false ∧ x.1.flagOpen = false ∧ Deribit.SameMarks x.1.book s.book ∧
            Deribit.Pre c s)) :
    ∃ bal, (runBarX DCtx.exact c s x.1 x.2.1 x.2.2).balance = some bal ∧
      bal.netValue = (Deribit.rowState DCtx.exact c s x.1 x.2.1).cash +
        markValue c (Deribit.rowState DCtx.exact c s x.1 x.2.1).book (Deribit.rowState DCtx.exact c s x.1 x.2.1).positions ∧
      bal.cash = (Deribit.rowState DCtx.exact c s x.1 x.2.1).cash ∧
      Deribit.CInv c (Deribit.rowState DCtx.exact c s x.1 x.2.1) ∧
      Deribit.Pre c (runBarX DCtx.exact c s x.1 x.2.1 x.2.2).state ∧
      ((x.1.now % (Gen.deribitFreqMinutes : Int) == 0) = false →
        (runBarX DCtx.exact c s x.1 x.2.1 x.2.2).state.positions = s.positions ∧
        Deribit.SameMarks (runBarX DCtx.exact c s x.1 x.2.1 x.2.2).state.book x.1.book) := by
  have hrow : (runOpsO DCtx.exact c (postUpdate DCtx.exact c s x.1) x.2.1).2.1.onGrid = true ∨
      Pre c (runOpsO DCtx.exact c (postUpdate DCtx.exact c s x.1) x.2.1).2.1 := by
    rcases h with hg | ⟨hg, hfo, hsm, hpre⟩
    · left
      unfold DState.onGrid
      rw [runOpsO_now, postUpdate, (update_frame DCtx.exact c _).2.2.2.1, midState_now]
      exact hg
    · exact Or.inr (runOpsO_preserves (P := ClosedIn c s x.1.book) DCtx.exact c x.2.1 _
        (ClosedIn.step .update _ (midState_preserves DCtx.exact c s x.1 (ClosedIn.status hg hfo hsm hpre) fun o _ => ClosedIn.step o))
        fun o _ => ClosedIn.step o).1.2.2
  obtain ⟨bal, h1, h2, h3, _, h5, h6, h7, h8⟩ := gmb_report c _ hrow
  refine ⟨bal, by rw [runBarX_balance, h1], by rw [rowState, h6, h7, h8]; exact h2, by rw [rowState, h6]; exact h3, h5, ?_,
    fun hng => ?_⟩
  · rw [runBarX_state, lateOps, runOpsO_append_state, runOpsO_cons]
    refine runOpsO_preserves DCtx.exact c _ _ (Or.inr h5) fun o ho s' => step_pre c s' o (hnf o ?_)
    split at ho
    · exact ho
    · cases ho
  · rcases h with hg | ⟨hg, hfo, hsm, hpre⟩
    · rw [hg] at hng; cases hng
    · have hend := runBarX_preserves DCtx.exact c s x (ClosedIn.status hg hfo hsm hpre) ClosedIn.step
      exact ⟨hend.2.1, by rw [hend.2.2]; exact fun _ => rfl⟩

/-- **every bar of the loop reports cash + options at mark**: a bar on the hourly grid unconditionally; a closed bar
    (off the grid, trade gate shut, sharing the hour's marks) whenever the cache it inherits is absent or coherent —
    and every bar hands a coherent cache on. -/
theorem C01_deribit_bar_reports_value (c : TokenCfg) (s : DState) (b : Bar)
    (h : (b.now % (Gen.deribitFreqMinutes : Int) == 0) = true ∨
         ((b.now % (Gen.deribitFreqMinutes : Int) == 0) = false ∧ b.flagOpen = false ∧ SameMarks b.book s.book ∧ Pre c s)) :
    ∃ bal, (runBar DCtx.exact c s b).balance = some bal ∧
      bal.netValue = (runBar DCtx.exact c s b).state.cash +
        markValue c (runBar DCtx.exact c s b).state.book (runBar DCtx.exact c s b).state.positions ∧
      bal.cash = (runBar DCtx.exact c s b).state.cash ∧
      CInv c (runBar DCtx.exact c s b).state ∧
      ((b.now % (Gen.deribitFreqMinutes : Int) == 0) = false → (runBar DCtx.exact c s b).state.positions = s.positions) := by
  obtain ⟨bal, h1, h2, h3, h4, _, h6⟩ := C01_deribit_barX_reports_value c s (b, [], []) (by simp) h
  exact ⟨bal, h1, h2, h3, h4, fun hg => by rw [← runBarX_nil]; exact (h6 hg).1⟩

namespace Deribit
/-- the bar lists the Actuator produces for an hourly market -/
def GoodBars (c : TokenCfg) : DState → List Bar → Prop
  | _, [] => True
  | s, b :: bs =>
    ((b.now % (Gen.deribitFreqMinutes : Int) == 0) = true ∨
      ((b.now % (Gen.deribitFreqMinutes : Int) == 0) = false ∧ b.flagOpen = false ∧ SameMarks b.book s.book)) ∧
    GoodBars c (runBar DCtx.exact c s b).state bs

def AllReported (c : TokenCfg) : DState → List Bar → Prop
  | _, [] => True
  | s, b :: bs =>
    (∃ bal, (runBar DCtx.exact c s b).balance = some bal ∧
      bal.netValue = (runBar DCtx.exact c s b).state.cash +
        markValue c (runBar DCtx.exact c s b).state.book (runBar DCtx.exact c s b).state.positions) ∧
    AllReported c (runBar DCtx.exact c s b).state bs
end Deribit

/-- **at every bar of every run** (induction over the bar list): starting with no cached valuation, or a coherent
    one, the option market's reported value is cash + Σ amount × round(mark) at each bar — whatever the strategy
    trades on open bars and deposits or withdraws on closed ones -/
theorem C01_deribit_run_reports_value (c : TokenCfg) (bs : List Bar) (s : DState) (hp : Pre c s) (hg : GoodBars c s bs) :
    AllReported c s bs := by
  induction bs generalizing s with
  | nil => trivial
  | cons b bs ih =>
    obtain ⟨hb, hrest⟩ := hg
    obtain ⟨bal, h1, h2, _, hci, _⟩ := C01_deribit_bar_reports_value c s b (hb.imp id fun ⟨h1, h2, h3⟩ => ⟨h1, h2, h3, hp⟩)
    exact ⟨⟨bal, h1, h2⟩, ih _ (Or.inr hci) hrest⟩

namespace Deribit
def c01Instr : Instr :=
  { name := "ETH-22SEP23-1650-C", stateOpen := true, kind := .call, strike := 1650, expiry := 30000,
    mark := 287 / 10000, underlying := 165194 / 100, delta := 52071 / 100000, gamma := 342 / 100000,
    asks := [⟨29 / 1000, 605, false⟩], bids := [⟨28 / 1000, 51, false⟩] }
def c01State : DState :=
  { cash := 3, positions := [], book := [], wallet := [("ETH", 5)], allowNeg := false, actions := [],
    cache := none, flagOpen := true, now := 0, price := 0, priceDec := true }
def c01Bars : List Bar :=
  [ { now := 60, flagOpen := true, book := [c01Instr], price := 1650, priceDec := true,
      ops := [.buy { name := "ETH-22SEP23-1650-C", amount := 10, priceTok := none, priceUsd := none, mult := none }] },
    { now := 61, flagOpen := false, book := [c01Instr], price := 1650, priceDec := true, ops := [.deposit 2] },
    { now := 62, flagOpen := false, book := [c01Instr], price := 1650, priceDec := true,
      ops := [.withdraw 1, .buy { name := "ETH-22SEP23-1650-C", amount := 1, priceTok := none, priceUsd := none, mult := none }] } ]
end Deribit

section
open Deribit
example : Pre ethCfg c01State := Or.inl rfl
-- minute 60: 3 − (10 × 0.029 + 0.003) + 10 × 0.0287; minute 61: + 2 deposited; minute 62: − 1 withdrawn, the buy is refused
example : (runBar DCtx.exact ethCfg c01State c01Bars[0]).balance.map (·.netValue) = some (3 - (29 / 100 + 3 / 1000) + 287 / 1000) := by
  decide +kernel
example : (runBar DCtx.exact ethCfg (runBars DCtx.exact ethCfg c01State (c01Bars.take 1)) c01Bars[1]).balance.map (·.netValue) =
    some (5 - (29 / 100 + 3 / 1000) + 287 / 1000) := by decide +kernel
example : (runBar DCtx.exact ethCfg (runBars DCtx.exact ethCfg c01State (c01Bars.take 2)) c01Bars[2]).balance.map (·.netValue) =
    some (4 - (29 / 100 + 3 / 1000) + 287 / 1000) := by decide +kernel
example : GoodBars ethCfg c01State c01Bars := by
  -- the book a bar leaves is evaluated: the closed minutes find the hour's rows
  have same : ∀ {bk : List Instr}, bk = [c01Instr] → SameMarks [c01Instr] bk := fun e _ => e ▸ rfl
  exact ⟨Or.inl (by decide), Or.inr ⟨by decide, rfl, same (by decide +kernel)⟩, Or.inr ⟨by decide, rfl, same (by decide +kernel)⟩, trivial⟩
end

end Demeter
