/-
  C01, Squeeth + its oSQTH/WETH pool — the VALUE-level "exactly once" equation over the one shared positions container.

  `Demeter.Squeeth.State` is the joint state of the two markets: `positions` is the pool's `_positions` dict (the very object the
  Squeeth market reaches through `self._squeeth_uni_pool`), `vaults` the Squeeth side.  `uniNetValue` is the pool's
  `get_market_balance().net_value` (in WETH), `marketBalance` the Squeeth market's (in USD).  The count-level invariant `Once`
  (Proofs/Lemmas/SqueethOnce.lean) says which container counts a position; here the two reported numbers are added up and shown to be
  the plain sum in which every position appears exactly once: a free position at the pool (mark) price, a lent position at the index
  price inside its vault's collateral, plus the vaults' ETH collateral minus the short at mark.
-/
import Proofs.C01.Squeeth
import Proofs.Lemmas.AListSum
import Mathlib.Tactic.Ring
import Mathlib.Tactic.Linarith
import Mathlib.Algebra.BigOperators.Group.List.Basic
namespace Demeter
open Squeeth Gen

namespace Squeeth

def cpos (e : Env) (kp : PosKey × UPos) : Rat × Rat :=
  closePosition NumCtx.exact (uniSqrtP NumCtx.exact e.uniPrice) kp.1.1 kp.1.2 kp.2.liquidity sqWethDecimals sqOsqthDecimals

/-- value of a position in ETH as the POOL values it: oSQTH at the pool price plus WETH -/
def poolVal (e : Env) (kp : PosKey × UPos) : Rat :=
  ((cpos e kp).2 + kp.2.pending1) * e.uniPrice + ((cpos e kp).1 + kp.2.pending0)

/-- value of a position in ETH as a VAULT values it: WETH plus oSQTH at the index price `norm_factor · twap(ETH) / INDEX_SCALE` -/
def idxVal (e : Env) (kp : PosKey × UPos) : Rat :=
  ((cpos e kp).1 + kp.2.pending0) + ((cpos e kp).2 + kp.2.pending1) / sqIndexScale * e.nf * twap e .weth

def sumIf {α : Type} (c : α → Bool) (f : α → Rat) (l : List α) : Rat := (l.map (fun a => if c a then f a else 0)).sum

theorem sumIf_cons {α : Type} (c : α → Bool) (f : α → Rat) (a : α) (l : List α) :
    sumIf c f (a :: l) = (if c a then f a else 0) + sumIf c f l := by simp [sumIf]

theorem sum_map_add {α : Type} (f g : α → Rat) (l : List α) : (l.map (fun b => f b + g b)).sum = (l.map f).sum + (l.map g).sum :=
  ListSum.add f g l

def accVal (e : Env) (a : UniAcc) : Rat := (a.baseFee * e.uniPrice + a.quoteFee) + (a.dep1 * e.uniPrice + a.dep0)

theorem uniFold_value (e : Env) : ∀ (ps : AList PosKey UPos) (a : UniAcc),
    accVal e (ps.foldl (uniAccStep NumCtx.exact (uniSqrtP NumCtx.exact e.uniPrice)) a) =
      accVal e a + sumIf (fun kp => !kp.2.transferred) (poolVal e) ps
  | [], a => by simp [sumIf]
  | kp :: ps, a => by
    rw [List.foldl_cons, uniFold_value e ps, sumIf_cons]
    by_cases ht : kp.2.transferred = true
    · simp [uniAccStep, ht]
    · have hf : kp.2.transferred = false := by simpa using ht
      simp only [uniAccStep, hf, Bool.false_eq_true, if_false, Bool.not_false, if_true, accVal, NumCtx.exact_add, poolVal, cpos]
      ring

end Squeeth

/-- **the pool's reported value = the plain sum over the FREE positions**, each once at the pool price (exact arithmetic) -/
theorem C01_squeeth_pool_value_is_sum_over_free (e : Env) (s : State) :
    uniNetValue NumCtx.exact e s = sumIf (fun kp => !kp.2.transferred) (poolVal e) s.positions := by
  have h := uniFold_value e s.positions {}
  unfold uniNetValue
  simp only [NumCtx.exact_add, NumCtx.exact_mul, mul_one]
  simp only [accVal] at h
  linarith [h]

namespace Squeeth

def lentPart (e : Env) (s : State) (kv : Nat × Vault) : Rat :=
  match kv.2.nft with
  | none => 0
  | some pos =>
    match AList.get? s.positions pos with
    | some p => idxVal e (pos, p)
    | none => 0

theorem effColl_exact (e : Env) (s : State) (kv : Nat × Vault) (c : Rat) (hg : AList.get? s.vaults kv.1 = some kv.2)
    (hc : effColl NumCtx.exact e s kv.1 = .ok c) : c = kv.2.coll + lentPart e s kv := by
  rw [effColl_eq hg] at hc
  unfold lentPart
  cases hn : kv.2.nft with
  | none => simp only [hn, Except.ok.injEq] at hc ⊢; rw [← hc]; ring
  | some pos =>
    simp only [hn] at hc ⊢
    cases hp : AList.get? s.positions pos with
    | none => simp [hp] at hc
    | some p =>
      simp only [hp, Except.ok.injEq] at hc ⊢
      rw [← hc]
      simp only [lpCollateral, posAmount, hp, NumCtx.exact_add, NumCtx.exact_mul, NumCtx.exact_div, idxVal, cpos]
      ring

theorem sum_effColl (e : Env) (s : State) : ∀ (vs : List (Nat × Vault)) (cs : List Rat),
    (∀ kv ∈ vs, AList.get? s.vaults kv.1 = some kv.2) →
    List.Forall₂ (fun kv c => effColl NumCtx.exact e s kv.1 = .ok c) vs cs →
    cs.sum = (vs.map (·.2.coll)).sum + (vs.map (lentPart e s)).sum
  | [], _, _, h => by cases h; simp
  | kv :: vs, _, hg, h => by
    cases h with
    | cons h1 h2 =>
      have ih := sum_effColl e s vs _ (fun x hx => hg x (List.mem_cons_of_mem _ hx)) h2
      have := effColl_exact e s kv _ (hg kv (List.mem_cons_self ..)) h1
      simp only [List.sum_cons, List.map_cons, ih, this]
      ring

theorem lentPart_eq (e : Env) (s : State) (kv : Nat × Vault) :
    lentPart e s kv = (kv.2.nft.map (AList.held (idxVal e) s.positions)).getD 0 := by
  unfold lentPart AList.held
  cases kv.2.nft with
  | none => rfl
  | some pos => simp only [Option.map_some, Option.getD_some]; cases AList.get? s.positions pos <;> rfl

theorem sum_lentPart (e : Env) (s : State) (h : Once s) (hnv : (s.vaults.map (·.1)).Nodup) (hnp : (s.positions.map (·.1)).Nodup) :
    (s.vaults.map (lentPart e s)).sum = sumIf (fun kp => kp.2.transferred) (idxVal e) s.positions := by
  -- the vaults' references and the flagged positions are the same keys, each once: one list is the other reordered
  have hperm : (heldKeys s).Perm ((s.positions.filter (·.2.transferred)).map (·.1)) :=
    (List.perm_ext_iff_of_nodup (h.heldKeys_nodup hnv) (AList.nodup_map_filter _ _ hnp)).mpr fun q => by
      rw [h.mem_heldKeys hnv, List.mem_map]
      exact ⟨fun ⟨p, hp, ht⟩ => ⟨(q, p), List.mem_filter.mpr ⟨AList.mem_of_get? hp, ht⟩, rfl⟩,
        fun ⟨kp, hkp, e⟩ => ⟨kp.2, e ▸ AList.get?_of_mem hnp (List.mem_filter.mp hkp).1, (List.mem_filter.mp hkp).2⟩⟩
  calc (s.vaults.map (lentPart e s)).sum
      = ((heldKeys s).map (AList.held (idxVal e) s.positions)).sum := by
        rw [heldKeys, ListSum.filterMap]; congr 1; exact List.map_congr_left fun kv _ => lentPart_eq e s kv
    _ = (((s.positions.filter (·.2.transferred)).map (·.1)).map (AList.held (idxVal e) s.positions)).sum := (hperm.map _).sum_eq
    _ = sumIf (fun kp => kp.2.transferred) (idxVal e) s.positions := by
        rw [List.map_map, sumIf, ← ListSum.filter]; congr 1
        exact List.map_congr_left fun kp hkp => AList.held_of_mem _ hnp (List.mem_filter.mp hkp).1

end Squeeth

/-- **C01, value level: every holding of the pool + Squeeth pair is in the account's value exactly once** (exact arithmetic).
    On the joint state (one positions container, the vaults), under the count invariant `Once` (kept by every operation:
    `C01_squeeth_counted_once`) and with both containers being dicts (no key twice), the two reported values add up — the pool's
    `net_value` (WETH) converted at the bar's WETH price, plus the Squeeth market's — to the plain sum

      Σ_{free positions} poolVal · WETH  +  (Σ_{lent positions} idxVal + Σ_{vaults} collateral) · WETH  −  (Σ short) · (OSQTH · WETH):

    a free position once at the pool price, a lent position once at the index price (inside its vault's collateral, not at the pool),
    never both, never neither. -/
theorem C01_squeeth_uni_value_counted_once (e : Env) (s : State) (b : Balance) (h : Once s)
    (hnv : (s.vaults.map (·.1)).Nodup) (hnp : (s.positions.map (·.1)).Nodup) (hb : marketBalance NumCtx.exact e s = .ok b) :
    uniNetValue NumCtx.exact e s * e.weth + b.netValue =
      sumIf (fun kp => !kp.2.transferred) (poolVal e) s.positions * e.weth +
      (sumIf (fun kp => kp.2.transferred) (idxVal e) s.positions + (s.vaults.map (·.2.coll)).sum) * e.weth -
      (s.vaults.map (·.2.short)).sum * (e.osqth * e.weth) := by
  obtain ⟨cs, hcs, _, _, hnet, _⟩ := C01_squeeth_balance_from_raw_state e s b hb
  have hsum := sum_effColl e s s.vaults cs (fun _ => AList.get?_of_mem hnv) hcs
  rw [sum_lentPart e s h hnv hnp] at hsum
  rw [C01_squeeth_pool_value_is_sum_over_free, hnet, hsum]
  ring

def Squeeth.c01Twice : State :=
  { wallet := [("WETH", 10), ("OSQTH", 5)], vaults := [(1, { coll := 1, short := 0, nft := some (0, 0) })], maxId := 1,
    positions := [((0, 0), { liquidity := 0, pending0 := 3, pending1 := 0, transferred := false })], log := [] }

/-- without `Once` the equation is false: after a direct `transfer_position_in` (see `C01_fails_direct_transfer`) a position is both in the
    pool's sum and in a vault's collateral — concretely, a state whose vault references an unflagged position -/
theorem C01_squeeth_value_equation_needs_once :
    ∃ (e : Env) (s : State) (b : Balance), marketBalance NumCtx.exact e s = .ok b ∧ (s.vaults.map (·.1)).Nodup ∧ (s.positions.map (·.1)).Nodup ∧
      uniNetValue NumCtx.exact e s * e.weth + b.netValue ≠
        sumIf (fun kp => !kp.2.transferred) (poolVal e) s.positions * e.weth +
        (sumIf (fun kp => kp.2.transferred) (idxVal e) s.positions + (s.vaults.map (·.2.coll)).sum) * e.weth -
        (s.vaults.map (·.2.short)).sum * (e.osqth * e.weth) := by
  refine ⟨c01Env, c01Twice, ?_⟩
  refine ⟨_, rfl, by decide, by decide, ?_⟩
  decide +kernel

example : ((runOps NumCtx.exact c01Start c01Hist).vaults.map (·.1)).Nodup ∧ ((runOps NumCtx.exact c01Start c01Hist).positions.map (·.1)).Nodup := by
  rw [c01Hist_run (.inr rfl)]; decide
example : Once (runOps NumCtx.exact c01Start c01Hist) := C01_squeeth_counted_once _ _ _ c01Start_once

end Demeter
