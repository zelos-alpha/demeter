/-
  C01, Squeeth + pool — the two containers of the joint state stay dicts.

  `Demeter.Squeeth.State` holds `vaults` and `positions` as association lists (`AList`, the model of a Python dict in insertion order).
  A Python dict has no key twice; the value-level once equation (`C01_squeeth_uni_value_counted_once`) needs exactly that (its two
  `Nodup` hypotheses are the halves of `Dict`).
  Here: every operation of the model — accepted or rejected, every arithmetic context — keeps it, so it holds in every reachable state
  and in the world of every account row of a run (`C01_e2e_dict_along_the_run`, Proofs/C01/EndToEnd.lean).
-/
import Proofs.C01.Squeeth
import Proofs.Lemmas.SqueethEdit
namespace Demeter
open Squeeth

/-- **the containers stay dicts, one step**: every operation of the model, accepted or rejected, every arithmetic context -/
theorem C01_squeeth_dict_step (cx : NumCtx) (e : Env) (s : State) (op : Op) (h : Dict s) : Dict (step cx e s op).st :=
  (step_edit cx e s op).dict h

/-- … every history -/
theorem C01_squeeth_dict (cx : NumCtx) (s : State) (hist : List (Env × Op)) (h : Dict s) : Dict (runOps cx s hist) :=
  runOps_keeps hist (fun eo _ s => C01_squeeth_dict_step cx eo.1 s eo.2) s h

example : Dict (runOps NumCtx.exact c01Start c01Hist) :=
  C01_squeeth_dict _ _ _ ⟨by decide, by decide⟩
example : ¬ Dict { c01Start with vaults := [(1, ⟨0, 0, none⟩), (1, ⟨1, 0, none⟩)] } := by
  intro h; exact absurd h.1 (by decide)

end Demeter
