/-
  C01 (Aave part) — `get_market_balance().net_value` is supplies − debts recomputed from the raw scaled balances,
  the bar's indices and prices (every position exactly once), up to the quantisation the code applies:
  `net_value = quantize(Σ supplies, 0.0001) − quantize(Σ debts, 0.0001)`, hence within 1e-4 (two half-quanta) of the
  unquantised difference.  The first theorem holds for every arithmetic context and every mixture of cold and
  filled caches (C13); the bound and the sum formula are for exact arithmetic.
-/
import Proofs.Lemmas.AaveExact
import Proofs.C13
import Proofs.Fixtures.Aave
import Proofs.Lemmas.AaveQuant
namespace Demeter
open Aave

variable {cx : ACtx} {env : Env}

theorem aave_balQuant_ok_eq {x q : Rat} (h : balQuant x = .ok q) :
    q = quantHalfEven Gen.aaveBalanceQuantDigits x :=
  aave_quantE_ok_eq h

/-- the reported figures: quantised totals recomputed from raw positions, and their difference -/
theorem C01_aave_balance_net_value (s : St) (hs : Good cx env s) (b : Balance)
    (h : (step cx env s (.read .marketBalance)).1 = .ok (.bal b)) :
    ∃ ts tb, specTotalSupply cx env s.supplies = .ok ts ∧ specTotalBorrows cx env s.borrows = .ok tb ∧
      b.suppliesValue = quantHalfEven Gen.aaveBalanceQuantDigits ts ∧
      b.borrowsValue = quantHalfEven Gen.aaveBalanceQuantDigits tb ∧
      b.netValue = cx.sub b.suppliesValue b.borrowsValue ∧
      b.suppliesCount = s.supplies.length ∧ b.borrowsCount = s.borrows.length := by
  have h1 := (C13_read_eq_scratch s hs .marketBalance).1
  rw [h] at h1
  have h2 : specBalance cx env s.supplies s.borrows = .ok b := by
    unfold specView at h1
    cases hb : specBalance cx env s.supplies s.borrows with
    | error e => rw [hb] at h1; cases h1
    | ok b' => rw [hb] at h1; cases h1; rfl
  unfold specBalance at h2
  obtain ⟨ts, hts, h2⟩ := Exc.bind_ok.mp h2
  obtain ⟨tsq, htsq, h2⟩ := Exc.bind_ok.mp h2
  obtain ⟨tb, htb, h2⟩ := Exc.bind_ok.mp h2
  obtain ⟨tbq, htbq, h2⟩ := Exc.bind_ok.mp h2
  obtain ⟨sa, _, h2⟩ := Exc.bind_ok.mp h2
  obtain ⟨saq, _, h2⟩ := Exc.bind_ok.mp h2
  obtain ⟨ba, _, h2⟩ := Exc.bind_ok.mp h2
  obtain ⟨baq, _, h2⟩ := Exc.bind_ok.mp h2
  obtain ⟨cnt, hcnt, h2⟩ := Exc.bind_ok.mp h2
  obtain ⟨lt, _, h2⟩ := Exc.bind_ok.mp h2
  obtain ⟨ltq, _, h2⟩ := Exc.bind_ok.mp h2
  obtain ⟨hf, _, h2⟩ := Exc.bind_ok.mp h2
  obtain ⟨hfq, _, h2⟩ := Exc.bind_ok.mp h2
  obtain ⟨tc, _, h2⟩ := Exc.bind_ok.mp h2
  obtain ⟨tcq, _, h2⟩ := Exc.bind_ok.mp h2
  obtain ⟨ml, _, h2⟩ := Exc.bind_ok.mp h2
  obtain ⟨mlq, _, h2⟩ := Exc.bind_ok.mp h2
  obtain ⟨ltv, _, h2⟩ := Exc.bind_ok.mp h2
  cases hcnt
  have e1 := aave_balQuant_ok_eq htsq
  have e2 := aave_balQuant_ok_eq htbq
  refine ⟨ts, tb, hts, htb, ?_⟩
  cases h2
  exact ⟨e1, e2, rfl, rfl, rfl⟩

/-- half the quantum of `get_market_balance` (1e-4): the bound `aave_quant_err` gives for 4 digits -/
theorem C01_aave_quantum : (1 : Rat) / (2 * 10 ^ Gen.aaveBalanceQuantDigits) = 1 / 20000 := by
  unfold Gen.aaveBalanceQuantDigits; norm_num

/-- **reported net value = supplies − debts up to the 1e-4 quantisation** (exact arithmetic): each total is within
    half a quantum (0.5e-4) of the recomputed one, the net value within one quantum. -/
theorem C01_aave_net_value_within_quantum (s : St) (hs : Good aaveExact env s) (b : Balance)
    (h : (step aaveExact env s (.read .marketBalance)).1 = .ok (.bal b)) :
    ∃ ts tb, specTotalSupply aaveExact env s.supplies = .ok ts ∧ specTotalBorrows aaveExact env s.borrows = .ok tb ∧
      |b.suppliesValue - ts| ≤ 1 / 20000 ∧ |b.borrowsValue - tb| ≤ 1 / 20000 ∧ |b.netValue - (ts - tb)| ≤ 1 / 10000 := by
  obtain ⟨ts, tb, hts, htb, e1, e2, e3, _, _⟩ := C01_aave_balance_net_value s hs b h
  have q1 := aave_quant_err Gen.aaveBalanceQuantDigits ts
  have q2 := aave_quant_err Gen.aaveBalanceQuantDigits tb
  rw [C01_aave_quantum] at q1 q2
  rw [← e1] at q1; rw [← e2] at q2
  refine ⟨ts, tb, hts, htb, q1, q2, ?_⟩
  rw [e3, aaveExact_sub]
  have : b.suppliesValue - b.borrowsValue - (ts - tb) = (b.suppliesValue - ts) - (b.borrowsValue - tb) := by ring
  rw [this]
  calc |b.suppliesValue - ts - (b.borrowsValue - tb)| ≤ |b.suppliesValue - ts| + |b.borrowsValue - tb| := abs_sub _ _
    _ ≤ 1 / 20000 + 1 / 20000 := add_le_add q1 q2
    _ = 1 / 10000 := by norm_num

theorem aave_dsum_exact (xs : List Rat) : dsum aaveExact xs = xs.sum :=
  (foldl_exact_add xs 0).trans (zero_add _)

theorem aave_scratchMap_forall₂ {ν μ : Type} {f : String → ν → Res μ} {R : String × ν → μ → Prop}
    (hR : ∀ k v x, f k v = .ok x → R (k, v) x) :
    ∀ (m : AList String ν) (vs : AList String μ), scratchMap f m = .ok vs → List.Forall₂ R m (vals vs) := by
  intro m
  induction m with
  | nil => intro vs hvs; cases hvs; exact List.Forall₂.nil
  | cons p rest ih =>
    intro vs hvs
    obtain ⟨k, v⟩ := p
    obtain ⟨x, r, h1, h2, rfl⟩ := scratchMap_cons_of_ok hvs
    exact List.Forall₂.cons (hR k v x h1) (ih r h2)

/-- **every supply is counted exactly once, at base × liquidity index × price**: the recomputed total is the sum,
    over the entries of `_supplies` in order, of those products. -/
theorem C01_aave_total_supply_is_sum (sup : AList String SupplyInfo) (ts : Rat)
    (h : specTotalSupply aaveExact env sup = .ok ts) :
    ∃ xs : List Rat, List.Forall₂ (fun (p : String × SupplyInfo) (x : Rat) =>
        ∃ st pr, env.statusOf p.1 = .ok st ∧ env.priceOf p.1 = .ok pr ∧ x = p.2.base * st.liqIdx * pr) sup xs ∧
      ts = xs.sum := by
  unfold specTotalSupply at h
  obtain ⟨vs, hvs, h⟩ := Exc.bind_ok.mp h
  refine ⟨vals vs, aave_scratchMap_forall₂ (fun _ _ _ hx => valOf_eq_of_ok hx) sup vs hvs, ?_⟩
  rw [← aave_dsum_exact]
  cases h; rfl

/-- the same for debts: base × variable borrow index × price -/
theorem C01_aave_total_borrows_is_sum (bor : AList String BorrowInfo) (tb : Rat)
    (h : specTotalBorrows aaveExact env bor = .ok tb) :
    ∃ xs : List Rat, List.Forall₂ (fun (p : String × BorrowInfo) (x : Rat) =>
        ∃ st pr, env.statusOf p.1 = .ok st ∧ env.priceOf p.1 = .ok pr ∧ x = p.2.base * st.varIdx * pr) bor xs ∧
      tb = xs.sum := by
  unfold specTotalBorrows at h
  obtain ⟨vs, hvs, h⟩ := Exc.bind_ok.mp h
  refine ⟨vals vs, aave_scratchMap_forall₂ (fun _ _ _ hx => valOf_eq_of_ok hx) bor vs hvs, ?_⟩
  rw [← aave_dsum_exact]
  cases h; rfl

-- quantisation really moves a value
example : quantHalfEven 4 (123456789 / 1000000) = 1234568 / 10000 := by decide +kernel
example : specTotalSupply aaveExact c04AaveEnv c04AaveSt.supplies = .ok 11000 := by decide +kernel
example : specTotalBorrows aaveExact c04AaveEnv c04AaveSt.borrows = .ok 7000 := by decide +kernel

end Demeter
