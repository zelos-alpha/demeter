/-
  C01, Squeeth part — `SqueethMarket.get_market_balance` is the effective collateral (ETH + the lent LP position at
  the index price) minus the short at mark, computed from the raw vault state; every LP position is counted exactly
  once overall: by the Uniswap market while it is free, by exactly one vault (and skipped by the Uniswap market)
  while it is lent; no vault ever references a position that does not exist.
-/
import Demeter.Squeeth.Views
import Proofs.Lemmas.SqueethOnce
import Mathlib.Tactic.Ring
namespace Demeter
open Squeeth Gen

/-- **exactly once, one step**: every operation of the model — vault operations, liquidations, `update`, the pool's
    `remove_liquidity` —, accepted or rejected, in every arithmetic context, keeps the invariant `Once` -/
theorem C01_squeeth_counted_once_step (cx : NumCtx) (e : Env) (s : State) (op : Op) (h : Once s) : Once (step cx e s op).st :=
  (step_edit cx e s op).once h

/-- **exactly once, every history**: along any sequence of operations and any price / norm-factor path -/
theorem C01_squeeth_counted_once (cx : NumCtx) (s : State) (hist : List (Env × Op)) (h : Once s) : Once (runOps cx s hist) :=
  runOps_keeps hist (fun eo _ s => C01_squeeth_counted_once_step cx eo.1 s eo.2) s h

/-- the starting point: no vaults, no position flagged as lent -/
theorem C01_squeeth_initially_once (s : State) (hv : s.vaults = [])
    (hp : ∀ pos p, AList.get? s.positions pos = some p → p.transferred = false) : Once s := by
  constructor
  · intro vk v pos hg; rw [hv] at hg; cases hg
  · intro pos p hg ht; rw [hp pos p hg] at ht; cases ht
  · intro vk vk' v v' pos hg; rw [hv] at hg; cases hg
  · intro vk v hg; rw [hv] at hg; cases hg

/-- whatever the pool does to *free* positions (add liquidity creating a position, fee accrual, remove, collect) keeps
    the invariant, as long as it never raises a `transferred` flag itself -/
theorem C01_squeeth_pool_side_changes (s s' : State) (pos : PosKey) (h : Once s)
    (hfree : ∀ p, AList.get? s.positions pos = some p → p.transferred = false)
    (hv : s'.vaults = s.vaults) (hm : s'.maxId = s.maxId)
    (hp' : ∀ p', AList.get? s'.positions pos = some p' → p'.transferred = false)
    (hpo : ∀ k, k ≠ pos → AList.get? s'.positions k = AList.get? s.positions k) : Once s' := by
  refine h.congr_lent hv hm (fun q => ?_)
  unfold isLent
  by_cases hq : q = pos
  · subst hq
    exact ⟨fun ⟨p, e, t⟩ => by (rw [hp' p e] at t; cases t), fun ⟨p, e, t⟩ => by (rw [hfree p e] at t; cases t)⟩
  · rw [hpo q hq]

/-- **counted by the vault ⇔ skipped by the pool**: under `Once`, a position referenced by a vault exists, carries the
    `transferred` flag (so `UniLpMarket.get_market_balance` skips it) and is referenced by that vault only; a free
    position is referenced by no vault -/
theorem C01_squeeth_lent_xor_free (s : State) (h : Once s) (pos : PosKey) (p : UPos) (hp : AList.get? s.positions pos = some p) :
    (p.transferred = true → ∃ vk v, AList.get? s.vaults vk = some v ∧ v.nft = some pos ∧
        ∀ vk' v', AList.get? s.vaults vk' = some v' → v'.nft = some pos → vk' = vk) ∧
    (p.transferred = false → ∀ vk v, AList.get? s.vaults vk = some v → v.nft ≠ some pos) := by
  constructor
  · intro ht
    obtain ⟨vk, v, hv, hn⟩ := h.lent_ref pos p hp ht
    exact ⟨vk, v, hv, hn, fun vk' v' hv' hn' => h.inj vk' vk v' v pos hv' hv hn' hn⟩
  · intro hf vk v hv hn
    obtain ⟨q, hq, hqt⟩ := h.ref_lent vk v pos hv hn
    rw [hp] at hq; cases hq; rw [hf] at hqt; cases hqt

/-- **no dangling reference**: under `Once` the effective collateral of every vault is defined (the `KeyError` branch of
    `_get_effective_collateral_in_eth` is unreachable) -/
theorem C01_squeeth_no_dangling_reference (cx : NumCtx) (e : Env) (s : State) (h : Once s) (vk : Nat) (v : Vault)
    (hv : AList.get? s.vaults vk = some v) : ∃ c, effColl cx e s vk = .ok c :=
  h.effColl_defined cx e hv

/-- the pool's valuation loop passes over lent positions: it is the same loop over the free positions only -/
theorem C01_squeeth_pool_skips_lent (cx : NumCtx) (sp : Nat) (ps : AList PosKey UPos) (a : UniAcc) :
    ps.foldl (uniAccStep cx sp) a = (ps.filter (fun kp => !kp.2.transferred)).foldl (uniAccStep cx sp) a := by
  induction ps generalizing a with
  | nil => rfl
  | cons kp rest ih =>
    by_cases ht : kp.2.transferred = true
    · have : uniAccStep cx sp a kp = a := by unfold uniAccStep; simp [ht]
      simp only [List.foldl_cons, this, List.filter, ht, Bool.not_true]
      exact ih a
    · have hf : kp.2.transferred = false := eq_false_of_ne_true ht
      simp only [List.foldl_cons, List.filter, hf, Bool.not_false]
      exact ih _

namespace Squeeth
theorem sumEffColl_exact (e : Env) (s : State) (ks : List Nat) (acc r : Rat) (h : sumEffColl NumCtx.exact e s ks acc = .ok r) :
    ∃ cs : List Rat, List.Forall₂ (fun k c => effColl NumCtx.exact e s k = .ok c) ks cs ∧ r = acc + cs.sum := by
  induction ks generalizing acc with
  | nil =>
    simp only [sumEffColl, Except.ok.injEq] at h
    exact ⟨[], List.Forall₂.nil, by simp [h]⟩
  | cons k rest ih =>
    unfold sumEffColl at h
    cases hc : effColl NumCtx.exact e s k with
    | error er => simp [hc] at h
    | ok c =>
      simp only [hc, NumCtx.exact_add] at h
      obtain ⟨cs, hcs, hr⟩ := ih _ h
      exact ⟨c :: cs, List.Forall₂.cons hc hcs, by rw [hr]; simp only [List.sum_cons]; ring⟩
end Squeeth

/-- **`get_market_balance` from the raw vault state** (exact arithmetic): with `cᵢ` the effective collateral of vault `i`
    (`C14_effective_collateral`: ETH + LP WETH + LP oSQTH at the index price),
    `net_value = (Σ cᵢ) · WETH − (Σ shortᵢ) · (OSQTH · WETH)`, collateral amount `Σ cᵢ`, short amount `Σ shortᵢ`,
    long amount = the wallet's oSQTH, and the count is the number of vaults -/
theorem C01_squeeth_balance_from_raw_state (e : Env) (s : State) (b : Balance) (h : marketBalance NumCtx.exact e s = .ok b) :
    ∃ cs : List Rat, List.Forall₂ (fun kv c => effColl NumCtx.exact e s kv.1 = .ok c) s.vaults cs ∧
      b.collEth = cs.sum ∧ b.short = (s.vaults.map (·.2.short)).sum ∧
      b.netValue = cs.sum * e.weth - (s.vaults.map (·.2.short)).sum * (e.osqth * e.weth) ∧
      b.collValue = cs.sum * e.weth ∧ AList.get? s.wallet sqOsqthName = some b.long ∧ b.net = b.long - b.short ∧
      b.shortEth = b.short * e.nf * twap e .weth / 10000 ∧ b.count = s.vaults.length := by
  unfold marketBalance at h
  cases hl : AList.get? s.wallet sqOsqthName with
  | none => simp [hl] at h
  | some long =>
    simp only [hl] at h
    cases hs : sumEffColl NumCtx.exact e s (s.vaults.map (·.1)) 0 with
    | error er => simp [hs] at h
    | ok r =>
      simp only [hs, Except.ok.injEq] at h
      obtain ⟨cs, hcs, hr⟩ := sumEffColl_exact e s _ 0 r hs
      have hshort : dsum NumCtx.exact (s.vaults.map (·.2.short)) = (s.vaults.map (·.2.short)).sum := by
        unfold dsum; rw [foldl_exact_add]; ring
      refine ⟨cs, List.forall₂_map_left_iff.mp hcs, ?_⟩
      rw [← h]
      simp only [NumCtx.exact_mul, NumCtx.exact_sub, NumCtx.exact_div, hshort, sqIndexScale_eq]
      rw [hr]
      exact ⟨by ring, trivial, by ring, by ring, trivial, trivial, trivial, trivial⟩

namespace Squeeth
theorem sumEffColl_of_frame (cx : NumCtx) (e : Env) {s s' : State} (hv : s'.vaults = s.vaults) (hp : s'.positions = s.positions)
    (ks : List Nat) (acc : Rat) : sumEffColl cx e s' ks acc = sumEffColl cx e s ks acc := by
  induction ks generalizing acc with
  | nil => rfl
  | cons k rest ih => unfold sumEffColl; rw [effColl_of_frame cx e hv hp k]; cases effColl cx e s k <;> simp [ih]

end Squeeth

/-- **a trade of the long side moves no market value**: after `buy_squeeth` / `sell_squeeth` — accepted or rejected, any arguments, any
    arithmetic context — every vault's effective collateral, the pool's valuation of the free LP positions and its position count are
    what they were, and `get_market_balance` answers the same balance except for the long amount, which is the wallet's new oSQTH
    balance (`osqth_net_amount` follows it).  The account's value changes by the change of the wallet, and by nothing else. -/
theorem C01_squeeth_trade_moves_no_market_value (cx : NumCtx) (e : Env) (s : State) (op : Op) (hop : op.isTrade = true) :
    (∀ vk, effColl cx e (step cx e s op).st vk = effColl cx e s vk) ∧
    uniNetValue cx e (step cx e s op).st = uniNetValue cx e s ∧ uniCount (step cx e s op).st = uniCount s ∧
    (∀ b l, marketBalance cx e s = .ok b → AList.get? (step cx e s op).st.wallet sqOsqthName = some l →
      marketBalance cx e (step cx e s op).st = .ok { b with long := l, net := cx.sub l b.short }) := by
  obtain ⟨hv, hp, _⟩ := trade_frame cx e s op hop
  refine ⟨effColl_of_frame cx e hv hp, ?_, ?_, ?_⟩
  · unfold uniNetValue; rw [hp]
  · unfold uniCount; rw [hp]
  · intro b l hb hl
    unfold marketBalance at hb ⊢
    rw [hl, hv, sumEffColl_of_frame cx e hv hp]
    cases hw : AList.get? s.wallet sqOsqthName with
    | none => simp [hw] at hb
    | some l0 =>
      simp only [hw] at hb ⊢
      cases hs : sumEffColl cx e s (s.vaults.map (·.1)) 0 with
      | error er => simp [hs] at hb
      | ok r =>
        simp only [hs, Except.ok.injEq] at hb ⊢
        rw [← hb]

/-- **valuation after a trade = independent valuation** (exact arithmetic): whatever `get_market_balance` answers after
    `buy_squeeth` / `sell_squeeth` is the raw-state formula of `C01_squeeth_balance_from_raw_state` evaluated on the vaults as they were
    *before* the trade — `net_value = (Σ cᵢ)·WETH − (Σ shortᵢ)·(OSQTH·WETH)` with `cᵢ` the effective collateral of vault `i` before the
    trade — and the long amount is the wallet's oSQTH after it -/
theorem C01_squeeth_valuation_after_trade (e : Env) (s : State) (op : Op) (hop : op.isTrade = true) (b : Balance)
    (h : marketBalance NumCtx.exact e (step NumCtx.exact e s op).st = .ok b) :
    ∃ cs : List Rat, List.Forall₂ (fun kv c => effColl NumCtx.exact e s kv.1 = .ok c) s.vaults cs ∧
      b.collEth = cs.sum ∧ b.short = (s.vaults.map (·.2.short)).sum ∧
      b.netValue = cs.sum * e.weth - (s.vaults.map (·.2.short)).sum * (e.osqth * e.weth) ∧
      AList.get? (step NumCtx.exact e s op).st.wallet sqOsqthName = some b.long ∧ b.net = b.long - b.short ∧
      b.count = s.vaults.length := by
  obtain ⟨hv, hp, _⟩ := trade_frame NumCtx.exact e s op hop
  obtain ⟨cs, hcs, h1, h2, h3, _, h5, h6, _, h8⟩ := C01_squeeth_balance_from_raw_state e _ b h
  rw [hv] at hcs h2 h3 h8
  exact ⟨cs, hcs.imp fun _ _ hc => (effColl_of_frame NumCtx.exact e hv hp _).symm.trans hc, h1, h2, h3, h5, h6, h8⟩

namespace Squeeth
def c01Env : Env := { nf := 1/2, weth := 2000, osqth := 1/10, now := none, rows := [], uniPrice := 1/10, uniOpen := true, mean := fun _ => 0 }
def c01Start : State :=
  { wallet := [("WETH", 10), ("OSQTH", 5)], vaults := [], maxId := 0,
    positions := [((18000, 21000), { liquidity := 10^19, pending0 := 0, pending1 := 0, transferred := false })], log := [] }
def c01Hist : List (Env × Op) := [(c01Env, .openMint 2 1 none (some (18000, 21000))), (c01Env, .openMint 1 1 none none)]
def c01Trades : List (Env × Op) := [(c01Env, .buy (some 3) none), (c01Env, .sell none (some (1/5)))]
end Squeeth

namespace Squeeth
/-- one kernel evaluation per context, which the `example`s below rewrite with -/
theorem c01Hist_run {cx : NumCtx} (h : cx = NumCtx.py ∨ cx = NumCtx.exact) : runOps cx c01Start c01Hist =
    { wallet := [("WETH", 7), ("OSQTH", 7)],
      vaults := [(1, { coll := 2, short := 1, nft := some (18000, 21000) }), (2, { coll := 1, short := 1, nft := none })], maxId := 2,
      positions := [((18000, 21000), { liquidity := 10^19, pending0 := 0, pending1 := 0, transferred := true })],
      log := [.addVault 1 1, .updShort 1 1 1, .updColl 1 2 2, .depositLp 1 (18000, 21000), .addVault 2 2, .updShort 2 1 1, .updColl 2 1 1] } := by
  rcases h with rfl | rfl <;> decide +kernel
end Squeeth

theorem Squeeth.c01Start_once : Once c01Start :=
  C01_squeeth_initially_once _ rfl (by
    intro pos p hp
    simp only [c01Start, AList.get?_cons, AList.get?_nil] at hp
    split_ifs at hp
    cases hp; rfl)

example : Once (runOps NumCtx.py c01Start c01Hist) := C01_squeeth_counted_once _ _ _ c01Start_once
example : (runOps NumCtx.py c01Start c01Hist).positions.map (fun kp => kp.2.transferred) = [true] := by rw [c01Hist_run (.inl rfl)]; rfl
example : (runOps NumCtx.py c01Start c01Hist).vaults.map (fun kv => kv.2.nft) = [some (18000, 21000), none] := by rw [c01Hist_run (.inl rfl)]; rfl
example : uniCount (runOps NumCtx.py c01Start c01Hist) = 0 := by rw [c01Hist_run (.inl rfl)]; rfl
example : ((marketBalance NumCtx.py c01Env (runOps NumCtx.py c01Start c01Hist)).toOption.map (·.count)) = some 2 := by
  rw [c01Hist_run (.inl rfl)]; decide +kernel
example : (step NumCtx.exact c01Env (runOps NumCtx.exact c01Start c01Hist) (.buy (some 3) none)).err = none := by
  rw [c01Hist_run (.inr rfl)]; decide +kernel
example : ((marketBalance NumCtx.exact c01Env (runOps NumCtx.exact c01Start (c01Hist ++ c01Trades))).toOption.map (fun b => (b.long, b.count))) =
    some (8, 2) := by rw [runOps_append, c01Hist_run (.inr rfl)]; decide +kernel
example : ((marketBalance NumCtx.exact c01Env (runOps NumCtx.exact c01Start (c01Hist ++ c01Trades))).toOption.map (·.netValue)) =
    ((marketBalance NumCtx.exact c01Env (runOps NumCtx.exact c01Start c01Hist)).toOption.map (·.netValue)) := by
  rw [runOps_append, c01Hist_run (.inr rfl)]; decide +kernel

end Demeter
