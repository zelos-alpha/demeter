/-
  C01 (broker part) — `Broker.get_account_status`: the reported net value is the plain sum "wallet balances at the
  bar's prices + each market's net value converted into the account's quote token", every market and every wallet
  entry entering exactly once.  The per-market valuations are the other C01 parts (Proofs/C01/<Market>.lean).
-/
import Demeter.Broker
import Proofs.Lemmas.Exact
import Mathlib.Tactic.Ring
import Mathlib.Algebra.Order.Field.Rat
namespace Demeter
namespace BrokerProofs

/-- the plain sum `Σ f x`, undefined as soon as one term is: the shape of both parts of the independent valuation -/
def specSum {α : Type} (f : α → Option Rat) : List α → Option Rat
  | [] => some 0
  | x :: rest => do
    let v ← f x
    let r ← specSum f rest
    pure (v + r)

theorem fold_eq_specSum {α : Type} (f : α → Option Rat) (F : List α → Rat → Option Rat) (hnil : ∀ acc, F [] acc = some acc)
    (hcons : ∀ x l acc, F (x :: l) acc = (f x).bind (fun v => F l (acc + v))) :
    ∀ (l : List α) (acc : Rat), F l acc = (specSum f l).map (fun r => acc + r) := by
  intro l
  induction l with
  | nil => intro acc; simp [hnil, specSum]
  | cons x rest ih =>
    intro acc
    rw [hcons, specSum]
    cases f x with
    | none => rfl
    | some v =>
      simp only [Option.bind_some, ih, bind, pure]
      cases specSum f rest <;> simp [Option.map, add_assoc]

theorem specSum_counted_once {α : Type} (f : α → Option Rat) {x : α} {v : Rat} (hx : f x = some v) (l₁ l₂ : List α) :
    specSum f (l₁ ++ x :: l₂) = (specSum f (l₁ ++ l₂)).map (fun r => v + r) := by
  induction l₁ with
  | nil =>
    simp only [List.nil_append, specSum, hx]
    cases specSum f l₂ <;> rfl
  | cons a rest ih =>
    simp only [List.cons_append, specSum, ih]
    cases f a <;> cases specSum f (rest ++ l₂) <;> simp [bind, Option.bind, Option.map]
    ring

theorem specMarkets_eq (q : String) (p : Prices) (ms : List MarketNV) :
    specMarkets q p ms = specSum (fun m => (convFactor q p m).map (fun c => m.nv * c)) ms := by
  induction ms with
  | nil => rfl
  | cons m rest ih => rw [specMarkets, specSum, ih]; cases convFactor q p m <;> rfl

theorem specWallet_eq (p : Prices) (w : Wallet) :
    specWallet p w = specSum (fun e => (AList.get? p e.1).map (fun pr => e.2 * pr)) w := by
  induction w with
  | nil => rfl
  | cons e rest ih => rw [specWallet, specSum, ih]; cases AList.get? p e.1 <;> rfl

theorem marketSum_exact (q : String) (p : Prices) (ms : List MarketNV) (acc : Rat) :
    marketSum NumCtx.exact q p ms acc = (specMarkets q p ms).map (fun r => acc + r) := by
  rw [specMarkets_eq]
  refine fold_eq_specSum _ _ (fun _ => rfl) (fun m l acc => ?_) ms acc
  rw [marketSum, convFactor]
  by_cases h : m.quote = q
  · rw [if_pos h, if_pos h]; simp
  · rw [if_neg h, if_neg h]; cases AList.get? p m.quote <;> simp

theorem assetSum_exact (p : Prices) (w : Wallet) (acc : Rat) :
    assetSum NumCtx.exact p w acc = (specWallet p w).map (fun r => acc + r) := by
  rw [specWallet_eq]
  refine fold_eq_specSum _ _ (fun _ => rfl) (fun e l acc => ?_) w acc
  rw [assetSum]
  cases AList.get? p e.1 <;> simp

end BrokerProofs
open BrokerProofs

/-- **reported = independent valuation** (exact arithmetic): `get_account_status().net_value` is the plain sum of
    wallet balances at the bar's prices and the markets' net values converted by `prices[market quote]` (factor 1
    when the market quotes in the account's token); it raises `KeyError` exactly when the sum is undefined. -/
theorem C01_broker_reported_eq_spec (q : String) (p : Prices) (ms : List MarketNV) (w : Wallet) :
    (accountStatus NumCtx.exact q p ms w).map (·.netValue) = specNetValue q p ms w := by
  unfold accountStatus specNetValue
  rw [marketSum_exact, assetSum_exact]
  cases specMarkets q p ms <;> cases specWallet p w <;>
    simp [Option.map, bind, Option.bind]

/-- the reported asset value is the wallet part of that sum -/
theorem C01_broker_asset_value (q : String) (p : Prices) (ms : List MarketNV) (w : Wallet) (s : AccountStatus)
    (h : accountStatus NumCtx.exact q p ms w = some s) : specWallet p w = some s.assetValue := by
  unfold accountStatus at h
  rw [marketSum_exact, assetSum_exact] at h
  cases hm : specMarkets q p ms <;> cases hw : specWallet p w <;> simp [hm, hw, Option.map] at h
  subst h; simp

/-- **every market is counted exactly once**: wherever a market sits in the broker's dict, it contributes exactly
    `net_value × conversion` to the valuation and nothing else changes. -/
theorem C01_broker_market_counted_once (q : String) (p : Prices) (m : MarketNV) (c : Rat)
    (hc : convFactor q p m = some c) : ∀ (ms₁ ms₂ : List MarketNV),
    specMarkets q p (ms₁ ++ m :: ms₂) = (specMarkets q p (ms₁ ++ ms₂)).map (fun r => m.nv * c + r) := by
  intro ms₁ ms₂
  rw [specMarkets_eq, specMarkets_eq]
  exact specSum_counted_once _ (by rw [hc]; rfl) ms₁ ms₂

/-- **every wallet entry is counted exactly once** -/
theorem C01_broker_asset_counted_once (p : Prices) (tok : String) (bal pr : Rat)
    (hp : AList.get? p tok = some pr) : ∀ (w₁ w₂ : Wallet),
    specWallet p (w₁ ++ (tok, bal) :: w₂) = (specWallet p (w₁ ++ w₂)).map (fun r => bal * pr + r) := by
  intro w₁ w₂
  rw [specWallet_eq, specWallet_eq]
  exact specSum_counted_once _ (by rw [hp]; rfl) w₁ w₂

/-- conversion: a market quoted in the account's token converts with factor 1, any other with the bar's price of
    its quote token -/
theorem C01_broker_conversion (q : String) (p : Prices) (m : MarketNV) :
    convFactor q p m = if m.quote = q then some 1 else AList.get? p m.quote := rfl

-- an ETH-quoted option market inside a USDC-quoted account next to a USDC-quoted LP market
example :
    accountStatus NumCtx.exact "USDC" [("USDC", 1), ("ETH", 2000)]
      [⟨"uni", "USDC", 1500⟩, ⟨"deribit", "ETH", 3 / 2⟩] [("USDC", 100), ("ETH", 2)]
      = some ⟨4100, 8600⟩ := by decide +kernel
example : specNetValue "USDC" [("USDC", 1), ("ETH", 2000)]
      [⟨"uni", "USDC", 1500⟩, ⟨"deribit", "ETH", 3 / 2⟩] [("USDC", 100), ("ETH", 2)] = some 8600 := by decide +kernel

end Demeter
