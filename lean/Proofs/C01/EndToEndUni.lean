/-
  C01, end to end — market 0 (the stand-alone Uniswap LP market of `Demeter/Actuator/Markets.lean`) counts EVERY position it holds.

  `UniLpMarket.get_market_balance` skips positions flagged `transferred`; nothing in the world of `marketsValuation` can hold a position of
  market 0 (the Squeeth market lends positions of ITS pool, market 1).  So "every holding exactly once" for market 0 needs: no position of
  market 0 is ever flagged.  That is false when the strategy calls `transfer_position_out` directly (known finding
  `uni.direct-transfer.flagged-position-without-vault`, `C01_fails_direct_transfer`) and true otherwise — for every run, every script and
  every decoding of labels that never yields one of the two transfer calls.
-/
import Proofs.C01.EndToEnd
import Proofs.C01.UniLent
import Proofs.Lemmas.UniFee
namespace Demeter
open Core Demeter.Uni

namespace Uni

theorem updateLoop_keeps_flags (cx : NumCtx) (pool : Pool) (last : Option Int) (row : Row) : ∀ ps : List Pos,
    (updateLoop cx pool last row ps).1.map (fun p => (p.lower, p.upper, p.transferred)) = ps.map (fun p => (p.lower, p.upper, p.transferred))
  | [] => rfl
  | p :: ps => by
    unfold updateLoop
    cases h : updateFee cx pool last row p with
    | error e => rfl
    | ok p' =>
      obtain ⟨a, b, rfl⟩ := Uni.updateFee_ok_frame h
      simp only [List.map_cons, updateLoop_keeps_flags cx pool last row ps]

theorem isTransferred_congr : ∀ (ps qs : List Pos),
    ps.map (fun p => (p.lower, p.upper, p.transferred)) = qs.map (fun p => (p.lower, p.upper, p.transferred)) →
    ∀ lo up, isTransferred ps lo up = isTransferred qs lo up
  | [], [], _, _, _ => rfl
  | [], _ :: _, h, _, _ => by simp at h
  | _ :: _, [], h, _, _ => by simp at h
  | p :: ps, q :: qs, h, lo, up => by
    simp only [List.map_cons, List.cons.injEq, Prod.mk.injEq] at h
    obtain ⟨⟨h1, h2, h3⟩, ht⟩ := h
    have ih := isTransferred_congr ps qs ht lo up
    unfold isTransferred at ih ⊢
    rw [findPos_cons, findPos_cons]
    have hk : p.hasKey lo up = q.hasKey lo up := by unfold Pos.hasKey; rw [h1, h2]
    rw [hk]
    by_cases hq : q.hasKey lo up = true
    · simp only [hq, if_true, h3]
    · simp only [hq, Bool.false_eq_true, if_false]; exact ih

theorem update_keeps_flags (cx : NumCtx) (pool : Pool) (s : State) :
    (Uni.update cx pool s).1.positions.map (fun p => (p.lower, p.upper, p.transferred)) =
      s.positions.map (fun p => (p.lower, p.upper, p.transferred)) := by
  unfold Uni.update
  split
  · rfl
  · rfl
  · exact updateLoop_keeps_flags _ _ _ _ _

end Uni

/-- **market 0 counts every position it holds, along every run without direct transfer calls**: if no label decodes to
    `transfer_position_out` / `transfer_position_in` and no position of market 0 is flagged at the start, none is flagged after any calls of
    the loop — so the market-0 term `sumOver …` of `C01_e2e_row_value` ranges over ALL its positions (`sumOver` skips flagged ones only). -/
theorem C01_e2e_market0_counts_every_position (S : Setup) (hS : ∀ tag op, S.uniOp tag = some op → op.isTransfer = false)
    (w0 : World) (h0 : ∀ lo up, isTransferred w0.uni.positions lo up = false) (calls : List Ev) :
    ∀ lo up, isTransferred (worldAfter (marketsValuation S) calls w0).uni.positions lo up = false := by
  refine worldAfter_touch S (fun w => ∀ lo up, isTransferred w.uni.positions lo up = false) (fun w w' ht h lo up => ?_) calls w0 h0
  rcases ht.uni_cases with he | he | ⟨tag, op, hop, he⟩
  · rw [he]
    exact h lo up
  · rw [he]
    exact (isTransferred_congr _ _ (update_keeps_flags _ _ _) lo up).trans (h lo up)
  · rw [he]
    exact (C01_uni_single_key_side_conditions S.K S.pool S.minError w.uniIn op (hS tag op hop) lo up (h lo up)).1

/-- … and the hypothesis is needed: with a label that decodes to `transfer_position_out` the run leaves a flagged position that nobody
    counts (the setup of the non-vacuity run with one more label) -/
theorem C01_e2e_market0_fails_with_direct_transfer :
    ∃ (S : Setup) (w0 : World) (calls : List Ev), (∀ lo up, isTransferred w0.uni.positions lo up = false) ∧
      isTransferred (worldAfter (marketsValuation S) calls w0).uni.positions 20 30 = true :=
  ⟨{ e2eSetup with uniOp := fun tag => if tag = "add" then some (.addRaw 1 1 20 30 none) else if tag = "out" then some (.transferOut 20 30) else none },
   e2eWorld, [.set 0 0 1 true (some 0), .opOk 0 .on 0 "add", .opOk 0 .on 0 "out"], fun _ _ => rfl, by decide +kernel⟩

/-- non-vacuity: the decoding of the example run has no transfer label -/
example : ∀ tag op, e2eSetup.uniOp tag = some op → op.isTransfer = false := by
  intro tag op h
  simp only [e2eSetup] at h
  split_ifs at h
  cases h; rfl

end Demeter
