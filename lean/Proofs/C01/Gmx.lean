/-
  C01, GMX part — what `get_market_balance` reports is the raw holding valued at the bar's row:
  v1  glp × glp_price + reward × wavax_price / 10³⁰      (`GmxMarket.get_market_balance`, market.py)
  v2  amount × poolValue / supply, 0 without a holding    (GmxV2Market, market2.py:81-96), which is also the value of the
      long/short token amounts the balance reports.
  It depends on nothing but the share holding, the pending reward and the row — not on the wallet or the log, so a holding
  is counted once: what moves between wallet and market is accounted by C03's theorems.
-/
import Proofs.Lemmas.GmxV2Spec
import Demeter.Gen.ConstsGmx
namespace Demeter
open Demeter.Gmx Demeter.Gmx2

/-- **v1 valuation = pool shares × share price + rewards × reward-token price**, in closed form -/
theorem C01_gmx_v1_balance (env : GmxV1.Env) (s : GmxV1.State) :
    GmxV1.netValue NumCtx.exact env s = s.glp * env.glpPrice + s.reward * (env.wavaxPrice / 10 ^ 30) ∧
      Gen.gmxPricePrecision = 10 ^ 30 := by
  refine ⟨?_, by norm_num [Gen.gmxPricePrecision]⟩
  unfold GmxV1.netValue
  simp only [NumCtx.exact_add, NumCtx.exact_mul, NumCtx.exact_div, Gen.gmxPricePrecision]
  norm_num; ring

/-- it is computed from the raw state: only the GLP holding and the pending reward enter (every arithmetic context) -/
theorem C01_gmx_v1_balance_raw_state (cx : NumCtx) (env : GmxV1.Env) (s1 s2 : GmxV1.State)
    (hg : s1.glp = s2.glp) (hr : s1.reward = s2.reward) : GmxV1.netValue cx env s1 = GmxV1.netValue cx env s2 := by
  unfold GmxV1.netValue; rw [hg, hr]

/-- the valuation is additive in the holding: a position of `a + b` GLP is worth the two parts — nothing is counted twice -/
theorem C01_gmx_v1_balance_additive (env : GmxV1.Env) (s : GmxV1.State) (a b : Rat) :
    GmxV1.netValue NumCtx.exact env { s with glp := a + b, reward := 0 }
      = GmxV1.netValue NumCtx.exact env { s with glp := a, reward := 0 } + GmxV1.netValue NumCtx.exact env { s with glp := b, reward := 0 } := by
  unfold GmxV1.netValue
  simp only [NumCtx.exact_add, NumCtx.exact_mul, NumCtx.exact_div]
  ring

variable {pw : Rat → Rat → Rat}

/-- **v2 valuation = GM amount × pool value / GM supply** (0 without a holding); the reported long/short token amounts
    are that same value split in the pool's proportions, and the reported GM amount is the raw holding -/
theorem C01_gmx_v2_balance {ps : GmxV2.Pool Rat} {s : GmxV2.State Rat} {nv gm l sh : Rat}
    (h : GmxV2.balance (GmxV2.ratOps pw) ps s = .ok (nv, gm, l, sh)) :
    nv = (if s.amount > 0 then s.amount * ps.poolValue / ps.supply else 0) ∧ gm = s.amount ∧
      (s.amount > 0 → l * ps.longPrice + sh * ps.shortPrice = nv) ∧ (¬ s.amount > 0 → l = 0 ∧ sh = 0) := by
  unfold GmxV2.balance at h
  by_cases ha : s.amount > 0
  · simp only [ha, if_true, Exc.bind_ok] at h ⊢
    obtain ⟨⟨l', s'⟩, hls, nv', hnv, hp⟩ := h
    obtain ⟨rfl, rfl, rfl, rfl⟩ := hp
    obtain ⟨hsup, rfl⟩ := fdiv_ok hnv
    refine ⟨rfl, rfl, fun _ => ?_, fun hc => absurd trivial hc⟩
    obtain ⟨_, htot, hlp, hsp, rfl, rfl⟩ := tokenAmountsFromGm_ok hls
    field_simp
  · simp only [ha, if_false, pure, Except.pure, Except.ok.injEq, Prod.mk.injEq] at h ⊢
    obtain ⟨rfl, rfl, rfl, rfl⟩ := h
    exact ⟨rfl, rfl, fun hc => absurd hc (by simp), fun _ => ⟨rfl, rfl⟩⟩

/-- the v2 valuation reads only the holding and the row (not the wallet, not the log) -/
theorem C01_gmx_v2_balance_raw_state {α : Type} [Add α] [Sub α] [Mul α] [Div α] [Neg α] [LT α] [LE α] [OfNat α 0]
    [DecidableLT α] [DecidableLE α] (o : GmxV2.Ops α) (ps : GmxV2.Pool α) (s1 s2 : GmxV2.State α) (h : s1.amount = s2.amount) :
    GmxV2.balance o ps s1 = GmxV2.balance o ps s2 := by
  unfold GmxV2.balance; rw [h]

/-- a holding on a row without supply cannot be valued: the code raises (ZeroDivisionError), it does not report 0 -/
theorem C01_gmx_v2_balance_zero_supply {ps : GmxV2.Pool Rat} {s : GmxV2.State Rat} (ha : s.amount > 0) (hs : ps.supply = 0) :
    GmxV2.balance (GmxV2.ratOps pw) ps s = .error .zeroDiv := by
  unfold GmxV2.balance GmxV2.tokenAmountsFromGm
  simp only [ha, if_true]
  have : GmxV2.fdiv (GmxV2.ratOps pw) (ps.poolValue * s.amount) ps.supply = .error .zeroDiv := by
    unfold GmxV2.fdiv GmxV2.ratOps; simp [hs]
  simp [this, bind, Except.bind]

example : GmxV1.netValue NumCtx.exact
    { rows := [], tokenSet := [], glpSupply := 8 * 10 ^ 24, aum := 10 ^ 37, usdgSupply := 10 ^ 25, interval := 10 ^ 15, glpPrice := 5 / 4,
      wavaxPrice := 30 * 10 ^ 30 } { glp := 8, reward := 1 / 2, wallet := [("WETH", 3)], actions := [] } = 25 := by decide +kernel

example : GmxV2.balance (GmxV2.ratOps (fun x _ => x * x))
    { longAmount := 5000, shortAmount := 30000000, virtualLong := none, virtualShort := none, poolValue := 40000000, supply := 20000000,
      impactPool := 0, longPrice := 2000, shortPrice := 1 } { amount := 10, wallet := [], actions := [] }
    = .ok (20, 10, 1 / 400, 15) := by decide +kernel

end Demeter
