/-
  C01, Uniswap part — lent positions.  Every operation of `UniLpMarket`'s public interface other than
  `transfer_position_out` / `transfer_position_in` — accepted or rejected, for every kernel and arithmetic context,
  including the multi-transaction helpers — leaves the `transferred` flag under every key as it was, never creates a
  flagged position and never deletes one; `remove_liquidity` / `collect_fee` on a lent position are rejected with the
  state intact (the guards of ce449ad).
-/
import Proofs.Lemmas.UniEff
import Proofs.Lemmas.UniPositions
import Proofs.Lemmas.UniPrims
namespace Demeter.Uni
open Demeter

def LentSame (s s' : State) : Prop :=
  ∀ lo up, isTransferred s'.positions lo up = isTransferred s.positions lo up

theorem lentSame_of_positions {s s' : State} (h : s'.positions = s.positions) : LentSame s s' := by
  intro lo up; rw [h]

theorem isTransferred_mapPos_field (ps : List Pos) (lo up : Int) (f : Pos → Pos)
    (hk : ∀ q, q.hasKey lo up = true → (f q).hasKey lo up = true)
    (hfl : ∀ q, findPos ps lo up = some q → (f q).transferred = q.transferred)
    (lo' up' : Int) : isTransferred (mapPos ps lo up f) lo' up' = isTransferred ps lo' up' := by
  unfold isTransferred
  rw [findPos_mapPos _ _ _ _ hk]
  cases h : findPos ps lo' up' with
  | none => rfl
  | some q =>
    show (if q.hasKey lo up then f q else q).transferred = q.transferred
    split
    · -- the entry found under `(lo', up')` has the key `(lo, up)`, so the two keys are one
      rename_i hq
      obtain ⟨rfl, rfl⟩ := hasKey_eq hq
      obtain ⟨rfl, rfl⟩ := hasKey_eq (findPos_some_key h)
      exact hfl q h
    · rfl

theorem isTransferred_mapPos_const (ps : List Pos) (lo up : Int) (p p' : Pos) (hfind : findPos ps lo up = some p)
    (hk : keyOf p' = keyOf p) (hfl : p'.transferred = p.transferred) (lo' up' : Int) :
    isTransferred (mapPos ps lo up (fun _ => p')) lo' up' = isTransferred ps lo' up' :=
  isTransferred_mapPos_field ps lo up _
    (fun _ _ => (hasKey_iff _ _ _).mpr (hk.trans ((hasKey_iff _ _ _).mp (findPos_some_key hfind))))
    (fun q hq => by rw [hfind] at hq; cases hq; exact hfl) lo' up'

theorem isTransferred_erasePos (ps : List Pos) (lo up : Int) (hfree : isTransferred ps lo up = false) (lo' up' : Int) :
    isTransferred (erasePos ps lo up) lo' up' = isTransferred ps lo' up' := by
  by_cases hne : lo' = lo ∧ up' = up
  · obtain ⟨e1, e2⟩ := hne; subst e1; subst e2
    rw [hfree]; unfold isTransferred; rw [findPos_erasePos_self]
  · unfold isTransferred; rw [findPos_erasePos_other _ _ _ _ _ hne]

theorem isTransferred_of_find {ps : List Pos} {lo up : Int} {p : Pos} (h : findPos ps lo up = some p) :
    isTransferred ps lo up = p.transferred := by
  unfold isTransferred; rw [h]

theorem addToPositions_lentSame {K : Kern} {pool : Pool} {s : State} {lo up liq : Int} {sqrt : Nat} {ent : Option Pos}
    (hent : newEntity K pool s lo up liq sqrt = .ok ent) (lo' up' : Int) :
    isTransferred (addToPositions s.positions lo up liq ent) lo' up' = isTransferred s.positions lo' up' := by
  rcases newEntity_cases hent with ⟨_, _, rfl⟩ | ⟨_, lp, up1, ip, rfl⟩
  · exact isTransferred_mapPos_field s.positions lo up (fun p => { p with liq := p.liq + liq }) (fun _ h => h)
      (fun _ _ => rfl) lo' up'
  · unfold addToPositions isTransferred
    rw [findPos_append_one]
    cases findPos s.positions lo' up' with
    | some q => rfl
    | none => cases (mkPos lo up liq lp up1 ip).hasKey lo' up' <;> rfl

theorem LentSame.ofEff {K : Kern} {pool : Pool} {n : Nat} {s s' : State} (h : Eff K pool Allow.noTransfer n s s') :
    LentSame s s' := by
  cases h with
  | record => exact fun _ _ => rfl
  | add _ A => exact addToPositions_lentSame A.entity
  | collectCore _ hf => exact isTransferred_mapPos_const s.positions _ _ _ _ hf rfl rfl
  | @collect _ lo up p m0 m1 _ _ _ _ hf htr =>
    intro lo' up'
    have hmap := isTransferred_mapPos_const s.positions lo up p
      (collectPos K.cx p (capAt m0 p.pending0) (capAt m1 p.pending1)) hf rfl rfl
    simp only [collectFinish_positions]
    split
    · -- the deleted position was free
      rw [isTransferred_erasePos _ _ _ _ lo' up', hmap]
      rw [hmap, isTransferred_of_find hf, htr]
    · exact hmap lo' up'
  | remove _ hf => exact isTransferred_mapPos_const s.positions _ _ _ _ hf rfl rfl
  | swap => exact fun _ _ => rfl
  | flag _ _ _ _ h => exact h.elim

theorem lentSame_gstepRel (K : Kern) (pool : Pool) : GStepRel K pool Allow.noTransfer (fun _ => LentSame) :=
  .ofEff (.ofAll fun _ _ _ => trivial) (fun _ _ _ => rfl)
    (fun h1 h2 lo up => (h2 lo up).trans (h1 lo up)) (fun _ h => h) LentSame.ofEff

end Demeter.Uni

namespace Demeter
open Demeter.Uni

/-- **The pool's own operations keep lent positions lent and free positions free.** For every kernel and arithmetic
    context, every state and every list of `UniLpMarket` operations other than `transfer_position_out` /
    `transfer_position_in` (add by tick / price / value, remove, collect, remove all, swap, buy, sell, even rebalance;
    accepted or rejected, helpers that fail half-way included): the `transferred` flag found under every key is the
    same before and after — no flag is raised or cleared, no flagged position is created (a new position is created
    unflagged) and none is deleted (a dry position is only deleted by `collect_fee`, which rejects lent positions). -/
theorem C01_uni_ops_keep_lent_positions (K : Kern) (pool : Pool) (minError : Rat) (s : State) (ops : List Op)
    (hops : ∀ op ∈ ops, op.isTransfer = false) (lo up : Int) :
    isTransferred (runOps K pool minError s ops).positions lo up = isTransferred s.positions lo up :=
  (lentSame_gstepRel K pool).runOps minError ops s (fun op h => allowed_noTransfer op (hops op h)) lo up

/-- **The guards of ce449ad.** `remove_liquidity` and `collect_fee` on a position that is lent out are rejected with
    `DemeterError` and leave the state exactly as it was, whatever the other arguments. -/
theorem C01_uni_lent_position_rejected (K : Kern) (pool : Pool) (s : State) (lo up : Int)
    (hl : isTransferred s.positions lo up = true) :
    (∀ l c sq rd, remove K pool s lo up l c sq rd = (.error .demeter, s)) ∧
    (∀ m0 m1 rd tu, collect K pool s lo up m0 m1 rd tu = (.error .demeter, s)) := by
  constructor
  · intro l c sq rd
    unfold remove removeNoCollect
    by_cases hn : negLiq l = true
    · simp [hn, fail]
    · simp [hn, hl, fail]
  · intro m0 m1 rd tu
    unfold collect
    unfold isTransferred at hl
    cases hf : findPos s.positions lo up with
    | none => rw [hf] at hl; cases hl
    | some p =>
      rw [hf] at hl
      by_cases hn : (negGiven m0 || negGiven m1) = true
      · simp [hn, fail]
      · simp [hn, hl, fail]

/-- an operation other than the two transfers on a free key: the key is free afterwards too, every key keeps its flag -/
theorem C01_uni_single_key_side_conditions (K : Kern) (pool : Pool) (minError : Rat) (u : Uni.State) (op : Op)
    (hop : op.isTransfer = false) (lo up : Int) (hfree : isTransferred u.positions lo up = false) :
    isTransferred (step K pool minError u op).2.positions lo up = false ∧
    ∀ lo' up', isTransferred (step K pool minError u op).2.positions lo' up' = isTransferred u.positions lo' up' := by
  have h := fun a b => C01_uni_ops_keep_lent_positions K pool minError u [op]
    (fun o ho => by rw [List.mem_singleton.mp ho]; exact hop) a b
  exact ⟨by rw [← hfree]; exact h lo up, h⟩

example : ∃ (s : State), isTransferred s.positions 0 10 = true ∧ isTransferred s.positions 10 20 = false :=
  ⟨{ (default : State) with positions := [{ (default : Pos) with lower := 0, upper := 10, liq := 7, transferred := true },
      { (default : Pos) with lower := 10, upper := 20, liq := 4 }] }, by decide, by decide⟩

end Demeter
