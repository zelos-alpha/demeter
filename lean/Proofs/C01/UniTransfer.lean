/-
  C01, Uniswap part — the clause "every holding is counted exactly once, including a liquidity position that has been lent" is
  FALSE of `UniLpMarket`'s public interface: `transfer_position_out` / `transfer_position_in` (uniswap/market.py, public methods; the
  Squeeth market calls them when a position is deposited into / withdrawn from a vault) only flip the `transferred` flag.  Called
  directly by a strategy,
    * `transfer_position_out(free position)` leaves a position nobody counts (the pool skips it, no vault references it) — counted 0 times;
    * `transfer_position_in(lent position)` leaves a position that the pool counts and the vault still counts — counted twice.
  This is the design of the hand-over between the two markets (known finding `uni.direct-transfer.*`), so
  `C01_uni_ops_keep_lent_positions` (Proofs/C01/UniLent.lean) and the once-theorems built on it (Proofs/C01/UniSqueeth.lean, with
  `_partial` in their names) are stated for operation lists WITHOUT the two calls; here the full statement is refuted on a concrete
  state, and the count is made a number (`countedTimes`) so that the three cases 0 / 1 / 2 are visible.
-/
import Proofs.C01.UniSqueeth
namespace Demeter
open Demeter.Uni

/-- how often the account's net value counts the position under the key `(lo, up)`: once by the pool's `get_market_balance` unless the
    position is flagged `transferred`, and once by every vault whose `uni_nft_id` is that key (`_get_effective_collateral_in_eth`) -/
def Uni.countedTimes (ps : List Pos) (vaults : AList Nat Squeeth.Vault) (lo up : Int) : Nat :=
  (match findPos ps lo up with
   | some p => if p.transferred then 0 else 1
   | none => 0) + (vaults.filter (fun kv => kv.2.nft == some (lo, up))).length

def Uni.OnceUnderAllPoolOps : Prop :=
  ∀ (K : Kern) (pool : Pool) (minError : Rat) (u : Uni.State) (ops : List Op) (sq : Squeeth.State),
    Squeeth.Once sq → sq.positions = toSq u.positions →
    Squeeth.Once { sq with positions := toSq (runOps K pool minError u ops).positions }

namespace Uni
def c01Sq : Squeeth.State :=
  { wallet := [], vaults := [(1, { coll := 1, short := 0, nft := some (0, 10) })], maxId := 1,
    positions := toSq c01State.positions, log := [] }

theorem c01Sq_once : Squeeth.Once c01Sq := by
  have hv : ∀ vk v, AList.get? c01Sq.vaults vk = some v → vk = 1 ∧ v.nft = some (0, 10) := by
    intro vk v h
    simp only [c01Sq, AList.get?_cons, AList.get?_nil] at h
    split_ifs at h with hk
    cases h
    exact ⟨hk.symm, rfl⟩
  constructor
  · intro vk v pos hg hn
    obtain ⟨_, h2⟩ := hv vk v hg
    rw [h2] at hn; cases hn
    exact ⟨{ liquidity := 7, pending0 := (default : Pos).pending0, pending1 := (default : Pos).pending1, transferred := true },
      by decide, rfl⟩
  · intro pos p hg ht
    simp only [c01Sq, toSq, c01State, List.map_cons, List.map_nil, AList.get?_cons, AList.get?_nil] at hg
    split_ifs at hg with h1 h2
    · cases hg
      exact ⟨1, { coll := 1, short := 0, nft := some (0, 10) }, by decide, by rw [← h1]⟩
    · cases hg; cases ht
  · intro vk vk' v v' pos hg hg' _ _
    rw [(hv vk v hg).1, (hv vk' v' hg').1]
  · intro vk v hg
    rw [(hv vk v hg).1]; decide
end Uni

/-- **C01 fails for direct calls of the hand-over methods.**  On the state `Uni.c01State` (a lent position (0,10) held by
    vault 1, a free position (10,20)), where every position is counted exactly once:
    `transfer_position_out(10, 20)` is accepted and leaves the free position counted 0 times,
    `transfer_position_in(0, 10)` is accepted and leaves the lent position counted twice;
    the wallet and every position's key, liquidity and pending amounts are untouched (`C01_uni_transfer_flag_only`), so the
    account's net value loses resp. gains the position's value out of nothing. -/
theorem C01_fails_direct_transfer :
    (countedTimes c01State.positions c01Sq.vaults 0 10 = 1 ∧ countedTimes c01State.positions c01Sq.vaults 10 20 = 1) ∧
    ((transferOut c01State 10 20).1 = .ok [] ∧ countedTimes (transferOut c01State 10 20).2.positions c01Sq.vaults 10 20 = 0) ∧
    ((transferIn c01State 0 10).1 = .ok [] ∧ countedTimes (transferIn c01State 0 10).2.positions c01Sq.vaults 0 10 = 2) ∧
    ¬ OnceUnderAllPoolOps := by
  refine ⟨by decide, by decide, by decide, ?_⟩
  intro hall
  have h := hall c01Kern c01Pool 0 c01State [.transferOut 10 20] c01Sq c01Sq_once rfl
  obtain ⟨vk, v, hg, hn⟩ := h.lent_ref (10, 20)
    { liquidity := 4, pending0 := (default : Pos).pending0, pending1 := (default : Pos).pending1, transferred := true } (by decide) rfl
  simp only [c01Sq, AList.get?_cons, AList.get?_nil] at hg
  split_ifs at hg
  cases hg
  cases hn

/-- the same refutation through `transfer_position_in`: afterwards vault 1 references a position the pool counts as well -/
theorem C01_fails_direct_transfer_in :
    ¬ Squeeth.Once { c01Sq with positions := toSq (runOps c01Kern c01Pool 0 c01State [.transferIn 0 10]).positions } := by
  intro h
  obtain ⟨p, hp, ht⟩ := h.ref_lent 1 { coll := 1, short := 0, nft := some (0, 10) } (0, 10) (by decide) rfl
  have : p.transferred = false := by
    have hp' : AList.get? (toSq (runOps c01Kern c01Pool 0 c01State [.transferIn 0 10]).positions) ((0, 10) : Squeeth.PosKey) =
        some { liquidity := 7, pending0 := (default : Pos).pending0, pending1 := (default : Pos).pending1, transferred := false } := by decide
    rw [show ({ c01Sq with positions := toSq (runOps c01Kern c01Pool 0 c01State [.transferIn 0 10]).positions } : Squeeth.State).positions =
      toSq (runOps c01Kern c01Pool 0 c01State [.transferIn 0 10]).positions from rfl, hp'] at hp
    cases hp; rfl
  rw [this] at ht; cases ht

/-- **counted exactly once, as a number** (the positive statement the `_partial` theorems give): under `Once`, with the Squeeth side
    holding the pool's positions and vault keys distinct, every position of the pool is counted exactly once — by the pool if it is free,
    by exactly one vault if it is lent -/
theorem C01_uni_counted_exactly_once (u : Uni.State) (sq : Squeeth.State) (h : Squeeth.Once sq) (hpos : sq.positions = toSq u.positions)
    (hnd : (sq.vaults.map (·.1)).Nodup) (lo up : Int) (p : Pos) (hp : findPos u.positions lo up = some p) :
    countedTimes u.positions sq.vaults lo up = 1 := by
  -- the vaults' references are a duplicate-free list whose members are the lent keys
  have hmem : (lo, up) ∈ Squeeth.heldKeys sq ↔ p.transferred = true := by
    rw [h.mem_heldKeys hnd, ← isTransferred_of_find hp, ← Uni.sqLent_toSq _ (lo, up), ← hpos]
    exact (sqLent_iff _ _).symm
  unfold countedTimes
  rw [hp, ← List.countP_eq_length_filter, ← List.count_filterMap (f := fun kv : Nat × Squeeth.Vault => kv.2.nft)]
  show _ + (Squeeth.heldKeys sq).count (lo, up) = 1
  rw [(h.heldKeys_nodup hnd).count]
  cases ht : p.transferred <;> simp [hmem, ht]

example : (c01Sq.vaults.map (·.1)).Nodup ∧ findPos c01State.positions 0 10 ≠ none ∧ c01Sq.positions = toSq c01State.positions :=
  ⟨by decide, by decide, rfl⟩

end Demeter
