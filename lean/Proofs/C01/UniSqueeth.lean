/-
  C01, composition of the Uniswap part with the Squeeth part.

  `Proofs/C01/Squeeth.lean` proves "every LP position is counted exactly once" (`Once`) for the Squeeth model, which of the pool's own
  operations contains only `remove_liquidity` (`Squeeth.Op.uniRemove`) and the swaps behind `buy_squeeth` / `sell_squeeth`.
  `Once` depends on the positions only through which of them are flagged `transferred` (`Squeeth.Once.congr_lent`), and by
  Proofs/C01/UniLent.lean the operations of `UniLpMarket` (`Demeter.Uni`) other than the two transfers keep every flag: so they
  keep `Once`.
-/
import Proofs.C01.UniLent
import Proofs.Lemmas.SqueethOnce
namespace Demeter.Uni
open Demeter

def sqLent (ps : AList Squeeth.PosKey Squeeth.UPos) (k : Squeeth.PosKey) : Bool :=
  match AList.get? ps k with
  | some p => p.transferred
  | none => false

theorem sqLent_iff (ps : AList Squeeth.PosKey Squeeth.UPos) (k : Squeeth.PosKey) :
    sqLent ps k = true ↔ ∃ p, AList.get? ps k = some p ∧ p.transferred = true := by
  unfold sqLent
  cases AList.get? ps k <;> simp

end Demeter.Uni

namespace Demeter
open Demeter.Uni

def Uni.toSq (ps : List Pos) : AList Squeeth.PosKey Squeeth.UPos :=
  ps.map (fun p => ((p.lower, p.upper),
    { liquidity := p.liq.toNat, pending0 := p.pending0, pending1 := p.pending1, transferred := p.transferred }))

theorem Uni.sqLent_toSq (ps : List Pos) (k : Squeeth.PosKey) : sqLent (toSq ps) k = isTransferred ps k.1 k.2 := by
  unfold sqLent isTransferred toSq
  induction ps with
  | nil => rfl
  | cons q qs ih =>
    rw [List.map_cons, AList.get?_cons, findPos_cons]
    by_cases hq : q.hasKey k.1 k.2 = true
    · have hk : (q.lower, q.upper) = k := (hasKey_iff q k.1 k.2).mp hq
      simp only [hk, hq, if_true]
    · have hk : ¬ ((q.lower, q.upper) = k) := fun e => hq ((hasKey_iff q k.1 k.2).mpr e)
      simp only [hk, hq, if_false, Bool.false_eq_true]
      exact ih

/-- **Composition with the Squeeth part.**
    PARTIAL (`hops`): operation lists that contain a direct `transfer_position_out` / `transfer_position_in` are excluded, and for those
    the statement is false (`C01_fails_direct_transfer`, Proofs/C01/UniTransfer.lean; known finding `uni.direct-transfer.*`).  Let a
    Squeeth-side state satisfy `Once` (every LP position counted exactly once) and agree with a pool state on which
    keys are lent. After any list of pool operations other than the two transfers — which the Squeeth market itself
    performs and accounts for —, any Squeeth-side state with the same vaults and id counter that agrees with the new
    pool state on the lent keys satisfies `Once` again. -/
theorem C01_uni_squeeth_once_preserved_partial (K : Kern) (pool : Pool) (minError : Rat) (u : Uni.State) (ops : List Op)
    (hops : ∀ op ∈ ops, op.isTransfer = false) (sq sq' : Squeeth.State) (h : Squeeth.Once sq)
    (hagree : ∀ k, sqLent sq.positions k = isTransferred u.positions k.1 k.2)
    (hagree' : ∀ k, sqLent sq'.positions k = isTransferred (runOps K pool minError u ops).positions k.1 k.2)
    (hv : sq'.vaults = sq.vaults) (hm : sq'.maxId = sq.maxId) : Squeeth.Once sq' :=
  h.congr_lent hv hm fun q => by
    rw [show Squeeth.isLent sq' q ↔ _ from (sqLent_iff _ q).symm, hagree' q, C01_uni_ops_keep_lent_positions K pool minError u ops hops q.1 q.2,
      ← hagree q]
    exact sqLent_iff _ q

/-- … in particular for the Squeeth state that carries the pool's positions themselves -/
theorem C01_uni_squeeth_once_projected_partial (K : Kern) (pool : Pool) (minError : Rat) (u : Uni.State) (ops : List Op)
    (hops : ∀ op ∈ ops, op.isTransfer = false) (sq : Squeeth.State) (h : Squeeth.Once sq)
    (hpos : sq.positions = toSq u.positions) :
    Squeeth.Once { sq with positions := toSq (runOps K pool minError u ops).positions } :=
  C01_uni_squeeth_once_preserved_partial K pool minError u ops hops sq _ h
    (fun k => by rw [hpos]; exact sqLent_toSq _ k) (fun k => sqLent_toSq _ k) rfl rfl

namespace Uni
def c01Pool : Pool := { tok0 := "a", tok1 := "b", d0 := 6, d1 := 18, feeRate := 3 / 1000, spacing := 10, q0 := true, decFac := 1 }
def c01Kern : Kern :=
  { cx := NumCtx.exact
    priceToSqrt := fun _ _ => .ok 5
    sqrtToPrice := fun _ _ => .ok 1
    tickToPrice := fun _ _ => .ok 1
    newPos := fun _ _ _ _ a0 a1 => .ok (a0, a1, 3)
    amounts := fun _ _ _ _ l _ => .ok ((l : Rat), (l : Rat))
    tickToSqrt := fun _ => .ok 5 }
def c01State : State :=
  { positions := [{ (default : Pos) with lower := 0, upper := 10, liq := 7, transferred := true },
                  { (default : Pos) with lower := 10, upper := 20, liq := 4 }], lastTick := none,
    row := some { closeTick := 0, curLiq := 1000, in0 := 0, in1 := 0, price := 2 }, ts := none, isOpen := true,
    hasUpdate := false, wallet := [("a", 10), ("b", 10)], allowNeg := false, actions := [] }
def c01Ops : List Op :=
  [.remove 0 10 none true none true, .collect 0 10 none none true true, .addRaw 1 1 0 10 none, .addRaw 1 1 20 30 none,
   .remove 10 20 none true none true, .removeAll, .swap 1 "a" "b" none true]
end Uni

example : (∀ op ∈ c01Ops, op.isTransfer = false) ∧
    (runOps c01Kern c01Pool 0 c01State c01Ops).positions.map (fun p => (p.lower, p.upper, p.liq, p.transferred)) =
      [(0, 10, 10, true)] ∧ (runOps c01Kern c01Pool 0 c01State c01Ops).wallet = [("a", 14), ("b", 30997 / 2000)] := by
  decide +kernel

end Demeter
