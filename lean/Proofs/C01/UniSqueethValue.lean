/-
  C01 — the two models of the oSQTH/WETH pool's valuation are the same function.

  `Demeter.Uni.getMarketBalance` is the model of `UniLpMarket.get_market_balance` (any pool, any kernel); `Demeter.Squeeth.uniNetValue`
  is the copy of that loop inside the Squeeth model (fixed pool: token0 = WETH = quote, token1 = oSQTH, 18/18 decimals), over the
  positions container the two markets share.  Here: for the pool the Squeeth market trades with (`Squeeth.longPool`) and the kernel of the
  code (`Kern.std`), with exact arithmetic, `getMarketBalance` on a pool state `u` answers exactly `uniNetValue` on the Squeeth-side
  state that carries `u`'s positions (`Uni.toSq`) — so the value-level once equation of `Proofs/C01/SqueethValue.lean` is a statement
  about `UniLpMarket.get_market_balance` as modelled by `Demeter.Uni`.
-/
import Proofs.C01.Uni
import Proofs.Lemmas.UniKernelStd
import Proofs.C01.UniSqueeth
import Proofs.C01.SqueethValue
import Mathlib.Tactic.Ring
namespace Demeter
open Demeter.Uni Gen

namespace Uni

def Pos.Sane (p : Pos) : Prop := tickOk p.lower = true ∧ tickOk p.upper = true ∧ 0 ≤ p.liq

def sqAmt (sqrt : Nat) (p : Pos) : Rat × Rat :=
  closePosition NumCtx.exact sqrt p.lower p.upper p.liq.toNat Gen.sqWethDecimals Gen.sqOsqthDecimals

theorem tokenAmountsStd_eq_closePosition (pool : Pool) (sqrt : Nat) (p : Pos) (hp : p.Sane) :
    tokenAmountsStd NumCtx.exact pool sqrt p.lower p.upper p.liq p.liqDec =
      .ok (closePosition NumCtx.exact sqrt p.lower p.upper p.liq.toNat pool.d0 pool.d1) := by
  obtain ⟨h1, h2, h3⟩ := hp
  obtain ⟨n, hn⟩ := Int.eq_ofNat_of_zero_le h3
  unfold tokenAmountsStd closePosition
  rw [amountsGen_exact_dec, hn, amountsGen_nat _ _ _ _ n _ _ h1 h2, Int.toNat_natCast]
  simp only [Int.natCast_eq_zero]
  split <;> rfl

theorem priceToSqrtStd_longPool (e : Squeeth.Env) (hpos : 0 < e.uniPrice) :
    priceToSqrtStd NumCtx.exact (Squeeth.longPool e) e.uniPrice = .ok (Squeeth.uniSqrtP NumCtx.exact e.uniPrice) := by
  unfold priceToSqrtStd Squeeth.uniSqrtP
  have hne : (e.uniPrice == 0) = false := by
    have : e.uniPrice ≠ 0 := ne_of_gt hpos
    simpa using this
  have hnn : ¬ (1 / e.uniPrice / 1 < 0) := by
    have : 0 < 1 / e.uniPrice / 1 := by rw [div_one]; exact one_div_pos.mpr hpos
    exact not_lt.mpr (le_of_lt this)
  simp only [Squeeth.longPool, hne, Bool.and_false, Bool.false_eq_true, if_false, if_true, NumCtx.exact_div, NumCtx.exact_mul, hnn, q96R]

theorem sumOver_eq_sumIf (e : Squeeth.Env) (ps : List Pos) :
    sumOver (posValue (Squeeth.longPool e) e.uniPrice (sqAmt (Squeeth.uniSqrtP NumCtx.exact e.uniPrice))) ps =
      Squeeth.sumIf (fun kp => !kp.2.transferred) (Squeeth.poolVal e) (toSq ps) := by
  rw [sumOver_eq, sumAll_eq_sum, Squeeth.sumIf, toSq, List.map_map]
  refine congrArg List.sum (List.map_congr_left fun p _ => ?_)
  cases ht : p.transferred with
  | true => simp [ht]
  | false =>
    simp only [Function.comp, ht, Bool.false_eq_true, if_false, Bool.not_false, if_true, posValue, Pool.conv, Squeeth.longPool, Squeeth.poolVal,
      Squeeth.cpos, sqAmt]
    ring

end Uni

/-- **`UniLpMarket.get_market_balance` of the oSQTH/WETH pool = the pool valuation inside the Squeeth model** (exact arithmetic, the
    code's kernel).  For a pool state `u` whose status row carries the pool price `e.uniPrice > 0` and whose positions are sane (ticks in
    range, liquidity ≥ 0): `getMarketBalance` returns, and its net value is `Squeeth.uniNetValue` of any Squeeth-side state holding the same
    positions; its position count is `Squeeth.uniCount`. -/
theorem C01_uni_balance_is_squeeth_pool_value (sq : Rat → Rat) (e : Squeeth.Env) (u : Uni.State) (row : Row) (s : Squeeth.State)
    (hrow : u.row = some row) (hprice : row.price = e.uniPrice) (hpos : 0 < e.uniPrice)
    (hsane : ∀ p ∈ u.positions, p.Sane) (hs : s.positions = toSq u.positions) :
    ∃ b, getMarketBalance (Kern.std NumCtx.exact sq) (Squeeth.longPool e) u = .ok b ∧
      b.netValue = Squeeth.uniNetValue NumCtx.exact e s ∧ b.positionCount = Squeeth.uniCount s := by
  have hsqrt : (Kern.std NumCtx.exact sq).priceToSqrt (Squeeth.longPool e) row.price = .ok (Squeeth.uniSqrtP NumCtx.exact e.uniPrice) := by
    rw [hprice]; exact priceToSqrtStd_longPool e hpos
  obtain ⟨b, hb, hnv, _, _, _, _, hcnt⟩ := C01_uni_balance_eq_spec (Kern.std NumCtx.exact sq) rfl (Squeeth.longPool e) u row
    (Squeeth.uniSqrtP NumCtx.exact e.uniPrice) (sqAmt (Squeeth.uniSqrtP NumCtx.exact e.uniPrice)) hrow hsqrt
    (fun p hp _ => tokenAmountsStd_eq_closePosition (Squeeth.longPool e) _ p (hsane p hp))
  refine ⟨b, hb, ?_, ?_⟩
  · rw [hnv, hprice, sumOver_eq_sumIf, C01_squeeth_pool_value_is_sum_over_free, hs]
  · rw [hcnt]
    unfold Squeeth.uniCount
    rw [hs, toSq, List.filter_map, List.length_map]; rfl

/-- **C01, value level, stated for the Uniswap model's `get_market_balance`**: pool state `u` (model `Demeter.Uni`) and Squeeth state `s`
    over the same positions, `Once s`, dicts without duplicate keys: what `UniLpMarket.get_market_balance` reports for the pool,
    converted at the WETH price, plus what `SqueethMarket.get_market_balance` reports, is the plain sum — free positions at the pool
    price, lent positions at the index price inside the vaults' collateral, ETH collateral, minus the short at mark — every position
    exactly once. -/
theorem C01_uni_squeeth_value_counted_once (sq : Rat → Rat) (e : Squeeth.Env) (u : Uni.State) (row : Row) (s : Squeeth.State)
    (bs : Squeeth.Balance) (hrow : u.row = some row) (hprice : row.price = e.uniPrice) (hpos : 0 < e.uniPrice)
    (hsane : ∀ p ∈ u.positions, p.Sane) (hs : s.positions = toSq u.positions) (h : Squeeth.Once s)
    (hnv : (s.vaults.map (·.1)).Nodup) (hnp : (s.positions.map (·.1)).Nodup)
    (hb : Squeeth.marketBalance NumCtx.exact e s = .ok bs) :
    ∃ bu, getMarketBalance (Kern.std NumCtx.exact sq) (Squeeth.longPool e) u = .ok bu ∧
      bu.netValue * e.weth + bs.netValue =
        Squeeth.sumIf (fun kp => !kp.2.transferred) (Squeeth.poolVal e) s.positions * e.weth +
        (Squeeth.sumIf (fun kp => kp.2.transferred) (Squeeth.idxVal e) s.positions + (s.vaults.map (·.2.coll)).sum) * e.weth -
        (s.vaults.map (·.2.short)).sum * (e.osqth * e.weth) := by
  obtain ⟨bu, hbu, hnet, _⟩ := C01_uni_balance_is_squeeth_pool_value sq e u row s hrow hprice hpos hsane hs
  exact ⟨bu, hbu, by rw [hnet]; exact C01_squeeth_uni_value_counted_once e s bs h hnv hnp hb⟩

example : (∀ p ∈ Uni.c01State.positions, p.Sane) := by
  intro p hp
  simp only [Uni.c01State, List.mem_cons, List.not_mem_nil, or_false] at hp
  rcases hp with rfl | rfl <;> exact ⟨by decide, by decide, by decide⟩

end Demeter
