/-
  C01, end to end — the account row of every bar of a run over REAL market models.

  `Proofs/C01/Run.lean` proves, for an arbitrary interpretation `V` of the calls, that row k is `Broker.get_account_status` of the world
  left by exactly the calls before it.  `Demeter/Actuator/Markets.lean` gives a concrete `V` (`marketsValuation`): the world is the
  wallet plus a Uniswap LP market, the oSQTH/WETH pool and the Squeeth market (one shared positions container), a GMX v1 market, a
  Deribit option market and an Aave market; a call does what those models' `step` / `update` / `set_market_status` /
  `get_market_balance` (cache) do.  Here the per-market C01 theorems are composed with the broker sum; the Aave market enters with its
  reported value, which is within the 1e-4 quantisation of supplies − debts.  Not composed: GMX v2 (float valuation).  The result:

    net value of row k  =  Σ wallet·price  +  conv₀ · Σ_{free positions of market 0} value
                          +  conv₁ · Σ_{free positions of the oSQTH/WETH pool} value at the pool price
                          +  conv₂ · ((Σ_{lent positions} value at the index price + Σ vault collateral) · WETH − Σ short · mark)
                          +  conv₃ · (GLP · glp_price + reward · wavax_price / 10³⁰)
                          +  conv₄ · (option cash + Σ amount · round(mark))          [on a bar of the hourly grid; off the grid the cached premium]
                          +  conv₅ · (Aave: quantised supplies − debts, within 1e-4 of the recomputed totals)

  with `conv_m = 1` if market m's quote token is the account's, else the bar's price of that token — every holding once: the count
  invariant `Once` of the shared container is carried along the whole run (`C01_e2e_once_along_the_run`).
-/
import Proofs.C01.Run
import Proofs.C01.Uni
import Proofs.C01.SqueethValue
import Proofs.C01.SqueethDict
import Proofs.C01.Gmx
import Proofs.C01.Deribit
import Proofs.C01.Aave
import Demeter.Actuator.Markets
import Proofs.C01.UniSqueeth
import Proofs.Lemmas.MarketsTouch
namespace Demeter
open Core

namespace Core

theorem worldAfter_sq_edit (S : Setup) (calls : List Ev) (w0 : World) :
    Squeeth.Edit Squeeth.AnyKey Squeeth.AnyKey w0.sq (worldAfter (marketsValuation S) calls w0).sq := by
  refine worldAfter_touch S (fun w => Squeeth.Edit Squeeth.AnyKey Squeeth.AnyKey w0.sq w.sq) (fun w w' ht hw => ?_) calls w0 (.refl _)
  rcases ht.sq_cases with he | ⟨op, he⟩
  · rw [he]; exact hw
  · rw [he]; exact (hw.wallet w.wallet).trans (Squeeth.step_edit S.cx w.env w.sqIn op)

def Setup.conv (S : Setup) (src : Option Int) (tok : String) : Option Rat :=
  if tok = S.quote then some 1 else AList.get? (S.prices src) tok

end Core

/-- **the count invariant holds in the world of every account row**: starting from a world whose shared container counts every position
    once, after ANY list of calls of the loop (any script, any decoding of labels into operations of the six markets, accepted or
    failing, any data) it still does -/
theorem C01_e2e_once_along_the_run (S : Setup) (w0 : World) (h0 : Squeeth.Once w0.sq) (calls : List Ev) :
    Squeeth.Once (worldAfter (marketsValuation S) calls w0).sq :=
  (worldAfter_sq_edit S calls w0).once h0

/-- the two containers of the Squeeth market stay dicts (no key twice) along any list of calls of the loop -/
theorem C01_e2e_dict_along_the_run (S : Setup) (w0 : World) (h0 : Squeeth.Dict w0.sq) (calls : List Ev) :
    Squeeth.Dict (worldAfter (marketsValuation S) calls w0).sq :=
  (worldAfter_sq_edit S calls w0).dict h0

/-- **the account row = wallet + the six markets' reported values, converted** (exact arithmetic): `Broker.get_account_status` over
    the concrete markets; `none` on both sides exactly when a price is missing -/
theorem C01_e2e_row_is_wallet_plus_markets (S : Setup) (src : Option Int) (w : World) :
    (acctRow NumCtx.exact (marketsValuation S) src w).map (·.netValue) =
      (do let a ← specWallet (S.prices src) w.wallet
          let c0 ← S.conv src S.pool.quoteTok
          let c1 ← S.conv src Gen.sqWethName
          let c2 ← S.conv src S.sqQuote
          let c3 ← S.conv src S.gmxQuote
          let c4 ← S.conv src S.derCfg.token
          let c5 ← S.conv src S.aaveQuote
          pure (a + (nvOfUni (Uni.getMarketBalance S.K S.pool w.uniIn) * c0 +
            (Squeeth.uniNetValue S.cx w.env w.sqIn * c1 + (nvOfSq (Squeeth.marketBalance S.cx w.env w.sqIn) * c2 +
              (GmxV1.netValue S.cx w.genv w.gmxIn * c3 +
                (nvOfDer (Deribit.getMarketBalance S.derCx S.derCfg w.derIn).1 * c4 +
                  (nvOfAave (Aave.step S.aaveCx w.aenv w.aaveIn (.read .marketBalance)).1 * c5 + 0)))))))) := by
  rw [C01_run_row_is_plain_sum]
  -- both sides are the same chain of `Option` binds, nested differently
  simp only [marketsValuation, marketsBalances, specNetValue, specMarkets, convFactor, Setup.conv, bind_assoc, pure_bind]
  rfl

/-- the independent valuation of a world: wallet value `a`, then every market's raw holdings converted by `c_m`; `dv` = what the option
    market is worth (cash + options at mark on the hourly grid, see the two corollaries), `av` = the Aave market's quantised value -/
def Core.e2eSum (S : Setup) (w : World) (row : Uni.Row) (amt : Uni.Pos → Rat × Rat) (a c0 c1 c2 c3 c4 c5 dv av : Rat) : Rat :=
  a + Uni.sumOver (Uni.posValue S.pool row.price amt) w.uni.positions * c0 +
        Squeeth.sumIf (fun kp => !kp.2.transferred) (Squeeth.poolVal w.env) w.sq.positions * c1 +
        ((Squeeth.sumIf (fun kp => kp.2.transferred) (Squeeth.idxVal w.env) w.sq.positions + (w.sq.vaults.map (·.2.coll)).sum) * w.env.weth -
          (w.sq.vaults.map (·.2.short)).sum * (w.env.osqth * w.env.weth)) * c2 +
        (w.gmx.glp * w.genv.glpPrice + w.gmx.reward * (w.genv.wavaxPrice / 10 ^ 30)) * c3 +
        dv * c4 +
        av * c5

/-- the general form: `dv` is whatever the option market's `get_market_balance` reports in `w` -/
theorem C01_e2e_row_value_gen (S : Setup) (hK : S.K.cx = NumCtx.exact) (hcx : S.cx = NumCtx.exact) (hder : S.derCx = Deribit.DCtx.exact)
    (haave : S.aaveCx = aaveExact) (src : Option Int) (w : World)
    (dv : Rat) (hdv : nvOfDer (Deribit.getMarketBalance Deribit.DCtx.exact S.derCfg w.derIn).1 = dv)
    (hgood : Aave.Good aaveExact w.aenv w.aaveIn) (ab : Aave.Balance)
    (hab : (Aave.step aaveExact w.aenv w.aaveIn (.read .marketBalance)).1 = .ok (.bal ab))
    (row : Uni.Row) (sqrt : Nat) (amt : Uni.Pos → Rat × Rat) (hrow : w.uni.row = some row)
    (hsqrt : S.K.priceToSqrt S.pool row.price = .ok sqrt)
    (hamt : ∀ p ∈ w.uni.positions, p.transferred = false → S.K.amounts S.pool sqrt p.lower p.upper p.liq p.liqDec = .ok (amt p))
    (bs : Squeeth.Balance) (hbs : Squeeth.marketBalance NumCtx.exact w.env w.sqIn = .ok bs)
    (honce : Squeeth.Once w.sq) (hnv : (w.sq.vaults.map (·.1)).Nodup) (hnp : (w.sq.positions.map (·.1)).Nodup)
    (a c0 c1 c2 c3 c4 c5 : Rat) (ha : specWallet (S.prices src) w.wallet = some a) (h0 : S.conv src S.pool.quoteTok = some c0)
    (h1 : S.conv src Gen.sqWethName = some c1) (h2 : S.conv src S.sqQuote = some c2) (h3 : S.conv src S.gmxQuote = some c3)
    (h4 : S.conv src S.derCfg.token = some c4) (h5 : S.conv src S.aaveQuote = some c5) :
    (∃ ts tb, Aave.specTotalSupply aaveExact w.aenv w.aave.supplies = .ok ts ∧ Aave.specTotalBorrows aaveExact w.aenv w.aave.borrows = .ok tb ∧
      |ab.netValue - (ts - tb)| ≤ 1 / 10000) ∧
    (acctRow NumCtx.exact (marketsValuation S) src w).map (·.netValue) =
      some (e2eSum S w row amt a c0 c1 c2 c3 c4 c5 dv ab.netValue) := by
  refine ⟨by
    obtain ⟨ts, tb, h1, h2, _, _, h3⟩ := C01_aave_net_value_within_quantum w.aaveIn hgood ab hab
    exact ⟨ts, tb, h1, h2, h3⟩, ?_⟩
  obtain ⟨b, hb, hnet, _⟩ := C01_uni_balance_eq_spec S.K hK S.pool w.uniIn row sqrt amt hrow hsqrt hamt
  -- the pool + Squeeth pair: the once equation, less the pool's own part
  have hsnet := C01_squeeth_uni_value_counted_once w.env w.sqIn bs (honce.congr_lent rfl rfl fun _ => Iff.rfl) hnv hnp hbs
  rw [C01_squeeth_pool_value_is_sum_over_free, add_sub_assoc] at hsnet
  rw [C01_e2e_row_is_wallet_plus_markets, ha, h0, h1, h2, h3, h4, h5, hcx, hder, hdv, haave, hb, hbs, hab,
    C01_squeeth_pool_value_is_sum_over_free, (C01_gmx_v1_balance w.genv w.gmxIn).1]
  simp only [nvOfUni, nvOfSq, nvOfAave, hnet, add_left_cancel hsnet]
  show some _ = some _
  congr 1
  unfold e2eSum
  simp only [World.sqIn, World.uniIn, World.gmxIn]
  ring

/-- **C01 end to end, one row.**  In any world `w` in which the three `get_market_balance` calls return (market 0: a status row, its
    price converts, every free position's amounts compute; Squeeth: the balance `bs`; Aave: the balance `ab`), on a bar of Deribit's
    hourly grid, with the count invariant and dict-shaped containers, and with the prices present: the row's net value is the
    independent valuation of the file header, each market converted by its quote-token price — every holding exactly once. -/
theorem C01_e2e_row_value (S : Setup) (hK : S.K.cx = NumCtx.exact) (hcx : S.cx = NumCtx.exact) (hder : S.derCx = Deribit.DCtx.exact)
    (haave : S.aaveCx = aaveExact) (src : Option Int) (w : World) (hgrid : w.der.onGrid = true)
    (hgood : Aave.Good aaveExact w.aenv w.aaveIn) (ab : Aave.Balance)
    (hab : (Aave.step aaveExact w.aenv w.aaveIn (.read .marketBalance)).1 = .ok (.bal ab))
    (row : Uni.Row) (sqrt : Nat) (amt : Uni.Pos → Rat × Rat) (hrow : w.uni.row = some row)
    (hsqrt : S.K.priceToSqrt S.pool row.price = .ok sqrt)
    (hamt : ∀ p ∈ w.uni.positions, p.transferred = false → S.K.amounts S.pool sqrt p.lower p.upper p.liq p.liqDec = .ok (amt p))
    (bs : Squeeth.Balance) (hbs : Squeeth.marketBalance NumCtx.exact w.env w.sqIn = .ok bs)
    (honce : Squeeth.Once w.sq) (hnv : (w.sq.vaults.map (·.1)).Nodup) (hnp : (w.sq.positions.map (·.1)).Nodup)
    (a c0 c1 c2 c3 c4 c5 : Rat) (ha : specWallet (S.prices src) w.wallet = some a) (h0 : S.conv src S.pool.quoteTok = some c0)
    (h1 : S.conv src Gen.sqWethName = some c1) (h2 : S.conv src S.sqQuote = some c2) (h3 : S.conv src S.gmxQuote = some c3)
    (h4 : S.conv src S.derCfg.token = some c4) (h5 : S.conv src S.aaveQuote = some c5) :
    (∃ ts tb, Aave.specTotalSupply aaveExact w.aenv w.aave.supplies = .ok ts ∧ Aave.specTotalBorrows aaveExact w.aenv w.aave.borrows = .ok tb ∧
      |ab.netValue - (ts - tb)| ≤ 1 / 10000) ∧
    (acctRow NumCtx.exact (marketsValuation S) src w).map (·.netValue) =
      some (a + Uni.sumOver (Uni.posValue S.pool row.price amt) w.uni.positions * c0 +
        Squeeth.sumIf (fun kp => !kp.2.transferred) (Squeeth.poolVal w.env) w.sq.positions * c1 +
        ((Squeeth.sumIf (fun kp => kp.2.transferred) (Squeeth.idxVal w.env) w.sq.positions + (w.sq.vaults.map (·.2.coll)).sum) * w.env.weth -
          (w.sq.vaults.map (·.2.short)).sum * (w.env.osqth * w.env.weth)) * c2 +
        (w.gmx.glp * w.genv.glpPrice + w.gmx.reward * (w.genv.wavaxPrice / 10 ^ 30)) * c3 +
        (w.der.cash + Deribit.markValue S.derCfg w.der.book w.der.positions) * c4 +
        ab.netValue * c5) := by
  obtain ⟨bd, hbd, hdnet, _⟩ := C01_deribit_open_bar_value S.derCfg w.derIn hgrid
  exact C01_e2e_row_value_gen S hK hcx hder haave src w _ (by rw [hbd]; exact hdnet) hgood ab hab row sqrt amt hrow hsqrt hamt bs hbs
    honce hnv hnp a c0 c1 c2 c3 c4 c5 ha h0 h1 h2 h3 h4 h5

/-- … and on a bar OFF the hourly grid (most bars of a minutely backtest) the option market reports its cache: the premium of the last
    valuation, with the current cash — the design the property text records ("cached value on bars where the market is closed");
    everything else as above -/
theorem C01_e2e_row_value_off_grid (S : Setup) (hK : S.K.cx = NumCtx.exact) (hcx : S.cx = NumCtx.exact) (hder : S.derCx = Deribit.DCtx.exact)
    (haave : S.aaveCx = aaveExact) (src : Option Int) (w : World) (hgrid : w.der.onGrid = false) (bc : Deribit.Balance)
    (hcache : w.der.cache = some bc)
    (hgood : Aave.Good aaveExact w.aenv w.aaveIn) (ab : Aave.Balance)
    (hab : (Aave.step aaveExact w.aenv w.aaveIn (.read .marketBalance)).1 = .ok (.bal ab))
    (row : Uni.Row) (sqrt : Nat) (amt : Uni.Pos → Rat × Rat) (hrow : w.uni.row = some row)
    (hsqrt : S.K.priceToSqrt S.pool row.price = .ok sqrt)
    (hamt : ∀ p ∈ w.uni.positions, p.transferred = false → S.K.amounts S.pool sqrt p.lower p.upper p.liq p.liqDec = .ok (amt p))
    (bs : Squeeth.Balance) (hbs : Squeeth.marketBalance NumCtx.exact w.env w.sqIn = .ok bs)
    (honce : Squeeth.Once w.sq) (hnv : (w.sq.vaults.map (·.1)).Nodup) (hnp : (w.sq.positions.map (·.1)).Nodup)
    (a c0 c1 c2 c3 c4 c5 : Rat) (ha : specWallet (S.prices src) w.wallet = some a) (h0 : S.conv src S.pool.quoteTok = some c0)
    (h1 : S.conv src Gen.sqWethName = some c1) (h2 : S.conv src S.sqQuote = some c2) (h3 : S.conv src S.gmxQuote = some c3)
    (h4 : S.conv src S.derCfg.token = some c4) (h5 : S.conv src S.aaveQuote = some c5) :
    (acctRow NumCtx.exact (marketsValuation S) src w).map (·.netValue) =
      some (e2eSum S w row amt a c0 c1 c2 c3 c4 c5 (if bc.cash = w.der.cash then bc.netValue else w.der.cash + bc.premium) ab.netValue) := by
  obtain ⟨b', hb', _, _, _, _, hnet'⟩ := C01_deribit_closed_bar_value Deribit.DCtx.exact S.derCfg w.derIn bc hgrid hcache
  exact (C01_e2e_row_value_gen S hK hcx hder haave src w _ (by rw [hb']; exact hnet') hgood ab hab row sqrt amt hrow hsqrt hamt bs hbs
    honce hnv hnp a c0 c1 c2 c3 c4 c5 ha h0 h1 h2 h3 h4 h5).2

/-- **C01 end to end, every bar of every run.**  For every configuration, trigger list, script, setup (pool, kernel, data, price rows,
    decoding of labels) and start world: the rows of a run that ends normally are, bar by bar, `get_account_status` at that bar's price
    row of the world `worldAfter … pre w0` that the six market models are in after exactly the calls before the row (`C01_run_rows`
    says which those are); and in every one of those worlds the shared positions container counts every position once. -/
theorem C01_e2e_run_rows (S : Setup) (w0 : World) (h0 : Squeeth.Once w0.sq) (hd : Squeeth.Dict w0.sq) (cfg : Cfg) (trigs : List Trig) (sc : Script)
    (h : (run cfg trigs sc).err = none) (hidx : (barIndex cfg).Pairwise (· < ·)) :
    ∃ pres : List (List Ev),
      pres.length = (barIndex cfg).length ∧
      valuedRows NumCtx.exact (marketsValuation S) (run cfg trigs sc).trace w0 =
        List.zipWith (fun ts pre => (ts, acctRow NumCtx.exact (marketsValuation S) (priceRow cfg ts)
          (worldAfter (marketsValuation S) pre w0))) (barIndex cfg) pres ∧
      (∀ pre ∈ pres, Squeeth.Once (worldAfter (marketsValuation S) pre w0).sq ∧ Squeeth.Dict (worldAfter (marketsValuation S) pre w0).sq) ∧
      ∀ (k : Nat) pre ts, pres[k]? = some pre → (barIndex cfg)[k]? = some ts →
        ∃ post, (run cfg trigs sc).trace = pre ++ Ev.row ts (priceRow cfg ts) :: post ∧
          (∀ e ∈ pre, BeforeRow ts e) ∧ (∀ e ∈ post, AfterRow ts e) := by
  obtain ⟨pres, hlen, hv, hsplit⟩ := C01_run_rows NumCtx.exact (marketsValuation S) w0 cfg trigs sc h hidx
  exact ⟨pres, hlen, hv, fun pre _ => ⟨C01_e2e_once_along_the_run S w0 h0 pre, C01_e2e_dict_along_the_run S w0 hd pre⟩, hsplit⟩

/-- **C01 end to end, row k of a run, by index.**  Row k of the account history of a run that ends normally IS `get_account_status` at
    bar k's price row of the world the six market models are in after exactly the calls `pre` before it; that world satisfies the count
    invariant and has dict-shaped containers, so `C01_e2e_row_value` applies to it with no hypotheses left but "the balance calls return"
    and "the prices are there" (`C01_e2e_row_value_after_calls` with this `pre`). -/
theorem C01_e2e_run_row_k (S : Setup) (w0 : World) (h0 : Squeeth.Once w0.sq) (hd : Squeeth.Dict w0.sq) (cfg : Cfg) (trigs : List Trig)
    (sc : Script) (h : (run cfg trigs sc).err = none) (hidx : (barIndex cfg).Pairwise (· < ·)) :
    ∃ pres : List (List Ev), pres.length = (barIndex cfg).length ∧
      ∀ (k : Nat) pre ts, pres[k]? = some pre → (barIndex cfg)[k]? = some ts →
        (valuedRows NumCtx.exact (marketsValuation S) (run cfg trigs sc).trace w0)[k]? =
          some (ts, acctRow NumCtx.exact (marketsValuation S) (priceRow cfg ts) (worldAfter (marketsValuation S) pre w0)) ∧
        Squeeth.Once (worldAfter (marketsValuation S) pre w0).sq ∧ Squeeth.Dict (worldAfter (marketsValuation S) pre w0).sq ∧
        ∃ post, (run cfg trigs sc).trace = pre ++ Ev.row ts (priceRow cfg ts) :: post ∧
          (∀ e ∈ pre, BeforeRow ts e) ∧ (∀ e ∈ post, AfterRow ts e) := by
  obtain ⟨pres, hlen, hv, hinv, hsplit⟩ := C01_e2e_run_rows S w0 h0 hd cfg trigs sc h hidx
  refine ⟨pres, hlen, fun k pre ts hpre hts => ⟨?_, (hinv pre (List.mem_of_getElem? hpre)).1, (hinv pre (List.mem_of_getElem? hpre)).2,
    hsplit k pre ts hpre hts⟩⟩
  rw [hv, List.getElem?_zipWith, hts, hpre]

/-- **C01 end to end, the value of the row after any calls of a run**: start from a world whose shared container counts every position
    once and is a dict; after ANY calls (`pre`: in particular the calls before the row of bar k, `C01_e2e_run_rows`) the only guards left
    are "the three `get_market_balance` calls return" and "the prices are there" — then the row's net value is the independent valuation,
    every holding exactly once. -/
theorem C01_e2e_row_value_after_calls (S : Setup) (hK : S.K.cx = NumCtx.exact) (hcx : S.cx = NumCtx.exact)
    (hder : S.derCx = Deribit.DCtx.exact) (haave : S.aaveCx = aaveExact) (w0 : World)
    (h0 : Squeeth.Once w0.sq) (hd : Squeeth.Dict w0.sq) (pre : List Ev) (src : Option Int)
    (hgrid : (worldAfter (marketsValuation S) pre w0).der.onGrid = true)
    (hgood : Aave.Good aaveExact (worldAfter (marketsValuation S) pre w0).aenv (worldAfter (marketsValuation S) pre w0).aaveIn)
    (ab : Aave.Balance)
    (hab : (Aave.step aaveExact (worldAfter (marketsValuation S) pre w0).aenv (worldAfter (marketsValuation S) pre w0).aaveIn
      (.read .marketBalance)).1 = .ok (.bal ab))
    (row : Uni.Row) (sqrt : Nat) (amt : Uni.Pos → Rat × Rat) (hrow : (worldAfter (marketsValuation S) pre w0).uni.row = some row)
    (hsqrt : S.K.priceToSqrt S.pool row.price = .ok sqrt)
    (hamt : ∀ p ∈ (worldAfter (marketsValuation S) pre w0).uni.positions, p.transferred = false →
      S.K.amounts S.pool sqrt p.lower p.upper p.liq p.liqDec = .ok (amt p))
    (bs : Squeeth.Balance)
    (hbs : Squeeth.marketBalance NumCtx.exact (worldAfter (marketsValuation S) pre w0).env (worldAfter (marketsValuation S) pre w0).sqIn = .ok bs)
    (a c0 c1 c2 c3 c4 c5 : Rat) (ha : specWallet (S.prices src) (worldAfter (marketsValuation S) pre w0).wallet = some a)
    (hc0 : S.conv src S.pool.quoteTok = some c0) (hc1 : S.conv src Gen.sqWethName = some c1) (hc2 : S.conv src S.sqQuote = some c2)
    (hc3 : S.conv src S.gmxQuote = some c3) (hc4 : S.conv src S.derCfg.token = some c4) (hc5 : S.conv src S.aaveQuote = some c5) :
    let w := worldAfter (marketsValuation S) pre w0
    (∃ ts tb, Aave.specTotalSupply aaveExact w.aenv w.aave.supplies = .ok ts ∧ Aave.specTotalBorrows aaveExact w.aenv w.aave.borrows = .ok tb ∧
      |ab.netValue - (ts - tb)| ≤ 1 / 10000) ∧
    (acctRow NumCtx.exact (marketsValuation S) src w).map (·.netValue) =
      some (a + Uni.sumOver (Uni.posValue S.pool row.price amt) w.uni.positions * c0 +
        Squeeth.sumIf (fun kp => !kp.2.transferred) (Squeeth.poolVal w.env) w.sq.positions * c1 +
        ((Squeeth.sumIf (fun kp => kp.2.transferred) (Squeeth.idxVal w.env) w.sq.positions + (w.sq.vaults.map (·.2.coll)).sum) * w.env.weth -
          (w.sq.vaults.map (·.2.short)).sum * (w.env.osqth * w.env.weth)) * c2 +
        (w.gmx.glp * w.genv.glpPrice + w.gmx.reward * (w.genv.wavaxPrice / 10 ^ 30)) * c3 +
        (w.der.cash + Deribit.markValue S.derCfg w.der.book w.der.positions) * c4 +
        ab.netValue * c5) :=
  C01_e2e_row_value S hK hcx hder haave src _ hgrid hgood ab hab row sqrt amt hrow hsqrt hamt bs hbs (C01_e2e_once_along_the_run S w0 h0 pre)
    (C01_e2e_dict_along_the_run S w0 hd pre).1 (C01_e2e_dict_along_the_run S w0 hd pre).2 a c0 c1 c2 c3 c4 c5 ha hc0 hc1 hc2 hc3 hc4 hc5

/- An example: three bars, five of the six markets in use (the Aave market is empty; the GMX market holds 50 GLP of a supply of 100 and accrues its reward in `update()` every bar; the
    option market holds 2 ETH of cash, `on_bar` of bar 2 deposits 1 ETH more).  Bar 0: `on_bar` adds liquidity on market 0 and opens a vault with the LP position
    (18000, 21000) of the oSQTH/WETH pool as collateral, minting 1 oSQTH; bar 1: `on_bar` buys 3 oSQTH through the pool (not a `write_func`).
    Market 0 is quoted in token "a" (price 3), the pool in WETH, the Squeeth market in USD = the account's quote token. -/
namespace Core
def e2eSetup : Setup :=
  { quote := "USD", K := Uni.c01Kern, pool := Uni.c01Pool, minError := 0, cx := NumCtx.exact,
    uniRow := fun src => some { closeTick := 0, curLiq := 1000, in0 := 0, in1 := 0, price := 2 + ((src.getD 0 : Int) : Rat) / 60 },
    sqEnv := fun src => { Squeeth.c01Env with weth := 2000 + ((src.getD 0 : Int) : Rat) },
    prices := fun src => [("USD", 1), ("a", 3), ("b", 1), ("WETH", 2000 + ((src.getD 0 : Int) : Rat)), ("OSQTH", 200), ("ETH", 2100)],
    uniOp := fun tag => if tag = "add" then some (.addRaw 1 1 20 30 none) else none,
    sqOp := fun tag => if tag = "open" then some (.openMint 2 1 none (some (18000, 21000))) else if tag = "buy" then some (.buy (some 3) none) else none,
    gmxEnv := fun _ => { rows := [], tokenSet := [], glpSupply := 100, aum := 0, usdgSupply := 0, interval := 1, glpPrice := 3 / 2,
                         wavaxPrice := 20 * 10 ^ 30 },
    derCx := Deribit.DCtx.exact,
    derBar := fun ts _ => { now := ts, flagOpen := true, book := [], price := 2100, priceDec := true, ops := [] },
    derOp := fun tag => if tag = "dep" then some (.deposit 1) else none }

def e2eWorld : World :=
  { wallet := [("a", 10), ("b", 10), ("WETH", 10), ("OSQTH", 5), ("ETH", 4)], uni := { Uni.c01State with positions := [], wallet := [] },
    sq := { Squeeth.c01Start with wallet := [] }, env := Squeeth.c01Env, gmx := { glp := 50, reward := 0, wallet := [], actions := [] },
    der := { cash := 2, positions := [], book := [], wallet := [], allowNeg := false, actions := [], cache := none, flagOpen := true, now := 0,
             price := 2100, priceDec := true } }

def e2eCfg : Cfg :=
  { markets := [{ idx := [0, 60, 120], openCb := false }, { idx := [0, 60, 120], openCb := false }, { idx := [0, 60, 120], openCb := false },
                { idx := [0, 60, 120], openCb := false }, { idx := [0, 60, 120], openCb := false }],
    priceIdx := [0, 60, 120], Δ := 60, resample := false }

def e2eScript : Script :=
  { init := [], before := fun _ => [], fire := fun _ _ => [], openCb := fun _ _ => [],
    on := fun r => if r = 0 then [⟨0, true, "add", true⟩, ⟨2, true, "open", true⟩] else if r = 1 then [⟨1, true, "buy", false⟩] else [⟨4, true, "dep", false⟩],
    after := fun _ => [], upd := fun _ _ => [] }

def e2eEnd : World := worldAfter (marketsValuation e2eSetup) (run e2eCfg [] e2eScript).trace e2eWorld
end Core

example : (run e2eCfg [] e2eScript).err = none ∧ (barIndex e2eCfg).Pairwise (· < ·) := by decide
/-- one evaluation of the run for all the fields; the `example`s below project it -/
theorem e2eEnd_fields :
    e2eEnd.wallet = [("a", 9), ("b", 9), ("WETH", 7676 / 997), ("OSQTH", 9), ("ETH", 3)] ∧
    e2eEnd.sq.vaults = [(1, { coll := 2, short := 1, nft := some (18000, 21000) })] ∧
    e2eEnd.sq.positions.map (fun kp => kp.2.transferred) = [true] ∧
    e2eEnd.uni.positions.map (fun p => (p.lower, p.upper, p.liq, p.transferred)) = [(20, 30, 3, false)] ∧
    (e2eEnd.gmx.glp, e2eEnd.gmx.reward) = (50, 90) ∧ (e2eEnd.der.cash, e2eEnd.der.onGrid) = (3, true) := by decide +kernel

example : e2eEnd.wallet = [("a", 9), ("b", 9), ("WETH", 7676 / 997), ("OSQTH", 9), ("ETH", 3)] := e2eEnd_fields.1
example : e2eEnd.sq.vaults = [(1, { coll := 2, short := 1, nft := some (18000, 21000) })] ∧
    e2eEnd.sq.positions.map (fun kp => kp.2.transferred) = [true] := ⟨e2eEnd_fields.2.1, e2eEnd_fields.2.2.1⟩
example : e2eEnd.uni.positions.map (fun p => (p.lower, p.upper, p.liq, p.transferred)) = [(20, 30, 3, false)] := e2eEnd_fields.2.2.2.1
example : (e2eEnd.gmx.glp, e2eEnd.gmx.reward) = (50, 90) := e2eEnd_fields.2.2.2.2.1
example : (e2eEnd.der.cash, e2eEnd.der.onGrid) = (3, true) := e2eEnd_fields.2.2.2.2.2
example : (marketsBalances e2eSetup e2eEnd).map (·.nv) =
    [15, 0, 243745693287264562601009273476519 / 49517601571415210995964968960, 1875, 3, 0] := by decide +kernel
-- the hypotheses of `C01_e2e_row_value` hold in the end world
example : (Squeeth.marketBalance NumCtx.exact e2eEnd.env e2eEnd.sqIn).toOption.isSome = true ∧
    (e2eEnd.sq.vaults.map (·.1)).Nodup ∧ (e2eEnd.sq.positions.map (·.1)).Nodup ∧
    (specWallet (e2eSetup.prices (some 120)) e2eEnd.wallet).isSome = true ∧
    e2eSetup.conv (some 120) e2eSetup.pool.quoteTok = some 3 ∧ e2eSetup.conv (some 120) Gen.sqWethName = some 2120 ∧
    e2eSetup.conv (some 120) e2eSetup.sqQuote = some 1 ∧ e2eSetup.conv (some 120) e2eSetup.gmxQuote = some 1 ∧
    e2eSetup.conv (some 120) e2eSetup.derCfg.token = some 2100 := by decide +kernel
example : Squeeth.Dict e2eWorld.sq := ⟨by decide, by decide⟩
example : Squeeth.Once e2eEnd.sq :=
  C01_e2e_once_along_the_run e2eSetup e2eWorld (Squeeth.c01Start_once.congr_lent rfl rfl fun _ => Iff.rfl) _
-- the script's accept/refuse flags are what the market models decide in the worlds the operations are issued in
example : coherent e2eSetup (run e2eCfg [] e2eScript).trace e2eWorld = true := by decide +kernel
example : (valuedRows NumCtx.exact (marketsValuation e2eSetup) (run e2eCfg [] e2eScript).trace e2eWorld).map (fun r => (r.1, r.2.isSome)) =
    [(0, true), (60, true), (120, true)] := by decide +kernel

end Demeter
