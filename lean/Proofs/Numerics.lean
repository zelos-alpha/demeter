/-
  Numerics — the concrete arithmetic of `NumCtx.py` (`round35`, `dsqrt35` of Demeter/Num.lean) meets the ε-hypotheses
  that the robust theorems assume (`Approx.rnd`, `Approx.sqrt` of Proofs/Lemmas/TickInv.lean and the like), with
        ε = EPS35 = 5·10⁻³⁵   (half a unit in the 35th significant digit).

  Every theorem that depends on the exponent the model chooses carries `InRange x` (numerator and denominator of the reduced
  rational below `2^150000 ≈ 10^45154`; `InRange_of_lt`: `< 10^45000` suffices).  The hypothesis is necessary: `Num.ilog10`
  estimates `⌊log10 n⌋` from the bit length and is short by two first at `n = 10^45827`, `n.log2 = 152 233` (Proofs/Lemmas/Round35.lean;
  `Num_ilog10_fails_beyond`), and `Num_round35_rel_err_fails_beyond` (proved in Proofs/Lemmas/Round35Beyond.lean) exhibits an `x` with
  `|round35 x − x| > 5·10⁻³⁵·|x|`.  CPython rounds such numbers correctly: there model and implementation differ.

  What the bound covers.  A `Decimal` under `prec = 35` is `±c·10^e` with `c < 10^35`; the exact product, quotient, sum of two
  such numbers has numerator and denominator at most `10^70·10^(|ea|+|eb|)`, so operands with adjusted exponent in about
  `[−22 500, +22 500]` keep every exact intermediate in range.  demeter's quantities (prices, liquidities `≤ 2^128`, sqrt
  prices `2^±64`, amounts with ≤ 36 decimals, indices `1e27`) live within `10^±80`.  Decimals with exponents between `±22 500`
  and CPython's limit `±999 999` are representable by the implementation and NOT covered.

  Sign preservation, oddness and `round35 0 = 0` need no magnitude hypothesis.  `NumCtx.pyG` (Proofs/Lemmas/Round35Ctx.lean)
  is `NumCtx.py` guarded by `InRange`: it coincides with the drivers' context on the range and meets the ε-hypotheses for
  all rationals (`Num_pyG_rnd`, `Num_pyG_dsqrt`).
-/
import Proofs.Lemmas.Round35Beyond
import Proofs.Lemmas.Round35Pow
namespace Demeter
open Demeter.Numerics
set_option exponentiation.threshold 200000

/-- `ilog10 n = ⌊log10 n⌋` for `0 < n < 2^150000` -/
theorem Num_ilog10_spec (n : ℕ) (hn : 0 < n) (hb : n.log2 < 150000) :
    10 ^ ilog10 n ≤ n ∧ n < 10 ^ (ilog10 n + 1) := ilog10_spec n hn hb

/-- `ilog10` is first wrong at `10^45827 ≈ 2^152233.999`, so the magnitude bound cannot be dropped; the theorems stop at `2^150000` -/
theorem Num_ilog10_fails_beyond : ilog10 (10 ^ 45827) = 45826 := by
  have hne : (10:ℕ) ^ 45827 ≠ 0 := Nat.pos_iff_ne_zero.1 (Nat.pow_pos (by decide))
  have h1 : (2:ℕ) ^ 152233 ≤ 10 ^ 45827 := by decide +kernel
  have h2 : (10:ℕ) ^ 45827 < 2 ^ (152233 + 1) := by decide +kernel
  have hL : ((10:ℕ) ^ 45827).log2 = 152233 := (Nat.log2_eq_iff hne).2 ⟨h1, h2⟩
  have h3 : (10:ℕ) ^ (152233 * 1233 / 4096 + 1) ≤ 10 ^ 45827 :=
    Nat.pow_le_pow_right (by decide) (by decide)
  rw [ilog10_eval _ _ hne hL, if_pos h3]

/-- `e = sigExp p n d` normalises `n/d` to `p` digits: `10^(p−1) ≤ (n/d)/10^e < 10^p`, on the pair from `scale10` -/
theorem Num_sigExp_spec (p n d : ℕ) (hp : 0 < p) (hn : 0 < n) (hd : 0 < d)
    (hbn : n.log2 < 150000) (hbd : d.log2 < 150000) :
    let s := scale10 n d (sigExp p n d)
    0 < s.2 ∧ s.2 * 10 ^ (p - 1) ≤ s.1 ∧ s.1 < s.2 * 10 ^ p := sigExp_spec p n d hp hn hd hbn hbd

/-- **relative error of CPython's 35-digit rounding**: `|round35 x − x| ≤ 5·10⁻³⁵·|x|` -/
theorem Num_round35_rel_err (x : ℚ) (hr : InRange x) :
    |round35 x - x| ≤ 5 / 10 ^ 35 * |x| := round35_rel_err x hr

/-- … and the hypothesis `InRange x` is necessary: outside the range the *model's* rounding (not CPython's) keeps one digit
    too few — `x = 1/(1.24·10^60000)`, relative error `6.0·10⁻³⁵` -/
theorem Num_round35_rel_err_fails_beyond :
    ¬ InRange (1 / (bigD : ℚ)) ∧
    ¬ |round35 (1 / (bigD : ℚ)) - 1 / (bigD : ℚ)| ≤ 5 / 10 ^ 35 * |1 / (bigD : ℚ)| :=
  ⟨bigD_not_InRange, round35_rel_err_fails_beyond⟩

/-- general precision: `|roundSig p x − x| ≤ (1/2)·10^(1−p)·|x|` -/
theorem Num_roundSig_rel_err (p : ℕ) (x : ℚ) (hr : InRange x) :
    |roundSig p x - x| ≤ 1 / 2 * (10:ℚ) ^ (1 - (p : ℤ)) * |x| := roundSig_rel_err p x hr

/-- the two-sided form used by `Approx.rnd` -/
theorem Num_round35_bounds (x : ℚ) (hx : 0 ≤ x) (hr : InRange x) :
    x * (1 - 5 / 10 ^ 35) ≤ NumCtx.py.rnd x ∧ NumCtx.py.rnd x ≤ x * (1 + 5 / 10 ^ 35) := round35_bounds hx hr

theorem Num_round35_zero : round35 0 = 0 := roundSig_zero 35

/-- sign preservation — no magnitude hypothesis -/
theorem Num_round35_nonneg (x : ℚ) (hx : 0 ≤ x) : 0 ≤ round35 x := roundSig_nonneg 35 hx
theorem Num_round35_nonpos (x : ℚ) (hx : x ≤ 0) : round35 x ≤ 0 := roundSig_nonpos 35 hx
theorem Num_round35_odd (x : ℚ) : round35 (-x) = - round35 x := roundSig_neg 35 x

theorem Num_round35_pos (x : ℚ) (hx : 0 < x) (hr : InRange x) : 0 < round35 x := by
  unfold round35; rw [roundSig_of_pos 35 hx]; exact rpos_pos 35 (by decide) hx hr

theorem Num_round35_mono (x y : ℚ) (hxy : x ≤ y) (hrx : InRange x) (hry : InRange y) :
    round35 x ≤ round35 y := roundSig_mono 35 (by decide) hxy hrx hry

theorem Num_round35_idem (x : ℚ) (h1 : x.num.natAbs < 10 ^ 45000) (h2 : x.den < 10 ^ 45000) :
    round35 (round35 x) = round35 x :=
  roundSig_idem 35 (by decide) x (InRange_of_lt h1 h2) (InRange_roundSig 35 (by decide) (by decide) x h1 h2)

/-- a `Decimal` with at most 35 significant digits is not changed -/
theorem Num_round35_fix (c e : ℤ) (hc : c.natAbs < 10 ^ 35) (hr : InRange ((c:ℚ) * (10:ℚ) ^ e)) :
    round35 ((c:ℚ) * (10:ℚ) ^ e) = (c:ℚ) * (10:ℚ) ^ e :=
  roundSig_fix 35 c e hc hr

/-- `y = dsqrt35 x` satisfies `0 ≤ y` and `x·(1−ε)² ≤ y² ≤ x·(1+ε)²` with the same `ε = 5·10⁻³⁵`
    (i.e. `|y − √x| ≤ ε·√x`, stated without irrationals) -/
theorem Num_dsqrt35_rel_err (x : ℚ) (hx : 0 ≤ x) (hr : InRange x) :
    0 ≤ NumCtx.py.dsqrt x ∧ x * (1 - 5 / 10 ^ 35) ^ 2 ≤ NumCtx.py.dsqrt x ^ 2 ∧
      NumCtx.py.dsqrt x ^ 2 ≤ x * (1 + 5 / 10 ^ 35) ^ 2 := dsqrt35_spec hx hr

/-- general precision `1 ≤ p ≤ 22000` -/
theorem Num_sqrtSig_spec (p : ℕ) (hp : 1 ≤ p) (hp' : p ≤ 22000) (x : ℚ) (hx : 0 < x) (hr : InRange x) :
    0 ≤ sqrtSig p x ∧ x * (1 - 1 / 2 * (10:ℚ) ^ (1 - (p : ℤ))) ^ 2 ≤ sqrtSig p x ^ 2 ∧
      sqrtSig p x ^ 2 ≤ x * (1 + 1 / 2 * (10:ℚ) ^ (1 - (p : ℤ))) ^ 2 := sqrtSig_spec p hp hp' hx hr

theorem Num_dsqrt35_nonpos (x : ℚ) (hx : x ≤ 0) : dsqrt35 x = 0 := sqrtSig_of_nonpos 35 hx

/-- exactly the shape of `Approx.sq` (for `x²` in range) -/
theorem Num_dpow35_sq_bounds (x : ℚ) (h1 : (x * x).num.natAbs < 10 ^ 45000) (h2 : (x * x).den < 10 ^ 45000) :
    x * x * (1 - 5 / 10 ^ 35) ^ 2 ≤ dpowNat 35 x 2 ∧ dpowNat 35 x 2 ≤ x * x * (1 + 5 / 10 ^ 35) ^ 2 :=
  dpowNat35_two_bounds x h1 h2

theorem Num_pyG_agrees (x : ℚ) (hr : InRange x) :
    NumCtx.pyG.rnd x = NumCtx.py.rnd x ∧ NumCtx.pyG.dsqrt x = NumCtx.py.dsqrt x :=
  ⟨NumCtx.pyG_rnd_eq hr, NumCtx.pyG_dsqrt_eq hr⟩

/-- exactly the shape of `Approx.rnd` -/
theorem Num_pyG_rnd : ∀ x : ℚ, 0 ≤ x →
    x * (1 - EPS35) ≤ NumCtx.pyG.rnd x ∧ NumCtx.pyG.rnd x ≤ x * (1 + EPS35) :=
  NumCtx.pyG_relRnd

/-- exactly the shape of `Approx.sqrt` -/
theorem Num_pyG_dsqrt : ∀ y : ℚ, 0 ≤ y → 0 ≤ NumCtx.pyG.dsqrt y ∧
    y * (1 - EPS35) ^ 2 ≤ NumCtx.pyG.dsqrt y ^ 2 ∧ NumCtx.pyG.dsqrt y ^ 2 ≤ y * (1 + EPS35) ^ 2 :=
  fun _ hy => NumCtx.pyG_dsqrt_spec hy

theorem Num_pyG_rnd_nonneg (x : ℚ) (hx : 0 ≤ x) : 0 ≤ NumCtx.pyG.rnd x :=
  NumCtx.pyG_rounds.nonneg hx

theorem Num_EPS35 : EPS35 = 5 / 10 ^ 35 ∧ 0 < EPS35 ∧ EPS35 ≤ 1 / 1000000000 :=
  ⟨rfl, EPS35_pos, EPS35_small⟩

-- non-vacuity: the hypotheses hold on concrete values, and the conclusions are what CPython prints

example : InRange (1 / 3) := by decide +kernel
example : InRange (2 / 3 * 10 ^ 40) := by decide +kernel
example : InRange (-(1234567 / 1000) * 10 ^ 300) := by decide +kernel
-- Decimal(1)/Decimal(3) = 0.33333333333333333333333333333333333
example : round35 (1 / 3) = 33333333333333333333333333333333333 / 10 ^ 35 := by decide +kernel
-- Decimal(2)/Decimal(3)*10**40 = 6.6666666666666666666666666666666667E+39
example : round35 (2 / 3 * 10 ^ 40) = 66666666666666666666666666666666667 * 10 ^ 5 := by decide +kernel
-- a tie goes to the even neighbour
example : round35 ((10 ^ 35 + 1) / 2) = 5 * 10 ^ 34 := by decide +kernel
example : round35 ((10 ^ 35 + 3) / 2) = 5 * 10 ^ 34 + 2 := by decide +kernel
example : |round35 (1 / 3) - 1 / 3| ≤ 5 / 10 ^ 35 * |(1 / 3 : ℚ)| :=
  Num_round35_rel_err (1 / 3) (by decide +kernel)
example : |round35 (2 / 3 * 10 ^ 40) - 2 / 3 * 10 ^ 40| ≤ 5 / 10 ^ 35 * |(2 / 3 * 10 ^ 40 : ℚ)| :=
  Num_round35_rel_err _ (by decide +kernel)
-- the bound is attained up to a factor `1 − 10⁻³⁴`: `x = 10^34 + 1/2` is rounded to `10^34`
example : |round35 (10 ^ 34 + 1 / 2) - (10 ^ 34 + 1 / 2)| > (5 / 10 ^ 35) * (1 - 1 / 10 ^ 34) * |(10 ^ 34 + 1 / 2 : ℚ)| := by
  decide +kernel
example : round35 (1 / 3) ≤ round35 (2 / 3) :=
  Num_round35_mono _ _ (by norm_num) (by decide +kernel) (by decide +kernel)
example : 0 ≤ NumCtx.py.dsqrt 2 ∧ 2 * (1 - 5 / 10 ^ 35) ^ 2 ≤ NumCtx.py.dsqrt 2 ^ 2 ∧
    NumCtx.py.dsqrt 2 ^ 2 ≤ 2 * (1 + 5 / 10 ^ 35) ^ 2 :=
  Num_dsqrt35_rel_err 2 (by norm_num) (by decide +kernel)
example : (2 : ℕ).log2 < 150000 ∧ 0 < (35 : ℕ) := by decide

end Demeter
