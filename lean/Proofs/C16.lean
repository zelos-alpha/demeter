/-
  C16 — options settle once, at the first open bar at or after expiry, with the intrinsic payoff net of the
  delivery fee; nothing before expiry; trades only on open bars.

  Model: Demeter/Deribit.lean (`update`, `exercise`, `paidOf`) and Demeter/Deribit/Run.lean (the slice of
  `Actuator.run` an hourly Deribit market sees next to a minutely market).  "Open bar" for settlement is the
  code's `_is_open()`: the bar's timestamp is on the hourly grid (`DState.onGrid`); the trade gate is the
  separate per-bar flag `Market.is_open` (`DState.flagOpen`, timestamp present in the option data).
-/
import Proofs.Lemmas.DeribitExpiry
namespace Demeter
open Demeter.Deribit

/-- the constants the property names, as extracted from the source -/
theorem C16_constants :
    ethCfg.deliveryFee = 15 / 100000 ∧ btcCfg.deliveryFee = 15 / 100000 ∧ maxFeeRate = 125 / 1000 ∧
    ethCfg.feeExp = -6 ∧ Gen.deribitFreqMinutes = 60 := by
  refine ⟨?_, ?_, maxFeeRate_eq, rfl, rfl⟩ <;>
    simp only [ethCfg, btcCfg, Gen.deribitEthDeliveryFeeRate, Gen.deribitBtcDeliveryFeeRate] <;> norm_num

theorem C16_update_off_grid_noop (cx : DCtx) (c : TokenCfg) (s : DState) (h : s.onGrid = false) : update cx c s = s :=
  update_off_grid cx c s h

/-- `update()` touches nothing but cash, positions and the action log -/
theorem C16_update_frame (cx : DCtx) (c : TokenCfg) (s : DState) :
    (update cx c s).book = s.book ∧ (update cx c s).wallet = s.wallet ∧ (update cx c s).cache = s.cache ∧
    (update cx c s).now = s.now ∧ (update cx c s).flagOpen = s.flagOpen :=
  update_frame cx c s

/-- **removed exactly the due positions**: on an open (on-grid) bar the positions left are exactly those whose
    expiry is still ahead, in the same order (every context) -/
theorem C16_settles_exactly_the_due_positions (cx : DCtx) (c : TokenCfg) (s : DState) (hg : s.onGrid = true)
    (hn : Deribit.KeysNodup s) :
    (update cx c s).positions = s.positions.filter (fun kp => decide (s.now < kp.2.expiry)) := by
  rw [update_on_grid cx c s hg, exercise_positions]
  apply List.filter_congr
  intro kp hkp
  rw [decide_eq_decide, mem_dueKeys_iff_of_nodup hn hkp, not_le]

/-- **nothing is settled before expiry**: a position whose expiry is still ahead survives `update()` on
    every bar, unchanged -/
theorem C16_nothing_before_expiry (cx : DCtx) (c : TokenCfg) (s : DState) (hn : Deribit.KeysNodup s)
    (k : String) (p : Position) (hmem : (k, p) ∈ s.positions) (h : s.now < p.expiry) :
    (k, p) ∈ (update cx c s).positions :=
  (mem_update_positions cx c s hn (k, p)).mpr ⟨hmem, fun h' => absurd h'.2 (not_le.mpr h)⟩

/-- no position that is due survives `update()` on an on-grid bar (every context; no assumption on the keys) -/
theorem C16_no_due_position_survives (cx : DCtx) (c : TokenCfg) (s : DState) (hg : s.onGrid = true) :
    ∀ kp ∈ (update cx c s).positions, s.now < kp.2.expiry := by
  intro kp hkp
  rw [update_on_grid cx c s hg, exercise_positions] at hkp
  obtain ⟨hmem, hnot⟩ := List.mem_filter.mp hkp
  by_contra hge
  exact of_decide_eq_true hnot (mem_dueKeys.mpr ⟨kp.2, hmem, by omega⟩)

theorem C16_nothing_due_nothing_happens (cx : DCtx) (c : TokenCfg) (s : DState) (hn : Deribit.KeysNodup s)
    (h : ∀ kp ∈ s.positions, s.now < kp.2.expiry) :
    (update cx c s).positions = s.positions ∧ (update cx c s).actions = s.actions := by
  by_cases hg : s.onGrid = true
  · have hf : s.positions.filter (fun kp => due s kp.2) = [] := by
      apply List.filter_eq_nil_iff.mpr
      intro kp hkp; have := h kp hkp; simp [due]; omega
    rw [update_on_grid cx c s hg, exercise_positions, exercise_actions cx c s hn]
    simp [deliverRecs, dueKeys, hf]
  · rw [update_off_grid cx c s (by simpa using hg)]; exact ⟨rfl, rfl⟩

/-- **exactly one Expired record per settled position, at most one Deliver record**: on an open bar the
    log grows by the Deliver records of the due positions that are paid (in dict order) followed by one
    Expired record for each due position (in dict order) -/
theorem C16_records (cx : DCtx) (c : TokenCfg) (s : DState) (hg : s.onGrid = true) (hn : Deribit.KeysNodup s) :
    (update cx c s).actions =
      s.actions ++
      (s.positions.filter (fun kp => due s kp.2)).filterMap
        (fun kp => (paidOf cx c s kp.2).map (deliverRec cx c s kp.1 kp.2)) ++
      (s.positions.filter (fun kp => due s kp.2)).map (fun kp => expiredRec cx c s kp.1 kp.2) := by
  rw [update_on_grid cx c s hg]
  exact exercise_actions cx c s hn

/-- settlement never takes cash away -/
theorem C16_payoff_nonneg (c : TokenCfg) (s : DState) (p : Position) : 0 ≤ netPayoff c s p := by
  have key : ∀ gross fee : Rat, 0 ≤ if gross ≤ fee then 0 else gross - fee := by
    intro gross fee
    split
    · exact le_refl _
    · linarith
  cases h : itm p (settleQuote s p.name).under with
  | none => exact (netPayoff_of_otm h).ge
  | some isCall =>
    rw [netPayoff_of_itm h]
    exact key _ _

/-- **the hourly market accepts trades only on bars where it is open** (every context) -/
theorem C16_trades_only_on_open_bars (cx : DCtx) (c : TokenCfg) (s : DState) (r : Req) (h : s.flagOpen = false) :
    step cx c s (.buy r) = (.error (.demeter "market-closed"), s) ∧
    step cx c s (.sell r) = (.error (.demeter "market-closed"), s) :=
  closed_gate cx c s r h

namespace Deribit
def c16aBook : List Instr :=
  [ { name := "ETH-1650-C", stateOpen := true, kind := .call, strike := 1650, expiry := 75, mark := 479 / 10000,
      underlying := 1716, delta := 1 / 2, gamma := 1 / 1000, asks := [], bids := [] } ]
def c16aState : DState :=
  { cash := 1, positions :=
      [ ("ETH-1650-C", { name := "ETH-1650-C", expiry := 75, strike := 1650, kind := .call, amount := 2, avgBuy := 1 / 20,
                         buyAmt := 2, avgSell := 0, sellAmt := 0 }),
        ("ETH-1600-P", { name := "ETH-1600-P", expiry := 120, strike := 1600, kind := .put, amount := 5, avgBuy := 1 / 50,
                         buyAmt := 5, avgSell := 0, sellAmt := 0 }),
        ("ETH-1800-C", { name := "ETH-1800-C", expiry := 121, strike := 1800, kind := .call, amount := 1, avgBuy := 1 / 50,
                         buyAmt := 1, avgSell := 0, sellAmt := 0 }) ],
    book := c16aBook, wallet := [], allowNeg := false, actions := [], cache := none, flagOpen := true, now := 120,
    price := 1716, priceDec := true }
end Deribit

section
open Deribit
example : c16aState.onGrid = true := by decide +kernel
example : KeysNodup c16aState := by unfold KeysNodup; decide
-- the call (row in the book, float path) and the put (row gone: Decimal token price) are removed, the later call stays
example : ((update DCtx.exact ethCfg c16aState).positions.map Prod.fst) = ["ETH-1800-C"] := by decide +kernel
-- call: round(2 × 66 / 1716) − round(min(0.0003, 0.125 × 2 × 0.0479)) = 0.076923 − 0.0003; put: out of the money
example : (update DCtx.exact ethCfg c16aState).cash = 1 + (76923 / 1000000 - 3 / 10000) := by decide +kernel
example : (update DCtx.exact ethCfg c16aState).actions.length = 3 := by decide +kernel
example : update DCtx.exact ethCfg { c16aState with now := 119 } = { c16aState with now := 119 } := by decide +kernel
end

end Demeter
