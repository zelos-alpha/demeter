/-
  C16, run level — through the bar loop (`Actuator.run` slice of Demeter/Deribit/Run.lean) a held position is
  settled at the first on-grid bar at or after its expiry, at no other bar, and exactly once.
  Stated for runs in which the strategy does not trade (the position is held to expiry); bars may be any mix of
  minutely closed bars, hourly open bars and hours missing from the option data.
-/
import Proofs.Lemmas.DeribitRun
namespace Demeter
open Demeter.Deribit

/-- **before the settling bar nothing happens to the position**: through any number of hold bars none of
    which is an on-grid bar at/after its expiry, the position stays, and no Expired record for it appears -/
theorem C16_run_keeps_position_before_expiry (cx : DCtx) (c : TokenCfg) (bs : List Bar) (s : DState)
    (hn : Deribit.KeysNodup s) (k : String) (p : Position) (hmem : (k, p) ∈ s.positions)
    (hops : ∀ b ∈ bs, b.ops = []) (hpre : ∀ b ∈ bs, ¬ Deribit.settlesAt b p.expiry) :
    (k, p) ∈ (runBars cx c s bs).positions ∧ Deribit.KeysNodup (runBars cx c s bs) ∧
    Deribit.expiredCount k (runBars cx c s bs).actions = Deribit.expiredCount k s.actions := by
  have hx : ∀ x ∈ bs.map (fun b => ((b, [], []) : Deribit.XBar)), Deribit.NoUpdateX x ∧ Deribit.AvoidsX k x :=
    List.forall_mem_map.mpr (fun b hb => (Deribit.barAvoids_of_hold (hops b hb) k).noHooks)
  have hkeep := Deribit.runX_keeps cx c _ s hn k p hmem (fun x h => (hx x h).1) (fun x h => (hx x h).2)
    (List.forall_mem_map.mpr hpre)
  obtain ⟨h1, _, h2⟩ := Deribit.runX_quiet cx c _ s hn k (fun e => e = p.expiry) (fun x h => Or.inl (hx x h).2)
    (List.forall_mem_map.mpr (fun b hb e he => he ▸ hpre b hb))
    (fun q hq => congrArg Position.expiry (hn.unique hq hmem))
  rw [Deribit.runBarsX_nil] at hkeep h1 h2
  exact ⟨hkeep, h1, h2⟩

/-- **after it is gone it stays gone**: in a hold run a key that is not held is never settled -/
theorem C16_run_absent_key_never_settled (cx : DCtx) (c : TokenCfg) (bs : List Bar) (s : DState)
    (hn : Deribit.KeysNodup s) (k : String) (habs : k ∉ s.positions.map Prod.fst) (hops : ∀ b ∈ bs, b.ops = []) :
    k ∉ (runBars cx c s bs).positions.map Prod.fst ∧
    Deribit.expiredCount k (runBars cx c s bs).actions = Deribit.expiredCount k s.actions := by
  have hx : ∀ x ∈ bs.map (fun b => ((b, [], []) : Deribit.XBar)), Deribit.NoUpdateX x ∧ Deribit.AvoidsX k x :=
    List.forall_mem_map.mpr (fun b hb => (Deribit.barAvoids_of_hold (hops b hb) k).noHooks)
  have h := Deribit.runX_quiet cx c _ s hn k (fun _ => False) (fun x h => Or.inl (hx x h).2) (fun _ _ _ h => h.elim)
    (Deribit.held_false.mpr habs)
  rw [Deribit.runBarsX_nil] at h
  exact ⟨Deribit.held_false.mp h.2.1, h.2.2⟩

/-- **settled exactly once, at the first open bar at or after expiry**: a held position survives every bar
    before the first on-grid bar `b` with `b.now ≥ expiry`, is removed in `b`, never reappears, and over the whole
    run exactly one Expired record for it is written (every arithmetic context, any bar grid). -/
theorem C16_run_settles_exactly_once (cx : DCtx) (c : TokenCfg) (pre post : List Bar) (b : Bar) (s : DState)
    (hn : Deribit.KeysNodup s) (k : String) (p : Position) (hmem : (k, p) ∈ s.positions)
    (hops : ∀ b' ∈ pre ++ b :: post, b'.ops = []) (hpre : ∀ b' ∈ pre, ¬ Deribit.settlesAt b' p.expiry)
    (hb : Deribit.settlesAt b p.expiry) :
    (k, p) ∈ (runBars cx c s pre).positions ∧
    k ∉ (runBars cx c s (pre ++ [b])).positions.map Prod.fst ∧
    k ∉ (runBars cx c s (pre ++ b :: post)).positions.map Prod.fst ∧
    Deribit.expiredCount k (runBars cx c s (pre ++ b :: post)).actions = Deribit.expiredCount k s.actions + 1 := by
  simp only [← Deribit.runBarsX_nil, List.map_append, List.map_cons, List.map_nil]
  exact Deribit.runX_untraded_settles_exactly_once cx c _ _ (b, [], []) s hn k p hmem
    (Deribit.forall_mem_noHooks (fun b' hb' => (Deribit.barAvoids_of_hold (hops b' hb') k).noHooks)) (List.forall_mem_map.mpr hpre) hb

namespace Deribit
def c16Instr (S : Rat) : Instr :=
  { name := "ETH-1650-C", stateOpen := true, kind := .call, strike := 1650, expiry := 75, mark := 479 / 10000,
    underlying := S, delta := 1 / 2, gamma := 1 / 1000, asks := [⟨1 / 20, 145, false⟩], bids := [⟨9 / 200, 70, false⟩] }
def c16Pos : Position :=
  { name := "ETH-1650-C", expiry := 75, strike := 1650, kind := .call, amount := 2, avgBuy := 1 / 20, buyAmt := 2,
    avgSell := 0, sellAmt := 0 }
def c16State : DState :=
  { cash := 1, positions := [("ETH-1650-C", c16Pos)], book := [], wallet := [("ETH", 1)], allowNeg := false, actions := [],
    cache := none, flagOpen := true, now := 0, price := 0, priceDec := true }
def c16Bar (m : Int) (open_ : Bool) (S : Rat) : Bar :=
  { now := m, flagOpen := open_, book := [c16Instr S], price := 1700, priceDec := true, ops := [] }
def c16Pre : List Bar := [c16Bar 59 false 1700, c16Bar 60 true 1700, c16Bar 61 false 1700, c16Bar 119 false 1700]
def c16Post : List Bar := [c16Bar 121 false 1716, c16Bar 180 true 1716]
end Deribit

section
open Deribit
example : KeysNodup c16State := by unfold KeysNodup; decide
example : ∀ b' ∈ c16Pre, ¬ settlesAt b' c16Pos.expiry := by
  intro b' hb'
  simp only [c16Pre, List.mem_cons, List.not_mem_nil, or_false] at hb'
  rcases hb' with rfl | rfl | rfl | rfl <;> (unfold settlesAt; decide)
example : settlesAt (c16Bar 120 true 1716) c16Pos.expiry := by unfold settlesAt; decide
-- the hour bar at minute 60 is before the expiry: still held; settled at minute 120 with
-- round(2 × 66 / 1716) − round(min(0.00015 × 2, 0.125 × 2 × 0.0479)) = 0.076923 − 0.0003
example : (runBars DCtx.exact ethCfg c16State c16Pre).positions = [("ETH-1650-C", c16Pos)] := by decide +kernel
example : (runBars DCtx.exact ethCfg c16State (c16Pre ++ [c16Bar 120 true 1716])).positions = [] := by decide +kernel
example : (runBars DCtx.exact ethCfg c16State (c16Pre ++ c16Bar 120 true 1716 :: c16Post)).cash = 1 + (76923 / 1000000 - 3 / 10000) := by
  decide +kernel
example : expiredCount "ETH-1650-C" (runBars DCtx.exact ethCfg c16State (c16Pre ++ c16Bar 120 true 1716 :: c16Post)).actions = 1 := by
  decide +kernel
-- out of the money at settlement: removed, nothing paid
example : (runBars DCtx.exact ethCfg c16State (c16Pre ++ [c16Bar 120 true 1600])).cash = 1 := by decide +kernel
end

end Demeter
