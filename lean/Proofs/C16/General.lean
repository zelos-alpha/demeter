/-
  C16, run level, arbitrary interleavings — every bar may carry any list of buys, sells, deposits, withdrawals and balance reads of
  ANY instrument (accepted or rejected), including the instrument whose settlement is followed: bought more, sold in part, sold out,
  bought back, rolled into another one inside a bar.
  The instrument's expiry `T` is fixed by the data (rows named `k` carry expiry `T` in the bars where the strategy trades `k`).
  After the settling bar the position cannot come back as long as the book no longer lists `k` as open: `check_transaction` refuses
  an instrument that is not in the book or not open — it does NOT look at the expiry: an expired instrument that the data still
  lists as open can be bought, and is then settled by the same bar's `update()`, see the witness at the end.
-/
import Proofs.C16.Trades
namespace Demeter
open Demeter.Deribit

/-- `check_transaction`: "not in current orderbook" / "state … is not open" -/
theorem Deribit.buy_refused_when_not_listed_open (cx : DCtx) (c : TokenCfg) (s : DState) (r : Req)
    (h : ∀ i ∈ s.book, i.name = r.name → i.stateOpen = false) : ∃ e, buy cx c s r = (.error e, s) := by
  rcases trade_cases cx c true s r with he | ⟨⟨d⟩⟩
  · exact he
  · have := d.listed
    rw [h _ (findInstr_mem d.find) (findInstr_name d.find)] at this; cases this

theorem Deribit.closed_setAsks {k : String} {book : List Instr} (h : ∀ i ∈ book, i.name = k → i.stateOpen = false) (n : String) (ls : List Level) :
    ∀ i ∈ setAsks book n ls, i.name = k → i.stateOpen = false :=
  openRows_false.mp ((rowsOf_setSide true book n ls).openRows (openRows_false.mpr h))

theorem Deribit.closed_setBids {k : String} {book : List Instr} (h : ∀ i ∈ book, i.name = k → i.stateOpen = false) (n : String) (ls : List Level) :
    ∀ i ∈ setBids book n ls, i.name = k → i.stateOpen = false :=
  openRows_false.mp ((rowsOf_setSide false book n ls).openRows (openRows_false.mpr h))

theorem Deribit.bar_any_trades_settles (cx : DCtx) (c : TokenCfg) (s : DState) (b : Bar) (hn : KeysNodup s) (k : String)
    (hops : NoUpdate b) (hg : (b.now % (Gen.deribitFreqMinutes : Int) == 0) = true)
    (hmid : ∀ p, (k, p) ∈ (midState cx c s b).positions → p.expiry ≤ b.now) :
    k ∉ (runBar cx c s b).state.positions.map Prod.fst ∧ KeysNodup (runBar cx c s b).state ∧
    expiredCount k (runBar cx c s b).state.actions =
      expiredCount k s.actions + (if k ∈ (midState cx c s b).positions.map Prod.fst then 1 else 0) := by
  refine ⟨held_false.mp fun p hkp => ?_, runBarX_nil cx c s b ▸ keysNodup_runBarX cx c s (b, [], []) hn,
    (expiredCount_runBar cx c s b hops hn k).trans (congrArg _ (if_congr ((settlesKey_iff cx c s b k).trans ?_) rfl rfl))⟩
  · obtain ⟨h1, h2⟩ := (mem_postUpdate cx c s b hn _).mp ((runBar_postUpdate cx c s b).1 ▸ hkp)
    exact h2 ⟨hg, hmid p h1⟩
  · exact ⟨fun ⟨_, p, hp, _⟩ => AList.mem_keys_of_mem hp, fun hk => by
      obtain ⟨⟨_, p⟩, hkp, rfl⟩ := List.mem_map.mp hk
      exact ⟨hg, p, hkp, hmid p hkp⟩⟩

/-- **one bar, any trades: exactly the due positions are settled, each exactly once.**  On an on-grid bar, whatever the strategy did
    before `update()` (to any instrument): a position that exists at that moment and is due is gone after the bar and the bar wrote
    exactly one Expired record for its key; a position that is not yet due is still there, unchanged, and the bar wrote none.
    Off the grid nothing is settled at all. -/
theorem C16_bar_any_trades_settles_exactly_the_due (cx : DCtx) (c : TokenCfg) (s : DState) (b : Bar)
    (hops : Deribit.NoUpdate b) (hn : Deribit.KeysNodup s) (k : String) (p : Position)
    (hmem : (k, p) ∈ (Deribit.midState cx c s b).positions) :
    ((b.now % (Gen.deribitFreqMinutes : Int) == 0) = true ∧ p.expiry ≤ b.now →
        k ∉ (runBar cx c s b).state.positions.map Prod.fst ∧
        Deribit.expiredCount k (runBar cx c s b).state.actions = Deribit.expiredCount k s.actions + 1) ∧
    (¬ ((b.now % (Gen.deribitFreqMinutes : Int) == 0) = true ∧ p.expiry ≤ b.now) →
        (k, p) ∈ (runBar cx c s b).state.positions ∧
        Deribit.expiredCount k (runBar cx c s b).state.actions = Deribit.expiredCount k s.actions) := by
  have hn2 := (Deribit.midState_inBar cx c s b hn k _ (fun o _ => o.keeps_true b k) fun _ _ => trivial).1.nodup
  have huniq : ∀ q, (k, q) ∈ (Deribit.midState cx c s b).positions → q = p := fun q hq => hn2.unique hq hmem
  have hs := Deribit.settlesKey_iff cx c s b k
  rw [Deribit.expiredCount_runBar cx c s b hops hn k, (Deribit.runBar_postUpdate cx c s b).1]
  constructor
  · intro hd
    refine ⟨Deribit.held_false.mp fun q hkq => ?_, by rw [if_pos (hs.mpr ⟨hd.1, p, hmem, hd.2⟩)]⟩
    obtain ⟨h1, h2⟩ := (Deribit.mem_postUpdate cx c s b hn _).mp hkq
    exact h2 (huniq q h1 ▸ hd)
  · intro hd
    refine ⟨(Deribit.mem_postUpdate cx c s b hn _).mpr ⟨hmem, hd⟩, ?_⟩
    rw [if_neg, add_zero]
    intro h
    obtain ⟨hg, q, hq, hdue⟩ := hs.mp h
    exact hd ⟨hg, huniq q hq ▸ hdue⟩

/-- **the cash of a bar with trades moves by exactly the payoffs** (exact arithmetic): after the strategy's calls the bar's
    `update()` adds, on an on-grid bar, the net payoff (`C16_payoff_formula`: intrinsic value minus delivery fee, or nothing) of every
    position that is due at that moment, and nothing otherwise.  `netPayoff` is the model's credited amount on the non-raising path;
    that it is the property's formula, and that the code's `update()` takes this path, needs the guard on the underlying price
    (`C16_cash_moves_by_the_formula`, `C16_barX_update_does_not_raise_under_guard`, Proofs/C16/Guard.lean, Hooks.lean) -/
theorem C16_bar_any_trades_cash (c : TokenCfg) (s : DState) (b : Bar) :
    (runBar DCtx.exact c s b).state.cash =
      (Deribit.midState DCtx.exact c s b).cash +
        (if (Deribit.midState DCtx.exact c s b).onGrid then
          (((Deribit.midState DCtx.exact c s b).positions.filter (fun kp => Deribit.due (Deribit.midState DCtx.exact c s b) kp.2)).map
            (fun kp => netPayoff c (Deribit.midState DCtx.exact c s b) kp.2)).sum else 0) := by
  rw [(Deribit.runBar_postUpdate DCtx.exact c s b).2.2, Deribit.postUpdate, Deribit.update_cash_eq]
  split <;> simp

/-- **Expired records = settlements, over any run**: however the strategy trades (any instruments, accepted or rejected orders, any
    number per bar), the number of Expired records an instrument collects over the run is the number of on-grid bars at which a
    position under its key existed and was due when `update()` ran — no record without a settlement, no settlement without its one
    record, none twice -/
theorem C16_run_any_trades_one_record_per_settlement (cx : DCtx) (c : TokenCfg) (bs : List Bar) (s : DState)
    (hn : Deribit.KeysNodup s) (hops : ∀ b ∈ bs, Deribit.NoUpdate b) (k : String) :
    Deribit.expiredCount k (runBars cx c s bs).actions = Deribit.expiredCount k s.actions + Deribit.settlements cx c k s bs ∧
    Deribit.KeysNodup (runBars cx c s bs) := by
  have h := Deribit.runX_record_count cx c (bs.map (fun b => (b, [], []))) s hn
    (List.forall_mem_map.mpr (fun b hb => ⟨hops b hb, by simp, by simp⟩)) k
  rwa [Deribit.runBarsX_nil, Deribit.settlementsX_nil] at h

/-- **settled exactly once at the first open bar at or after expiry — arbitrary interleavings of trades.**
    Instrument `k` expires at `T`: what is held under `k` at the start does, and so do the rows named `k` in the book of every bar
    (up to and including the settling bar) in which the strategy names `k` at all.  `b` is the first on-grid bar at/after `T`; among its
    calls none is `update()` (`hops`: the conclusion speaks of the state the loop's `update()` runs on).  Then
      * through all bars before `b` no Expired record for `k` is written and whatever is held under `k` still expires at `T`;
      * in `b` the position under `k`, if one exists when `update()` runs, is removed and exactly one Expired record is written;
        if the strategy had sold it out, none is;
      * after `b`, as long as each bar either does not name `k` or has a book that does not list `k` as open (an expired instrument
        is delisted — that, not the expiry date, is what `check_transaction` looks at), `k` never reappears and no further record is
        written. -/
theorem C16_run_any_trades_settles_exactly_once (cx : DCtx) (c : TokenCfg) (pre post : List Bar) (b : Bar) (s : DState)
    (hn : Deribit.KeysNodup s) (k : String) (T : Int)
    (hops : Deribit.NoUpdate b)
    (h0 : ∀ p, (k, p) ∈ s.positions → p.expiry = T)
    (hk : ∀ b' ∈ pre ++ [b], Deribit.Avoids k b' ∨ ∀ i ∈ b'.book, i.name = k → i.expiry = T)
    (hpre : ∀ b' ∈ pre, ¬ Deribit.settlesAt b' T) (hb : Deribit.settlesAt b T)
    (hpost : ∀ b' ∈ post, Deribit.Avoids k b' ∨ ∀ i ∈ b'.book, i.name = k → i.stateOpen = false) :
    Deribit.expiredCount k (runBars cx c s pre).actions = Deribit.expiredCount k s.actions ∧
    (∀ p, (k, p) ∈ (runBars cx c s pre).positions → p.expiry = T) ∧
    k ∉ (runBars cx c s (pre ++ [b])).positions.map Prod.fst ∧
    k ∉ (runBars cx c s (pre ++ b :: post)).positions.map Prod.fst ∧
    Deribit.expiredCount k (runBars cx c s (pre ++ b :: post)).actions =
      Deribit.expiredCount k s.actions +
        (if k ∈ (Deribit.midState cx c (runBars cx c s pre) b).positions.map Prod.fst then 1 else 0) := by
  have hlate : ∀ b' : Bar, Deribit.LateAvoids k (b', [], []) := fun _ => ⟨by simp, by simp⟩
  simp only [← Deribit.runBarsX_nil, List.map_append, List.map_cons, List.map_nil]
  exact Deribit.runX_settles_exactly_once cx c _ _ (b, [], [])
    s hn k T hops h0
    (List.forall_mem_map.mpr (fun b' hb' => (hk b' (List.mem_append_left _ hb')).imp (fun h => ⟨h, hlate b'⟩) id))
    (hk b (List.mem_append_right _ List.mem_cons_self)) (Or.inl (hlate b)) (List.forall_mem_map.mpr hpre) hb
    (List.forall_mem_map.mpr (fun b' hb' => (hpost b' hb').imp (fun h => ⟨h, hlate b'⟩) id))

/-- the run-level theorem for an instrument the strategy does not trade (`C16_run_with_trades_settles_exactly_once`) is the instance
    in which every bar avoids `k`: the position then is the one held from the start, it exists at the settling bar, and the record
    count is exactly one (`Deribit.runX_untraded_settles_exactly_once` is that derivation) -/
theorem C16_run_with_trades_is_an_instance (cx : DCtx) (c : TokenCfg) (pre post : List Bar) (b : Bar) (s : DState)
    (hn : Deribit.KeysNodup s) (k : String) (p : Position) (hmem : (k, p) ∈ s.positions)
    (hops : ∀ b' ∈ pre ++ b :: post, Deribit.BarAvoids k b') (hpre : ∀ b' ∈ pre, ¬ Deribit.settlesAt b' p.expiry)
    (hb : Deribit.settlesAt b p.expiry) :
    (k, p) ∈ (runBars cx c s pre).positions ∧
    k ∉ (runBars cx c s (pre ++ [b])).positions.map Prod.fst ∧
    k ∉ (runBars cx c s (pre ++ b :: post)).positions.map Prod.fst ∧
    Deribit.expiredCount k (runBars cx c s (pre ++ b :: post)).actions = Deribit.expiredCount k s.actions + 1 :=
  C16_run_with_trades_settles_exactly_once cx c pre post b s hn k p hmem hops hpre hb

/-- … and so is the hold run of Proofs/C16/Run.lean (no calls at all) -/
theorem C16_hold_run_is_an_instance (cx : DCtx) (c : TokenCfg) (pre post : List Bar) (b : Bar) (s : DState)
    (hn : Deribit.KeysNodup s) (k : String) (p : Position) (hmem : (k, p) ∈ s.positions)
    (hops : ∀ b' ∈ pre ++ b :: post, b'.ops = []) (hpre : ∀ b' ∈ pre, ¬ Deribit.settlesAt b' p.expiry)
    (hb : Deribit.settlesAt b p.expiry) :
    (k, p) ∈ (runBars cx c s pre).positions ∧
    k ∉ (runBars cx c s (pre ++ [b])).positions.map Prod.fst ∧
    k ∉ (runBars cx c s (pre ++ b :: post)).positions.map Prod.fst ∧
    Deribit.expiredCount k (runBars cx c s (pre ++ b :: post)).actions = Deribit.expiredCount k s.actions + 1 :=
  C16_run_with_trades_is_an_instance cx c pre post b s hn k p hmem
    (fun b' h => Deribit.barAvoids_of_hold (hops b' h) k) hpre hb

/-- **a delisted instrument cannot be bought**: when the bar's book has no open row named `k` (the row is gone, or its state is not
    "open"), every buy of `k` in that bar is refused and leaves the market as it was — positions "bought after expiry" cannot exist
    once the exchange has delisted the instrument.  (The refusal is about the listing: the code never compares the expiry with the
    clock when trading.) -/
theorem C16_delisted_instrument_cannot_be_bought (cx : DCtx) (c : TokenCfg) (s : DState) (r : Req)
    (h : ∀ i ∈ s.book, i.name = r.name → i.stateOpen = false) :
    ∃ e, step cx c s (.buy r) = (.error e, s) := Deribit.buy_refused_when_not_listed_open cx c s r h

namespace Deribit
def c16KReq (a : Rat) : Req := { name := "ETH-1650-C", amount := a, priceTok := none, priceUsd := none, mult := none }
def c16GPre : List Bar :=
  [c16TBar 59 false 1700 [.buy (c16KReq 1), .deposit 1], c16TBar 60 true 1700 [.buy (c16KReq 3), .sell (c16KReq 1), .buy (c16OtherReq 25), .balance],
   c16TBar 61 false 1700 [.sell (c16KReq 1), .withdraw (1 / 2)], c16TBar 119 false 1700 []]
def c16GSettle : Bar := c16TBar 120 true 1716 [.sell (c16KReq 1), .buy (c16OtherReq 3)]
def c16GPost : List Bar :=
  [{ c16TBar 121 false 1716 [.buy (c16KReq 1)] with book := [c16Other] }, { c16TBar 180 true 1716 [.buy (c16KReq 2), .buy (c16OtherReq 2)] with book := [c16Other] }]
def c16GRoll : List Bar :=
  [c16TBar 60 true 1700 [.sell (c16KReq 2), .buy (c16OtherReq 2)], c16TBar 61 false 1700 [], c16TBar 119 false 1700 []]
end Deribit

section
open Deribit
example : ∀ b' ∈ c16GPre ++ c16GSettle :: c16GPost, NoUpdate b' := by simp only [NoUpdate]; decide +kernel
example : ∀ b' ∈ c16GPre ++ [c16GSettle], Avoids "ETH-1650-C" b' ∨ ∀ i ∈ b'.book, i.name = "ETH-1650-C" → i.expiry = 75 := by
  simp only [Avoids]; decide +kernel
example : ∀ b' ∈ c16GPost, Avoids "ETH-1650-C" b' ∨ ∀ i ∈ b'.book, i.name = "ETH-1650-C" → i.stateOpen = false := by
  simp only [Avoids]; decide +kernel
example : ∀ p, ("ETH-1650-C", p) ∈ c16TState.positions → p.expiry = 75 := by
  intro p hp; simp [c16TState, c16State] at hp; rw [hp]; rfl
example : ∀ b' ∈ c16GPre, ¬ settlesAt b' 75 := by
  intro b' hb'
  simp only [c16GPre, c16TBar, List.mem_cons, List.not_mem_nil, or_false] at hb'
  rcases hb' with rfl | rfl | rfl | rfl <;> (unfold settlesAt; decide)
example : settlesAt c16GSettle 75 := by unfold settlesAt; decide
example : (runBar DCtx.exact ethCfg (runBar DCtx.exact ethCfg c16TState (c16TBar 59 false 1700 [.buy (c16KReq 1), .deposit 1])).state
    (c16TBar 60 true 1700 [.buy (c16KReq 3), .sell (c16KReq 1), .buy (c16OtherReq 25), .balance])).outcomes.map Except.toBool = [true, true, true, true] := by
  decide +kernel
example : (runBar DCtx.exact ethCfg c16TState (c16TBar 59 false 1700 [.buy (c16KReq 1), .deposit 1])).outcomes.map Except.toBool = [false, true] := by
  decide +kernel
-- 2 + 3 − 1 = 4 contracts enter the settling bar, one more is sold there, three are settled: one record, the key is gone and stays gone
example : ((runBars DCtx.exact ethCfg c16TState c16GPre).positions.map (fun kp => (kp.1, kp.2.amount))) = [("ETH-1650-C", 4), ("ETH-1700-P", 25)] := by
  decide +kernel
example : "ETH-1650-C" ∈ (midState DCtx.exact ethCfg (runBars DCtx.exact ethCfg c16TState c16GPre) c16GSettle).positions.map Prod.fst := by
  decide +kernel
example : expiredCount "ETH-1650-C" (runBars DCtx.exact ethCfg c16TState (c16GPre ++ c16GSettle :: c16GPost)).actions = 1 := by decide +kernel
example : (runBars DCtx.exact ethCfg c16TState (c16GPre ++ c16GSettle :: c16GPost)).positions.map Prod.fst = ["ETH-1700-P"] := by decide +kernel
example : settlements DCtx.exact ethCfg "ETH-1650-C" c16TState (c16GPre ++ c16GSettle :: c16GPost) = 1 := by decide +kernel
-- rolled out at minute 60: nothing is left to settle at minute 120
example : (runBars DCtx.exact ethCfg c16TState c16GRoll).positions.map Prod.fst = ["ETH-1700-P"] := by decide +kernel
example : expiredCount "ETH-1650-C" (runBars DCtx.exact ethCfg c16TState (c16GRoll ++ c16GSettle :: c16GPost)).actions = 0 := by decide +kernel
-- what the code really does with an expired instrument that the data still lists as open: at minute 180 the call (expiry 75) is bought
-- — accepted — and the same bar's `update()` settles it: a second settlement, a second record, nothing left
example : (runBar DCtx.exact ethCfg (runBars DCtx.exact ethCfg c16TState (c16GPre ++ [c16GSettle])) (c16TBar 180 true 1716 [.buy (c16KReq 2)])).outcomes.map Except.toBool = [true] := by
  decide +kernel
example : expiredCount "ETH-1650-C" (runBars DCtx.exact ethCfg c16TState (c16GPre ++ [c16GSettle, c16TBar 180 true 1716 [.buy (c16KReq 2)]])).actions = 2 ∧
    settlements DCtx.exact ethCfg "ETH-1650-C" c16TState (c16GPre ++ [c16GSettle, c16TBar 180 true 1716 [.buy (c16KReq 2)]]) = 2 ∧
    (runBars DCtx.exact ethCfg c16TState (c16GPre ++ [c16GSettle, c16TBar 180 true 1716 [.buy (c16KReq 2)]])).positions.map Prod.fst = ["ETH-1700-P"] := by
  decide +kernel
end

end Demeter
