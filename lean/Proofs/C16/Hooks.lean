/-
  C16, the bar the driver replays — `runBarX` (Demeter/Deribit/Run.lean): the strategy's calls of `before_bar`/`on_bar`, then
  `update()`, then the calls made in `after_bar`, then the account row (`get_market_balance`), then — when the bar recorded an
  action — the calls made from `Strategy.notify`.

  What the late hooks can and cannot do, per bar (none of the late calls is `update()`):
    * `update()` runs on the same state as in `runBar` (`midState`), so what is settled, and the Expired records written, are those of
      `runBar`; the late calls write no Expired record and keep the keys unique (`expiredCount_runBarX`);
    * a position OPENED by a late call on an on-grid bar at/after its expiry (the data still lists the expired instrument as open)
      is NOT settled in that bar — `update()` has already run; it is in the bar's final state, it is due, and the next on-grid
      bar settles it (one bar late).  `C16_barX_due_survivor_was_opened_by_a_late_hook`: that is the only way a due position can be
      left after an on-grid bar: its key is named by a late call AND the bar's book lists it as open.
-/
import Proofs.C16.General
import Proofs.C16.Guard
namespace Demeter
open Demeter.Deribit

namespace Deribit
theorem runOpsO_absent_closed (cx : DCtx) (c : TokenCfg) (ops : List Op) (s : DState) (hops : ∀ o ∈ ops, o ≠ Op.update) (k : String)
    (hbook : ∀ i ∈ s.book, i.name = k → i.stateOpen = false) (habs : k ∉ s.positions.map Prod.fst) :
    k ∉ (runOpsO cx c s ops).2.1.positions.map Prod.fst := runOpsO_absent cx c ops s hops k hbook habs
end Deribit

/-- **one bar with late hooks: exactly the positions due when `update()` runs are settled, each exactly once.**  `runBarX` is the bar
    the driver replays.  On an on-grid bar, whatever the strategy did before `update()`: a position that exists at that moment and is
    due is removed by `update()` with exactly one Expired record for its key, whatever the late hooks do afterwards; a position not yet
    due gets none, and survives the bar unless a late hook sells it.  Off the grid nothing is settled. -/
theorem C16_barX_any_trades_settles_exactly_the_due (cx : DCtx) (c : TokenCfg) (s : DState) (x : Deribit.XBar)
    (hx : Deribit.NoUpdateX x) (hn : Deribit.KeysNodup s) (k : String) (p : Position)
    (hmem : (k, p) ∈ (Deribit.midState cx c s x.1).positions) :
    ((x.1.now % (Gen.deribitFreqMinutes : Int) == 0) = true ∧ p.expiry ≤ x.1.now →
        k ∉ (Deribit.postUpdate cx c s x.1).positions.map Prod.fst ∧
        Deribit.expiredCount k (runBarX cx c s x.1 x.2.1 x.2.2).state.actions = Deribit.expiredCount k s.actions + 1) ∧
    (¬ ((x.1.now % (Gen.deribitFreqMinutes : Int) == 0) = true ∧ p.expiry ≤ x.1.now) →
        (k, p) ∈ (Deribit.postUpdate cx c s x.1).positions ∧
        Deribit.expiredCount k (runBarX cx c s x.1 x.2.1 x.2.2).state.actions = Deribit.expiredCount k s.actions ∧
        (Deribit.LateAvoids k x → (k, p) ∈ (runBarX cx c s x.1 x.2.1 x.2.2).state.positions)) := by
  obtain ⟨h1, h2⟩ := C16_bar_any_trades_settles_exactly_the_due cx c s x.1 hx.1 hn k p hmem
  rw [(Deribit.runBar_postUpdate cx c s x.1).1, Deribit.expiredCount_runBar cx c s x.1 hx.1 hn k,
    ← Deribit.expiredCount_runBarX cx c s x hx hn k] at h1 h2
  refine ⟨h1, fun hd => ⟨(h2 hd).1, (h2 hd).2, fun hl => ?_⟩⟩
  exact (Deribit.late_key_kept cx c s x hx hn k (Or.inl hl) p).mpr (h2 hd).1

/-- **what holds for a position opened after `update()`**: after an on-grid bar a position that is due can only be one that a late
    hook (`after_bar` / `notify`) opened in this very bar — some late call names its key, and the bar's book lists that instrument as
    open although it has expired.  (It has missed this bar's `update()`; being due, it is settled by the `update()` of the next on-grid
    bar in which it is still held: `C16_barX_any_trades_settles_exactly_the_due` at that bar — one bar late.)  Conversely, when the
    late hooks do not name `k` or the book does not list `k` as open, no due position under `k` is left after an on-grid bar. -/
theorem C16_barX_due_survivor_was_opened_by_a_late_hook (cx : DCtx) (c : TokenCfg) (s : DState) (x : Deribit.XBar)
    (hx : Deribit.NoUpdateX x) (hn : Deribit.KeysNodup s) (hg : (x.1.now % (Gen.deribitFreqMinutes : Int) == 0) = true)
    (k : String) (p : Position) (hmem : (k, p) ∈ (runBarX cx c s x.1 x.2.1 x.2.2).state.positions) (hdue : p.expiry ≤ x.1.now) :
    (k, p) ∉ (Deribit.postUpdate cx c s x.1).positions ∧
    ¬ Deribit.LateAvoids k x ∧ ¬ (∀ i ∈ x.1.book, i.name = k → i.stateOpen = false) := by
  have hnot : (k, p) ∉ (Deribit.postUpdate cx c s x.1).positions := fun hkp =>
    ((Deribit.mem_postUpdate cx c s x.1 hn _).mp hkp).2 ⟨hg, hdue⟩
  exact ⟨hnot, fun hl => hnot ((Deribit.late_key_kept cx c s x hx hn k (Or.inl hl) p).mp hmem),
    fun hcl => hnot ((Deribit.late_key_kept cx c s x hx hn k (Or.inr (Deribit.openRows_false.mpr hcl)) p).mp hmem)⟩

/-- the bar with the exception of `update()` (on which `Actuator.run` stops): under the guard on the state `update()` runs on
    (`midState`), the code's `update()` returns normally, with the state (`postUpdate`) that the rest of `runBarX` goes on from -/
theorem C16_barX_update_does_not_raise_under_guard (cx : DCtx) (c : TokenCfg) (s : DState) (b : Bar)
    (hG : (Deribit.midState cx c s b).onGrid = true → Deribit.SettleGuard (Deribit.midState cx c s b)) :
    updateE cx c (Deribit.midState cx c s b) = (.ok .unit, Deribit.postUpdate cx c s b) :=
  (C16_update_total_iff_guard cx c _).2.1 hG

end Demeter
