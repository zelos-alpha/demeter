/-
  C16, run level, for the runs the driver replays: lists of `(Bar × after_bar calls × notify calls)` through `runBarX`.
  In `C16_runX_settles_exactly_once` the hooks of the bars before the settling bar may trade `k` like the early calls (the rows named
  `k` carry expiry `T`); the late hooks of the settling bar and every call afterwards either do not name `k` or meet a book that does
  not list `k` as open.  That last hypothesis is necessary: `C16_late_hook_buy_is_settled_one_bar_late` is the kernel-checked run in
  which `after_bar` buys the expired, still listed instrument on the settling bar — the position survives that bar and is settled by
  the next on-grid bar, a second record.
-/
import Proofs.C16.General
namespace Demeter
open Demeter.Deribit

/-- **Expired records = settlements, over any run with late hooks**: however the strategy trades, in `on_bar`, `after_bar` and
    `notify`, the number of Expired records an instrument collects over the run the driver replays is the number of on-grid bars at
    which a position under its key existed and was due when `update()` ran -/
theorem C16_runX_one_record_per_settlement (cx : DCtx) (c : TokenCfg) (xs : List Deribit.XBar) (s : DState)
    (hn : Deribit.KeysNodup s) (hops : ∀ x ∈ xs, Deribit.NoUpdateX x) (k : String) :
    Deribit.expiredCount k (Deribit.runBarsX cx c s xs).actions =
      Deribit.expiredCount k s.actions + Deribit.settlementsX cx c k s xs ∧
    Deribit.KeysNodup (Deribit.runBarsX cx c s xs) :=
  Deribit.runX_record_count cx c xs s hn hops k

/-- the runs of Proofs/C16/General.lean are the runs without late hooks -/
theorem C16_runX_without_late_hooks_is_run (cx : DCtx) (c : TokenCfg) (bs : List Bar) (s : DState) :
    Deribit.runBarsX cx c s (bs.map (fun b => (b, [], []))) = runBars cx c s bs ∧
    ∀ k, Deribit.settlementsX cx c k s (bs.map (fun b => (b, [], []))) = Deribit.settlements cx c k s bs :=
  ⟨Deribit.runBarsX_nil cx c bs s, fun k => Deribit.settlementsX_nil cx c k bs s⟩

/-- **settled exactly once at the first open bar at or after expiry — any trades, in every hook.**  Instrument `k` expires at `T`
    (what is held under `k` at the start does; so do the rows named `k` in the book of every bar up to and including the settling bar
    `x` in which some call names `k`).  `x` is the first on-grid bar at/after `T`.  In every bar the strategy may trade anything from
    `on_bar`, `after_bar` and `notify`.  Then
      * through all bars before `x` no Expired record for `k` is written and whatever is held under `k` still expires at `T`;
      * in `x` the position under `k`, if one exists when `update()` runs, is removed with exactly one Expired record;
      * provided the LATE hooks of `x` and all calls of the later bars either do not name `k` or meet a book that does not list `k`
        as open, `k` is absent at the end of `x`, never reappears, and the run's records for `k` number exactly one (zero if the
        strategy had sold out before `update()` ran in `x`).
    Without that proviso the conclusion is false (`C16_late_hook_buy_is_settled_one_bar_late`). -/
theorem C16_runX_settles_exactly_once (cx : DCtx) (c : TokenCfg) (pre post : List Deribit.XBar) (x : Deribit.XBar) (s : DState)
    (hn : Deribit.KeysNodup s) (k : String) (T : Int)
    (hops : ∀ x' ∈ pre ++ x :: post, Deribit.NoUpdateX x')
    (h0 : ∀ p, (k, p) ∈ s.positions → p.expiry = T)
    (hkpre : ∀ x' ∈ pre, Deribit.AvoidsX k x' ∨ ∀ i ∈ x'.1.book, i.name = k → i.expiry = T)
    (hkx : Deribit.Avoids k x.1 ∨ ∀ i ∈ x.1.book, i.name = k → i.expiry = T)
    (hlate : Deribit.LateAvoids k x ∨ ∀ i ∈ x.1.book, i.name = k → i.stateOpen = false)
    (hpre : ∀ x' ∈ pre, ¬ Deribit.settlesAt x'.1 T) (hb : Deribit.settlesAt x.1 T)
    (hpost : ∀ x' ∈ post, Deribit.AvoidsX k x' ∨ ∀ i ∈ x'.1.book, i.name = k → i.stateOpen = false) :
    Deribit.expiredCount k (Deribit.runBarsX cx c s pre).actions = Deribit.expiredCount k s.actions ∧
    (∀ p, (k, p) ∈ (Deribit.runBarsX cx c s pre).positions → p.expiry = T) ∧
    k ∉ (Deribit.runBarsX cx c s (pre ++ [x])).positions.map Prod.fst ∧
    k ∉ (Deribit.runBarsX cx c s (pre ++ x :: post)).positions.map Prod.fst ∧
    Deribit.expiredCount k (Deribit.runBarsX cx c s (pre ++ x :: post)).actions =
      Deribit.expiredCount k s.actions +
        (if k ∈ (Deribit.midState cx c (Deribit.runBarsX cx c s pre) x.1).positions.map Prod.fst then 1 else 0) :=
  Deribit.runX_settles_exactly_once cx c pre post x s hn k T (hops x (List.mem_append_right _ List.mem_cons_self)).1 h0 hkpre hkx hlate hpre hb hpost

namespace Deribit
def xb (b : Bar) (after notify : List Op) : XBar := (b, after, notify)
def c16XPre : List XBar :=
  [xb (c16TBar 59 false 1700 [.buy (c16KReq 1), .deposit 1]) [.balance] [],
   xb (c16TBar 60 true 1700 [.buy (c16KReq 3), .sell (c16KReq 1), .buy (c16OtherReq 25), .balance]) [.buy (c16KReq 1)] [.sell (c16KReq 1)],
   xb (c16TBar 61 false 1700 [.sell (c16KReq 1), .withdraw (1 / 2)]) [] [], xb (c16TBar 119 false 1700 []) [] []]
def c16XSettle : XBar := xb c16GSettle [.buy (c16OtherReq 1)] [.balance]
def c16XPost : List XBar :=
  [xb { c16TBar 121 false 1716 [.buy (c16KReq 1)] with book := [c16Other] } [.buy (c16KReq 1)] [],
   xb { c16TBar 180 true 1716 [.buy (c16KReq 2), .buy (c16OtherReq 2)] with book := [c16Other] } [.buy (c16KReq 1)] [.buy (c16KReq 1)]]
def c16XLate : XBar := xb c16GSettle [.buy (c16KReq 2)] []
def c16XNext : XBar := xb (c16TBar 180 true 1716 []) [] []
end Deribit

section
open Deribit
example : ∀ x' ∈ c16XPre ++ c16XSettle :: c16XPost, NoUpdateX x' := by simp only [NoUpdateX, NoUpdate]; decide +kernel
example : ∀ x' ∈ c16XPre, AvoidsX "ETH-1650-C" x' ∨ ∀ i ∈ x'.1.book, i.name = "ETH-1650-C" → i.expiry = 75 := by
  simp only [AvoidsX, Avoids]; decide +kernel
example : LateAvoids "ETH-1650-C" c16XSettle := by simp only [LateAvoids]; decide +kernel
example : ∀ x' ∈ c16XPost, AvoidsX "ETH-1650-C" x' ∨ ∀ i ∈ x'.1.book, i.name = "ETH-1650-C" → i.stateOpen = false := by
  simp only [AvoidsX, Avoids]; decide +kernel
-- the late buy and the notify sell at minute 60 are accepted: 2 + 3 − 1 + 1 − 1 = 4 contracts enter the settling bar (the sell at minute 61, a closed bar, is refused)
example : ((runBarsX DCtx.exact ethCfg c16TState c16XPre).positions.map (fun kp => (kp.1, kp.2.amount))) = [("ETH-1650-C", 4), ("ETH-1700-P", 25)] := by
  decide +kernel
example : expiredCount "ETH-1650-C" (runBarsX DCtx.exact ethCfg c16TState (c16XPre ++ c16XSettle :: c16XPost)).actions = 1 ∧
    settlementsX DCtx.exact ethCfg "ETH-1650-C" c16TState (c16XPre ++ c16XSettle :: c16XPost) = 1 ∧
    (runBarsX DCtx.exact ethCfg c16TState (c16XPre ++ c16XSettle :: c16XPost)).positions.map Prod.fst = ["ETH-1700-P"] := by
  decide +kernel
end

/-- **the proviso on the settling bar's late hooks is necessary** (kernel-checked run, exact arithmetic): the call expires at minute
    75; minute 120 is the first on-grid bar after it and the data still lists the call as open there.  `after_bar` of that bar buys 2
    contracts: the order is accepted, `update()` has already run, so the bar ends with a due position under the key — it is settled by
    the `update()` of minute 180, one (hourly) bar late, and the key has collected two Expired records and two settlements. -/
theorem C16_late_hook_buy_is_settled_one_bar_late :
    (runBarX DCtx.exact ethCfg (Deribit.runBarsX DCtx.exact ethCfg Deribit.c16TState Deribit.c16XPre)
        Deribit.c16XLate.1 Deribit.c16XLate.2.1 Deribit.c16XLate.2.2).outcomes.map Except.toBool = [true, true, true] ∧
    ((Deribit.runBarsX DCtx.exact ethCfg Deribit.c16TState (Deribit.c16XPre ++ [Deribit.c16XLate])).positions.map
        (fun kp => (kp.1, kp.2.amount, kp.2.expiry))) = [("ETH-1700-P", 28, 3000), ("ETH-1650-C", 2, 75)] ∧
    Deribit.expiredCount "ETH-1650-C" (Deribit.runBarsX DCtx.exact ethCfg Deribit.c16TState (Deribit.c16XPre ++ [Deribit.c16XLate])).actions = 1 ∧
    Deribit.expiredCount "ETH-1650-C"
      (Deribit.runBarsX DCtx.exact ethCfg Deribit.c16TState (Deribit.c16XPre ++ [Deribit.c16XLate, Deribit.c16XNext])).actions = 2 ∧
    Deribit.settlementsX DCtx.exact ethCfg "ETH-1650-C" Deribit.c16TState (Deribit.c16XPre ++ [Deribit.c16XLate, Deribit.c16XNext]) = 2 ∧
    (Deribit.runBarsX DCtx.exact ethCfg Deribit.c16TState (Deribit.c16XPre ++ [Deribit.c16XLate, Deribit.c16XNext])).positions.map Prod.fst =
      ["ETH-1700-P"] := by
  decide +kernel

end Demeter
