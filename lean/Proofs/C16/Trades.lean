/-
  C16, run level, with a strategy that trades — Proofs/C16/Run.lean covers hold runs; here every bar may carry any list
  of buys, sells, deposits, withdrawals and balance reads (accepted or rejected) before `update()`.
  Bars are those of `runBar` (Demeter/Deribit/Run.lean).  The run theorems ask that no call of the strategy is `update()` (`Op.update`
  is the bar loop's call); `Deribit.runX_quiet` and `Deribit.runX_settles_exactly_once`, which they instantiate, need that of the
  settling bar's early calls only.
-/
import Proofs.C16.Run
namespace Demeter
open Demeter.Deribit

namespace Deribit

theorem expiredCount_nil (k : String) : expiredCount k [] = 0 := rfl

theorem step_expOk (cx : DCtx) (c : TokenCfg) (s : DState) (o : Op) (ho : o ≠ .update) (k : String) (T : Int) (h : ExpOk k T s) :
    ExpOk k T (step cx c s o).2 := step_expP cx c s o ho k _ h

theorem runOpsO_expOk (cx : DCtx) (c : TokenCfg) (ops : List Op) (s : DState) (hops : ∀ o ∈ ops, o ≠ Op.update)
    (k : String) (T : Int) (h : ExpOk k T s) : ExpOk k T (runOpsO cx c s ops).2.1 := runOpsO_expP cx c ops s hops k _ h

end Deribit

/-- **removed at the first open bar at or after expiry, whatever is traded in that bar**: after an on-grid bar no position
    that is due at that bar is left (every context, any calls of the strategy before `update()`) -/
theorem C16_bar_with_trades_leaves_nothing_due (cx : DCtx) (c : TokenCfg) (s : DState) (b : Bar) (hn : Deribit.KeysNodup s)
    (hg : (b.now % (Gen.deribitFreqMinutes : Int) == 0) = true) :
    ∀ kp ∈ (runBar cx c s b).state.positions, b.now < kp.2.expiry := by
  intro kp hkp
  rw [(Deribit.runBar_postUpdate cx c s b).1] at hkp
  exact not_le.mp (fun h => ((Deribit.mem_postUpdate cx c s b hn kp).mp hkp).2 ⟨hg, h⟩)

/-- **nothing is settled before expiry, also when the instrument is traded on the way**: if every position ever held under
    key `k` expires at `T` or later (the held one, and the rows named `k` in every bar's book, which is where a bought
    position takes its expiry from) and no bar of the run is an on-grid bar at/after `T`, the run writes no Expired record
    for `k` -/
theorem C16_run_with_trades_nothing_settled_before_expiry (cx : DCtx) (c : TokenCfg) (bs : List Bar) (s : DState)
    (hn : Deribit.KeysNodup s) (k : String) (T : Int)
    (hops : ∀ b ∈ bs, ∀ o ∈ b.ops, o ≠ Op.update)
    (hpre : ∀ b ∈ bs, ¬ Deribit.settlesAt b T)
    (hbook : ∀ b ∈ bs, ∀ i ∈ b.book, i.name = k → T ≤ i.expiry)
    (h0 : ∀ p, (k, p) ∈ s.positions → T ≤ p.expiry) :
    Deribit.expiredCount k (runBars cx c s bs).actions = Deribit.expiredCount k s.actions ∧
    (∀ p, (k, p) ∈ (runBars cx c s bs).positions → T ≤ p.expiry) := by
  have h := Deribit.runX_quiet cx c (bs.map (fun b => (b, [], []))) s hn k (fun e => T ≤ e)
    (List.forall_mem_map.mpr (fun b hb => Or.inr fun i hi hik _ => hbook b hb i hi hik))
    (List.forall_mem_map.mpr (fun b hb e he hs => hpre b hb ⟨hs.1, le_trans he hs.2⟩)) h0
  rw [Deribit.runBarsX_nil] at h
  exact ⟨h.2.2, h.2.1⟩

/-- **settled exactly once, at the first open bar at or after expiry, in a run with trades**: while the strategy buys and
    sells any other instruments, deposits, withdraws and reads balances (accepted or rejected, any number per bar), a held
    position it does not trade itself survives every bar before the first on-grid bar `b` with `b.now ≥ expiry`, is removed in
    `b`, never reappears, and over the whole run exactly one Expired record for it is written (every arithmetic context, any
    bar grid, hours missing from the option data included). -/
theorem C16_run_with_trades_settles_exactly_once (cx : DCtx) (c : TokenCfg) (pre post : List Bar) (b : Bar) (s : DState)
    (hn : Deribit.KeysNodup s) (k : String) (p : Position) (hmem : (k, p) ∈ s.positions)
    (hops : ∀ b' ∈ pre ++ b :: post, Deribit.BarAvoids k b') (hpre : ∀ b' ∈ pre, ¬ Deribit.settlesAt b' p.expiry)
    (hb : Deribit.settlesAt b p.expiry) :
    (k, p) ∈ (runBars cx c s pre).positions ∧
    k ∉ (runBars cx c s (pre ++ [b])).positions.map Prod.fst ∧
    k ∉ (runBars cx c s (pre ++ b :: post)).positions.map Prod.fst ∧
    Deribit.expiredCount k (runBars cx c s (pre ++ b :: post)).actions = Deribit.expiredCount k s.actions + 1 := by
  simp only [← Deribit.runBarsX_nil, List.map_append, List.map_cons, List.map_nil]
  exact Deribit.runX_untraded_settles_exactly_once cx c _ _ (b, [], []) s hn k p hmem
    (Deribit.forall_mem_noHooks (fun b' hb' => (hops b' hb').noHooks)) (List.forall_mem_map.mpr hpre) hb

/-- the bar with the strategy's other hooks (`runBarX`: calls from `after_bar` and from `notify`, which the driver replays) is the
    bar of these theorems when those hooks do nothing -/
theorem C16_bar_without_late_hooks (cx : DCtx) (c : TokenCfg) (s : DState) (b : Bar) :
    (runBarX cx c s b [] []).state = (runBar cx c s b).state ∧ (runBarX cx c s b [] []).outcomes = (runBar cx c s b).outcomes ∧
    (runBarX cx c s b [] []).balance = (runBar cx c s b).balance := by
  simp [runBarX, runBar, runOpsO]

namespace Deribit
def c16Other : Instr :=
  { name := "ETH-1700-P", stateOpen := true, kind := .put, strike := 1700, expiry := 3000, mark := 3 / 100,
    underlying := 1700, delta := 1 / 2, gamma := 1 / 1000, asks := [⟨4 / 100, 30, false⟩, ⟨35 / 1000, 20, true⟩], bids := [⟨25 / 1000, 70, false⟩] }
def c16OtherReq (a : Rat) : Req := { name := "ETH-1700-P", amount := a, priceTok := none, priceUsd := none, mult := none }
def c16TBar (m : Int) (open_ : Bool) (S : Rat) (ops : List Op) : Bar :=
  { now := m, flagOpen := open_, book := [c16Instr S, c16Other], price := S, priceDec := true, ops := ops }
def c16TPre : List Bar :=
  [c16TBar 59 false 1700 [.deposit 1, .balance], c16TBar 60 true 1700 [.buy (c16OtherReq 25), .balance, .sell (c16OtherReq 5)],
   c16TBar 61 false 1700 [.withdraw (1 / 2), .buy (c16OtherReq 1)], c16TBar 119 false 1700 []]
def c16TSettle : Bar := c16TBar 120 true 1716 [.sell (c16OtherReq 20), .buy (c16OtherReq 3)]
def c16TPost : List Bar := [c16TBar 121 false 1716 [.balance], c16TBar 180 true 1716 [.buy (c16OtherReq 2)]]
def c16TState : DState := { c16State with wallet := [("ETH", 5)] }
end Deribit

section
open Deribit
example : ∀ b' ∈ c16TPre ++ c16TSettle :: c16TPost, BarAvoids "ETH-1650-C" b' := by
  simp only [BarAvoids]
  decide +kernel
example : (runBars DCtx.exact ethCfg c16TState (c16TPre ++ c16TSettle :: c16TPost)).positions.map Prod.fst = ["ETH-1700-P"] := by
  decide +kernel
example : expiredCount "ETH-1650-C" (runBars DCtx.exact ethCfg c16TState (c16TPre ++ c16TSettle :: c16TPost)).actions = 1 := by
  decide +kernel
example : ∀ b' ∈ c16TPre, ¬ settlesAt b' c16Pos.expiry := by
  intro b' hb'
  simp only [c16TPre, c16TBar, List.mem_cons, List.not_mem_nil, or_false] at hb'
  rcases hb' with rfl | rfl | rfl | rfl <;> (unfold settlesAt; decide)
example : settlesAt c16TSettle c16Pos.expiry := by unfold settlesAt; decide
example : ("ETH-1650-C", c16Pos) ∈ c16TState.positions ∧ KeysNodup c16TState :=
  ⟨by simp [c16TState, c16State], by unfold KeysNodup; decide⟩
end

end Demeter
