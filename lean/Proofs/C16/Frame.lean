/-
  C16 — "trades only on bars where the market is open": where the `is_open` flag comes from.  `Bar.flagOpen` is not a free input of
  the replayed runs: the driver builds every bar with `barOfFrame` (Demeter/Deribit/Frame.lean) from the option frame `_data`, the
  way `set_market_status` does — the flag is `timestamp in _data.index`, the book is `_data.loc[timestamp.floor("1h")]`.
-/
import Proofs.C16
import Demeter.Deribit.Frame
namespace Demeter
open Demeter.Deribit

namespace Deribit
theorem Frame.mem_rows (d : Frame) (t : Int) (i : Instr) : i ∈ d.rows t ↔ ∃ r ∈ d, r.1 = t ∧ i ∈ r.2 := by
  simp only [Frame.rows, List.mem_flatMap, List.mem_filter, beq_iff_eq, and_assoc]

theorem Frame.has_iff (d : Frame) (t : Int) : d.has t = true ↔ ∃ r ∈ d, r.1 = t ∧ r.2 ≠ [] := by
  simp only [Frame.has, Bool.not_eq_true', List.isEmpty_eq_false_iff_exists_mem, Frame.mem_rows]
  constructor
  · rintro ⟨i, r, hr, ht, hi⟩
    exact ⟨r, hr, ht, List.ne_nil_of_mem hi⟩
  · rintro ⟨r, hr, ht, hne⟩
    obtain ⟨i, hi⟩ := List.exists_mem_of_ne_nil _ hne
    exact ⟨i, r, hr, ht, hi⟩
end Deribit

/-- **the flag is what the data says**: after `set_market_status` for the bar at minute `t` the market is open iff some row of the
    option frame carries exactly the timestamp `t`; the clock is `t` and the book shown is the rows of `t`'s hour -/
theorem C16_flag_follows_data (s : DState) (d : Frame) (t : Int) (price : Rat) (pd : Bool) (ops : List Op) :
    ((setStatus s (barOfFrame d t price pd ops)).flagOpen = true ↔ ∃ r ∈ d, r.1 = t ∧ r.2 ≠ []) ∧
    (setStatus s (barOfFrame d t price pd ops)).now = t ∧
    (∀ i, i ∈ (setStatus s (barOfFrame d t price pd ops)).book ↔
      ∃ r ∈ d, r.1 = t - t % (Gen.deribitFreqMinutes : Int) ∧ i ∈ r.2) :=
  ⟨Deribit.Frame.has_iff d t, rfl, Deribit.Frame.mem_rows d _⟩

/-- **no trade on a bar whose timestamp the option data does not carry** (every context): a minute between two hourly snapshots, or
    an hour missing from the data — every buy and sell of that bar is refused "market closed" and leaves the market as it was -/
theorem C16_trades_only_where_the_data_has_the_timestamp (cx : DCtx) (c : TokenCfg) (s : DState) (d : Frame) (t : Int) (price : Rat)
    (pd : Bool) (ops : List Op) (r : Req) (h : ¬ ∃ e ∈ d, e.1 = t ∧ e.2 ≠ []) :
    step cx c (setStatus s (barOfFrame d t price pd ops)) (.buy r) =
      (.error (.demeter "market-closed"), setStatus s (barOfFrame d t price pd ops)) ∧
    step cx c (setStatus s (barOfFrame d t price pd ops)) (.sell r) =
      (.error (.demeter "market-closed"), setStatus s (barOfFrame d t price pd ops)) := by
  apply C16_trades_only_on_open_bars
  exact Bool.eq_false_iff.mpr (fun hf => h ((C16_flag_follows_data s d t price pd ops).1.mp hf))

/-- with hourly option data (every timestamp of the frame on the hourly grid — the data contract of the Deribit loader) the trade gate
    opens only on bars that settlement counts as open too, and an open bar shows a non-empty book: its own rows -/
theorem C16_open_bars_are_on_the_settlement_grid (s : DState) (d : Frame) (t : Int) (price : Rat) (pd : Bool) (ops : List Op)
    (hd : ∀ r ∈ d, r.1 % (Gen.deribitFreqMinutes : Int) = 0)
    (hopen : (setStatus s (barOfFrame d t price pd ops)).flagOpen = true) :
    (setStatus s (barOfFrame d t price pd ops)).onGrid = true ∧
    (setStatus s (barOfFrame d t price pd ops)).book = d.rows t ∧ (setStatus s (barOfFrame d t price pd ops)).book ≠ [] := by
  obtain ⟨r, hr, ht, hne⟩ := (C16_flag_follows_data s d t price pd ops).1.mp hopen
  have hg : t % (Gen.deribitFreqMinutes : Int) = 0 := by rw [← ht]; exact hd r hr
  have hbook : (setStatus s (barOfFrame d t price pd ops)).book = d.rows t := by
    show d.rows (floorHour t) = d.rows t
    unfold floorHour; rw [hg, sub_zero]
  refine ⟨?_, hbook, ?_⟩
  · show (t % (Gen.deribitFreqMinutes : Int) == 0) = true
    rw [hg]; rfl
  · rw [hbook]
    have : d.has t = true := hopen
    unfold Deribit.Frame.has at this
    intro h0; rw [h0] at this; cases this

namespace Deribit
def c16Frame : Frame := [(0, c16aBook), (120, c16aBook)]
end Deribit
section
open Deribit
example : ∀ r ∈ c16Frame, r.1 % (Gen.deribitFreqMinutes : Int) = 0 := by decide
example : (setStatus c16aState (barOfFrame c16Frame 120 1716 true [])).flagOpen = true := by decide +kernel
example : (setStatus c16aState (barOfFrame c16Frame 60 1716 true [])).flagOpen = false ∧
    (setStatus c16aState (barOfFrame c16Frame 60 1716 true [])).book = [] := by decide +kernel
example : (setStatus c16aState (barOfFrame c16Frame 150 1716 true [])).flagOpen = false ∧
    (setStatus c16aState (barOfFrame c16Frame 150 1716 true [])).book = c16aBook := by decide +kernel
end

end Demeter
