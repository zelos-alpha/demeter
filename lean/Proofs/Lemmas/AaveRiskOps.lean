/-
  Lemmas for C11 and C12: in the exact context the risk figures are plain sums over `_supplies` / `_borrows`, and `borrow` /
  `withdraw` / `change_collateral` are chains of refusals, so acceptance is a conjunction (`*_ok_iff`, every arithmetic
  context).  The property files speak in `UserStep` (an accepted `borrow`, `withdraw` or `change_collateral`), `UserStepAll`
  (also a `supply` or `repay`) and the state such steps keep, `Healthy` (no debt, or Σ debt ≤ Σ_coll value·LT, i.e. HF ≥ 1).
-/
import Proofs.Lemmas.AaveRiskStep
import Proofs.Lemmas.Except
namespace Demeter.AaveRisk
open Demeter

/-- `RiskParamsSane`: true for the risk tables under /repo/tests/aave_risk_parameters; re-checked by the harness on
    every run -/
def Portfolio.Sane (p : Portfolio) : Prop := ∀ s ∈ p.supplies, s.row.ltv ≤ s.row.lt

theorem Portfolio.Sane.updSupply {p : Portfolio} (hs : p.Sane) (q : Supply → Bool) (f : Supply → Supply)
    (hf : ∀ x, (f x).row = x.row) (ds : List Debt) :
    Portfolio.Sane { supplies := updFirst q f p.supplies, debts := ds } := by
  intro y hy
  rcases mem_updFirst _ _ hy with h1 | ⟨s0, hs0, _, rfl⟩
  · exact hs y h1
  · rw [hf]; exact hs s0 hs0

def gLt (s : Supply) : Rat := if s.coll then s.value NumCtx.exact * s.row.lt else 0
def gLtv (s : Supply) : Rat := if s.coll then s.value NumCtx.exact * s.row.ltv else 0
def gColl (s : Supply) : Rat := if s.coll then s.value NumCtx.exact else 0

theorem weightedLt_sum (p : Portfolio) : weightedLt NumCtx.exact p = (p.supplies.map gLt).sum := by
  unfold weightedLt collaterals; rw [dsum_exact, ListSum.filter]; rfl

theorem weightedLtv_sum (p : Portfolio) : weightedLtv NumCtx.exact p = (p.supplies.map gLtv).sum := by
  unfold weightedLtv collaterals; rw [dsum_exact, ListSum.filter]; rfl

theorem totalCollateral_sum (p : Portfolio) : totalCollateral NumCtx.exact p = (p.supplies.map gColl).sum := by
  unfold totalCollateral collaterals; rw [dsum_exact, ListSum.filter]; rfl

theorem totalDebt_sum (p : Portfolio) : totalDebt NumCtx.exact p = (p.debts.map (fun d => d.value NumCtx.exact)).sum := by
  unfold totalDebt; rw [dsum_exact]

theorem totalSupply_sum (p : Portfolio) : totalSupply NumCtx.exact p = (p.supplies.map (fun s => s.value NumCtx.exact)).sum := by
  unfold totalSupply; rw [dsum_exact]

section signs
variable {p : Portfolio} (hwf : p.WF)
include hwf

theorem Portfolio.WF.gLt_nonneg {s : Supply} (hs : s ∈ p.supplies) : 0 ≤ gLt s := by
  unfold gLt; split
  · have := hwf.supply_value_nonneg hs; have := (hwf.sup s hs).2.1.lt_nonneg; positivity
  · exact le_refl _

theorem Portfolio.WF.gLtv_nonneg {s : Supply} (hs : s ∈ p.supplies) : 0 ≤ gLtv s := by
  unfold gLtv; split
  · have := hwf.supply_value_nonneg hs; have := (hwf.sup s hs).2.1.ltv_nonneg; positivity
  · exact le_refl _

theorem Portfolio.WF.gColl_nonneg {s : Supply} (hs : s ∈ p.supplies) : 0 ≤ gColl s := by
  unfold gColl; split
  · exact hwf.supply_value_nonneg hs
  · exact le_refl _

theorem Portfolio.WF.weightedLt_nonneg : 0 ≤ weightedLt NumCtx.exact p := by
  rw [weightedLt_sum]; exact ListSum.nonneg _ _ (fun s hs => hwf.gLt_nonneg hs)

theorem Portfolio.WF.gLt_le_weightedLt {s : Supply} (hs : s ∈ p.supplies) : gLt s ≤ weightedLt NumCtx.exact p := by
  rw [weightedLt_sum]
  exact List.single_le_sum (List.forall_mem_map.mpr fun x hx => hwf.gLt_nonneg hx) _ (List.mem_map_of_mem hs)

theorem Portfolio.WF.weightedLtv_nonneg : 0 ≤ weightedLtv NumCtx.exact p := by
  rw [weightedLtv_sum]; exact ListSum.nonneg _ _ (fun s hs => hwf.gLtv_nonneg hs)

theorem Portfolio.WF.totalCollateral_nonneg : 0 ≤ totalCollateral NumCtx.exact p := by
  rw [totalCollateral_sum]; exact ListSum.nonneg _ _ (fun s hs => hwf.gColl_nonneg hs)

theorem Portfolio.WF.totalDebt_nonneg : 0 ≤ totalDebt NumCtx.exact p := by
  rw [totalDebt_sum]; exact ListSum.nonneg _ _ (fun d hd => hwf.debt_value_nonneg hd)

theorem Portfolio.WF.weightedLtv_le_weightedLt (hs : p.Sane) : weightedLtv NumCtx.exact p ≤ weightedLt NumCtx.exact p := by
  rw [weightedLtv_sum, weightedLt_sum]
  apply ListSum.le
  intro s hsm
  unfold gLtv gLt
  split
  · have := hwf.supply_value_nonneg hsm
    exact mul_le_mul_of_nonneg_left (hs s hsm) this
  · exact le_refl _

end signs

theorem weightedLt_updSupply {p : Portfolio} (hn : (p.supplies.map (·.tok)).Nodup) {s : Supply} (hs : s ∈ p.supplies)
    (f : Supply → Supply) (ds : List Debt) :
    weightedLt NumCtx.exact { supplies := updFirst (fun x => decide (x.tok = s.tok)) f p.supplies, debts := ds }
      = weightedLt NumCtx.exact p - gLt s + gLt (f s) := by
  rw [weightedLt_sum, weightedLt_sum]
  exact sum_updFirst Supply.tok gLt f hn hs

theorem weightedLt_putSupplyBase {p : Portfolio} (hn : (p.supplies.map (·.tok)).Nodup) {s : Supply} (hs : s ∈ p.supplies)
    (b : Rat) (ds : List Debt) :
    weightedLt NumCtx.exact { supplies := putSupplyBase p.supplies s.tok b, debts := ds }
      = weightedLt NumCtx.exact p - gLt s + gLt { s with base := b } := by
  rw [weightedLt_sum, weightedLt_sum]
  exact sum_putSupplyBase gLt (fun x => by unfold gLt; simp [Supply.value_exact]) hn hs b

theorem weightedLt_withdrawTrial {p : Portfolio} (hn : (p.supplies.map (·.tok)).Nodup) {s : Supply} (hs : s ∈ p.supplies)
    (a : Rat) :
    weightedLt NumCtx.exact (withdrawTrial NumCtx.exact p s a)
      = weightedLt NumCtx.exact p - gLt s + gLt { s with base := s.base - a / s.row.liqIndex } :=
  weightedLt_updSupply hn hs _ _

theorem healthFactor_exact (p : Portfolio) :
    healthFactor NumCtx.exact p =
      if totalDebt NumCtx.exact p = 0 then none else some (weightedLt NumCtx.exact p / totalDebt NumCtx.exact p) := rfl

theorem hf_ge_one_of_le {p : Portfolio} (hpos : 0 < totalDebt NumCtx.exact p)
    (h : totalDebt NumCtx.exact p ≤ weightedLt NumCtx.exact p) :
    ∃ x, healthFactor NumCtx.exact p = some x ∧ 1 ≤ x := by
  rw [healthFactor_exact, if_neg (ne_of_gt hpos)]
  exact ⟨_, rfl, by rw [le_div_iff₀ hpos]; linarith⟩

theorem XRat.ltB_eq_false_iff (x : XRat) (c : Rat) : x.ltB c = false ↔ x = none ∨ ∃ v, x = some v ∧ c ≤ v := by
  cases x with
  | none => exact ⟨fun _ => Or.inl rfl, fun _ => rfl⟩
  | some v => simp [XRat.ltB]

def Healthy (p : Portfolio) : Prop :=
  totalDebt NumCtx.exact p = 0 ∨ totalDebt NumCtx.exact p ≤ weightedLt NumCtx.exact p

theorem healthy_iff_not_ltB_one {p : Portfolio} (hnn : 0 ≤ totalDebt NumCtx.exact p) :
    Healthy p ↔ (healthFactor NumCtx.exact p).ltB 1 = false := by
  unfold Healthy
  rw [healthFactor_exact]
  by_cases h0 : totalDebt NumCtx.exact p = 0
  · rw [if_pos h0]
    exact ⟨fun _ => rfl, fun _ => Or.inl h0⟩
  · have hpos : 0 < totalDebt NumCtx.exact p := lt_of_le_of_ne hnn (Ne.symm h0)
    rw [if_neg h0]
    simp only [XRat.ltB, decide_eq_false_iff_not, not_lt, le_div_iff₀ hpos, one_mul]
    exact ⟨fun h => h.resolve_left h0, Or.inr⟩

theorem healthy_iff_hf {p : Portfolio} (hwf : p.WF) :
    Healthy p ↔ (healthFactor NumCtx.exact p = none ∨ ∃ x, healthFactor NumCtx.exact p = some x ∧ 1 ≤ x) :=
  (healthy_iff_not_ltB_one hwf.totalDebt_nonneg).trans (XRat.ltB_eq_false_iff _ 1)

theorem hf_lt_one_of_lt {p : Portfolio} (hpos : 0 < totalDebt NumCtx.exact p)
    (h : weightedLt NumCtx.exact p < totalDebt NumCtx.exact p) :
    (healthFactor NumCtx.exact p).ltB Gen.arHfLiqThreshold = true := by
  cases hb : (healthFactor NumCtx.exact p).ltB Gen.arHfLiqThreshold with
  | true => rfl
  | false =>
    rcases (healthy_iff_not_ltB_one (le_of_lt hpos)).mpr hb with h0 | hle
    · exact absurd h0 (ne_of_gt hpos)
    · exact absurd h (not_lt.mpr hle)

theorem othersLt_exact {p : Portfolio} (hn : (p.supplies.map (·.tok)).Nodup) {s : Supply} (hs : s ∈ p.supplies) :
    othersLt NumCtx.exact p s.tok = weightedLt NumCtx.exact p - gLt s := by
  unfold othersLt collaterals
  rw [dsum_exact, weightedLt_sum, List.filter_filter, ListSum.filter]
  have h1 : (p.supplies.map (fun x => if (decide (x.tok ≠ s.tok) && x.coll) = true
        then NumCtx.exact.mul x.row.lt (x.value NumCtx.exact) else 0)).sum
      = ((p.supplies.filter (fun x => decide (Supply.tok x ≠ Supply.tok s))).map gLt).sum := by
    rw [ListSum.filter]
    congr 1
    apply List.map_congr_left
    intro x _
    unfold gLt
    by_cases h1 : x.tok = s.tok <;> by_cases h2 : x.coll = true <;> simp [h1, h2, mul_comm]
  rw [h1, sum_filter_ne Supply.tok gLt hn hs]

theorem mem_of_findSupply {ss : List Supply} {t : String} {s : Supply} (h : findSupply? ss t = some s) :
    s ∈ ss ∧ s.tok = t := by
  unfold findSupply? at h
  exact ⟨List.mem_of_find?_eq_some h, by simpa using List.find?_some h⟩

theorem mem_of_findDebt {ds : List Debt} {t : String} {d : Debt} (h : findDebt? ds t = some d) :
    d ∈ ds ∧ d.tok = t := by
  unfold findDebt? at h
  exact ⟨List.mem_of_find?_eq_some h, by simpa using List.find?_some h⟩

theorem findSupply_none {ss : List Supply} {t : String} (h : findSupply? ss t = none) : t ∉ ss.map (·.tok) := by
  unfold findSupply? at h
  rw [List.find?_eq_none] at h
  intro hm
  obtain ⟨s, hs, rfl⟩ := List.mem_map.mp hm
  exact (h s hs) (by simp)

theorem findDebt_none {ds : List Debt} {t : String} (h : findDebt? ds t = none) : t ∉ ds.map (·.tok) := by
  unfold findDebt? at h
  rw [List.find?_eq_none] at h
  intro hm
  obtain ⟨d, hd, rfl⟩ := List.mem_map.mp hm
  exact (h d hd) (by simp)

theorem totalDebt_addDebt {p : Portfolio} (hn : (p.debts.map (·.tok)).Nodup) (tok : String) (row : Row)
    (hbi : row.borIndex ≠ 0) (hrow : ∀ d ∈ p.debts, d.tok = tok → d.row = row) (a : Rat) :
    totalDebt NumCtx.exact { p with debts := addDebt NumCtx.exact p.debts tok row (a / row.borIndex) }
      = totalDebt NumCtx.exact p + a * row.price := by
  rw [totalDebt_sum, totalDebt_sum]
  unfold addDebt
  cases hf : findDebt? p.debts tok with
  | none =>
    simp only [List.map_append, List.sum_append, List.map_cons, List.map_nil, List.sum_cons, List.sum_nil,
      Debt.value_exact, NumCtx.exact_add]
    field_simp
    ring
  | some d =>
    obtain ⟨hd, ht⟩ := mem_of_findDebt hf
    subst ht
    unfold setDebtBase
    rw [sum_updFirst Debt.tok (fun x => x.value NumCtx.exact) _ hn hd]
    have := hrow d hd rfl
    simp only [Debt.value_exact, NumCtx.exact_add, this]
    field_simp
    ring

theorem totalDebt_putDebtBase {p : Portfolio} (hn : (p.debts.map (·.tok)).Nodup) {d : Debt} (hd : d ∈ p.debts) (b : Rat)
    (ss : List Supply) :
    totalDebt NumCtx.exact ({ supplies := ss, debts := putDebtBase p.debts d.tok b } : Portfolio)
      = totalDebt NumCtx.exact p - d.base * d.row.borIndex * d.row.price + b * d.row.borIndex * d.row.price := by
  rw [totalDebt_sum, totalDebt_sum]
  rw [sum_putDebtBase (fun d => d.value NumCtx.exact) (fun d => by simp [Debt.value_exact]) hn hd]
  simp only [Debt.value_exact]

theorem totalDebt_putDebtBase_le {p : Portfolio} (hwf : p.WF) {d : Debt} (hd : d ∈ p.debts) {b m : Rat} (hb : b ≤ m)
    (ss : List Supply) :
    totalDebt NumCtx.exact ({ supplies := ss, debts := putDebtBase p.debts d.tok b } : Portfolio)
      ≤ totalDebt NumCtx.exact p - (d.base - m) * d.row.borIndex * d.row.price := by
  rw [totalDebt_putDebtBase hwf.debKeys hd]
  have hr := (hwf.deb d hd).2
  have := mul_le_mul_of_nonneg_right (mul_le_mul_of_nonneg_right hb (le_of_lt hr.bi_pos)) (le_of_lt hr.price_pos)
  linarith

theorem wf_addDebt {p : Portfolio} (hwf : p.WF) {tok : String} {row : Row} (hr : row.WF) {x : Rat} (hx : 0 ≤ x) :
    ({ p with debts := addDebt NumCtx.exact p.debts tok row x } : Portfolio).WF := by
  refine ⟨hwf.sup, ?_, hwf.supKeys, ?_⟩
  · intro d hd
    unfold addDebt at hd
    cases hf : findDebt? p.debts tok with
    | none =>
      rw [hf] at hd
      simp only [List.mem_append, List.mem_singleton] at hd
      rcases hd with h | rfl
      · exact hwf.deb d h
      · exact ⟨by simp only [NumCtx.exact_add]; linarith, hr⟩
    | some d0 =>
      rw [hf] at hd
      rcases mem_updFirst _ _ hd with h | ⟨d1, hd1, _, rfl⟩
      · exact hwf.deb d h
      · have hd0 := (hwf.deb d0 (mem_of_findDebt hf).1).1
        exact ⟨by simp only [NumCtx.exact_add]; linarith, (hwf.deb d1 hd1).2⟩
  · unfold addDebt
    cases hf : findDebt? p.debts tok with
    | none =>
      simp only [List.map_append, List.map_cons, List.map_nil]
      exact List.concat_eq_append ▸ hwf.debKeys.concat (findDebt_none hf)
    | some d0 =>
      have e := map_key_updFirst Debt.tok (fun d : Debt => { d with base := NumCtx.exact.add d0.base x }) (fun _ => rfl) tok p.debts
      show ((updFirst (fun d : Debt => decide (d.tok = tok)) (fun d : Debt => { d with base := NumCtx.exact.add d0.base x }) p.debts).map Debt.tok).Nodup
      rw [e]; exact hwf.debKeys

theorem sane_putSupplyBase {p : Portfolio} (hs : p.Sane) (tok : String) (b : Rat) :
    ({ p with supplies := putSupplyBase p.supplies tok b } : Portfolio).Sane := by
  intro s hsm
  rcases mem_putSupplyBase hsm with h1 | ⟨s0, hs0, _, rfl⟩
  · exact hs s h1
  · exact hs s0 hs0

theorem borrow_eq (cx : NumCtx) (p : Portfolio) (tok : String) (row : Row) (a : Rat) :
    borrow cx p tok row (some a) =
      if ¬ (0 < a) then .error .invalidAmount else
      if row.canBorrow = false then .error .borrowDisabled else
      if totalCollateral cx p = 0 then .error .noCollateral else
      if cx.div (weightedLtv cx p) (totalCollateral cx p) = 0 then .error .ltvZero else
      if (healthFactor cx p).gtB Gen.arHfLiqThreshold = false then .error .hfLow else
      if ¬ (cx.div (cx.add (totalDebt cx p) (cx.mul a row.price)) (cx.div (weightedLtv cx p) (totalCollateral cx p))
            ≤ totalCollateral cx p) then .error .notCovered else
      if row.borIndex = 0 then .error .arith else
      .ok ({ p with debts := addDebt cx p.debts tok row (cx.div a row.borIndex) }, a) := rfl

theorem borrow_ok_iff (cx : NumCtx) (p : Portfolio) (tok : String) (row : Row) (a : Rat) (r : Portfolio × Rat) :
    borrow cx p tok row (some a) = .ok r ↔
      (0 < a ∧ row.canBorrow = true ∧ totalCollateral cx p ≠ 0
        ∧ cx.div (weightedLtv cx p) (totalCollateral cx p) ≠ 0
        ∧ (healthFactor cx p).gtB 1 = true
        ∧ cx.div (cx.add (totalDebt cx p) (cx.mul a row.price)) (cx.div (weightedLtv cx p) (totalCollateral cx p))
            ≤ totalCollateral cx p
        ∧ row.borIndex ≠ 0)
      ∧ r = ({ p with debts := addDebt cx p.debts tok row (cx.div a row.borIndex) }, a) := by
  rw [borrow_eq]
  constructor
  · intro h
    obtain ⟨h1, h⟩ := ite_eq_of_ne h nofun
    obtain ⟨h2, h⟩ := ite_eq_of_ne h nofun
    obtain ⟨h3, h⟩ := ite_eq_of_ne h nofun
    obtain ⟨h4, h⟩ := ite_eq_of_ne h nofun
    obtain ⟨h5, h⟩ := ite_eq_of_ne h nofun
    obtain ⟨h6, h⟩ := ite_eq_of_ne h nofun
    obtain ⟨h7, h⟩ := ite_eq_of_ne h nofun
    rw [Bool.not_eq_false] at h2 h5
    cases h
    exact ⟨⟨not_not.mp h1, h2, h3, h4, h5, not_not.mp h6, h7⟩, rfl⟩
  · rintro ⟨⟨h1, h2, h3, h4, h5, h6, h7⟩, rfl⟩
    rw [if_neg (not_not.mpr h1), if_neg (by rw [h2]; decide), if_neg h3, if_neg h4,
      if_neg (by rw [hfLiqThreshold_eq_one, h5]; decide), if_neg (not_not.mpr h6), if_neg h7]

theorem withdraw_eq (cx : NumCtx) (p : Portfolio) (tok : String) (a : Rat) :
    withdraw cx p tok (some a) =
      match findSupply? p.supplies tok with
      | none => .error .notSupplied
      | some s =>
        if ¬ (0 < a) then .error .invalidAmount else
        if ¬ (a ≤ s.amount cx) then .error .overBalance else
        if s.row.liqIndex = 0 then .error .arith else
        if s.coll = true ∧ (healthFactor cx (withdrawTrial cx p s a)).ltB Gen.arHfLiqThreshold = true then
          .error .hfLowAfter else
        .ok ({ p with supplies := putSupplyBase p.supplies tok (subBase cx s.base (cx.div a s.row.liqIndex)) }, a) := rfl

theorem withdraw_ok_iff (cx : NumCtx) (p : Portfolio) (tok : String) (a : Rat) (r : Portfolio × Rat) :
    withdraw cx p tok (some a) = .ok r ↔
      ∃ s, findSupply? p.supplies tok = some s
        ∧ (0 < a ∧ a ≤ s.amount cx ∧ s.row.liqIndex ≠ 0
            ∧ (s.coll = true → (healthFactor cx (withdrawTrial cx p s a)).ltB 1 = false))
        ∧ r = ({ p with supplies := putSupplyBase p.supplies tok (subBase cx s.base (cx.div a s.row.liqIndex)) }, a) := by
  rw [withdraw_eq]
  cases hf : findSupply? p.supplies tok with
  | none =>
    constructor
    · intro h; cases h
    · rintro ⟨_, h, _⟩; cases h
  | some s =>
    constructor
    · intro h
      obtain ⟨h1, h⟩ := ite_eq_of_ne h nofun
      obtain ⟨h2, h⟩ := ite_eq_of_ne h nofun
      obtain ⟨h3, h⟩ := ite_eq_of_ne h nofun
      obtain ⟨h4, h⟩ := ite_eq_of_ne h nofun
      cases h
      refine ⟨s, rfl, ⟨not_not.mp h1, not_not.mp h2, h3, fun hc => ?_⟩, rfl⟩
      exact Bool.eq_false_iff.mpr (fun hlt => h4 ⟨hc, hlt⟩)
    · rintro ⟨s', hs', ⟨h1, h2, h3, h4⟩, rfl⟩
      cases hs'
      dsimp only
      rw [if_neg (not_not.mpr h1), if_neg (not_not.mpr h2), if_neg h3,
        if_neg (fun hc => Bool.eq_false_iff.mp (h4 hc.1) hc.2)]

theorem changeCollateral_ok_iff (cx : NumCtx) (p : Portfolio) (tok : String) (flag : Bool) (p' : Portfolio) :
    changeCollateral cx p tok flag = .ok p' ↔
      ∃ s, findSupply? p.supplies tok = some s ∧
        ((s.coll = flag ∧ p' = p) ∨
         (s.coll ≠ flag ∧ (flag = true → s.row.canColl = true)
           ∧ (flag = false → (healthFactor cx { p with supplies := setSupplyColl p.supplies tok flag }).ltB 1 = false)
           ∧ p' = { p with supplies := setSupplyColl p.supplies tok flag })) := by
  unfold changeCollateral
  rw [hfLiqThreshold_eq_one]
  cases findSupply? p.supplies tok with
  | none => exact ⟨nofun, fun ⟨_, h, _⟩ => nomatch h⟩
  | some s =>
    simp only [Option.some.injEq, exists_eq_left']
    by_cases hc : s.coll = flag
    · rw [if_pos hc]
      exact ⟨fun h => Or.inl ⟨hc, (Except.ok.inj h).symm⟩, fun h => h.elim (fun h => by rw [h.2]) (fun h => absurd hc h.1)⟩
    · rw [if_neg hc]
      constructor
      · intro h
        obtain ⟨h1, h⟩ := ite_eq_of_ne h nofun
        obtain ⟨h2, h⟩ := ite_eq_of_ne h nofun
        refine Or.inr ⟨hc, fun hf => ?_, fun hf => ?_, (Except.ok.inj h).symm⟩
        · exact (Bool.eq_false_or_eq_true _).resolve_right (fun e => h1 ⟨hf, e⟩)
        · exact (Bool.eq_false_or_eq_true _).resolve_left (fun e => h2 ⟨hf, e⟩)
      · rintro (⟨h, _⟩ | ⟨_, h1, h2, rfl⟩)
        · exact absurd h hc
        · rw [if_neg (fun h => by rw [h1 h.1] at h; exact Bool.noConfusion h.2),
            if_neg (fun h => by rw [h2 h.1] at h; exact Bool.noConfusion h.2)]

theorem maxWithdrawAmount_ok_iff (cx : NumCtx) (p : Portfolio) (tok : String) (a : Rat) :
    maxWithdrawAmount cx p tok = .ok a ↔ ∃ s kept, findSupply? p.supplies tok = some s ∧ minWithdrawKept cx p s = .ok kept
      ∧ cx.sub (s.amount cx) (if kept > 0 then kept else 0) = a := by
  unfold maxWithdrawAmount
  cases findSupply? p.supplies tok with
  | none => exact ⟨nofun, fun ⟨_, _, h, _⟩ => nomatch h⟩
  | some s =>
    simp only [Option.some.injEq, exists_and_left, exists_eq_left']
    exact Exc.bind_ok.trans (exists_congr fun _ => and_congr_right fun _ => ⟨Except.ok.inj, congrArg _⟩)

def Admitted (p : Portfolio) : Prop := ∀ s ∈ p.supplies, s.coll = true → s.row.canColl = true

/-- the risk table gives a token it admits as collateral a positive threshold (not `Portfolio.Sane`, which is LTV ≤ LT) -/
def TableSane (p : Portfolio) : Prop := ∀ s ∈ p.supplies, s.row.canColl = true → 0 < s.row.lt

/-- `Portfolio.WF` without its clause "flagged ⇒ positive threshold" -/
structure Portfolio.WF0 (p : Portfolio) : Prop where
  sup : ∀ s ∈ p.supplies, 0 ≤ s.base ∧ s.row.WF
  deb : ∀ d ∈ p.debts, 0 ≤ d.base ∧ d.row.WF
  supKeys : (p.supplies.map (·.tok)).Nodup
  debKeys : (p.debts.map (·.tok)).Nodup

theorem Portfolio.WF0.wf {p : Portfolio} (h : p.WF0) (ha : Admitted p) (ht : TableSane p) : p.WF :=
  ⟨fun s hs => ⟨(h.sup s hs).1, (h.sup s hs).2, fun hc => ht s hs (ha s hs hc)⟩, h.deb, h.supKeys, h.debKeys⟩

theorem admitted_of_supplies_put {p q : Portfolio} {t : String} {b : Rat} (h : Admitted p)
    (hq : q.supplies = putSupplyBase p.supplies t b) : Admitted q := by
  intro s hs hc
  rw [hq] at hs
  rcases mem_putSupplyBase hs with h1 | ⟨s0, hs0, _, rfl⟩
  · exact h s h1 hc
  · exact h s0 hs0 hc

theorem admitted_of_supplies_eq {p q : Portfolio} (h : Admitted p) (hq : q.supplies = p.supplies) : Admitted q := by
  intro s hs hc; rw [hq] at hs; exact h s hs hc

theorem BaseOnly.admitted {p q : Portfolio} (h : BaseOnly p q) (hp : Admitted p) : Admitted q := by
  induction h with
  | refl => exact hp
  | supply _ _ _ ih => exact admitted_of_supplies_put ih rfl
  | debt _ _ _ ih => exact ih

inductive UserStep : Portfolio → Portfolio → Prop
  | borrow (p : Portfolio) (tok : String) (row : Row) (a : Rat) (p' : Portfolio) (x : Rat) :
      row.WF → (∀ d ∈ p.debts, d.tok = tok → d.row = row) →
      AaveRisk.borrow NumCtx.exact p tok row (some a) = .ok (p', x) → UserStep p p'
  | withdraw (p : Portfolio) (tok : String) (a : Rat) (p' : Portfolio) (x : Rat) :
      AaveRisk.withdraw NumCtx.exact p tok (some a) = .ok (p', x) →
      (∀ s, findSupply? p.supplies tok = some s → snapDust s.base (a / s.row.liqIndex) = 0) → UserStep p p'
  | changeCollateral (p : Portfolio) (tok : String) (flag : Bool) (p' : Portfolio) :
      AaveRisk.changeCollateral NumCtx.exact p tok flag = .ok p' →
      (∀ s, findSupply? p.supplies tok = some s → s.row.canColl = true → 0 < s.row.lt) → UserStep p p'

inductive UserSteps : Portfolio → Portfolio → Prop
  | refl (p : Portfolio) : UserSteps p p
  | tail {p q r : Portfolio} : UserSteps p q → UserStep q r → UserSteps p r

inductive UserStepAll : Portfolio → Portfolio → Prop
  | risk {p q : Portfolio} : UserStep p q → UserStepAll p q
  /-- `supply(token, amount, collateral)` on top of an existing position: `x = amount / liquidity_index > 0` -/
  | supplyMore (p : Portfolio) (tok : String) (s : Supply) (x : Rat) : findSupply? p.supplies tok = some s → 0 < x →
      UserStepAll p { p with supplies := setSupplyBase p.supplies tok (s.base + x) }
  /-- `supply` of a token not yet supplied: a new entry; `collateral=True` needs `usageAsCollateralEnabled`, which the risk table
      pairs with a positive threshold -/
  | supplyNew (p : Portfolio) (tok : String) (row : Row) (coll : Bool) (x : Rat) : findSupply? p.supplies tok = none → 0 < x →
      row.WF → row.ltv ≤ row.lt → (coll = true → row.canColl = true) → (row.canColl = true → 0 < row.lt) →
      UserStepAll p { p with supplies := p.supplies ++ [{ tok := tok, base := 0 + x, coll := coll, row := row }] }
  /-- `repay(token, amount)` from the wallet: `x = payback / variable_borrow_index ≥ 0` -/
  | repay (p : Portfolio) (tok : String) (d : Debt) (x : Rat) : findDebt? p.debts tok = some d → 0 ≤ x →
      UserStepAll p { p with debts := putDebtBase p.debts tok (subBase NumCtx.exact d.base x) }
  /-- `repay(token, amount, repay_with_collateral=True, collateral_token)`: the collateral gives up `y` scaled units worth exactly
      the `x` scaled units of debt repaid (`_get_swap_amount`, fee 0); no dust is snapped off the collateral -/
  | repayCollateral (p : Portfolio) (tok ctok : String) (d : Debt) (c : Supply) (x y : Rat) :
      findDebt? p.debts tok = some d → findSupply? p.supplies ctok = some c → c.coll = true →
      0 ≤ x → x ≤ d.base → 0 ≤ y → y ≤ c.base →
      y * c.row.liqIndex * c.row.price = x * d.row.borIndex * d.row.price →
      snapDust c.base y = 0 → c.row.lt ≤ 1 →
      UserStepAll p { supplies := putSupplyBase p.supplies ctok (subBase NumCtx.exact c.base y),
                      debts := putDebtBase p.debts tok (subBase NumCtx.exact d.base x) }

inductive UserStepsAll : Portfolio → Portfolio → Prop
  | refl (p : Portfolio) : UserStepsAll p p
  | tail {p q r : Portfolio} : UserStepsAll p q → UserStepAll q r → UserStepsAll p r

theorem healthy_of_le {p q : Portfolio} (hq : q.WF) (hh : Healthy p)
    (hD : totalDebt NumCtx.exact q ≤ totalDebt NumCtx.exact p)
    (hW : totalDebt NumCtx.exact p ≤ weightedLt NumCtx.exact p → totalDebt NumCtx.exact q ≤ weightedLt NumCtx.exact q) :
    Healthy q := by
  unfold Healthy at hh ⊢
  rcases hh with h0 | hle
  · left
    have := hq.totalDebt_nonneg
    linarith
  · exact Or.inr (hW hle)

end Demeter.AaveRisk
