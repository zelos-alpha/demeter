/-
  Deviations, covariance and beta, and `alpha_beta` / the benchmark entries of `performance_metrics` with explicit values for
  positive series.
-/
import Proofs.Lemmas.MetricsReturns
namespace Demeter.Metrics

theorem sum_zipWith_dev (a b : Rat) (xs ys : List Rat) (h : xs.length = ys.length) :
    sum (List.zipWith (fun x y => (x - a) * (y - b)) xs ys) =
      sum (List.zipWith (· * ·) xs ys) - b * sum xs - a * sum ys + xs.length * a * b := by
  induction xs generalizing ys with
  | nil =>
    cases ys with
    | nil => simp [sum]
    | cons y r' => simp at h
  | cons x r ih =>
    cases ys with
    | nil => simp at h
    | cons y r' =>
      simp only [List.zipWith_cons_cons, sum, List.length_cons, Nat.cast_succ]
      rw [ih r' (by simpa using h)]
      ring

theorem devProd_eq (xs ys : List Rat) (h : xs.length = ys.length) (hn : 0 < xs.length) :
    devProd xs ys = sum (List.zipWith (· * ·) xs ys) - sum xs * sum ys / xs.length := by
  unfold devProd mean
  simp only []
  rw [sum_zipWith_dev _ _ xs ys h, ← h]
  have : (xs.length : Rat) ≠ 0 := by exact_mod_cast (ne_of_gt hn)
  field_simp
  ring

theorem sum_map_add (c : Rat) (xs : List Rat) : sum (xs.map (· + c)) = sum xs + xs.length * c := by
  induction xs with
  | nil => simp [sum]
  | cons x r ih => simp only [List.map_cons, sum, ih, List.length_cons, Nat.cast_succ]; ring

theorem mean_map_add (c : Rat) (xs : List Rat) (hn : 0 < xs.length) : mean (xs.map (· + c)) = mean xs + c := by
  unfold mean
  rw [sum_map_add, List.length_map]
  have : (xs.length : Rat) ≠ 0 := by exact_mod_cast (ne_of_gt hn)
  field_simp

theorem devProd_shift (c c' : Rat) (xs ys : List Rat) :
    devProd (xs.map (· + c)) (ys.map (· + c')) = devProd xs ys := by
  by_cases hx : xs.length = 0
  · obtain rfl := List.length_eq_zero_iff.mp hx
    simp [devProd, sum]
  by_cases hy : ys.length = 0
  · obtain rfl := List.length_eq_zero_iff.mp hy
    simp [devProd, sum]
  unfold devProd
  simp only []
  rw [mean_map_add c xs (by omega), mean_map_add c' ys (by omega), List.zipWith_map]
  congr 1
  congr 1
  funext x y
  ring

theorem cov_of_two_le {xs ys : List Rat} (h : xs.length = ys.length) (hn : 2 ≤ xs.length) :
    cov xs ys = .ok (devProd xs ys / ((xs.length : Rat) - 1)) := by
  unfold cov
  rw [if_neg (not_not_intro h), if_neg (by omega)]

theorem cov_short {xs ys : List Rat} (h : xs.length = ys.length) (hn : xs.length ≤ 1) : cov xs ys = .error .nonfinite := by
  unfold cov
  rw [if_neg (not_not_intro h), if_pos hn]

/-- the `n − 1` of `np.cov` cancels; no oracle, no duration: beta does not depend on the APRs -/
theorem betaOf_formula (p b : List Rat) (hlen : p.length = b.length) (hn : 2 ≤ b.length) (hvar : devProd b b ≠ 0) :
    betaOf p b = .ok (some (devProd p b / devProd b b)) := by
  have hn1 : ((b.length : Rat) - 1) ≠ 0 := by
    have : (2 : Rat) ≤ (b.length : Rat) := by exact_mod_cast hn
    intro h; linarith
  have hne : devProd b b / ((b.length : Rat) - 1) ≠ 0 := div_ne_zero hvar hn1
  unfold betaOf
  simp only [cov_of_two_le hlen (hlen ▸ hn), hlen, cov_of_two_le rfl hn, soft, hne, if_false]
  congr 2
  exact div_div_div_cancel_right₀ hn1 ..

theorem betaOf_degenerate (p b : List Rat) (hlen : p.length = b.length) (h : b.length ≤ 1 ∨ devProd b b = 0) :
    betaOf p b = .ok none := by
  by_cases h1 : b.length ≤ 1
  · simp only [betaOf, cov_short hlen (hlen ▸ h1), cov_short rfl h1, soft]
  · have h0 : devProd b b = 0 := h.resolve_left h1
    have h2 : 2 ≤ b.length := by omega
    simp only [betaOf, cov_of_two_le hlen (hlen ▸ h2), cov_of_two_le rfl h2, h0, zero_div, soft, if_true]

theorem alphaOf_isSome (pa ba : Val) (β : Rat) : (alphaOf pa ba (some β)).isSome ↔ pa.isSome ∧ ba.isSome := by
  cases pa <;> cases ba <;> simp [alphaOf]

theorem alphaOf_none (pa ba : Val) : alphaOf pa ba none = none := by
  cases pa <;> cases ba <;> rfl

theorem alphaBeta_pos (o : Orc) (duration x y : Rat) (r t : List Rat)
    (hp : AllPos (x :: r)) (hb : AllPos (y :: t)) (hlen : r.length = t.length) (hd : duration ≠ 0) (beta : Val)
    (hbeta : betaOf (multiplesFrom x r) (multiplesFrom y t) = .ok beta) :
    alphaBeta o (x :: r) (y :: t) duration =
      .ok (alphaOf ((o.pow (lastOf (x :: r) / x) (365 / duration)).map (· - 1))
        ((o.pow (lastOf (y :: t) / y) (365 / duration)).map (· - 1)) beta, beta) := by
  have hsome1 := allSome_ratiosFrom x r hp
  have hsome2 := allSome_ratiosFrom y t hb
  have hlr : (ratiosFrom x r).length = (ratiosFrom y t).length := by
    rw [allSome_length _ _ hsome1, allSome_length _ _ hsome2, length_multiplesFrom, length_multiplesFrom, hlen]
  unfold alphaBeta
  simp only [shiftRatios, hlr, ne_eq, not_true_eq_false, if_false, hd, hsome1, hsome2, hbeta,
    annualized_of_multiples o duration x r hp, annualized_of_multiples o duration y t hb, soft_compoundOf o hd]

theorem perfBenchRest_pos (o : Orc) (d y : Rat) (t : List Rat) (hb : AllPos (y :: t)) (hd : d ≠ 0) (alpha beta : Val) :
    perfBenchRest o d (y :: t) alpha beta =
      .ok (alpha, beta, some ((lastOf (y :: t) - y) / y), (o.pow (lastOf (y :: t) / y) (365 / d)).map (· - 1)) := by
  have hy : 0 < y := hb.head
  unfold perfBenchRest
  rw [if_neg (by simp)]
  simp only [nth_zero_cons]
  rw [show nth (y :: t) ((y :: t).length - 1) = lastOf (y :: t) from rfl, annualized_endpoints o hd (ne_of_gt hy),
    soft_compoundOf o hd, returnRate, if_pos hy, div_sub_one (ne_of_gt hy)]
  rfl

end Demeter.Metrics
