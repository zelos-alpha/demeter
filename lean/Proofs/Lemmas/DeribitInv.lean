/-
  The book invariant `BookInv`: non-negative sizes on every side of every instrument.  The raw sides may be unsorted and may
  repeat a price; what an order is matched against and what is written back is the normalised side, which has distinct prices.
  A side with distinct prices and non-negative sizes (`SideOk`) is never overdrawn by `deduct`: a market order takes from no
  level more than it shows, an order that names a price is one fill; so no size written back is negative and every operation
  keeps `BookInv` (`step_bookInv` in DeribitDeal).
-/
import Proofs.Lemmas.DeribitNorm
namespace Demeter.Deribit
open Demeter

def BookInv (book : List Instr) : Prop := ∀ i ∈ book, (∀ l ∈ i.asks, 0 ≤ l.size) ∧ (∀ l ∈ i.bids, 0 ≤ l.size)

-- `BookInv` again: the name `C15_buy_position_total`, `C15_sell_avg_price_total` and the examples of C15 state it by
def BookNonneg (book : List Instr) : Prop :=
  ∀ i ∈ book, (∀ l ∈ i.asks, 0 ≤ l.size) ∧ (∀ l ∈ i.bids, 0 ≤ l.size)

theorem bookInv_setSide {book : List Instr} (h : BookInv book) (isBuy : Bool) (n : String) (new : List Level)
    (hn : ∀ l ∈ new, 0 ≤ l.size) : BookInv (setSide isBuy book n new) := by
  intro i hi
  obtain ⟨i0, hi0, rfl | ⟨_, rfl⟩⟩ := mem_setSide hi
  · exact h _ hi0
  · cases isBuy
    · exact ⟨(h i0 hi0).1, hn⟩
    · exact ⟨hn, (h i0 hi0).2⟩

/-- what the normalised side of a book with `BookInv` satisfies -/
def SideOk (ls : List Level) : Prop := PricesNodup ls ∧ ∀ l ∈ ls, 0 ≤ l.size

theorem newOrderList_nonneg {ls : List Level} {fs : List Fill} (hn : PricesNodup ls)
    (h : ∀ l ∈ ls, taken fs l.price ≤ l.size) : ∀ l ∈ newOrderList DCtx.exact ls fs, 0 ≤ l.size := by
  intro l' hl'
  have hx : l'.size ∈ (newOrderList DCtx.exact ls fs).map (·.size) := List.mem_map_of_mem (f := (·.size)) hl'
  rw [newOrderList_sizes ls fs hn] at hx
  obtain ⟨l, hl, he⟩ := List.mem_map.mp hx
  exact he ▸ sub_nonneg.mpr (h l hl)

theorem taken_single_le {ls : List Level} {l0 : Level} {amount : Rat} (ho : SideOk ls) (h0 : l0 ∈ ls) (hle : amount ≤ l0.size) :
    ∀ l ∈ ls, taken [⟨l0.price, amount⟩] l.price ≤ l.size := by
  intro l hl
  rw [taken_cons]
  simp only [taken, List.filter_nil, List.map_nil, List.sum_nil, add_zero]
  by_cases hp : l0.price = l.price
  · have : l0 = l := List.inj_on_of_nodup_map ho.1 h0 hl hp
    subst this
    simp only [if_true]; exact hle
  · simp only [hp, if_false]; exact ho.2 l hl

theorem taken_deductMarket_le (ls : List Level) (rem : Rat) (hs : ∀ l ∈ ls, 0 ≤ l.size) (hr : 0 ≤ rem) (p : Rat) :
    taken (deductMarket DCtx.exact rem ls) p ≤ rawAt ls p := by
  induction ls generalizing rem with
  | nil => simp [deductMarket, taken, rawAt]
  | cons l ls ih =>
    have hs' : ∀ l' ∈ ls, 0 ≤ l'.size := fun l' h => hs l' (List.mem_cons_of_mem _ h)
    have hraw := rawAt_nonneg hs' p
    rw [deductMarket_exact_cons, rawAt_cons]
    by_cases hz : l.size = 0
    · rw [if_pos hz]
      have := ih rem hs' hr
      split <;> linarith
    · rw [if_neg hz, taken_cons]
      have hmin : min l.size rem ≤ l.size := min_le_left _ _
      -- the fills after the first, in both cases of the stop condition
      have hrest : taken (if 0 < l.size - min l.size rem ∨ rem - min l.size rem = 0 then []
          else deductMarket DCtx.exact (rem - min l.size rem) ls) p ≤ rawAt ls p := by
        split
        · simpa [taken] using hraw
        · exact ih _ hs' (by linarith [min_le_right l.size rem])
      by_cases hp : l.price = p
      · simp only [hp, if_true]; linarith
      · simp only [hp, if_false]; linarith

theorem rawAt_filter_le {ls : List Level} (ho : SideOk ls) (f : Level → Bool) {l : Level} (hl : l ∈ ls) :
    rawAt (ls.filter f) l.price ≤ l.size := by
  induction ls with
  | nil => simp at hl
  | cons x xs ih =>
    have hn := ho.1
    simp only [PricesNodup, List.map_cons, List.nodup_cons] at hn
    have ho' : SideOk xs := ⟨hn.2, fun z hz => ho.2 z (List.mem_cons_of_mem _ hz)⟩
    have hx0 : 0 ≤ x.size := ho.2 x List.mem_cons_self
    rw [List.filter_cons]
    rcases List.mem_cons.mp hl with h | hm
    · subst h
      have hz : rawAt (xs.filter f) l.price = 0 :=
        rawAt_eq_zero (fun z hz e => hn.1 (e ▸ List.mem_map_of_mem (f := (·.price)) (List.mem_filter.mp hz).1))
      split
      · rw [rawAt_cons, if_pos rfl, hz, add_zero]
      · rw [hz]; exact hx0
    · have hne : ¬ x.price = l.price := fun e => hn.1 (e ▸ List.mem_map_of_mem (f := (·.price)) hm)
      split
      · rw [rawAt_cons, if_neg hne, zero_add]; exact ih ho' hm
      · exact ih ho' hm

theorem taken_market_le {ls : List Level} (ho : SideOk ls) (f : Level → Bool) {amount : Rat} (ha : 0 ≤ amount) :
    ∀ l ∈ ls, taken (deductMarket DCtx.exact amount (ls.filter f)) l.price ≤ l.size := fun l hl =>
  (taken_deductMarket_le (ls.filter f) amount (fun l' hl' => ho.2 l' (List.mem_filter.mp hl').1) ha l.price).trans
    (rawAt_filter_le ho f hl)

end Demeter.Deribit
