/-
  What an accepted operation body of Demeter.Squeeth — or an operation that runs outside a transaction, however it ends — can do to a
  state, in every arithmetic context: `Edit K Q`, the closure of seven kinds of change, none of which touches a vault whose key is not in
  `K` or a position whose key is not in `Q`.  A property of states that survives each kind survives every operation and every history:
  `Edit.frame` (what is outside `K`, `Q` is as it was) and `Edit.dict` here, `Edit.once` in Proofs/Lemmas/SqueethOnce.lean.
-/
import Proofs.Lemmas.SqueethBodies
import Proofs.Lemmas.SqueethLong
import Mathlib.Tactic.SplitIfs
namespace Demeter
namespace Squeeth
open Gen

inductive Edit (K : Nat → Prop) (Q : PosKey → Prop) : State → State → Prop
  | refl (s : State) : Edit K Q s s
  | trans {a b c : State} : Edit K Q a b → Edit K Q b c → Edit K Q a c
  | amounts {s : State} {k : Nat} {v : Vault} (c sh : Rat) : K k → AList.get? s.vaults k = some v → Edit K Q s (s.setVault k ⟨c, sh, v.nft⟩)
  | ledger (s : State) (w : Wallet) (l : List Action) : Edit K Q s { s with wallet := w, log := l }
  /-- `open_deposit_mint` without a key: vault `max_id + 1` is created -/
  | fresh (s : State) : K (s.maxId + 1) → Edit K Q s (openVault s none).1
  | repos {s : State} {q : PosKey} {p : UPos} (p' : UPos) :
      Q q → AList.get? s.positions q = some p → p'.transferred = p.transferred → Edit K Q s (s.setPos q p')
  | drop {s : State} {q : PosKey} {p : UPos} :
      Q q → AList.get? s.positions q = some p → p.transferred = false → Edit K Q s { s with positions := AList.erase s.positions q }
  /-- `deposit_uni_position` -/
  | lend {s : State} {k : Nat} {v : Vault} {q : PosKey} {p : UPos} :
      K k → Q q → AList.get? s.vaults k = some v → v.nft = none → AList.get? s.positions q = some p → p.transferred = false →
      Edit K Q s ((s.setVault k { v with nft := some q }).setPos q { p with transferred := true })
  /-- `withdraw_uni_position`, `_reduce_debt` -/
  | release {s : State} {k : Nat} {v : Vault} {q : PosKey} {p : UPos} :
      K k → Q q → AList.get? s.vaults k = some v → v.nft = some q → AList.get? s.positions q = some p → p.transferred = true →
      Edit K Q s ((s.setVault k { v with nft := none }).setPos q { p with transferred := false })

variable {K : Nat → Prop} {Q : PosKey → Prop} {s0 s s' : State} {cx : NumCtx} {e : Env} {vk : Nat} {pos : PosKey}

namespace Edit

theorem record (h : Edit K Q s0 s) (a : Action) : Edit K Q s0 (s.record a) := h.trans (.ledger s s.wallet _)

theorem wallet (h : Edit K Q s0 s) (w : Wallet) : Edit K Q s0 { s with wallet := w } := h.trans (.ledger s w s.log)

theorem debitW {t : String} {x : Rat} (h : Edit K Q s0 s) (hd : debitW cx s t x = .ok s') : Edit K Q s0 s' := by
  obtain ⟨w, _, rfl⟩ := debitW_ok hd
  exact h.wallet w

theorem frame (h : Edit K Q s s') :
    (∀ k, ¬ K k → AList.get? s'.vaults k = AList.get? s.vaults k) ∧ (∀ q, ¬ Q q → AList.get? s'.positions q = AList.get? s.positions q) := by
  induction h with
  | refl s => exact ⟨fun _ _ => rfl, fun _ _ => rfl⟩
  | trans _ _ ih1 ih2 => exact ⟨fun k hk => (ih2.1 k hk).trans (ih1.1 k hk), fun q hq => (ih2.2 q hq).trans (ih1.2 q hq)⟩
  | amounts c sh hk hv => exact ⟨fun k' hk' => setVault_get_other _ _ _ _ (by rintro rfl; exact hk' hk), fun _ _ => rfl⟩
  | ledger s w l => exact ⟨fun _ _ => rfl, fun _ _ => rfl⟩
  | fresh s hk => exact ⟨fun k' hk' => AList.get?_set_ne _ (by rintro rfl; exact hk' hk) _, fun _ _ => rfl⟩
  | repos p' hq hp ht => exact ⟨fun _ _ => rfl, fun q' hq' => setPos_get_other _ _ _ _ (by rintro rfl; exact hq' hq)⟩
  | drop hq hp ht => exact ⟨fun _ _ => rfl, fun q' hq' => AList.get?_erase_ne _ (by rintro rfl; exact hq' hq)⟩
  | lend hk hq hv hn hp ht =>
    exact ⟨fun k' hk' => setVault_get_other _ _ _ _ (by rintro rfl; exact hk' hk), fun q' hq' => setPos_get_other _ _ _ _ (by rintro rfl; exact hq' hq)⟩
  | release hk hq hv hn hp ht =>
    exact ⟨fun k' hk' => setVault_get_other _ _ _ _ (by rintro rfl; exact hk' hk), fun q' hq' => setPos_get_other _ _ _ _ (by rintro rfl; exact hq' hq)⟩

end Edit

theorem mintBody_edit {m : Rat} (hk : K vk) (h : Edit K Q s0 s) (hok : (mintBody cx s vk m).err = none) : Edit K Q s0 (mintBody cx s vk m).st := by
  rcases mintBody_ok hok with ⟨_, hr⟩ | ⟨v, _, hv, hr⟩ <;> rw [hr]
  · exact h
  · exact ((h.trans (.amounts _ _ hk hv)).wallet _).record _

theorem depositBody_edit {eth : Rat} (hk : K vk) (h : Edit K Q s0 s) (hok : (depositBody cx s vk eth).err = none) :
    Edit K Q s0 (depositBody cx s vk eth).st := by
  obtain ⟨v, s2, _, hv, hd, hr⟩ := depositBody_ok hok
  rw [hr]
  exact ((h.trans (.amounts _ _ hk hv)).debitW hd).record _

theorem withdrawCollBody_edit {a : Rat} (hk : K vk) (h : Edit K Q s0 s) (hok : (withdrawCollBody cx e s vk a).err = none) :
    Edit K Q s0 (withdrawCollBody cx e s vk a).st := by
  obtain ⟨v, s1, hv, rfl, _, hr⟩ := withdrawCollBody_ok hok
  rw [hr]
  exact ((h.trans (.amounts _ _ hk hv)).wallet _).record _

theorem burnBody_edit {b : Rat} (hk : K vk) (h : Edit K Q s0 s) (hok : (burnBody cx s vk b).err = none) : Edit K Q s0 (burnBody cx s vk b).st := by
  rcases burnBody_ok hok with ⟨_, hr⟩ | ⟨v, s2, _, hv, hd, hr⟩ <;> rw [hr]
  · exact h
  · exact ((h.trans (.amounts _ _ hk hv)).debitW hd).record _

theorem liquidateInner_edit {m : Rat} (hk : K vk) (h : Edit K Q s0 s) (hok : (liquidateInner cx e s vk m).err = none) :
    Edit K Q s0 (liquidateInner cx e s vk m).st := by
  obtain ⟨v, r, s1, a, hv, _, _, rfl, _, hr⟩ := liquidateInner_ok hok
  rw [hr]
  exact (h.trans (.amounts _ _ hk hv)).record _

theorem depositUniBody_edit (hk : K vk) (hq : Q pos) (h : Edit K Q s0 s) (hok : (depositUniBody s vk pos).err = none) :
    Edit K Q s0 (depositUniBody s vk pos).st := by
  obtain ⟨p, v, hp, hv, hvn, hpt, hr⟩ := depositUniBody_ok hok
  rw [hr]
  exact (h.trans (.lend hk hq hv hvn hp hpt)).record _

theorem withdrawUniBody_edit (hk : K vk) (hq : Q pos) (hok : (withdrawUniBody cx e s vk pos).err = none) :
    Edit K Q s (withdrawUniBody cx e s vk pos).st := by
  obtain ⟨v, p, s2, hv, hn, hp, ht, rfl, _, hr⟩ := withdrawUniBody_ok hok
  rw [hr]
  exact (Edit.release hk hq hv hn hp ht).record _

theorem Edit.redeemed {q : PosKey} {p : UPos} (hq : Q q) (hp : AList.get? s.positions q = some p) (hf : p.transferred = false)
    (a b : Rat) (w : Wallet) (l : List Action) :
    Edit K Q s { s with positions := AList.set s.positions q ⟨0, a, b, p.transferred⟩, wallet := w, log := l } ∧
    Edit K Q s { s with positions := AList.erase (AList.set s.positions q ⟨0, a, b, p.transferred⟩) q, wallet := w, log := l } := by
  have h1 : Edit K Q s (s.setPos q ⟨0, a, b, p.transferred⟩) := .repos _ hq hp rfl
  exact ⟨h1.trans (.ledger _ w l), (h1.trans (.drop hq (setPos_get_self ..) hf)).trans (.ledger _ w l)⟩

theorem uniRedeem_edit (cx : NumCtx) (e : Env) (s : State) (pos : PosKey) (toUser : Bool) (hq : Q pos)
    (hfree : ∀ p, AList.get? s.positions pos = some p → p.transferred = false) : Edit K Q s (uniRedeem cx e s pos toUser).1.st := by
  rcases uniRedeem_cases cx e s pos toUser with ⟨er, hr⟩ | ⟨p, f0, f1, a, b, w, l, hp, _, _, _, _, ⟨er, hr⟩ | hr | hr⟩ <;> rw [hr]
  · exact .refl s
  · exact (Edit.redeemed hq hp (hfree p hp) a b w l).1
  · exact (Edit.redeemed hq hp (hfree p hp) a b w l).1
  · exact (Edit.redeemed hq hp (hfree p hp) a b w l).2

theorem Edit.reduced {k : Nat} {v : Vault} {q : PosKey} {p : UPos} (hk : K k) (hq : Q q) (hv : AList.get? s.vaults k = some v)
    (hn : v.nft = some q) (hp : AList.get? s.positions q = some p) (ht : p.transferred = true) (a b c sh : Rat) (w : Wallet) (l : List Action) :
    Edit K Q s { s with vaults := AList.set s.vaults k ⟨c, sh, none⟩, positions := AList.set s.positions q ⟨0, a, b, false⟩,
                        wallet := w, log := l } ∧
    Edit K Q s { s with vaults := AList.set s.vaults k ⟨c, sh, none⟩,
                        positions := AList.erase (AList.set s.positions q ⟨0, a, b, false⟩) q, wallet := w, log := l } := by
  have h0 : Edit K Q s _ := Edit.release hk hq hv hn hp ht
  have h1 := Edit.redeemed (K := K) (s := (s.setVault k { v with nft := none }).setPos q { p with transferred := false })
    hq (setPos_get_self ..) rfl a b w l
  constructor
  · have := (h0.trans h1.1).trans (.amounts c sh hk (setVault_get_self ..))
    simpa only [State.setVault, State.setPos, AList.set_set] using this
  · have := (h0.trans h1.2).trans (.amounts c sh hk (setVault_get_self ..))
    simpa only [State.setVault, State.setPos, AList.set_set] using this

theorem reduceDebtBody_edit {pb : Bool} (hk : K vk) (hq : ∀ v q, AList.get? s.vaults vk = some v → v.nft = some q → Q q)
    (hok : (reduceDebtBody cx e s vk pb).1.err = none) : Edit K Q s (reduceDebtBody cx e s vk pb).1.st := by
  rcases reduceDebtBody_ok hok with ⟨v, _, _, hr⟩ |
    ⟨v, pos, p, s1, out, f0, f1, r, hv, hn, hp, ht, hu, hr0, hr⟩ <;> rw [hr]
  · exact .refl s
  · have key : Edit K Q s (s1.setVault vk ⟨r.2.coll, r.2.short, none⟩) := by
      rcases uniRedeem_cases cx e (s.setPos pos { p with transferred := false }) pos false with
        ⟨er, hr'⟩ | ⟨p', f0', f1', a, b, w, l, hp', _, _, _, _, ⟨er, hr'⟩ | hr' | hr'⟩ <;> rw [hr'] at hu
      · simp [Res.fail] at hu
      · simp [Res.fail] at hu
      all_goals
        rw [setPos_get_self] at hp'
        cases hp'
        simp only [Res.ok, Prod.mk.injEq, Res.mk.injEq, true_and] at hu
        obtain ⟨⟨rfl, _⟩, _, _⟩ := hu
      · simpa only [State.setVault, State.setPos, AList.set_set] using (Edit.reduced hk (hq v pos hv hn) hv hn hp ht a b r.2.coll r.2.short w l).1
      · simpa only [State.setVault, State.setPos, AList.set_set] using (Edit.reduced hk (hq v pos hv hn) hv hn hp ht a b r.2.coll r.2.short w l).2
    rw [show r.2 = ⟨r.2.coll, r.2.short, none⟩ by rw [hr0]; rfl]
    dsimp only [Res.ok_st]
    split_ifs
    · exact (key.wallet _).record _
    · exact key.record _

theorem liquidateBody_edit (hk : K vk) (hq : ∀ v q, AList.get? s.vaults vk = some v → v.nft = some q → Q q)
    (hok : (liquidateBody cx e s vk).err = none) : Edit K Q s (liquidateBody cx e s vk).st :=
  liquidateBody_pres hok (reduceDebtBody_edit hk hq) (fun _ _ _ ht hg => ht.trans (.amounts _ _ hk hg)) (fun _ _ ht _ => liquidateInner_edit hk ht)

theorem liquidateOp_edit (cx : NumCtx) (e : Env) (s : State) (k : Nat) (hk : K k)
    (hq : ∀ v q, AList.get? s.vaults k = some v → v.nft = some q → Q q) : Edit K Q s (liquidateOp cx e s k).st :=
  atomic_pres (.refl s) (liquidateBody_edit hk hq)

theorem uniRemoveOp_edit (cx : NumCtx) (e : Env) (s : State) (pos : PosKey) (hq : Q pos) : Edit K Q s (uniRemoveOp cx e s pos).st :=
  uniRemoveOp_pres cx e s pos (.refl s) (uniRedeem_edit cx e s pos true hq)

theorem trade_edit (cx : NumCtx) (e : Env) (s : State) (op : Op) (hop : op.isTrade = true) : Edit K Q s (step cx e s op).st := by
  rcases tradeOp_cases cx e s op hop with ⟨er, hr⟩ | ⟨r, _, hr⟩ <;> rw [hr]
  · exact .refl s
  · unfold fromUni
    cases r.1 <;> exact .ledger s _ _

abbrev AnyKey {α : Type} : α → Prop := fun _ => True

theorem stepBody_edit (cx : NumCtx) (e : Env) (s : State) (op : Op)
    (hok : op.isAtomic = true → (stepBody cx e s op).err = none) : Edit AnyKey AnyKey s (stepBody cx e s op).st := by
  have T : ∀ {α : Type} {a : α}, AnyKey a := trivial
  cases op with
  | openMint d m vk pos =>
    refine openBody_pres (hok rfl) ?_ (fun _ => mintBody_edit T) (fun _ => depositBody_edit T) (fun _ _ => depositUniBody_edit T T)
    cases vk with
    | some k => exact .refl s
    | none => exact .fresh s T
  | deposit vk eth => exact depositBody_edit T (.refl s) (hok rfl)
  | depositUni vk pos => exact depositUniBody_edit T T (.refl s) (hok rfl)
  | withdrawUni vk pos => exact withdrawUniBody_edit T T (hok rfl)
  | burnWithdraw vk b w => exact burnWithdrawBody_pres (hok rfl) (burnBody_edit T (.refl s)) (fun _ ht _ => withdrawCollBody_edit T ht)
  | liquidate vk => exact liquidateBody_edit T (fun _ _ _ _ => T) (hok rfl)
  | update =>
    exact updateGo_pres _ cx e _ (fun t k _ _ _ ht => ht.trans (liquidateOp_edit cx e t k T fun _ _ _ _ => T)) s (.refl s)
  | reduceDebt vk pb => exact reduceDebtBody_edit T (fun _ _ _ _ => T) (hok rfl)
  | uniRemove pos => exact uniRemoveOp_edit cx e s pos T
  | buy o q => exact trade_edit cx e s (.buy o q) rfl
  | sell o q => exact trade_edit cx e s (.sell o q) rfl

theorem step_edit (cx : NumCtx) (e : Env) (s : State) (op : Op) : Edit AnyKey AnyKey s (step cx e s op).st :=
  step_pres (.refl s) (stepBody_edit cx e s op)

theorem Edit.dict (h : Edit K Q s s') : Dict s → Dict s' := by
  induction h with
  | refl s => exact id
  | trans _ _ ih1 ih2 => exact ih2 ∘ ih1
  | amounts c sh _ hv => exact fun h => h.setVault _ _
  | ledger s w l => exact id
  | fresh s _ => exact fun h => h.setVault _ _
  | repos p' _ hp ht => exact fun h => h.setPos _ _
  | drop _ hp ht => exact fun h => ⟨h.1, AList.nodup_keys_erase _ _ h.2⟩
  | lend _ _ hv hn hp ht => exact fun h => (h.setVault _ _).setPos _ _
  | release _ _ hv hn hp ht => exact fun h => (h.setVault _ _).setPos _ _

end Squeeth
end Demeter
