/-
  For the GMX proofs (C17, C01/C03/C04 GMX parts): `quantize(…, ROUND_DOWN)` of a non-negative number is the floor
  (`int()` likewise: `truncInt_eq_floor` of Lemmas/Num).
-/
import Demeter.GmxV1
import Demeter.GmxV2
import Proofs.Lemmas.Exact
import Proofs.Lemmas.Except
import Proofs.Lemmas.Num
import Proofs.Lemmas.Run
import Mathlib.Tactic.Linarith
import Mathlib.Algebra.Order.Field.Rat
import Mathlib.Data.Rat.Cast.Order
import Mathlib.Data.Rat.Floor
namespace Demeter.Gmx
open Demeter

theorem quantDown0_eq_floor {x : Rat} (hx : 0 ≤ x) : quantDown 0 x = ((⌊x⌋ : Int) : Rat) := by
  have hn : 0 ≤ x.num := Rat.num_nonneg.mpr hx
  unfold quantDown pow10
  simp only [pow_zero, Nat.mul_one, not_lt.mpr hn, if_false]
  rw [Rat.floor_def', Rat.mkRat_one, Int.natAbs_of_nonneg hn]

theorem quantDown0_le {x : Rat} (hx : 0 ≤ x) : quantDown 0 x ≤ x := by
  rw [quantDown0_eq_floor hx]; exact Int.floor_le x

theorem quantDown0_gt {x : Rat} (hx : 0 ≤ x) : x < quantDown 0 x + 1 := by
  rw [quantDown0_eq_floor hx]; exact Int.lt_floor_add_one x

theorem quantDown0_nonneg {x : Rat} (hx : 0 ≤ x) : 0 ≤ quantDown 0 x := by
  rw [quantDown0_eq_floor hx]; exact_mod_cast Int.floor_nonneg.mpr hx

theorem quantDown0_scaled_gt {x k : Rat} (hx : 0 ≤ x) (hk : 0 ≤ k) : x * k < quantDown 0 (quantDown 0 x * k) + k + 1 := by
  have h1 := mul_le_mul_of_nonneg_right (quantDown0_gt hx).le hk
  have h2 := quantDown0_gt (mul_nonneg (quantDown0_nonneg hx) hk)
  linarith

theorem quantDown0_mono {x y : Rat} (hx : 0 ≤ x) (hxy : x ≤ y) : quantDown 0 x ≤ quantDown 0 y := by
  rw [quantDown0_eq_floor hx, quantDown0_eq_floor (le_trans hx hxy)]; exact_mod_cast Int.floor_mono hxy

theorem bind_err {ε α β : Type} {x : Except ε α} {f : α → Except ε β} {e : ε} :
    (x >>= f) = .error e ↔ x = .error e ∨ ∃ a, x = .ok a ∧ f a = .error e :=
  Exc.bind_err

end Demeter.Gmx
