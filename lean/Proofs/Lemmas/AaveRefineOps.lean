/-
  List-level facts that relate the state machine's dict updates (`AList.set`, `AList.erase`
  on `_supplies` / `_borrows`) to the risk model's entry updates (`setDebtBase`, `putSupplyBase`, `addDebt`, …)
  under the projection `projSup` / `projBor`; and `Sim`, the relation in which the accept/refuse simulation of a user call
  is stated and walked check by check (`Sim.require`).
-/
import Proofs.Lemmas.AaveRefine
namespace Demeter.Aave
open Demeter M

variable {cx : ACtx} {env : Env}

theorem toX_gtR (h : AaveRisk.XRat) (c : Rat) : (toX h).gtR c = h.gtB c := by
  cases h <;> simp [toX, XRat.gtR, AaveRisk.XRat.gtB]

theorem toX_ltR (h : AaveRisk.XRat) (c : Rat) : (toX h).ltR c = h.ltB c := by
  cases h <;> simp [toX, XRat.ltR, AaveRisk.XRat.ltB]

/-! the two components extract the same constants from the source -/
theorem hfThreshold_eq : Gen.aaveHfThreshold = Gen.arHfLiqThreshold := by decide +kernel
theorem closeFactorHf_eq : Gen.aaveCloseFactorHf = Gen.arCloseFactorHfThreshold := by decide +kernel
theorem closeFactorDefault_eq : Gen.aaveCloseFactorDefault = Gen.arDefaultCloseFactor := by decide +kernel
theorem closeFactorMax_eq : Gen.aaveCloseFactorMax = Gen.arMaxCloseFactor := by decide +kernel
theorem minTokenValue_eq : Gen.aaveMinTokenValue = Gen.arMinTokenValue := by decide +kernel

def errOfCause : AaveRisk.Cause → Err
  | .invalidAmount => .zeroAmount
  | .borrowDisabled => .borrowDisabled
  | .noCollateral => .collZero
  | .ltvZero => .ltvZero
  | .hfLow => .hfLow
  | .notCovered => .cannotCover
  | .overBalance => .exceedBalance
  | .hfLowAfter => .hfLow
  | .notSupplied => .keySupply
  | .cannotCollateral => .cannotCollateral
  | .arith => .divZero

/-- `Cause.exc` is what the harness compares with the implementation -/
theorem errOfCause_cls (c : AaveRisk.Cause) : (errOfCause c).cls = c.exc.name := by
  cases c <;> rfl

theorem map_set_new {α β : Type} (g : String × α → β) (m : AList String α) (tok : String) (v : α) (h : AList.get? m tok = none) :
    (AList.set m tok v).map g = m.map g ++ [g (tok, v)] := by
  have hk : tok ∉ m.map (·.1) := fun hk => by
    obtain ⟨w, hw⟩ := AList.mem_keys_iff.mp hk
    rw [h] at hw; cases hw
  rw [AList.set_of_not_mem_keys hk, List.map_append]
  rfl

section proj
variable {α β : Type} (g : String × α → β) (key : β → String) (hkey : ∀ k v, key (g (k, v)) = k)
include hkey

theorem find_map_key (m : AList String α) (tok : String) :
    (m.map g).find? (fun b => decide (key b = tok)) = (AList.get? m tok).map (fun i => g (tok, i)) := by
  induction m with
  | nil => rfl
  | cons p rest ih =>
    obtain ⟨k, v⟩ := p
    unfold AList.get? at *
    rw [List.map_cons, List.find?_cons, List.find?_cons, hkey]
    by_cases h : k = tok
    · subst h; simp
    · simp only [h, decide_false]
      exact ih

theorem map_set_eq_updFirst (upd : β → β) (m : AList String α) (tok : String) {v v' : α}
    (h : AList.get? m tok = some v) (hv : g (tok, v') = upd (g (tok, v))) :
    (AList.set m tok v').map g = AaveRisk.updFirst (fun b => decide (key b = tok)) upd (m.map g) := by
  induction m with
  | nil => simp [AList.get?] at h
  | cons p rest ih =>
    obtain ⟨k, w⟩ := p
    rw [List.map_cons, AaveRisk.updFirst, hkey]
    by_cases hk : k = tok
    · subst hk
      have : w = v := by simpa [AList.get?] using h
      subst this
      simp [AList.set, hv]
    · have h' : AList.get? rest tok = some v := by
        simpa [AList.get?, List.find?_cons, hk] using h
      simp only [AList.set, hk, if_false, List.map_cons, decide_false, Bool.false_eq_true]
      congr 1
      exact ih h'

theorem map_erase_eq_eraseP (m : AList String α) (tok : String) (nd : (keys m).Nodup) :
    (AList.erase m tok).map g = (m.map g).eraseP (fun b => decide (key b = tok)) := by
  induction m with
  | nil => rfl
  | cons p rest ih =>
    obtain ⟨k, v⟩ := p
    obtain ⟨hnot, nd'⟩ : k ∉ keys rest ∧ (keys rest).Nodup := List.nodup_cons.mp nd
    unfold AList.erase at *
    rw [List.map_cons, List.eraseP_cons, hkey]
    by_cases hk : k = tok
    · subst hk
      simp only [List.filter_cons, ne_eq, not_true_eq_false, decide_false, Bool.false_eq_true, if_false,
        decide_true]
      congr 1
      apply List.filter_eq_self.mpr
      intro q hq
      have : q.1 ≠ k := fun e => hnot (e ▸ AList.mem_keys_of_mem hq)
      simp [this]
    · simp only [List.filter_cons, ne_eq, hk, not_false_eq_true, decide_true, if_true, List.map_cons,
        decide_false]
      congr 1
      exact ih nd'

end proj

theorem findDebt_proj (bor : AList String BorrowInfo) (tok : String) :
    AaveRisk.findDebt? (bor.map (projBor env)) tok = (AList.get? bor tok).map (fun i => projBor env (tok, i)) :=
  find_map_key (projBor env) AaveRisk.Debt.tok (fun _ _ => rfl) bor tok

theorem findSupply_proj (sup : AList String SupplyInfo) (tok : String) :
    AaveRisk.findSupply? (sup.map (projSup env)) tok = (AList.get? sup tok).map (fun i => projSup env (tok, i)) :=
  find_map_key (projSup env) AaveRisk.Supply.tok (fun _ _ => rfl) sup tok

theorem set_proj_debt (bor : AList String BorrowInfo) (tok : String) (info : BorrowInfo) (nb : Rat)
    (h : AList.get? bor tok = some info) :
    (AList.set bor tok { info with base := nb }).map (projBor env) =
      AaveRisk.setDebtBase (bor.map (projBor env)) tok nb :=
  map_set_eq_updFirst (projBor env) AaveRisk.Debt.tok (fun _ _ => rfl) _ bor tok h rfl

theorem borrowEntry_proj (bor : AList String BorrowInfo) (tok : String) (base idx : Rat) :
    (AList.set bor tok (borrowEntry cx (AList.get? bor tok) base idx)).map (projBor env) =
      AaveRisk.addDebt cx.toNumCtx (bor.map (projBor env)) tok (rowOf env tok) base := by
  unfold AaveRisk.addDebt
  rw [findDebt_proj]
  cases h : AList.get? bor tok with
  | none =>
    simp only [Option.map_none, borrowEntry]
    rw [map_set_new (projBor env) bor tok _ h]
    rfl
  | some info =>
    simp only [Option.map_some, borrowEntry]
    exact set_proj_debt bor tok info _ h

theorem set_proj_supply_base (sup : AList String SupplyInfo) (tok : String) (info : SupplyInfo) (nb : Rat)
    (h : AList.get? sup tok = some info) :
    (AList.set sup tok { info with base := nb }).map (projSup env) =
      AaveRisk.setSupplyBase (sup.map (projSup env)) tok nb :=
  map_set_eq_updFirst (projSup env) AaveRisk.Supply.tok (fun _ _ => rfl) _ sup tok h rfl

theorem set_proj_supply_coll (sup : AList String SupplyInfo) (tok : String) (info : SupplyInfo) (c : Bool)
    (h : AList.get? sup tok = some info) :
    (AList.set sup tok { info with coll := c }).map (projSup env) =
      AaveRisk.setSupplyColl (sup.map (projSup env)) tok c :=
  map_set_eq_updFirst (projSup env) AaveRisk.Supply.tok (fun _ _ => rfl) _ sup tok h rfl

theorem erase_proj_supply (sup : AList String SupplyInfo) (tok : String) (nd : (keys sup).Nodup) :
    (AList.erase sup tok).map (projSup env) = AaveRisk.delSupply (sup.map (projSup env)) tok :=
  map_erase_eq_eraseP (projSup env) AaveRisk.Supply.tok (fun _ _ => rfl) sup tok nd

theorem erase_proj_debt (bor : AList String BorrowInfo) (tok : String) (nd : (keys bor).Nodup) :
    (AList.erase bor tok).map (projBor env) = AaveRisk.delDebt (bor.map (projBor env)) tok :=
  map_erase_eq_eraseP (projBor env) AaveRisk.Debt.tok (fun _ _ => rfl) bor tok nd

/-- `base_amount = nb; if nb == 0: del` -/
theorem put_proj_supply (sup : AList String SupplyInfo) (tok : String) (info : SupplyInfo) (nb : Rat)
    (h : AList.get? sup tok = some info) (nd : (keys sup).Nodup) :
    (if nb = 0 then AList.erase sup tok else AList.set sup tok { info with base := nb }).map (projSup env) =
      AaveRisk.putSupplyBase (sup.map (projSup env)) tok nb := by
  unfold AaveRisk.putSupplyBase
  split
  · exact erase_proj_supply sup tok nd
  · exact set_proj_supply_base sup tok info nb h

theorem put_proj_debt (bor : AList String BorrowInfo) (tok : String) (info : BorrowInfo) (nb : Rat)
    (h : AList.get? bor tok = some info) (nd : (keys bor).Nodup) :
    (if nb = 0 then AList.erase bor tok else AList.set bor tok { info with base := nb }).map (projBor env) =
      AaveRisk.putDebtBase (bor.map (projBor env)) tok nb := by
  unfold AaveRisk.putDebtBase
  split
  · exact erase_proj_debt bor tok nd
  · exact set_proj_debt bor tok info nb h

theorem subBase_eq (old v : Rat) : subBase cx old v = AaveRisk.subBase cx.toNumCtx old v := by
  unfold subBase AaveRisk.subBase
  rw [minTokenValue_eq]

theorem proj_of_frame {s t : St} (h : t.frame = s.frame) : proj env t = proj env s := by
  unfold proj; rw [supplies_of_frame h, borrows_of_frame h]

theorem findSupply_proj_get {s : St} {tok : String} {info : SupplyInfo} (hg : AList.get? s.supplies tok = some info) :
    AaveRisk.findSupply? (proj env s).supplies tok = some (projSup env (tok, info)) := by
  rw [proj_supplies, findSupply_proj, hg]; rfl

theorem findSupply_proj_inv {s : St} {tok : String} {sp : AaveRisk.Supply}
    (h : AaveRisk.findSupply? (proj env s).supplies tok = some sp) :
    ∃ info, AList.get? s.supplies tok = some info ∧ sp = projSup env (tok, info) := by
  rw [proj_supplies, findSupply_proj, Option.map_eq_some_iff] at h
  obtain ⟨info, hg, rfl⟩ := h
  exact ⟨info, hg, rfl⟩

theorem get_of_mem_supplies_proj {s : St} (nd : (keys s.supplies).Nodup) {c : AaveRisk.Supply} (h : c ∈ (proj env s).supplies) :
    ∃ cinfo, AList.get? s.supplies c.tok = some cinfo ∧ c = projSup env (c.tok, cinfo) := by
  obtain ⟨⟨k, i⟩, hm, rfl⟩ := List.mem_map.mp h
  exact ⟨i, AList.get?_of_mem nd hm, rfl⟩

theorem mem_debts_proj {s : St} {d : AaveRisk.Debt} (h : d ∈ (proj env s).debts) : ∃ p ∈ s.borrows, projBor env p = d :=
  List.mem_map.mp h

theorem get_of_mem_debts_proj {s : St} (nd : (keys s.borrows).Nodup) {d : AaveRisk.Debt} (h : d ∈ (proj env s).debts) :
    ∃ dinfo, AList.get? s.borrows d.tok = some dinfo ∧ d = projBor env (d.tok, dinfo) := by
  obtain ⟨⟨k, i⟩, hm, rfl⟩ := mem_debts_proj h
  exact ⟨i, AList.get?_of_mem nd hm, rfl⟩

theorem findDebt_proj_get {s : St} {tok : String} {info : BorrowInfo} (hg : AList.get? s.borrows tok = some info) :
    AaveRisk.findDebt? (proj env s).debts tok = some (projBor env (tok, info)) := by
  rw [proj_debts, findDebt_proj, hg]; rfl

theorem divX_toX_some {a b : Rat} (hb : b ≠ 0) : divX cx a (toX (some b)) = .ok (cx.div a b) := by
  simp only [toX, divX, divE, if_neg hb]

def Sim {α : Type} (s : St) (P : α → St → Prop) (r : Except AaveRisk.Cause α) (out : Res Unit × St) : Prop :=
  match r with
  | .ok a => out.1 = .ok () ∧ P a out.2
  | .error c => out.1 = .error (errOfCause c) ∧ out.2.frame = s.frame

section sim
variable {α : Type} {s : St} {P : α → St → Prop}

theorem Sim.accept {a : α} {out : Res Unit × St} {s1 : St} (h : out = (.ok (), s1)) (hp : P a s1) : Sim s P (.ok a) out := by
  subst h; exact ⟨rfl, hp⟩

theorem Sim.refuse {c : AaveRisk.Cause} {out : Res Unit × St} {s1 : St} (h : out = (.error (errOfCause c), s1))
    (hfr : s1.frame = s.frame) : Sim s P (.error c) out := by
  subst h; exact ⟨rfl, hfr⟩

theorem Sim.ok_inv {r : Except AaveRisk.Cause α} {out : Res Unit × St} (h : Sim s P r out) {s' : St}
    (ho : out = (.ok (), s')) : ∃ a, r = .ok a ∧ P a s' := by
  subst ho
  cases r with
  | ok a => exact ⟨a, rfl, h.2⟩
  | error c => cases h.1

theorem Sim.refused {r : Except AaveRisk.Cause α} {out : Res Unit × St} (h : Sim s P r out) {c : AaveRisk.Cause}
    (hr : r = .error c) : ∃ s', out = (.error (errOfCause c), s') ∧ s'.frame = s.frame := by
  subst hr; exact ⟨out.2, Prod.ext h.1 rfl, h.2⟩

/-- one check in lockstep: the risk model's `if c then refuse` against the state machine's `require` of the negation -/
theorem Sim.require {c : Prop} [Decidable c] {cause : AaveRisk.Cause} {rest : Except AaveRisk.Cause α} {b : Bool}
    {f : Unit → M Unit} {s1 : St} (hfr : s1.frame = s.frame) (hb : b = true ↔ ¬ c)
    (h : ¬ c → Sim s P rest (f () s1)) :
    Sim s P (if c then .error cause else rest) ((M.require b (errOfCause cause) >>= f) s1) := by
  by_cases hc : c
  · rw [if_pos hc]
    exact Sim.refuse (run_bind_require_false (Bool.eq_false_iff.mpr (fun hb' => hb.mp hb' hc)) _ _ _) hfr
  · rw [if_neg hc, run_bind_require_true (hb.mpr hc)]
    exact h hc

end sim

end Demeter.Aave

namespace Demeter
def Aave.actionOf (a : AaveRisk.LiqAction) : Action :=
  .liquidation a.collTok a.debtTok a.toCover a.collUsed a.debtRepaid (toX a.hfBefore) (toX a.hfAfter) a.collAfter a.debtAfter
end Demeter
