/-
  The long side of the Squeeth market (`buy_squeeth` / `sell_squeeth` = the oSQTH/WETH pool's `buy` / `sell` on the pool's view of the
  state).  Frame: vaults, positions and the id counter are never touched.  Atomicity, `step_rejected`: a rejected call, vault
  operation or trade, is `.fail` with the state it was given; for trades this comes from the pool model's own atomicity lemmas.
-/
import Proofs.Lemmas.Squeeth
import Proofs.Lemmas.UniAtomic
import Mathlib.Algebra.Order.Field.Rat
namespace Demeter
namespace Squeeth
open Gen

theorem fromUni_frame (s : State) (r : Uni.Res) :
    (fromUni s r).st.vaults = s.vaults ∧ (fromUni s r).st.positions = s.positions ∧ (fromUni s r).st.maxId = s.maxId := by
  unfold fromUni
  cases r.1 <;> exact ⟨rfl, rfl, rfl⟩

theorem fromUni_fail {e : Env} {s : State} {r : Uni.Res} (ha : Uni.Atomic r (uniView e s)) (h : (fromUni s r).err ≠ none) :
    ∃ er, fromUni s r = .fail er s := by
  unfold fromUni at h ⊢
  cases hr : r.1 with
  | ok v => simp [hr] at h
  | error er => exact ⟨.uni er, by simp only [ha.noop hr, uniView, List.map_nil, List.append_nil]⟩

theorem tradeOp_cases (cx : NumCtx) (e : Env) (s : State) (op : Op) (hop : op.isTrade = true) :
    (∃ er, step cx e s op = .fail er s) ∨
    ∃ r, Uni.Atomic r (uniView e s) ∧ step cx e s op = fromUni s r := by
  cases op with
  | buy o q =>
    show (∃ er, buySqueethOp cx e s o q = .fail er s) ∨ ∃ r, Uni.Atomic r (uniView e s) ∧ buySqueethOp cx e s o q = fromUni s r
    unfold buySqueethOp
    split
    · exact Or.inl ⟨_, rfl⟩
    · exact Or.inl ⟨_, rfl⟩
    · exact Or.inr ⟨_, Uni.buy_atomic .., rfl⟩
  | sell o q =>
    show (∃ er, sellSqueethOp cx e s o q = .fail er s) ∨ ∃ r, Uni.Atomic r (uniView e s) ∧ sellSqueethOp cx e s o q = fromUni s r
    unfold sellSqueethOp
    split
    · exact Or.inl ⟨_, rfl⟩
    · exact Or.inl ⟨_, rfl⟩
    · exact Or.inr ⟨_, Uni.sell_atomic .., rfl⟩
  | _ => simp [Op.isTrade] at hop

theorem trade_frame (cx : NumCtx) (e : Env) (s : State) (op : Op) (hop : op.isTrade = true) :
    (step cx e s op).st.vaults = s.vaults ∧ (step cx e s op).st.positions = s.positions ∧ (step cx e s op).st.maxId = s.maxId := by
  rcases tradeOp_cases cx e s op hop with ⟨er, hr⟩ | ⟨r, _, hr⟩ <;> rw [hr]
  · exact ⟨rfl, rfl, rfl⟩
  · exact fromUni_frame s r

theorem step_rejected {cx : NumCtx} {e : Env} {s : State} {op : Op} (hop : op.isAtomic = true ∨ op.isTrade = true)
    (h : (step cx e s op).err ≠ none) : ∃ er, step cx e s op = .fail er s := by
  rcases hop with hop | hop
  · unfold step at h ⊢
    rw [if_pos hop] at h ⊢
    exact atomic_fail h
  · rcases tradeOp_cases cx e s op hop with ⟨er, hr⟩ | ⟨r, ha, hr⟩
    · exact ⟨er, hr⟩
    · rw [hr] at h ⊢
      exact fromUni_fail ha h

theorem longPool_base (e : Env) : (longPool e).baseTok = sqOsqthName := rfl
theorem longPool_quote (e : Env) : (longPool e).quoteTok = sqWethName := rfl
theorem longKern_cx (cx : NumCtx) : (longKern cx).cx = cx := rfl
theorem longPool_fee (e : Env) : (longPool e).feeRate = e.uniFee := rfl

/-- the price `swap` settles at when `buy` hands it the reciprocal of the pool's price (`price if price else market price`: a zero
    price is replaced by the reciprocal of the market price, which is the same number) -/
theorem swapPrice_long_buy (cx : NumCtx) (e : Env) (s : State) (hp : e.uniPrice ≠ 0) :
    Uni.swapPrice (longKern cx) (longPool e) (uniView e s) sqWethName (Uni.givenPrice (some (cx.div 1 e.uniPrice))) =
      .ok (cx.div 1 e.uniPrice) := by
  have hwo : (sqWethName == sqOsqthName) = false := by decide
  by_cases h : cx.div 1 e.uniPrice = 0 <;>
    simp [Uni.givenPrice, Uni.swapPrice, Uni.priceOf, uniView, longPool_base, longKern_cx, hwo, h, hp]

theorem swapPrice_long_sell (cx : NumCtx) (e : Env) (s : State) :
    Uni.swapPrice (longKern cx) (longPool e) (uniView e s) sqOsqthName (Uni.givenPrice (some e.uniPrice)) = .ok e.uniPrice := by
  by_cases h : e.uniPrice = 0 <;> simp [Uni.givenPrice, Uni.swapPrice, Uni.priceOf, uniView, longPool_base, h]

/-- what `buy` and `sell` share once amount and price are settled -/
theorem longSwap_ok {cx : NumCtx} {e : Env} {s : State} {amt p price : Rat} {f t : String}
    (hft : (f = sqWethName ∧ t = sqOsqthName) ∨ (f = sqOsqthName ∧ t = sqWethName))
    (hpr : Uni.swapPrice (longKern cx) (longPool e) (uniView e s) f (Uni.givenPrice (some p)) = .ok price)
    (out : Rat → Rat → List Rat) (act : Rat → Rat → Rat → Rat → Uni.Act) {r : Uni.Res}
    (hr : r = match Uni.swap (longKern cx) (longPool e) (uniView e s) amt f t (some p) false with
      | (.error er, s') => (.error er, s')
      | (.ok (fee, got), s') =>
        match Uni.balanceOf s'.wallet sqOsqthName, Uni.balanceOf s'.wallet sqWethName with
        | .ok bb, .ok qb => (.ok (out fee got), Uni.record s' (act bb qb fee got))
        | .error er, _ => (.error er, s')
        | _, .error er => (.error er, s'))
    (h : (fromUni s r).err = none) :
    0 ≤ amt ∧ ∃ w1 bb qb, Wallet.debit cx s.wallet f amt false = .ok w1 ∧
      (fromUni s r).st.wallet = Wallet.credit cx w1 t (cx.mul (cx.sub amt (cx.mul amt e.uniFee)) price) ∧
      (fromUni s r).out = out (cx.mul amt e.uniFee) (cx.mul (cx.sub amt (cx.mul amt e.uniFee)) price) ∧
      (fromUni s r).st.log = s.log ++ [.uniTrade
        (act bb qb (cx.mul amt e.uniFee) (cx.mul (cx.sub amt (cx.mul amt e.uniFee)) price)).kind
        (act bb qb (cx.mul amt e.uniFee) (cx.mul (cx.sub amt (cx.mul amt e.uniFee)) price)).nums] := by
  rcases Uni.swap_cases (longKern cx) (longPool e) (uniView e s) amt f t (some p) false with
    ⟨er, hs⟩ | ⟨_, w1, _, _, _, ha, hp', hd, hs⟩
  · rw [hr, hs] at h; cases h
  · obtain ⟨⟩ := hpr.symm.trans hp'
    subst hr
    simp only [hs, Bool.false_eq_true, if_false, longKern_cx, longPool_fee]
    generalize cx.mul (cx.sub amt (cx.mul amt e.uniFee)) price = got
    have hf : Uni.Has (Wallet.credit cx w1 t got) f := Uni.has_credit _ _ _ _ _ (Or.inl (Uni.has_debit hd _ (Or.inr rfl)))
    have ht : Uni.Has (Wallet.credit cx w1 t got) t := Uni.has_credit _ _ _ _ _ (Or.inr rfl)
    obtain ⟨⟨bb, hbb⟩, ⟨qb, hqb⟩⟩ : (∃ bb, Uni.balanceOf (Wallet.credit cx w1 t got) sqOsqthName = .ok bb) ∧
        ∃ qb, Uni.balanceOf (Wallet.credit cx w1 t got) sqWethName = .ok qb := by
      rcases hft with ⟨rfl, rfl⟩ | ⟨rfl, rfl⟩
      · exact ⟨Uni.balanceOf_of_has ht, Uni.balanceOf_of_has hf⟩
      · exact ⟨Uni.balanceOf_of_has hf, Uni.balanceOf_of_has ht⟩
    rw [hbb, hqb]
    exact ⟨ha, w1, bb, qb, Uni.debit_ok hd, rfl, rfl, by simp [fromUni, Uni.record, uniView]⟩

/-- the WETH a `buy_squeeth` of `a` oSQTH takes from the wallet: amount × pool price, grossed up by the fee -/
def buyCost (e : Env) (a : Rat) : Rat := a * e.uniPrice / (1 - e.uniFee)

theorem buy_ok_exact (e : Env) (s : State) (o q : Option Rat) (h : (buySqueethOp NumCtx.exact e s o q).err = none) :
    ∃ a, longAmount NumCtx.exact e o q = .ok (some a) ∧
      ((a = 0 ∧ buySqueethOp NumCtx.exact e s o q = .ok s [0, 0, 0]) ∨
       (a ≠ 0 ∧ e.uniPrice ≠ 0 ∧ 1 - e.uniFee ≠ 0 ∧ 0 ≤ buyCost e a ∧
        ∃ w1 bb qb, Wallet.debit NumCtx.exact s.wallet sqWethName (buyCost e a) false = .ok w1 ∧
          (buySqueethOp NumCtx.exact e s o q).st.wallet =
            Wallet.credit NumCtx.exact w1 sqOsqthName ((buyCost e a - buyCost e a * e.uniFee) * (1 / e.uniPrice)) ∧
          (buySqueethOp NumCtx.exact e s o q).out =
            [buyCost e a * e.uniFee, buyCost e a, (buyCost e a - buyCost e a * e.uniFee) * (1 / e.uniPrice)] ∧
          (buySqueethOp NumCtx.exact e s o q).st.log = s.log ++ [.uniTrade "BuyAction"
            [bb, qb, a, e.uniPrice, buyCost e a * e.uniFee, (buyCost e a - buyCost e a * e.uniFee) * (1 / e.uniPrice), buyCost e a]])) := by
  unfold buySqueethOp at h ⊢
  cases hl : longAmount NumCtx.exact e o q with
  | error er => simp [hl] at h
  | ok oa =>
    cases oa with
    | none => simp [hl] at h
    | some a =>
      refine ⟨a, rfl, ?_⟩
      simp only [hl] at h ⊢
      by_cases ha : a = 0
      · left
        refine ⟨ha, ?_⟩
        subst ha
        simp [Uni.buy, fromUni, uniView, Res.ok]
      · right
        have hmp : Uni.orMarketPrice (uniView e s) (Uni.givenPrice none) = .ok e.uniPrice := rfl
        simp only [Uni.buy, ha, if_false, hmp, longKern_cx,
          NumCtx.exact_sub, NumCtx.exact_mul, NumCtx.exact_div, longPool_base, longPool_quote, longPool_fee] at h ⊢
        by_cases hf : 1 - e.uniFee = 0
        · simp [hf, fromUni, Uni.fail] at h
        · by_cases hp : e.uniPrice = 0
          · simp [hf, hp, fromUni, Uni.fail] at h
          · simp only [hf, hp, if_false] at h ⊢
            obtain ⟨hneg, w1, bb, qb, hw, hwal, hout, hlog⟩ := longSwap_ok (Or.inl ⟨rfl, rfl⟩) (swapPrice_long_buy _ e s hp)
              (fun fee got => [fee, buyCost e a, got])
              (fun bb qb fee got => { kind := "BuyAction", nums := [bb, qb, a, e.uniPrice, fee, got, buyCost e a] }) rfl h
            exact ⟨ha, hp, hf, hneg, w1, bb, qb, hw, hwal, hout, hlog⟩

theorem sell_ok_exact (e : Env) (s : State) (o q : Option Rat) (h : (sellSqueethOp NumCtx.exact e s o q).err = none) :
    ∃ a, longAmount NumCtx.exact e o q = .ok (some a) ∧
      ((a = 0 ∧ sellSqueethOp NumCtx.exact e s o q = .ok s [0, 0, 0]) ∨
       (a ≠ 0 ∧ 0 ≤ a ∧
        ∃ w1 bb qb, Wallet.debit NumCtx.exact s.wallet sqOsqthName a false = .ok w1 ∧
          (sellSqueethOp NumCtx.exact e s o q).st.wallet = Wallet.credit NumCtx.exact w1 sqWethName ((a - a * e.uniFee) * e.uniPrice) ∧
          (sellSqueethOp NumCtx.exact e s o q).out = [a * e.uniFee, a, (a - a * e.uniFee) * e.uniPrice] ∧
          (sellSqueethOp NumCtx.exact e s o q).st.log = s.log ++ [.uniTrade "SellAction"
            [bb, qb, a, e.uniPrice, a * e.uniFee, a, (a - a * e.uniFee) * e.uniPrice]])) := by
  unfold sellSqueethOp at h ⊢
  cases hl : longAmount NumCtx.exact e o q with
  | error er => simp [hl] at h
  | ok oa =>
    cases oa with
    | none => simp [hl] at h
    | some a =>
      refine ⟨a, rfl, ?_⟩
      simp only [hl] at h ⊢
      by_cases ha : a = 0
      · left
        refine ⟨ha, ?_⟩
        subst ha
        simp [Uni.sell, fromUni, uniView, Res.ok]
      · right
        have hmp : Uni.orMarketPrice (uniView e s) (Uni.givenPrice none) = .ok e.uniPrice := rfl
        simp only [Uni.sell, ha, if_false, hmp, longPool_base, longPool_quote] at h ⊢
        obtain ⟨hneg, w1, bb, qb, hw, hwal, hout, hlog⟩ := longSwap_ok (Or.inr ⟨rfl, rfl⟩) (swapPrice_long_sell _ e s)
          (fun fee got => [fee, a, got])
          (fun bb qb fee got => { kind := "SellAction", nums := [bb, qb, a, e.uniPrice, fee, a, got] }) rfl h
        exact ⟨ha, hneg, w1, bb, qb, hw, hwal, hout, hlog⟩

theorem trade_ok_exact (e : Env) (s : State) (op : Op) (hop : op.isTrade = true) (h : (step NumCtx.exact e s op).err = none) :
    step NumCtx.exact e s op = .ok s [0, 0, 0] ∨
    ∃ f t amt price w1,
      (((∃ o q, op = .buy o q) ∧ f = sqWethName ∧ t = sqOsqthName ∧ price * e.uniPrice = 1) ∨
       ((∃ o q, op = .sell o q) ∧ f = sqOsqthName ∧ t = sqWethName ∧ price = e.uniPrice)) ∧
      0 ≤ amt ∧ Wallet.debit NumCtx.exact s.wallet f amt false = .ok w1 ∧
      (step NumCtx.exact e s op).st.wallet = Wallet.credit NumCtx.exact w1 t ((amt - amt * e.uniFee) * price) ∧
      (step NumCtx.exact e s op).out = [amt * e.uniFee, amt, (amt - amt * e.uniFee) * price] := by
  cases op with
  | buy o q =>
    obtain ⟨a, _, h0 | ⟨_, hp, _, hc, w1, _, _, hd, hw, hout, _⟩⟩ := buy_ok_exact e s o q h
    · exact Or.inl h0.2
    · exact Or.inr ⟨_, _, _, _, w1, Or.inl ⟨⟨o, q, rfl⟩, rfl, rfl, one_div_mul_cancel hp⟩, hc, hd, hw, hout⟩
  | sell o q =>
    obtain ⟨a, _, h0 | ⟨_, ha0, w1, _, _, hd, hw, hout, _⟩⟩ := sell_ok_exact e s o q h
    · exact Or.inl h0.2
    · exact Or.inr ⟨_, _, _, _, w1, Or.inr ⟨⟨o, q, rfl⟩, rfl, rfl, rfl⟩, ha0, hd, hw, hout⟩
  | _ => simp [Op.isTrade] at hop

theorem trade_keeps_entries (e : Env) (s : State) (op : Op) (hop : op.isTrade = true) (tok : String)
    (hl : Uni.Has s.wallet tok) : Uni.Has (step NumCtx.exact e s op).st.wallet tok := by
  by_cases herr : (step NumCtx.exact e s op).err = none
  · rcases trade_ok_exact e s op hop herr with h0 | ⟨f, t, amt, price, w1, _, _, hd, hw, _⟩
    · rw [h0]; exact hl
    · obtain ⟨_, b', _, _, rfl⟩ := Wallet.debit_false_ok hd
      rw [hw]
      exact Uni.has_credit _ _ _ _ _ (Or.inl (Uni.has_set _ _ _ b' (Or.inl hl)))
  · obtain ⟨_, hr⟩ := step_rejected (.inr hop) herr
    rw [hr]; exact hl

end Squeeth
end Demeter
