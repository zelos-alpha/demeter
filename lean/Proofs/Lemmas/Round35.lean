/-
  Digit counts under `roundSig`: `ilog10` / `ndigits` are exact on the magnitude range `n.log2 < 150000`
  (i.e. `n < 2^150000 ≈ 10^45154`), and `ilog10 n` is the only `k` with `10^k ≤ n < 10^(k+1)` (`ilog10_eq_of_bounds`).

  `ilog10 n` estimates `⌊log10 n⌋` by `k = n.log2 * 1233 / 4096` and corrects upward by at most one.  That is right
  exactly when `10^k ≤ n < 10^(k+2)`.  The lower bound holds for every `n` because `1233/4096 < log10 2`
  (`10^1233 ≤ 2^4096`); the upper bound needs `(L+1)·log10 2 < ⌊1233·L/4096⌋ + 2`, which first fails at
  `L = 152 233`, for `n = 10^45827` (the estimate drifts by `0.0000046` per bit).  We prove it for `L < 150000` from the
  convergent `12655/42039 > log10 2` (`2^42039 ≤ 10^12655`, checked by the kernel with GMP arithmetic) and `omega`.
-/
import Demeter.Num
import Mathlib.Tactic.Linarith
import Mathlib.Tactic.NormNum
namespace Demeter.Numerics
open Demeter
-- (the elaborator may evaluate the literal powers below while unifying; harmless, GMP arithmetic)
set_option exponentiation.threshold 200000

abbrev LOG2_BOUND : Nat := 150000

theorem exp_lt_of_pow_lt {a b u v e m : Nat} (hb : 1 < b) (hu : u ≠ 0) (hab : a ^ u ≤ b ^ v) (h : b ^ e < a ^ m) :
    e * u < v * m := by
  have h1 : (b ^ e) ^ u < (a ^ m) ^ u := Nat.pow_lt_pow_left h hu
  have h2 : (a ^ m) ^ u ≤ b ^ (v * m) := by
    rewrite [← Nat.pow_mul, Nat.mul_comm m, Nat.pow_mul, Nat.pow_mul]
    exact Nat.pow_le_pow_left hab m
  rw [← Nat.pow_mul] at h1
  exact (Nat.pow_lt_pow_iff_right hb).1 (Nat.lt_of_lt_of_le h1 h2)

/-- symbolic evaluation of `ilog10` from a known bit length (keeps `Nat.log2` of huge literals away from the kernel) -/
theorem ilog10_eval (n L : Nat) (hn : n ≠ 0) (hL : n.log2 = L) :
    ilog10 n = if 10 ^ (L * 1233 / 4096 + 1) ≤ n then L * 1233 / 4096 + 1 else L * 1233 / 4096 := by
  subst hL; unfold ilog10 pow10; rw [if_neg hn]

theorem ilog10_le (n : Nat) (hn : 0 < n) : 10 ^ ilog10 n ≤ n := by
  have h1 : 10 ^ (n.log2 * 1233 / 4096) ≤ n := by
    refine Nat.le_trans ?_ (Nat.log2_self_le (by omega))
    by_contra hc
    have := exp_lt_of_pow_lt (by decide) (by decide) (by decide +kernel : 10 ^ 1233 ≤ 2 ^ 4096) (Nat.lt_of_not_le hc)
    omega
  rw [ilog10_eval n _ (by omega) rfl]
  split
  · assumption
  · exact h1

theorem ilog10_spec (n : Nat) (hn : 0 < n) (hb : n.log2 < LOG2_BOUND) :
    10 ^ ilog10 n ≤ n ∧ n < 10 ^ (ilog10 n + 1) := by
  refine ⟨ilog10_le n hn, ?_⟩
  have h2 : n < 10 ^ (n.log2 * 1233 / 4096 + 2) := by
    refine Nat.lt_of_lt_of_le Nat.lt_log2_self ?_
    by_contra hc
    have := exp_lt_of_pow_lt (by decide) (by decide) (by decide +kernel : 2 ^ 42039 ≤ 10 ^ 12655) (Nat.lt_of_not_le hc)
    unfold LOG2_BOUND at hb
    omega
  rw [ilog10_eval n _ (by omega) rfl]
  split
  · exact h2
  · omega

theorem ilog10_eq_of_bounds (n k : Nat) (hb : n.log2 < LOG2_BOUND)
    (h1 : 10 ^ k ≤ n) (h2 : n < 10 ^ (k + 1)) : ilog10 n = k := by
  have hn : 0 < n := Nat.lt_of_lt_of_le (Nat.pow_pos (by decide)) h1
  obtain ⟨a, b⟩ := ilog10_spec n hn hb
  have c1 : 10 ^ k < 10 ^ (ilog10 n + 1) := Nat.lt_of_le_of_lt h1 b
  have c2 : 10 ^ ilog10 n < 10 ^ (k + 1) := Nat.lt_of_le_of_lt a h2
  have := (Nat.pow_lt_pow_iff_right (by decide : 1 < 10)).1 c1
  have := (Nat.pow_lt_pow_iff_right (by decide : 1 < 10)).1 c2
  omega

theorem ndigits_spec (n : Nat) (hn : 0 < n) (hb : n.log2 < LOG2_BOUND) :
    10 ^ (ndigits n - 1) ≤ n ∧ n < 10 ^ ndigits n := by
  simpa [ndigits] using ilog10_spec n hn hb

theorem ndigits_pos (n : Nat) : 0 < ndigits n := by unfold ndigits; omega

theorem two_pow_150000_digits : 10 ^ 45154 ≤ 2 ^ 150000 ∧ 2 ^ 150000 < 10 ^ 45155 := by decide +kernel

theorem log2_lt_iff (n : Nat) : n.log2 < LOG2_BOUND ↔ n < 2 ^ 150000 := by
  by_cases hn : n = 0
  · subst hn; simp [Nat.log2_zero]
  · exact Nat.log2_lt hn

theorem log2_lt_of_lt_ten_pow (n : Nat) (h : n < 10 ^ 45000) : n.log2 < LOG2_BOUND :=
  (log2_lt_iff n).2 (Nat.lt_of_lt_of_le h
    (Nat.le_trans (Nat.pow_le_pow_right (by decide) (by decide)) two_pow_150000_digits.1))

end Demeter.Numerics
