/-
  `Decimal ** 2` (`dpowNat 35 x 2`, the `sq` of `TickNum.py`) is two roundings: precision 38, then 35,
  hence `Within ε 2 2 x² (dpowNat 35 x 2)`, which unfolds to `Approx.sq`.
-/
import Proofs.Lemmas.Round35Ctx
namespace Demeter.Numerics
open Demeter

theorem dpowNat35_two (x : ℚ) : dpowNat 35 x 2 = roundSig 35 (roundSig 38 (x * x)) := by
  have h : ndigits 2 = 1 := by decide
  have hb : (2:ℕ).log2 = 1 := by decide
  unfold dpowNat
  simp only [h, hb, dpowNat.go]
  simp

theorem dpowNat35_two_bounds (x : ℚ) (h1 : (x * x).num.natAbs < 10 ^ 45000) (h2 : (x * x).den < 10 ^ 45000) :
    Within EPS35 2 2 (x * x) (dpowNat 35 x 2) := by
  rw [dpowNat35_two]
  have hy : 0 ≤ x * x := mul_self_nonneg x
  generalize x * x = y at *
  have hε1 := NumCtx.pyG_rounds.le_one
  -- rounded at 38 digits, then at 35: the first error is below the second
  have r1 : Within EPS35 1 1 y (roundSig 38 y) :=
    (Within.of_bounds (roundSig_bounds 38 hy (InRange_of_lt h1 h2))).mono_eps (epsP_pos 38).le
      (by unfold epsP EPS35; norm_num) hε1 hy
  have r2 : Within EPS35 1 1 (roundSig 38 y) (roundSig 35 (roundSig 38 y)) :=
    .of_bounds (round35_bounds (roundSig_nonneg 38 hy) (InRange_roundSig 38 (by decide) (by decide) y h1 h2))
  exact r1.trans EPS35_pos.le hε1 r2
end Demeter.Numerics
