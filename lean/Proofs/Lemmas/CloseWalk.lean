/-
  Soundness of the tree walk `closeWalk` of Proofs/Lemmas/ClosePred.lean: if the walk over `tbl` with budget `b` from the
  products `(r, l)` says yes, `closeLeaf` holds of `stepFold a tbl (r, l)` for every `a` whose masks selected from `tbl` add up
  to at most `b`.  Then: the first product is the model's Q128.128 ratio `tickRatio (−a)`.
-/
import Proofs.Lemmas.TickEnc
import Proofs.Lemmas.TickUnroll
namespace Demeter.TickClose
open Demeter Gen

theorem stepFold_append (a : Nat) : ∀ (t1 t2 : List (Nat × Nat × Nat)) (rl : Nat × Nat),
    stepFold a (t1 ++ t2) rl = stepFold a t2 (stepFold a t1 rl)
  | [], _, _ => rfl
  | _ :: t1, t2, _ => by simp only [List.cons_append, stepFold, stepFold_append a t1 t2]

theorem and_low (a m n : Nat) (h : m < 2 ^ n) : a &&& m = a % 2 ^ n &&& m := by
  have h1 : a &&& m < 2 ^ n := Nat.lt_of_le_of_lt Nat.and_le_right h
  rw [← Nat.mod_eq_of_lt h1, Nat.and_mod_two_pow, Nat.mod_eq_of_lt h]

theorem stepFold_low (a n : Nat) : ∀ (tbl : List (Nat × Nat × Nat)) (rl : Nat × Nat),
    (∀ s ∈ tbl, s.1 < 2 ^ n) → stepFold a tbl rl = stepFold (a % 2 ^ n) tbl rl
  | [], _, _ => rfl
  | s :: tbl, rl, h => by
    simp only [stepFold, and_low a s.1 n (h s (by simp))]
    exact stepFold_low a n tbl _ (fun e he => h e (by simp [he]))

theorem closeWalk_cons (s : Nat × Nat × Nat) (tbl : List (Nat × Nat × Nat)) (b r l : Nat) :
    closeWalk (s :: tbl) b r l = (closeWalk tbl b r l &&
      (!Nat.ble s.1 b || closeWalk tbl (b - s.1) ((r * s.2.1) >>> 128) ((l * s.2.2) >>> 192))) := by
  show @Bool.rec (fun _ => Bool) false (@Bool.rec (fun _ => Bool) true
    (closeWalk tbl (b - s.1) ((r * s.2.1) >>> 128) ((l * s.2.2) >>> 192)) (Nat.ble s.1 b)) (closeWalk tbl b r l) = _
  cases closeWalk tbl b r l <;> cases Nat.ble s.1 b <;> rfl

theorem closeWalk_sound (a : Nat) : ∀ (tbl : List (Nat × Nat × Nat)) (b r l : Nat),
    closeWalk tbl b r l = true → maskSum a (tbl.map (·.1)) ≤ b →
    closeLeaf (stepFold a tbl (r, l)).1 (stepFold a tbl (r, l)).2 = true := by
  intro tbl
  induction tbl with
  | nil => intro b r l h _; exact h
  | cons s tbl ih =>
    intro b r l h e
    simp only [List.map_cons, maskSum] at e
    rw [closeWalk_cons, Bool.and_eq_true, Bool.or_eq_true, Bool.not_eq_true'] at h
    by_cases hbit : (a &&& s.1 != 0) = true
    · simp only [stepFold, hbit, if_true]
      rw [if_pos hbit] at e
      have hle : s.1 ≤ b := by omega
      rcases h.2 with h2 | h2
      · rw [Nat.ble_eq_true_of_le hle] at h2; cases h2
      · exact ih _ _ _ h2 (by omega)
    · simp only [stepFold, hbit, Bool.false_eq_true, if_false]
      exact ih _ _ _ h.1 (by omega)

theorem stepFold_zip_fst (a : Nat) : ∀ (t e : List (Nat × Nat)) (rl : Nat × Nat), t.length ≤ e.length →
    (stepFold a (List.zipWith (fun x y => (x.1, x.2, y.2)) t e) rl).1 = tickFold a t rl.1 := by
  intro t
  induction t with
  | nil => intro e rl _; rfl
  | cons x t ih =>
    intro e rl h
    obtain ⟨m, c⟩ := x
    cases e with
    | nil => simp at h
    | cons y e =>
      simp only [List.zipWith_cons_cons, stepFold, tickFold, tickShift]
      rw [ih e _ (by simpa using h)]
      split <;> rfl

theorem stepFold_closeSteps_fst (a : Nat) :
    (stepFold a closeSteps (tickStartEven, encStartEven)).1 = tickRatio (-(a : Int)) := by
  have h1 : (tickStartEven * tickStartOdd) >>> 128 = tickStartOdd := by decide
  simp only [closeSteps, stepFold]
  rw [stepFold_zip_fst a tickTable encTable _ (by decide), h1, tickRatio_of_nonpos]
  split <;> rfl

end Demeter.TickClose
