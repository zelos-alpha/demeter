/-
  One side of the order book under the fills of an accepted order: prices and level count never change; with distinct
  prices a fill changes exactly the level at its price; a market order within the printed depth is filled completely.
  `trade`, `Instr.side`, `setSide` let buy (asks) and sell (bids) be treated at once.
-/
import Proofs.Lemmas.Deribit
namespace Demeter
open Demeter.Deribit

/-- what the fill-total theorem needs of a context: exact Decimal arithmetic (`rnd_id`: every rounding is the identity, which
    the 35-digit context does not satisfy), and of the floats `float(Decimal(repr(f))) == f`, `x - x == 0.0`, `repr(0.0)` reads
    as 0 (laws of IEEE binary64 with CPython's shortest repr; they are not proved here for `DCtx.ieee`, only `floatSane_exact`
    instantiates the structure) -/
structure Deribit.FloatSane (cx : DCtx) : Prop where
  rnd_id : ∀ x, cx.num.rnd x = x
  roundtrip : ∀ x, cx.toF (cx.reprD x) = cx.toF x
  sub_self : ∀ x, cx.fsub x x = 0
  repr_zero : cx.reprD 0 = 0

def Deribit.reprSum (cx : DCtx) (ls : List Level) : Rat := (ls.map (fun l => cx.reprD l.size)).sum

end Demeter
namespace Demeter.Deribit
open Demeter

theorem deductMarket_mem {cx : DCtx} {rem : Rat} {ls : List Level} {f : Fill} (h : f ∈ deductMarket cx rem ls) :
    ∃ l ∈ ls, f.price = cx.reprD l.price := by
  induction ls generalizing rem with
  | nil => simp [deductMarket] at h
  | cons l ls ih =>
    unfold deductMarket at h
    by_cases hz : l.size = 0
    · simp only [hz, if_true] at h
      obtain ⟨l', hl', h'⟩ := ih h
      exact ⟨l', List.mem_cons_of_mem _ hl', h'⟩
    · simp only [hz, if_false] at h
      rcases List.mem_cons.mp h with rfl | h
      · exact ⟨l, List.mem_cons_self, rfl⟩
      · split at h
        · simp at h
        · obtain ⟨l', hl', h'⟩ := ih h
          exact ⟨l', List.mem_cons_of_mem _ hl', h'⟩

theorem deductLimit_eq_filter (cx : DCtx) (p a : Rat) (ls : List Level) :
    deductLimit cx p a ls = (ls.filter (fun l => p = cx.reprD l.price)).map (fun _ => ⟨p, a⟩) := by
  induction ls with
  | nil => simp [deductLimit]
  | cons l ls ih =>
    unfold deductLimit
    by_cases h : p = cx.reprD l.price
    · simp only [h, if_true] at ih ⊢; simp [ih]
    · simp only [h, if_false]; rw [ih]; simp [h]

theorem deductLimit_mem {cx : DCtx} {p a : Rat} {ls : List Level} {f : Fill} (h : f ∈ deductLimit cx p a ls) :
    f = ⟨p, a⟩ := by
  rw [deductLimit_eq_filter] at h
  obtain ⟨_, _, rfl⟩ := List.mem_map.mp h
  rfl

def taken (fs : List Fill) (p : Rat) : Rat := ((fs.filter (fun f => f.price = p)).map (·.amount)).sum

theorem applyFill_prices (cx : DCtx) (x : Fill) (ls : List Level) :
    (applyFill cx x ls).map (·.price) = ls.map (·.price) := by
  induction ls with
  | nil => simp [applyFill]
  | cons l ls ih =>
    unfold applyFill
    split
    · simp
    · simp [ih]

def PricesNodup (ls : List Level) : Prop := (ls.map (·.price)).Nodup

theorem newOrderList_prices (cx : DCtx) (old : List Level) (fs : List Fill) :
    (newOrderList cx old fs).map (·.price) = old.map (·.price) := by
  unfold newOrderList
  induction fs generalizing old with
  | nil => rfl
  | cons f fs ih => simp only [List.foldl_cons]; rw [ih, applyFill_prices]

theorem taken_cons (f : Fill) (fs : List Fill) (p : Rat) :
    taken (f :: fs) p = (if f.price = p then f.amount else 0) + taken fs p := by
  by_cases hp : f.price = p <;> simp [taken, hp]

theorem applyFill_eq_map (x : Fill) (ls : List Level) (hn : PricesNodup ls) :
    applyFill DCtx.exact x ls =
      ls.map (fun l => if l.price = x.price then { l with size := l.size - x.amount, isFloat := true } else l) := by
  induction ls with
  | nil => rfl
  | cons l ls ih =>
    simp only [PricesNodup, List.map_cons, List.nodup_cons] at hn
    by_cases hx : x.price = l.price
    · have hrest : ∀ l' ∈ ls,
          (if l'.price = l.price then ({ l' with size := l'.size - x.amount, isFloat := true } : Level) else l') = l' :=
        fun l' hl' => if_neg (fun e => hn.1 (by rw [← e]; exact List.mem_map_of_mem (f := (·.price)) hl'))
      simp only [applyFill, exact_toF, exact_fsub, hx, if_true, List.map_cons]
      rw [List.map_congr_left hrest, List.map_id']
    · simp only [applyFill, exact_toF, hx, if_false, List.map_cons, Ne.symm hx, ih hn.2]

theorem newOrderList_sizes (ls : List Level) (fs : List Fill) (hn : PricesNodup ls) :
    (newOrderList DCtx.exact ls fs).map (·.size) = ls.map (fun l => l.size - taken fs l.price) := by
  unfold newOrderList
  induction fs generalizing ls with
  | nil => simp [taken]
  | cons f fs ih =>
    have hn' : PricesNodup (applyFill DCtx.exact f ls) := by
      unfold PricesNodup; rw [applyFill_prices]; exact hn
    rw [List.foldl_cons, ih _ hn', applyFill_eq_map f ls hn, List.map_map]
    apply List.map_congr_left
    intro l _
    simp only [Function.comp, taken_cons]
    by_cases hq : l.price = f.price
    · rw [if_pos hq, if_pos hq.symm]
      show l.size - f.amount - taken fs l.price = l.size - (f.amount + taken fs l.price)
      ring
    · rw [if_neg hq, if_neg (fun e => hq e.symm), zero_add]

theorem sizeSum_applyFill (x : Fill) (ls : List Level) (hp : x.price ∈ ls.map (·.price)) :
    sizeSum (applyFill DCtx.exact x ls) = sizeSum ls - x.amount := by
  induction ls with
  | nil => simp at hp
  | cons l ls ih =>
    by_cases hx : x.price = l.price
    · simp only [applyFill, exact_toF, exact_fsub, hx, if_true, sizeSum, List.map_cons, List.sum_cons]
      ring
    · simp only [List.map_cons, List.mem_cons] at hp
      simp only [sizeSum] at ih
      simp only [applyFill, exact_toF, hx, if_false, sizeSum, List.map_cons, List.sum_cons, ih (hp.resolve_left hx)]
      ring

theorem sizeSum_newOrderList (ls : List Level) (fs : List Fill) (hp : ∀ f ∈ fs, f.price ∈ ls.map (·.price)) :
    sizeSum (newOrderList DCtx.exact ls fs) = sizeSum ls - fillSum fs := by
  unfold newOrderList
  induction fs generalizing ls with
  | nil => simp [fillSum]
  | cons f fs ih =>
    rw [List.foldl_cons, ih _ (fun g hg => by rw [applyFill_prices]; exact hp g (List.mem_cons_of_mem _ hg)),
      sizeSum_applyFill f ls (hp f List.mem_cons_self)]
    simp only [fillSum, List.map_cons, List.sum_cons]
    ring

theorem deductMarket_exact_cons (rem : Rat) (l : Level) (ls : List Level) :
    deductMarket DCtx.exact rem (l :: ls) =
      if l.size = 0 then deductMarket DCtx.exact rem ls
      else ({ price := l.price, amount := min l.size rem } : Fill) ::
        (if 0 < l.size - min l.size rem ∨ rem - min l.size rem = 0 then []
         else deductMarket DCtx.exact (rem - min l.size rem) ls) := by
  rw [deductMarket]; rfl

theorem floatSane_exact : FloatSane DCtx.exact := ⟨fun _ => rfl, fun _ => rfl, fun x => by simp, rfl⟩

theorem fillSum_deductMarket (cx : DCtx) (h : FloatSane cx) (ls : List Level) (amount : Rat)
    (hs : ∀ l ∈ ls, 0 ≤ cx.reprD l.size) (h0 : 0 ≤ amount) (hle : amount ≤ reprSum cx ls) :
    fillSum (deductMarket cx amount ls) = amount := by
  induction ls generalizing amount with
  | nil =>
    simp [reprSum] at hle
    simp [deductMarket, fillSum]; linarith
  | cons l ls ih =>
    have hs' : ∀ x ∈ ls, 0 ≤ cx.reprD x.size := fun x hx => hs x (List.mem_cons_of_mem _ hx)
    have hsum : reprSum cx (l :: ls) = cx.reprD l.size + reprSum cx ls := by simp [reprSum]
    unfold deductMarket
    by_cases hz : l.size = 0
    · simp only [hz, if_true]
      apply ih _ hs' h0
      rw [hsum, hz, h.repr_zero] at hle; linarith
    · simp only [hz, if_false]
      have hsub : cx.num.sub amount (min (cx.reprD l.size) amount) = amount - min (cx.reprD l.size) amount := by
        simp [NumCtx.sub, h.rnd_id]
      split
      · rename_i hc
        simp only [fillSum, List.map_cons, List.map_nil, List.sum_cons, List.sum_nil, add_zero]
        rcases hc with hc | hc
        · rcases min_choice (cx.reprD l.size) amount with hm | hm
          · -- the whole printed size was taken: float(size) - float(Decimal(repr(size))) = 0, not > 0
            rw [hm, h.roundtrip, h.sub_self] at hc
            exact absurd hc (lt_irrefl 0)
          · exact hm
        · rw [hsub] at hc; linarith
      · rename_i hc
        have hc2 : cx.num.sub amount (min (cx.reprD l.size) amount) ≠ 0 := fun e => hc (Or.inr e)
        rw [hsub] at hc2
        have hmin : min (cx.reprD l.size) amount = cx.reprD l.size := by
          rcases min_choice (cx.reprD l.size) amount with hm | hm
          · exact hm
          · exfalso; apply hc2; rw [hm]; ring
        simp only [fillSum, List.map_cons, List.sum_cons]
        have hrec := ih (cx.num.sub amount (min (cx.reprD l.size) amount)) hs'
          (by rw [hsub]; linarith [min_le_right (cx.reprD l.size) amount])
          (by rw [hsub, hmin]; rw [hsum] at hle; linarith)
        unfold fillSum at hrec
        rw [hrec, hsub]; ring

theorem deductMarket_amount_nonneg (ls : List Level) (rem : Rat) (hs : ∀ l ∈ ls, 0 ≤ l.size) (hr : 0 ≤ rem) :
    ∀ f ∈ deductMarket DCtx.exact rem ls, 0 ≤ f.amount := by
  induction ls generalizing rem with
  | nil => simp [deductMarket]
  | cons l ls ih =>
    have hs' : ∀ l' ∈ ls, 0 ≤ l'.size := fun l' h => hs l' (List.mem_cons_of_mem _ h)
    have hl : 0 ≤ l.size := hs l List.mem_cons_self
    rw [deductMarket_exact_cons]
    split
    · exact ih rem hs' hr
    · intro f hf
      rcases List.mem_cons.mp hf with rfl | hf
      · exact le_min hl hr
      · split at hf
        · simp at hf
        · exact ih _ hs' (by linarith [min_le_right l.size rem]) f hf

theorem deductLimit_single (cx : DCtx) (a : Rat) (ls : List Level) (l : Level) (hl : l ∈ ls)
    (hd : (ls.map (fun l => cx.reprD l.price)).Nodup) :
    deductLimit cx (cx.reprD l.price) a ls = [⟨cx.reprD l.price, a⟩] := by
  rw [deductLimit_eq_filter]
  induction ls with
  | nil => simp at hl
  | cons x xs ih =>
    simp only [List.map_cons, List.nodup_cons] at hd
    rcases List.mem_cons.mp hl with rfl | hmem
    · have : xs.filter (fun y => decide (cx.reprD l.price = cx.reprD y.price)) = [] := by
        apply List.filter_eq_nil_iff.mpr
        intro y hy hyp
        simp only [decide_eq_true_eq] at hyp
        exact hd.1 (hyp ▸ List.mem_map_of_mem (f := fun l => cx.reprD l.price) hy)
      simp [this]
    · have hne : ¬ (cx.reprD l.price = cx.reprD x.price) := fun h =>
        hd.1 (h ▸ List.mem_map_of_mem (f := fun l => cx.reprD l.price) hmem)
      simp only [List.filter_cons, hne, decide_false]
      exact ih hmem hd.2

theorem findInstr_mem {book : List Instr} {n : String} {i : Instr} (h : findInstr book n = some i) : i ∈ book := by
  unfold findInstr at h; exact List.mem_of_find?_eq_some h

theorem findInstr_name {book : List Instr} {n : String} {i : Instr} (h : findInstr book n = some i) : i.name = n := by
  simpa using List.find?_some h

def Instr.side (i : Instr) : Bool → List Level
  | true => i.asks
  | false => i.bids

def setSide : Bool → List Instr → String → List Level → List Instr
  | true => setAsks
  | false => setBids

def Instr.withSide (i : Instr) : Bool → List Level → Instr
  | true, ls => { i with asks := ls }
  | false, ls => { i with bids := ls }

theorem setSide_eq (isBuy : Bool) (book : List Instr) (n : String) (ls : List Level) :
    setSide isBuy book n ls = book.map (fun i => if i.name = n then i.withSide isBuy ls else i) := by
  cases isBuy <;> rfl

theorem Instr.withSide_side (i : Instr) (isBuy : Bool) (ls : List Level) : (i.withSide isBuy ls).side isBuy = ls := by
  cases isBuy <;> rfl

theorem Instr.withSide_name (i : Instr) (isBuy : Bool) (ls : List Level) : (i.withSide isBuy ls).name = i.name := by
  cases isBuy <;> rfl

theorem Instr.withSide_stateOpen (i : Instr) (isBuy : Bool) (ls : List Level) :
    (i.withSide isBuy ls).stateOpen = i.stateOpen := by
  cases isBuy <;> rfl

theorem Instr.withSide_mark (i : Instr) (isBuy : Bool) (ls : List Level) : (i.withSide isBuy ls).mark = i.mark := by
  cases isBuy <;> rfl

theorem Instr.withSide_other (i : Instr) (isBuy : Bool) (ls : List Level) :
    (i.withSide isBuy ls).side (!isBuy) = i.side (!isBuy) := by
  cases isBuy <;> rfl

theorem findInstr_setSide_map (isBuy : Bool) (book : List Instr) (n k : String) (ls : List Level) :
    findInstr (setSide isBuy book n ls) k =
      (findInstr book k).map (fun i => if i.name = n then i.withSide isBuy ls else i) := by
  unfold findInstr
  rw [setSide_eq, List.find?_map]
  congr 2
  funext i
  simp only [Function.comp]
  split
  · rw [i.withSide_name isBuy ls]
  · rfl

theorem setSide_names (isBuy : Bool) (book : List Instr) (n : String) (ls : List Level) :
    (setSide isBuy book n ls).map (·.name) = book.map (·.name) := by
  rw [setSide_eq, List.map_map]
  apply List.map_congr_left
  intro i _
  simp only [Function.comp]
  split
  · exact i.withSide_name isBuy ls
  · rfl

theorem mem_setSide {isBuy : Bool} {book : List Instr} {n : String} {ls : List Level} {i : Instr}
    (h : i ∈ setSide isBuy book n ls) : ∃ i0 ∈ book, i = i0 ∨ (i0.name = n ∧ i = i0.withSide isBuy ls) := by
  rw [setSide_eq] at h
  obtain ⟨i0, hi0, rfl⟩ := List.mem_map.mp h
  refine ⟨i0, hi0, ?_⟩
  split
  · exact Or.inr ⟨‹_›, rfl⟩
  · exact Or.inl rfl

def trade (cx : DCtx) (c : TokenCfg) : Bool → DState → Req → Outcome × DState
  | true => buy cx c
  | false => sell cx c

theorem normInstr_side (cx : DCtx) (i : Instr) (isBuy : Bool) :
    (normInstr cx i).side isBuy = normSide cx isBuy (i.side isBuy) := by
  cases isBuy <;> rfl

theorem findInstr_setSide {book : List Instr} {n : String} {ins : Instr} (h : findInstr book n = some ins)
    (isBuy : Bool) (ls : List Level) :
    ∃ ins', findInstr (setSide isBuy book n ls) n = some ins' ∧ ins'.side isBuy = ls ∧ ins'.stateOpen = ins.stateOpen :=
  ⟨ins.withSide isBuy ls, by rw [findInstr_setSide_map, h, Option.map_some, if_pos (findInstr_name h)],
    ins.withSide_side isBuy ls, ins.withSide_stateOpen isBuy ls⟩

theorem availSide_filter {cx : DCtx} {ins : Instr} {mult : Option Rat} {isBuy : Bool} {avail : List Level}
    (h : availSide cx ins mult isBuy = .ok avail) : ∃ f : Level → Bool, avail = (ins.side isBuy).filter f := by
  cases isBuy with
  | true =>
    simp only [availSide, if_true, Except.ok.injEq] at h
    subst h
    unfold availAsks
    cases mult with
    | none => exact ⟨fun _ => true, by simp [Instr.side]⟩
    | some m => exact ⟨_, rfl⟩
  | false =>
    simp only [availSide, Bool.false_eq_true, if_false] at h
    unfold availBids at h
    cases mult with
    | none => simp only [Except.ok.injEq] at h; exact ⟨fun _ => true, by simp [Instr.side, h]⟩
    | some m =>
      simp only [] at h
      split at h
      · simp at h
      · simp only [Except.ok.injEq] at h; exact ⟨_, h.symm⟩

/-- `m ≠ 0`: the division `mark / m` of `max_mark_price_multiple = m` would raise -/
theorem availBids_cap {cx : DCtx} {ins : Instr} {m : Rat} {bids : List Level} (h : availBids cx ins (some m) = .ok bids) :
    m ≠ 0 ∧ bids = ins.bids.filter (fun l => cx.num.div ins.mark m < l.price) := by
  simp only [availBids, decDiv] at h
  by_cases hm0 : m = 0
  · simp only [hm0, if_true] at h
    split at h
    · simp at h
    · rename_i heq; split at heq <;> simp at heq
  · simp only [hm0, if_false, Except.ok.injEq] at h
    exact ⟨hm0, h.symm⟩

end Demeter.Deribit
