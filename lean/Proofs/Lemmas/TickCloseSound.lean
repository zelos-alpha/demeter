/-
  From the comparisons of `closeLeaf` (Proofs/Lemmas/ClosePred.lean) and the enclosure `Enc a l 40` to the closeness
  inequalities of C06 (c), as integer inequalities (no real numbers).

  Notation in comments:  P = 10001, Q = 10000, pa = P^a, qa = Q^a,  X = 2^192·√(qa/pa) (so l ≤ X ≤ l+40),  w = 2^64,
  r the model's Q128.128 ratio of tick −a and R = X/w its ideal value,  n = ⌈r/2^32⌉ = sqrtAt (−a),
  p = ⌈⌊(2^256−1)/r⌋/2^32⌉ = sqrtAt a,  ideal sqrt prices  I(−a) = X/2^96 = R/2^32,  I(+a) = 2^288/X = 2^224/R,
  β = I(+a)²/2^221 = pa/(2^29·qa) = 8·I(+a)/R.

  The leaf gives `R − 5 ≤ r ≤ R + 2` (`X ≤ l + 40 ≤ (r+5)·w`, `r·w ≤ l + 2w ≤ X + 2w`) and `(n−1)·2^96 < l`.
  tick −a:  `n − 1 < I` is that comparison as it stands; `I < n + 1` because `n·2^32 ≥ r ≥ R − 5`; and `n` is not below
  the protocol minimum because `R` is smallest at the last tick (`enc_hi_ge`), where `R/2^32 = 4295128738.16…`.
  tick +a:  the two round-ups give `(p−1)·r < 2^224 < (p+1)·r` (`up_recip`, Proofs/Lemmas/TickUp32.lean).  Moving from `r` to `R` changes `2^224/r` by
  `I·|R − r|/r`, about `I/R` for each unit of `|R − r|`; `β` allows for 8 of them and at most 5 are used, the rest
  covering the second-order terms (`recip_hi`, `pos_c1`, `pos_c2`).  These are stated against `l` and `l + 40`; `pos_g0`–`pos_g2`
  pass to `X`, of which only the square is at hand; `pos_close` is the whole of it, with the fixed-point scales as variables.
-/
import Proofs.Lemmas.TickEnc
import Mathlib.Tactic.Linarith
import Mathlib.Tactic.Zify
namespace Demeter.TickClose
open Demeter Gen

theorem closeLeaf_spec {r l : Nat} (h : closeLeaf r l = true) :
    up32 r * 2 ^ 96 < l + 2 ^ 96 ∧ l + 40 ≤ (r + 5) * 2 ^ 64 ∧ r * 2 ^ 64 ≤ l + 2 * 2 ^ 64 := by
  simp only [closeLeaf, andK_eq_true, Nat.ble_eq, Nat.mul_eq, Nat.add_eq, Nat.shiftLeft_eq'] at h
  omega

/-- the ideal value falls with `a`: an enclosure of any `a ≤ N` ends above whatever lies below the ideal value of `N` -/
theorem enc_hi_ge {a N l d c : Nat} (henc : Enc a l d) (h : a ≤ N) (hc : c ^ 2 * 10001 ^ N ≤ 2 ^ 384 * 10000 ^ N) :
    c ≤ l + d := by
  obtain ⟨k, rfl⟩ := Nat.exists_eq_add_of_le h
  have h1 : c ^ 2 * 10001 ^ (a + k) ≤ (l + d) ^ 2 * 10001 ^ (a + k) :=
    calc c ^ 2 * 10001 ^ (a + k) ≤ 2 ^ 384 * 10000 ^ a * 10000 ^ k := by rw [Nat.mul_assoc, ← Nat.pow_add]; exact hc
      _ ≤ (l + d) ^ 2 * 10001 ^ a * 10001 ^ k := Nat.mul_le_mul henc.hi (Nat.pow_le_pow_left (by decide) k)
      _ = _ := by rw [Nat.mul_assoc, ← Nat.pow_add]
  exact (Nat.pow_le_pow_iff_left (by decide)).1 (Nat.le_of_mul_le_mul_right h1 (Nat.pow_pos (by decide)))

/-- tick ≤ 0, the scales as variables (`K = 2^96`, `W = 2^192`): `(n−1)·K < l ≤ X ≤ u < (n+1)·K` with `X = K·√(W·qa/pa)` known
    through its square  ⟹  `(n−1)² < W·qa/pa < (n+1)²` -/
theorem neg_g (n l u K W pa qa : Nat) (hpa : 0 < pa) (h1 : (n - 1) * K < l) (h2 : u < (n + 1) * K)
    (lo : l ^ 2 * pa ≤ K ^ 2 * W * qa) (hi : K ^ 2 * W * qa ≤ u ^ 2 * pa) :
    (n - 1) ^ 2 * pa < W * qa ∧ W * qa < (n + 1) ^ 2 * pa := by
  constructor
  · refine Nat.lt_of_mul_lt_mul_left (a := K ^ 2) ?_
    calc K ^ 2 * ((n - 1) ^ 2 * pa) = ((n - 1) * K) ^ 2 * pa := by ring
      _ < l ^ 2 * pa := Nat.mul_lt_mul_of_pos_right (Nat.pow_lt_pow_left h1 (by omega)) hpa
      _ ≤ K ^ 2 * W * qa := lo
      _ = K ^ 2 * (W * qa) := Nat.mul_assoc _ _ _
  · refine Nat.lt_of_mul_lt_mul_left (a := K ^ 2) ?_
    calc K ^ 2 * (W * qa) = K ^ 2 * W * qa := (Nat.mul_assoc _ _ _).symm
      _ ≤ u ^ 2 * pa := hi
      _ < ((n + 1) * K) ^ 2 * pa := Nat.mul_lt_mul_of_pos_right (Nat.pow_lt_pow_left h2 (by omega)) hpa
      _ = K ^ 2 * ((n + 1) ^ 2 * pa) := by ring

/-- `q·r < T`, `u ≤ (r+5)·w`  ⟹  `q·u < k + 5·q·w` and `q·u < 1.6·k`  (`k = T·w`; `q·w` is small beside `k` since `9·q < T`) -/
theorem recip_hi (q r u w T : ℤ) (hq : 0 ≤ q) (hw : 0 < w) (hr : 9 ≤ r) (a1 : q * r < T) (w1 : u ≤ (r + 5) * w) :
    q * u < T * w + 5 * (q * w) ∧ 5 * (q * u) < 8 * (T * w) := by
  have h1 : q * u ≤ q * ((r + 5) * w) := mul_le_mul_of_nonneg_left w1 hq
  have h2 : q * r * w < T * w := mul_lt_mul_of_pos_right a1 hw
  have h3 : q * u < T * w + 5 * (q * w) := by linarith only [h1, h2]
  have h4 : q * 9 ≤ q * r := mul_le_mul_of_nonneg_left hr hq
  have h5 : (25 * q) * w ≤ (3 * T) * w := mul_le_mul_of_nonneg_right (by linarith only [h4, a1, hq]) (le_of_lt hw)
  exact ⟨h3, by linarith only [h3, h5]⟩

/-- `q < T/r`, `u ≤ (r+5)·w`  ⟹  `q < k/u + e/u²`  with `k = T·w`, `e = 8·w·k`  (used with `q = p − 1`, `u = l + 40`) -/
theorem pos_c1 (q r u w T : ℤ) (hq : 0 ≤ q) (hw : 0 < w) (hu : 0 < u) (hr : 9 ≤ r) (a1 : q * r < T)
    (w1 : u ≤ (r + 5) * w) : q * u ^ 2 < T * w * u + 8 * w * (T * w) := by
  obtain ⟨h1, h2⟩ := recip_hi q r u w T hq hw hr a1 w1
  have h3 : q * u * u < (T * w + 5 * (q * w)) * u := mul_lt_mul_of_pos_right h1 hu
  have h4 : 5 * (q * u) * w < 8 * (T * w) * w := mul_lt_mul_of_pos_right h2 hw
  linarith only [h3, h4]

/-- `T/r < p + 1`, `r·w ≤ l + 2·w`  ⟹  `k/l − e/l² < p + 1`:  `k < (p+1)·l + 2·(p+1)·w`, and `(p+1)·l ≤ 4·k` by `recip_hi` -/
theorem pos_c2 (p r l w T : ℤ) (hp : 1 ≤ p) (hw : 0 < w) (hl : 0 < l) (hr : 9 ≤ r) (a1 : (p - 1) * r < T)
    (a2 : T < (p + 1) * r) (w1 : l ≤ (r + 5) * w) (w2 : r * w ≤ l + 2 * w) (hlk : 2 * l ≤ T * w) :
    T * w * l < (p + 1) * l ^ 2 + 8 * w * (T * w) := by
  obtain ⟨-, h0⟩ := recip_hi (p - 1) r l w T (by linarith only [hp]) hw hr a1 w1
  have h1 : T * w < (p + 1) * r * w := mul_lt_mul_of_pos_right a2 hw
  have h2 : (p + 1) * (r * w) ≤ (p + 1) * (l + 2 * w) := mul_le_mul_of_nonneg_left w2 (by linarith only [hp])
  have h3 : (T * w) * l < ((p + 1) * l + 2 * ((p + 1) * w)) * l := mul_lt_mul_of_pos_right (by linarith only [h1, h2]) hl
  have h4 : (p + 1) * l ≤ 4 * (T * w) := by linarith only [h0, hlk, hl]
  have h5 : (p + 1) * l * (2 * w) ≤ 4 * (T * w) * (2 * w) := mul_le_mul_of_nonneg_right h4 (by linarith only [hw])
  linarith only [h3, h5]

/-- `k/l − 1 − e/l² < p`  ⟹  `1 + e/l² ≤ p`  when `l` is far from both ends: `4·l ≤ k`, `4·e ≤ l·k` -/
theorem pos_c3 (p l k e : ℤ) (hl : 0 < l) (c2 : k * l < (p + 1) * l ^ 2 + e) (h1 : 4 * l ≤ k) (h2 : 4 * e ≤ l * k) :
    e + l ^ 2 ≤ p * l ^ 2 := by
  have h3 : 4 * l * l ≤ k * l := mul_le_mul_of_nonneg_right h1 (le_of_lt hl)
  linarith only [c2, h3, h2]

/-- `1 + e/l² ≤ p`, `l² ≤ X²` ⟹ `β ≤ p − 1` (this and the next two: tick > 0, over ℤ, with `D` for the denominator
    `2^29·qa` of `β = pa/D` and the powers of two abstracted to `e = 2^355`, `k = 2^288`, `H = 2^221`) -/
theorem pos_g0 (p l pa D e : ℤ) (he : 0 < e) (hpa : 0 ≤ pa) (hl : 0 < l)
    (c3 : e + l ^ 2 ≤ p * l ^ 2) (lo : l ^ 2 * pa ≤ e * D) : pa + D ≤ p * D := by
  have hp1 : 0 < p - 1 := (mul_pos_iff_of_pos_right (pow_pos hl 2)).1 (by linarith only [c3, he])
  -- `e·pa ≤ (p−1)·l²·pa ≤ (p−1)·e·D`
  have h1 : pa * e ≤ pa * ((p - 1) * l ^ 2) := mul_le_mul_of_nonneg_left (by linarith only [c3]) hpa
  have h2 : (p - 1) * (l ^ 2 * pa) ≤ (p - 1) * (e * D) := mul_le_mul_of_nonneg_left lo (le_of_lt hp1)
  exact le_of_mul_le_mul_left (a := e) (by linarith only [h1, h2]) he

/-- `p < k/u + 1 + e/u²`, `X ≤ u` ⟹ `(p − 1 − β)² < I²` given `0 ≤ p − 1 − β` -/
theorem pos_g1 (p u pa D k e H : ℤ) (hu : 0 < u) (hD : 0 < D) (hpa : 0 < pa) (he : 0 < e)
    (c1 : p * u ^ 2 < k * u + u ^ 2 + e) (hi : e * D ≤ u ^ 2 * pa)
    (rel : H * e = k ^ 2) (g0 : 0 ≤ (p - 1) * D - pa) :
    ((p - 1) * D - pa) ^ 2 < H * D * pa := by
  -- with `A = (p−1)·D − pa`:  `A·u² < k·u·D`, so `A·u < k·D`, and `e·D·A² ≤ (A·u)²·pa < (k·D)²·pa = e·D·(H·D·pa)`
  have h1 : (p - 1) * u ^ 2 * D < (k * u + e) * D := mul_lt_mul_of_pos_right (by linarith only [c1]) hD
  have h2 : ((p - 1) * D - pa) * u < k * D :=
    lt_of_mul_lt_mul_right (a := u) (by linarith only [h1, hi]) (le_of_lt hu)
  have h3 := mul_lt_mul_of_pos_right (pow_lt_pow_left₀ h2 (mul_nonneg g0 (le_of_lt hu)) two_ne_zero) hpa
  have h4 := mul_le_mul_of_nonneg_right hi (sq_nonneg ((p - 1) * D - pa))
  exact lt_of_mul_lt_mul_left (a := e * D)
    (by linarith only [h3, h4, congrArg (· * (D ^ 2 * pa)) rel]) (le_of_lt (mul_pos he hD))

/-- `k/l − 1 − e/l² < p`, `l ≤ X`, `2k ≤ H·l` ⟹ `I² < (p + 1 + β)²` -/
theorem pos_g2 (p l pa D k e H : ℤ) (hl : 0 < l) (hD : 0 < D) (hpa : 0 < pa) (he : 0 < e)
    (hk : 0 < k) (hH : 0 < H) (c2 : k * l < (p + 1) * l ^ 2 + e) (lo : l ^ 2 * pa ≤ e * D)
    (c4 : 2 * k ≤ H * l) (rel : H * e = k ^ 2) :
    H * D * pa < ((p + 1) * D + pa) ^ 2 := by
  -- δ = e·D − pa·l² ≥ 0,  M = k·l·D − δ = (k·l − e)·D + pa·l²:  0 ≤ M < ((p+1)·D + pa)·l²
  have hδ : 0 ≤ e * D - pa * l ^ 2 := by linarith only [lo]
  have hkl : 2 * e ≤ l * k :=
    le_of_mul_le_mul_left (a := H) (by linarith only [mul_le_mul_of_nonneg_right c4 (le_of_lt hk), rel]) hH
  have hM0 : 0 ≤ k * l * D - (e * D - pa * l ^ 2) := by
    linarith only [mul_nonneg (show 0 ≤ k * l - e by linarith only [hkl, he]) (le_of_lt hD),
      mul_nonneg (le_of_lt hpa) (sq_nonneg l)]
  have hT : k * l * D - (e * D - pa * l ^ 2) < ((p + 1) * D + pa) * l ^ 2 := by
    linarith only [mul_lt_mul_of_pos_right (show k * l - e < (p + 1) * l ^ 2 by linarith only [c2]) hD]
  have hsq := pow_lt_pow_left₀ hT hM0 two_ne_zero
  -- M² = H·D·pa·l⁴ + (δ² + D·l·δ·(H·l − 2k)) + D²·l²·(k² − H·e), the last term being 0
  have h1 : 0 ≤ D * l * (e * D - pa * l ^ 2) * (H * l - 2 * k) :=
    mul_nonneg (mul_nonneg (mul_nonneg (le_of_lt hD) (le_of_lt hl)) hδ) (by linarith only [c4])
  exact lt_of_mul_lt_mul_left (a := l ^ 4)
    (by linarith only [hsq, h1, sq_nonneg (e * D - pa * l ^ 2), congrArg (· * (D ^ 2 * l ^ 2)) rel]) (by positivity)

/-- tick > 0 over ℤ, the scales left as variables (`w = 2^64`, `8·H = 2^224`, `D = 2^29·qa`, so that `β = pa/D`,
    `I² = H·pa/D`, `X² = 64·H·w²·D/pa`):  `(p−1)·r < 8·H < (p+1)·r`,  `u/w − 5 ≤ r ≤ l/w + 2`,  `l ≤ X ≤ u`
    ⟹  `β ≤ p − 1`,  `(p − 1 − β)² < I²`,  `I² < (p + 1 + β)²` -/
theorem pos_close (p r l u pa D w H : ℤ) (hw : 0 < w) (hH : 0 < H) (hD : 0 < D) (hpa : 0 < pa) (hr : 9 ≤ r) (hp : 1 ≤ p)
    (a1 : (p - 1) * r < 8 * H) (a2 : 8 * H < (p + 1) * r) (hlu : l ≤ u) (w1 : u ≤ (r + 5) * w) (w2 : r * w ≤ l + 2 * w)
    (hl : 32 * w ≤ l) (hlk : l ≤ 2 * (H * w))
    (lo : l ^ 2 * pa ≤ 8 * w * (8 * H * w) * D) (hi : 8 * w * (8 * H * w) * D ≤ u ^ 2 * pa) :
    pa + D ≤ p * D ∧ ((p - 1) * D - pa) ^ 2 < H * D * pa ∧ H * D * pa < ((p + 1) * D + pa) ^ 2 := by
  have hl0 : 0 < l := by linarith only [hl, hw]
  have hk : 0 < 8 * H * w := by positivity
  have he : 0 < 8 * w * (8 * H * w) := by positivity
  have h1 : 32 * w * (8 * H * w) ≤ l * (8 * H * w) := mul_le_mul_of_nonneg_right hl (le_of_lt hk)
  have h2 : H * (16 * w) ≤ H * l := mul_le_mul_of_nonneg_left (by linarith only [hl, hw]) (le_of_lt hH)
  have c1 := pos_c1 (p - 1) r u w (8 * H) (by linarith only [hp]) hw (by linarith only [hl0, hlu]) hr a1 w1
  have c2 := pos_c2 p r l w (8 * H) hp hw hl0 hr a1 a2 (by linarith only [hlu, w1]) w2 (by linarith only [hlk, hk])
  have c3 := pos_c3 p l (8 * H * w) (8 * w * (8 * H * w)) hl0 c2 (by linarith only [hlk, hk]) (by linarith only [h1])
  have g0 := pos_g0 p l pa D _ he (le_of_lt hpa) hl0 c3 lo
  exact ⟨g0, pos_g1 p u pa D (8 * H * w) _ H (by linarith only [hl0, hlu]) hD hpa he (by linarith only [c1]) hi (by ring)
      (by linarith only [g0]),
    pos_g2 p l pa D (8 * H * w) _ H hl0 hD hpa he hk hH (by linarith only [c2]) lo (by linarith only [h2]) (by ring)⟩

/-- `pos_close` over ℕ, in the cleared form of `C06_close_pos` (everything multiplied by `(c·qa)²`, truncated subtraction),
    with names for the products of scales that occur there: `T = 8·H = 2^224`, `E = 64·H·w²·c = 2^384`, `Hc = H·c = 2^250` -/
theorem close_pos_sound (p r l d pa qa c w H T E Hc : Nat) (hw : 0 < w) (hH : 0 < H) (hc : 0 < c) (hpa : 0 < pa)
    (hqa : 0 < qa) (hT : T = 8 * H) (hE : E = 8 * w * (8 * H * w) * c) (hHc : Hc = H * c) (hr : 9 ≤ r) (hp : 1 ≤ p)
    (a1 : p * r < T + r) (a2 : T < p * r + r) (w1 : l + d ≤ (r + 5) * w) (w2 : r * w ≤ l + 2 * w)
    (hl : 32 * w ≤ l) (hlk : l ≤ 2 * (H * w)) (lo : l ^ 2 * pa ≤ E * qa) (hi : E * qa ≤ (l + d) ^ 2 * pa) :
    pa + c * qa ≤ p * c * qa ∧ (p * c * qa - c * qa - pa) ^ 2 < Hc * pa * qa ∧
    Hc * pa * qa < (p * c * qa + c * qa + pa) ^ 2 := by
  subst hT hE hHc
  have hD : 0 < c * qa := Nat.mul_pos hc hqa
  rw [Nat.mul_assoc _ c qa] at lo hi
  zify at hw hH hD hpa hr hp a1 a2 w1 w2 hl hlk lo hi
  obtain ⟨g0, g1, g2⟩ := pos_close p r l (l + d) pa (c * qa) w H hw hH hD hpa hr hp (by linarith only [a1])
    (by linarith only [a2]) (le_add_of_nonneg_right (Nat.cast_nonneg d)) w1 w2 hl hlk lo hi
  have g0n : pa + c * qa ≤ p * c * qa := by zify; linarith only [g0]
  refine ⟨g0n, ?_, ?_⟩
  · zify [Nat.le_sub_of_add_le g0n, Nat.le_trans (Nat.le_add_left _ _) g0n]
    linarith only [g1]
  · zify
    linarith only [g2]

end Demeter.TickClose
