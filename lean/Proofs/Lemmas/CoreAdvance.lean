/-
  The skip loop of the period triggers (`advance`, Demeter/Trigger.lean) by its own two equations, and `listMax`; no library needed, so the
  translated source (Proofs/Tie/Trigger.lean) can start from them.
-/
import Demeter.Trigger
namespace Demeter.Core

theorem advanceFuel_enough (δ now : Int) (hδ : 0 < δ) : ∀ (f g : Nat) (n : Int), (now - n).toNat ≤ f → (now - n).toNat ≤ g →
    advanceFuel f δ n now = advanceFuel g δ n now
  | 0, 0, _, _, _ => rfl
  | 0, g + 1, n, hf, _ => by
    have : ¬ n < now := by omega
    simp [advanceFuel, this]
  | f + 1, 0, n, _, hg => by
    have : ¬ n < now := by omega
    simp [advanceFuel, this]
  | f + 1, g + 1, n, hf, hg => by
    by_cases h : n < now
    · simp only [advanceFuel, if_pos h]
      exact advanceFuel_enough δ now hδ f g (n + δ) (by omega) (by omega)
    · simp [advanceFuel, h]

/-- the two equations of `while next < now: next += δ` -/
theorem advance_ge {δ next now : Int} (h : now ≤ next) : advance δ next now = next := by
  unfold advance
  rw [show (now - next).toNat = 0 by omega]; rfl

theorem advance_lt {δ next now : Int} (hδ : 0 < δ) (h : next < now) : advance δ next now = advance δ (next + δ) now := by
  unfold advance
  rw [show (now - next).toNat = (now - next).toNat - 1 + 1 by omega]
  simp only [advanceFuel, if_pos h]
  exact advanceFuel_enough δ now hδ _ _ _ (by omega) (by omega)

theorem listMax_none {l : List Int} : listMax l = none ↔ l = [] := by
  cases l with
  | nil => simp [listMax]
  | cons a l =>
    simp only [listMax]
    cases listMax l <;> simp

theorem listMax_ge {l : List Int} {m x : Int} (h : listMax l = some m) (hx : x ∈ l) : x ≤ m := by
  induction l generalizing m with
  | nil => cases hx
  | cons a l ih =>
    simp only [listMax] at h
    cases hl : listMax l with
    | none =>
      rw [hl] at h
      have : l = [] := listMax_none.mp hl
      subst this
      simp at hx h
      omega
    | some m' =>
      rw [hl] at h
      simp only [Option.some.injEq] at h
      rcases List.mem_cons.mp hx with rfl | hx
      · split at h <;> omega
      · have := ih hl hx
        split at h <;> omega

end Demeter.Core
