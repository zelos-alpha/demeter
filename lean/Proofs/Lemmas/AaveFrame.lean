/-
  The frame rule of the Aave write operations.  A predicate `P` on the raw positions that reads neither the supply entry of a
  token in `okS` nor the debt entry of a token in `okB` (`PosFrame`) survives every operation that touches supply entries inside
  `okS` and debt entries inside `okB` only, accepted or rejected, in any arithmetic: by the effect triples (AaveEffect) a rejected
  call leaves the positions alone and an accepted one reaches them only through `AList.set` / `AList.erase` at its own token (for
  `repay` with collateral: also at the collateral token).
-/
import Proofs.Lemmas.AaveEffect
namespace Demeter
open Aave

def TouchesSupply (tok : String) : Op → Prop
  | .supply t _ _ => t = tok
  | .withdraw t _ => t = tok
  | .repay t _ w c => w = true ∧ c.getD t = tok
  | .changeCollateral t _ => t = tok
  | .update => True
  | _ => False

def TouchesBorrow (tok : String) : Op → Prop
  | .borrow t _ => t = tok
  | .repay t _ _ _ => t = tok
  | .update => True
  | _ => False

namespace Aave
open M

variable {cx : ACtx} {env : Env}

/-- a predicate on the raw positions, read as one on states (what `Inv` takes) -/
def OnPos (P : AList String SupplyInfo → AList String BorrowInfo → Prop) (s : St) : Prop := P s.supplies s.borrows

structure PosFrame (P : AList String SupplyInfo → AList String BorrowInfo → Prop) (okS okB : String → Prop) : Prop where
  setS : ∀ {sup bor t} (info : SupplyInfo), okS t → P sup bor → P (AList.set sup t info) bor
  eraseS : ∀ {sup bor t}, okS t → P sup bor → P (AList.erase sup t) bor
  setB : ∀ {sup bor t} (info : BorrowInfo), okB t → P sup bor → P sup (AList.set bor t info)
  eraseB : ∀ {sup bor t}, okB t → P sup bor → P sup (AList.erase bor t)

section
variable {P : AList String SupplyInfo → AList String BorrowInfo → Prop} {okS okB : String → Prop}

theorem Moved.onPos {s s1 : St} (h : Moved cx env s s1) (hs : OnPos P s) : OnPos P s1 := by
  show P s1.supplies s1.borrows; rw [h.sup, h.bor]; exact hs

theorem PosFrame.supply (h : PosFrame P okS okB) {t : String} (ht : okS t) (a : Rat) (c : Bool) :
    Inv (OnPos P) (Aave.supply cx env t a c) := by
  intro s hs
  refine (supply_eff s t a c).snd ?_ (fun _ hmv => hmv.onPos hs) (Moved.refl s)
  rintro _ _ ⟨s1, st, w', hmv, _, _, _, _, _, _, _, rfl⟩
  exact h.setS _ ht (hmv.onPos hs)

theorem PosFrame.subSupply (h : PosFrame P okS okB) {t : String} (ht : okS t) {sup : AList String SupplyInfo}
    {bor : AList String BorrowInfo} (info : SupplyInfo) (nb : Rat) (hp : P sup bor) :
    P (supAfterSub sup t info nb) bor := by
  unfold supAfterSub
  split
  · exact h.eraseS ht hp
  · exact h.setS _ ht hp

theorem PosFrame.subBorrow (h : PosFrame P okS okB) {t : String} (ht : okB t) {sup : AList String SupplyInfo}
    {bor : AList String BorrowInfo} (info : BorrowInfo) (nb : Rat) (hp : P sup bor) :
    P sup (borAfterSub bor t info nb) := by
  unfold borAfterSub
  split
  · exact h.eraseB ht hp
  · exact h.setB _ ht hp

theorem PosFrame.withdraw (h : PosFrame P okS okB) {t : String} (ht : okS t) (a : Option Rat) : Inv (OnPos P) (Aave.withdraw cx env t a) := by
  intro s hs
  refine (withdraw_eff s t a).snd ?_ (fun _ hmv => hmv.onPos hs) (Moved.refl s)
  rintro _ _ ⟨s1, st, info, amount, hmv, _, _, _, _, _, _, _, rfl⟩
  exact h.subSupply ht _ _ (hmv.onPos hs)

theorem PosFrame.borrow (h : PosFrame P okS okB) {t : String} (ht : okB t) (a : Option Rat) :
    Inv (OnPos P) (Aave.borrow cx env t a) := by
  intro s hs
  refine (borrow_eff s t a).snd ?_ (fun _ hmv => hmv.onPos hs) (Moved.refl s)
  rintro _ _ ⟨s1, amount, st, hmv, _, _, _, _, _, _, rfl⟩
  exact h.setB _ ht (hmv.onPos hs)

theorem PosFrame.repay (h : PosFrame P okS okB) {t : String} (ht : okB t) (a : Option Rat) (w : Bool) (c : Option String)
    (hc : w = true → okS (c.getD t)) : Inv (OnPos P) (Aave.repay cx env t a w c) := by
  intro s hs
  refine (repay_eff s t a w c).snd ?_ (fun _ hmv => hmv.onPos hs) (Moved.refl s)
  rintro _ _ ⟨s1, st, info, payback, hmv, _, _, _, _, _, _, ⟨_, _, w', _, rfl⟩ | ⟨hw, cinfo, cst, inColl, _, _, _, _, _, rfl⟩⟩
  · exact h.subBorrow ht _ _ (hmv.onPos hs)
  · exact h.subBorrow ht _ _ (h.subSupply (hc hw) _ _ (hmv.onPos hs))

theorem PosFrame.changeCollateral (h : PosFrame P okS okB) {t : String} (ht : okS t) (c : Bool) : Inv (OnPos P) (Aave.changeCollateral cx env t c) := by
  intro s hs
  refine (changeCollateral_eff s t c).snd ?_ (fun _ hmv => hmv.onPos hs) (Moved.refl s)
  rintro _ _ ⟨info, _, hg, ⟨_, s1, h1, rfl⟩ | ⟨_, s2, ⟨s1, h1, h2⟩, rfl⟩⟩
  · exact h1.onPos hs
  · exact h2.onPos (h.setS _ ht (h1.onPos hs))

theorem PosFrame.supplyAt (tok : String) (x : Option SupplyInfo) :
    PosFrame (fun sup _ => AList.get? sup tok = x) (· ≠ tok) (fun _ => True) where
  setS := fun _ ht h => by rw [AList.get?_set_ne _ ht]; exact h
  eraseS := fun ht h => by rw [AList.get?_erase_ne _ ht]; exact h
  setB := fun _ _ h => h
  eraseB := fun _ h => h

theorem PosFrame.borrowAt (tok : String) (x : Option BorrowInfo) :
    PosFrame (fun _ bor => AList.get? bor tok = x) (fun _ => True) (· ≠ tok) where
  setS := fun _ _ h => h
  eraseS := fun _ h => h
  setB := fun _ ht h => by rw [AList.get?_set_ne _ ht]; exact h
  eraseB := fun ht h => by rw [AList.get?_erase_ne _ ht]; exact h

/-- `update` may liquidate any position -/
theorem PosFrame.step (h : PosFrame P okS okB) {op : Op} (hu : op ≠ .update) (hS : ∀ t, TouchesSupply t op → okS t)
    (hB : ∀ t, TouchesBorrow t op → okB t) (env : Env) {s : St}
    (hs : P s.supplies s.borrows) : P (step cx env s op).2.supplies (step cx env s op).2.borrows := by
  cases op with
  | supply t a c => exact Inv.unitM (h.supply (hS t rfl) a c) s hs
  | withdraw t a => exact Inv.unitM (h.withdraw (hS t rfl) a) s hs
  | borrow t a => exact Inv.unitM (h.borrow (hB t rfl) a) s hs
  | repay t a w c => exact Inv.unitM (h.repay (hB t rfl) a w c (fun hw => hS _ ⟨hw, rfl⟩)) s hs
  | changeCollateral t c => exact Inv.unitM (h.changeCollateral (hS t rfl) c) s hs
  | update => exact absurd rfl hu
  | read v => exact (reads_readView (cx := cx) (env := env) v s).1.onPos hs
  | newBar => exact hs

end

theorem step_supply_untouched {tok : String} {op : Op} (h : ¬ TouchesSupply tok op) (env : Env) (s : St) :
    AList.get? (step cx env s op).2.supplies tok = AList.get? s.supplies tok :=
  (PosFrame.supplyAt tok (AList.get? s.supplies tok)).step (fun e => h (by subst e; trivial)) (fun _ ht e => h (e ▸ ht))
    (fun _ _ => trivial) env rfl

theorem step_debt_untouched {tok : String} {op : Op} (h : ¬ TouchesBorrow tok op) (env : Env) (s : St) :
    AList.get? (step cx env s op).2.borrows tok = AList.get? s.borrows tok :=
  (PosFrame.borrowAt tok (AList.get? s.borrows tok)).step (fun e => h (by subst e; trivial)) (fun _ _ => trivial)
    (fun _ ht e => h (e ▸ ht)) env rfl

end Aave
end Demeter
