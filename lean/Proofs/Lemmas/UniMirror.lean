/-
  Lemmas for C09: how the building blocks of the Uniswap market model commute with the token-order mirror.
  The long `_mirror` proofs are one recipe: `simp only` turns the mirrored guards into the original ones, then `ite_mirror`
  once per guard.  What makes them true: credits and debits of different tokens commute; the tick grid is symmetric
  (`pyMod_neg_zero`, `nearestUsable_neg`); and `TickErr` — the mirror looks up the price of `-up` first where the original
  looks up `lo`, so the two report the same error only if every tick error is the same exception.
  Helpers that write the same log entries commute as equations (`… = mRes …`); the adds, whose log entry carries the range's
  prices in the other order, in the relation `Mir f` (outcome mapped by `f`, state mirrored up to the log): `MirrorAdd` is
  `Mir mKeyResult`, `MirrorStep op` is `Mir (mResult op)`.
-/
import Demeter.Uni.Mirror
import Proofs.Lemmas.UniWallet
import Proofs.Lemmas.UniInv
namespace Demeter.Uni
open Demeter

@[simp] theorem mPool_conv {α : Type} (p : Pool) (x0 x1 : α) : (mPool p).conv x1 x0 = p.conv x0 x1 := by
  unfold Pool.conv mPool; cases p.q0 <;> rfl

theorem mPool_conv_swap {α : Type} (p : Pool) (b q : α) : (mPool p).conv b q = ((p.conv b q).2, (p.conv b q).1) := by
  unfold Pool.conv mPool; cases p.q0 <;> rfl

@[simp] theorem mPool_baseTok (p : Pool) : (mPool p).baseTok = p.baseTok := by
  unfold Pool.baseTok mPool; cases p.q0 <;> rfl
@[simp] theorem mPool_quoteTok (p : Pool) : (mPool p).quoteTok = p.quoteTok := by
  unfold Pool.quoteTok mPool; cases p.q0 <;> rfl
@[simp] theorem mPool_tok0 (p : Pool) : (mPool p).tok0 = p.tok1 := rfl
@[simp] theorem mPool_tok1 (p : Pool) : (mPool p).tok1 = p.tok0 := rfl
@[simp] theorem mPool_feeRate (p : Pool) : (mPool p).feeRate = p.feeRate := rfl
@[simp] theorem mPool_spacing (p : Pool) : (mPool p).spacing = p.spacing := rfl
@[simp] theorem mPool_q0 (p : Pool) : (mPool p).q0 = !p.q0 := rfl

@[simp] theorem mState_isOpen (s : State) : (mState s).isOpen = s.isOpen := rfl
@[simp] theorem mState_wallet (s : State) : (mState s).wallet = s.wallet := rfl
@[simp] theorem mState_allowNeg (s : State) : (mState s).allowNeg = s.allowNeg := rfl
@[simp] theorem mState_positions (s : State) : (mState s).positions = s.positions.map mPos := rfl
@[simp] theorem mState_actions (s : State) : (mState s).actions = s.actions := rfl

theorem mPos_hasKey (p : Pos) (lo up : Int) : (mPos p).hasKey (-up) (-lo) = p.hasKey lo up := by
  unfold Pos.hasKey mPos
  rw [Bool.eq_iff_iff]
  simp only [Bool.and_eq_true, beq_iff_eq, Int.neg_inj]
  exact and_comm

theorem findPos_mirror (ps : List Pos) (lo up : Int) :
    findPos (ps.map mPos) (-up) (-lo) = (findPos ps lo up).map mPos := by
  unfold findPos
  rw [List.find?_map]
  exact congrArg (fun f => (ps.find? f).map mPos) (funext fun p => mPos_hasKey p lo up)

theorem mapPos_mirror (ps : List Pos) (lo up : Int) (f g : Pos → Pos) (h : ∀ p, g (mPos p) = mPos (f p)) :
    mapPos (ps.map mPos) (-up) (-lo) g = (mapPos ps lo up f).map mPos := by
  unfold mapPos
  rw [List.map_map, List.map_map]
  refine List.map_congr_left fun p _ => ?_
  simp only [Function.comp, mPos_hasKey]
  split
  · exact h p
  · rfl

theorem erasePos_mirror (ps : List Pos) (lo up : Int) :
    erasePos (ps.map mPos) (-up) (-lo) = (erasePos ps lo up).map mPos := by
  unfold erasePos
  rw [List.filter_map]
  exact congrArg (fun f => (ps.filter f).map mPos) (funext fun p => congrArg not (mPos_hasKey p lo up))

@[simp] theorem mPos_lower (p : Pos) : (mPos p).lower = -p.upper := rfl
@[simp] theorem mPos_upper (p : Pos) : (mPos p).upper = -p.lower := rfl
@[simp] theorem mPos_lowerPrice (p : Pos) : (mPos p).lowerPrice = p.lowerPrice := rfl
@[simp] theorem mPos_upperPrice (p : Pos) : (mPos p).upperPrice = p.upperPrice := rfl
@[simp] theorem mPos_initPrice (p : Pos) : (mPos p).initPrice = p.initPrice := rfl
@[simp] theorem mPos_transferred (p : Pos) : (mPos p).transferred = p.transferred := rfl
@[simp] theorem mPos_liq (p : Pos) : (mPos p).liq = p.liq := rfl
@[simp] theorem mPos_liqDec (p : Pos) : (mPos p).liqDec = p.liqDec := rfl
@[simp] theorem mPos_pending0 (p : Pos) : (mPos p).pending0 = p.pending1 := rfl
@[simp] theorem mPos_pending1 (p : Pos) : (mPos p).pending1 = p.pending0 := rfl

theorem filter_live_map_mPos (ps : List Pos) :
    (ps.map mPos).filter (fun p => !p.transferred) = (ps.filter (fun p => !p.transferred)).map mPos :=
  List.filter_map ..

theorem isTransferred_mirror (ps : List Pos) (lo up : Int) :
    isTransferred (ps.map mPos) (-up) (-lo) = isTransferred ps lo up := by
  unfold isTransferred
  rw [findPos_mirror]
  cases findPos ps lo up <;> rfl

def mRes {α : Type} (r : α × State) : α × State := (r.1, mState r.2)

theorem ite_mirror {α β : Type} (g : α → β) {c : Prop} [Decidable c] {a b : α} {a' b' : β}
    (ht : c → a' = g a) (he : ¬c → b' = g b) : (if c then a' else b') = g (if c then a else b) := by
  by_cases h : c
  · rw [if_pos h, if_pos h]; exact ht h
  · rw [if_neg h, if_neg h]; exact he h

theorem record_mirror (s : State) (a : Act) : Uni.record (mState s) a = mState (Uni.record s a) := rfl
theorem markUpdate_mirror (s : State) : markUpdate (mState s) = mState (markUpdate s) := rfl

theorem collectPos_mirror (cx : NumCtx) (p : Pos) (f0 f1 : Rat) :
    collectPos cx (mPos p) f1 f0 = mPos (collectPos cx p f0 f1) := rfl

theorem WRel.walletHas {pool : Pool} {s s' : State} (h : WRel pool s s') (hw : WalletHas pool s.wallet) :
    WalletHas pool s'.wallet := ⟨h.1 _ hw.1, h.1 _ hw.2⟩

theorem collectWallet_mirror (cx : NumCtx) (pool : Pool) (w : Wallet) (tu : Bool) (f0 f1 : Rat)
    (hw : WalletHas pool w) (hne : pool.tok0 ≠ pool.tok1) :
    collectWallet cx (mPool pool) w tu f1 f0 = collectWallet cx pool w tu f0 f1 := by
  unfold collectWallet
  cases tu with
  | false => rfl
  | true => simp only [if_true, mPool_tok0, mPool_tok1]; exact credit_comm cx w _ _ _ _ hne.symm hw.2 hw.1

theorem isDry_mirror (p : Pos) (rd : Bool) : isDry (mPos p) rd = isDry p rd := by
  unfold isDry
  rw [mPos_pending0, mPos_pending1, mPos_liq, Bool.and_comm (p.pending1 == 0)]

theorem collectCore_mirror (K K' : Kern) (hcx : K'.cx = K.cx) (pool : Pool) (s : State) (lo up : Int) (p : Pos) (f0 f1 : Rat)
    (tu : Bool) (hw : WalletHas pool s.wallet) (hne : pool.tok0 ≠ pool.tok1) :
    collectCore K' (mPool pool) (mState s) (-up) (-lo) (mPos p) f1 f0 tu = mState (collectCore K pool s lo up p f0 f1 tu) := by
  unfold collectCore
  rw [hcx]
  simp only [mState_positions, mState_wallet]
  rw [mapPos_mirror s.positions lo up (fun _ => collectPos K.cx p f0 f1) (fun _ => collectPos K.cx (mPos p) f1 f0)
      (fun _ => collectPos_mirror K.cx p f0 f1),
    collectWallet_mirror K.cx pool s.wallet tu f0 f1 hw hne]
  rfl

theorem collectFinish_mirror (K K' : Kern) (hcx : K'.cx = K.cx) (pool : Pool) (s : State) (lo up : Int) (p : Pos) (f0 f1 : Rat)
    (rd tu : Bool) (bb qb : Rat) (hw : WalletHas pool s.wallet) (hne : pool.tok0 ≠ pool.tok1) :
    collectFinish K' (mPool pool) (mState s) (-up) (-lo) (mPos p) f1 f0 rd tu bb qb =
      mState (collectFinish K pool s lo up p f0 f1 rd tu bb qb) := by
  unfold collectFinish
  simp only [collectCore_mirror K K' hcx pool s lo up p f0 f1 tu hw hne, mPool_conv, hcx, collectPos_mirror, isDry_mirror,
    record_mirror]
  split
  · simp only [mState_positions, erasePos_mirror]; rfl
  · rfl

theorem collect_mirror {K K' : Kern} {pool : Pool} {ms : Nat → Nat} (hk : KernMirror K K' pool ms) (s : State)
    (lo up : Int) (m0 m1 : Option Rat) (rd tu : Bool) (hw : WalletHas pool s.wallet) (hne : pool.tok0 ≠ pool.tok1) :
    collect K' (mPool pool) (mState s) (-up) (-lo) m1 m0 rd tu = mRes (collect K pool s lo up m0 m1 rd tu) := by
  unfold collect
  rw [Bool.or_comm (negGiven m1) (negGiven m0), mState_positions, findPos_mirror]
  refine ite_mirror mRes (fun _ => rfl) fun _ => ?_
  cases findPos s.positions lo up with
  | none => rfl
  | some p =>
    simp only [Option.map_some, mPos_transferred, mState_isOpen, mPos_pending0, mPos_pending1, mState_wallet, hk.cx,
      collectWallet_mirror K.cx pool s.wallet tu (capAt m0 p.pending0) (capAt m1 p.pending1) hw hne, mPool_baseTok,
      mPool_quoteTok, mPool_conv]
    refine ite_mirror mRes (fun _ => rfl) fun _ => ?_
    refine ite_mirror mRes (fun _ => rfl) fun _ => ?_
    split
    · simp only [mRes, collectFinish_mirror K K' hk.cx pool s lo up p _ _ rd tu _ _ hw hne]
    · simp only [mRes, collectCore_mirror K K' hk.cx pool s lo up p _ _ tu hw hne]
    · simp only [mRes, collectCore_mirror K K' hk.cx pool s lo up p _ _ tu hw hne]

@[simp] theorem priceOf_mirror (s : State) : priceOf (mState s) = priceOf s := by
  unfold priceOf mState
  cases s.row <;> rfl

theorem resolveSqrt_mirror {K K' : Kern} {pool : Pool} {ms : Nat → Nat} (hk : KernMirror K K' pool ms) (s : State)
    (sq : Option Nat) :
    resolveSqrt K' (mPool pool) (mState s) (sq.map ms) = (resolveSqrt K pool s sq).map ms := by
  cases sq with
  | some x => rfl
  | none =>
    simp only [Option.map_none, resolveSqrt, priceOf_mirror]
    cases priceOf s with
    | error e => rfl
    | ok x => exact hk.priceToSqrt x

theorem removeDelta_mirror (l : Option Int) (p : Pos) : removeDelta l (mPos p) = removeDelta l p := by
  unfold removeDelta; cases l <;> rfl

theorem removePos_mirror (cx : NumCtx) (p : Pos) (d : Int) (dd : Bool) (g0 g1 : Rat) :
    removePos cx (mPos p) d dd g1 g0 = mPos (removePos cx p d dd g0 g1) := rfl

theorem removeCore_mirror (K K' : Kern) (hcx : K'.cx = K.cx) (s : State) (lo up : Int) (p : Pos) (d : Int) (dd : Bool) (g0 g1 : Rat) :
    removeCore K' (mState s) (-up) (-lo) (mPos p) d dd g1 g0 = mState (removeCore K s lo up p d dd g0 g1) := by
  unfold removeCore
  rw [hcx]
  simp only [mState_positions]
  rw [mapPos_mirror s.positions lo up (fun _ => removePos K.cx p d dd g0 g1) (fun _ => removePos K.cx (mPos p) d dd g1 g0)
      (fun _ => removePos_mirror K.cx p d dd g0 g1)]
  rfl

theorem removeAct_mirror (pool : Pool) (p' : Pos) (d : Int) (g0 g1 bb qb : Rat) :
    removeAct (mPool pool) (mPos p') d g1 g0 bb qb = removeAct pool p' d g0 g1 bb qb := by
  unfold removeAct; simp only [mPool_conv, mPos_liq]

theorem removeNoCollect_mirror {K K' : Kern} {pool : Pool} {ms : Nat → Nat} (hk : KernMirror K K' pool ms) (s : State)
    (lo up : Int) (l : Option Int) (sq : Option Nat) :
    removeNoCollect K' (mPool pool) (mState s) (-up) (-lo) l (sq.map ms) = mRes (removeNoCollect K pool s lo up l sq) := by
  unfold removeNoCollect
  simp only [mState_positions, isTransferred_mirror, mState_isOpen, resolveSqrt_mirror hk, findPos_mirror]
  refine ite_mirror mRes (fun _ => rfl) fun _ => ?_
  refine ite_mirror mRes (fun _ => rfl) fun _ => ?_
  refine ite_mirror mRes (fun _ => rfl) fun _ => ?_
  cases resolveSqrt K pool s sq with
  | error e => rfl
  | ok sqrt =>
    simp only [Except.map]
    cases findPos s.positions lo up with
    | none => rfl
    | some p =>
      simp only [Option.map_some, removeDelta_mirror, hk.amounts]
      cases K.amounts pool sqrt lo up (removeDelta l p).1 (removeDelta l p).2 with
      | error e => rfl
      | ok g =>
        simp only [Except.map, mState_wallet, mPool_baseTok, mPool_quoteTok, mPool_conv, hk.cx, removePos_mirror,
          removeAct_mirror, removeCore_mirror K K' hk.cx, record_mirror]
        split <;> rfl

theorem remove_mirror {K K' : Kern} {pool : Pool} {ms : Nat → Nat} (hk : KernMirror K K' pool ms) (s : State)
    (lo up : Int) (l : Option Int) (c rd : Bool) (sq : Option Nat)
    (hw : WalletHas pool s.wallet) (hne : pool.tok0 ≠ pool.tok1) :
    remove K' (mPool pool) (mState s) (-up) (-lo) l c (sq.map ms) rd = mRes (remove K pool s lo up l c sq rd) := by
  unfold remove
  rw [removeNoCollect_mirror hk]
  have hw2 := (removeNoCollect_wrel K pool s lo up l sq).walletHas hw
  cases hr : removeNoCollect K pool s lo up l sq with
  | mk out s2 =>
    rw [hr] at hw2
    cases out with
    | error e => rfl
    | ok v =>
      cases c with
      | false => rfl
      | true => exact collect_mirror hk s2 lo up none none rd true hw2 hne

theorem pyMod_neg_zero (a : Int) (m : Nat) : (pyMod (-a) m == 0) = (pyMod a m == 0) := by
  unfold pyMod
  rw [Bool.eq_iff_iff, beq_iff_eq, beq_iff_eq, ← Int.dvd_iff_emod_eq_zero, ← Int.dvd_iff_emod_eq_zero, Int.dvd_neg]

/-- errors of `tick_to_base_unit_price` are the tick-bound assertion -/
def TickErr (K : Kern) (pool : Pool) : Prop := ∀ t e, K.tickToPrice pool t = .error e → e = Err.assertion

theorem mkPos_mirror (lo up liq : Int) (lp upp ip : Rat) : mPos (mkPos lo up liq lp upp ip) = mkPos (-up) (-lo) liq lp upp ip := rfl

theorem newEntity_mirror {K K' : Kern} {pool : Pool} {ms : Nat → Nat} (hk : KernMirror K K' pool ms) (ht : TickErr K pool)
    (s : State) (lo up liq : Int) (sqrt : Nat) :
    newEntity K' (mPool pool) (mState s) (-up) (-lo) liq (ms sqrt) = (newEntity K pool s lo up liq sqrt).map (Option.map mPos) := by
  unfold newEntity
  simp only [mState_positions, findPos_mirror, hk.tickToPrice, hk.sqrtToPrice]
  cases findPos s.positions lo up with
  | some p => rfl
  | none =>
    simp only [Option.map_none]
    cases h1 : K.tickToPrice pool lo with
    | error e1 =>
      have := ht _ _ h1; subst this
      cases h2 : K.tickToPrice pool up with
      | error e2 => have := ht _ _ h2; subst this; rfl
      | ok upp => rfl
    | ok lp =>
      cases K.tickToPrice pool up with
      | error e2 => rfl
      | ok upp =>
        cases K.sqrtToPrice pool sqrt with
        | error e3 => rfl
        | ok ip =>
          simp only [Except.map, Option.map_some, mPool_q0]
          by_cases hq : pool.q0 = true
          · simp only [hq, Bool.not_true, Bool.false_eq_true, if_false, if_true, mkPos_mirror]
          · rw [Bool.not_eq_true] at hq
            simp only [hq, Bool.not_false, if_true, Bool.false_eq_true, if_false, mkPos_mirror]

theorem addToPositions_mirror (ps : List Pos) (lo up liq : Int) (ent : Option Pos) :
    addToPositions (ps.map mPos) (-up) (-lo) liq (ent.map mPos) = (addToPositions ps lo up liq ent).map mPos := by
  cases ent with
  | none =>
    simp only [addToPositions, Option.map_none]
    exact mapPos_mirror ps lo up _ _ (fun _ => rfl)
  | some p => simp [addToPositions]

/-- position key mirrored, used amounts exchanged -/
def mAddRaw (r : Except Err (Int × Int × Rat × Rat × Int) × State) : Except Err (Int × Int × Rat × Rat × Int) × State :=
  (r.1.map (fun v => (-v.2.1, -v.1, v.2.2.2.1, v.2.2.1, v.2.2.2.2)), mState r.2)

theorem addRaw_mirror {K K' : Kern} {pool : Pool} {ms : Nat → Nat} (hk : KernMirror K K' pool ms) (ht : TickErr K pool)
    (s : State) (a0 a1 : Rat) (lo up : Int) (sq : Option Nat) (hw : WalletHas pool s.wallet) (hne : pool.tok0 ≠ pool.tok1) :
    addRaw K' (mPool pool) (mState s) a1 a0 (-up) (-lo) (sq.map ms) = mAddRaw (addRaw K pool s a0 a1 lo up sq) := by
  unfold addRaw
  simp only [mState_isOpen, mPool_spacing, pyMod_neg_zero, resolveSqrt_mirror hk, gt_iff_lt, Int.neg_lt_neg_iff,
    Bool.and_comm (pyMod up pool.spacing == 0), Bool.or_comm (decide (a1 < 0))]
  refine ite_mirror mAddRaw (fun _ => rfl) fun _ => ?_
  refine ite_mirror mAddRaw (fun _ => rfl) fun _ => ?_
  cases resolveSqrt K pool s sq with
  | error e => rfl
  | ok sqrt =>
    refine ite_mirror mAddRaw (fun _ => rfl) fun _ => ?_
    refine ite_mirror mAddRaw (fun _ => rfl) fun _ => ?_
    simp only [hk.newPos]
    cases K.newPos pool sqrt lo up a0 a1 with
    | error e => rfl
    | ok r =>
      obtain ⟨u0, u1, liq⟩ := r
      simp only [Except.map, newEntity_mirror hk ht]
      cases newEntity K pool s lo up liq sqrt with
      | error e => rfl
      | ok ent =>
        simp only [hk.cx, mState_wallet, mState_allowNeg, mPool_tok0, mPool_tok1,
          debit2_comm K.cx s.wallet pool.tok1 pool.tok0 u1 u0 s.allowNeg hne.symm hw.2 hw.1]
        cases debit2 K.cx s.wallet pool.tok0 u0 pool.tok1 u1 s.allowNeg with
        | error e => rfl
        | ok w2 =>
          simp only [mState_positions, addToPositions_mirror]
          rfl

theorem addRaw_wallet_has {K : Kern} {pool : Pool} {s s' : State} {a0 a1 : Rat} {lo up : Int} {sq : Option Nat}
    {v : Int × Int × Rat × Rat × Int} (h : addRaw K pool s a0 a1 lo up sq = (.ok v, s')) : True := trivial

theorem roundHalfEvenNat_zero (d : Nat) : roundHalfEvenNat 0 d = 0 := by
  unfold roundHalfEvenNat
  simp only [Nat.zero_div, Nat.zero_mod, Nat.mul_zero]
  split
  · rfl
  · split
    · rename_i h; omega
    · rfl

theorem roundDivHalfEven_neg (t : Int) (sp : Nat) : roundDivHalfEven (-t) sp = -roundDivHalfEven t sp := by
  unfold roundDivHalfEven
  simp only [Int.natAbs_neg]
  by_cases h0 : t = 0
  · subst h0; simp [roundHalfEvenNat_zero]
  · by_cases hneg : t < 0
    · have h1 : ¬ (-t < 0) := by omega
      simp only [hneg, h1, if_true, if_false, Int.neg_neg]
    · have h1 : -t < 0 := by omega
      simp only [hneg, h1, if_true, if_false]

theorem nearestUsable_neg (t : Int) (sp : Nat) : nearestUsable (-t) sp = -nearestUsable t sp := by
  unfold nearestUsable minTick maxTick
  simp only [roundDivHalfEven_neg, Int.neg_mul]
  generalize roundDivHalfEven t sp * sp = r
  by_cases h1 : r < -(Gen.tickBound : Int)
  · rw [if_pos h1, if_neg (by omega), if_pos (by omega)]; omega
  · by_cases h2 : r > (Gen.tickBound : Int)
    · rw [if_neg h1, if_pos h2, if_pos (by omega)]; omega
    · rw [if_neg h1, if_neg h2, if_neg (by omega), if_neg (by omega)]

theorem trim_neg (trim : Bool) (t : Int) (sp : Nat) :
    (if trim then nearestUsable (-t) sp else -t) = -(if trim then nearestUsable t sp else t) := by
  cases trim
  · rfl
  · exact nearestUsable_neg t sp

theorem sortPair_neg (l u : Int) :
    (if -u > -l then (-l, -u) else (-u, -l)) = (-(if l > u then (u, l) else (l, u)).2, -(if l > u then (u, l) else (l, u)).1) := by
  by_cases h : l > u
  · rw [if_pos h, if_pos (Int.neg_lt_neg h)]
  · rw [if_neg h, if_neg (fun h' => h (Int.neg_lt_neg_iff.mp h'))]

theorem stripLog_mState (s : State) : stripLog (mState s) = mState (stripLog s) := rfl
theorem stripLog_record (s : State) (a : Act) : stripLog (Uni.record s a) = stripLog s := rfl

theorem addRaw_ok_walletHas {K : Kern} {pool : Pool} {s s' : State} {a0 a1 : Rat} {lo up : Int} {sq : Option Nat}
    {v : Int × Int × Rat × Rat × Int} (h : addRaw K pool s a0 a1 lo up sq = (.ok v, s')) (hw : WalletHas pool s.wallet) :
    WalletHas pool s'.wallet := by
  have := ((wrel_stepRel K pool).addRaw s a0 a1 lo up sq).walletHas hw
  rwa [h] at this

def Mir (f : List Rat → List Rat) (r r' : Res) : Prop := r'.1 = r.1.map f ∧ stripLog r'.2 = stripLog (mState r.2)

def MirrorStep (op : Op) (r r' : Res) : Prop :=
  r'.1 = r.1.map (mResult op) ∧ stripLog r'.2 = stripLog (mState r.2)

def MirrorAdd (r r' : Res) : Prop := r'.1 = r.1.map mKeyResult ∧ stripLog r'.2 = stripLog (mState r.2)

theorem Mir.fail {f : List Rat → List Rat} (e : Err) (s : State) : Mir f (fail e s) (fail e (mState s)) := ⟨rfl, rfl⟩

theorem Mir.ite {f : List Rat → List Rat} {c : Prop} [Decidable c] {a b a' b' : Res} (ht : c → Mir f a a')
    (he : ¬c → Mir f b b') : Mir f (if c then a else b) (if c then a' else b') := by
  by_cases h : c
  · rw [if_pos h, if_pos h]; exact ht h
  · rw [if_neg h, if_neg h]; exact he h

theorem Mir.ite_swap {f : List Rat → List Rat} {c d : Prop} [Decidable c] [Decidable d] {x y z x' y' z' : Res} (hcd : c → ¬d)
    (hx : c → Mir f x x') (hy : d → Mir f y y') (hz : Mir f z z') :
    Mir f (if c then x else if d then y else z) (if d then y' else if c then x' else z') := by
  by_cases h1 : c
  · rw [if_pos h1, if_neg (hcd h1), if_pos h1]; exact hx h1
  · by_cases h2 : d
    · rw [if_neg h1, if_pos h2, if_pos h2]; exact hy h2
    · rw [if_neg h1, if_neg h2, if_neg h2, if_neg h1]; exact hz

theorem Mir.ofEq {f : List Rat → List Rat} {r r' : Res} (h : r' = mRes r) (hf : ∀ v, f v = v := by exact fun _ => rfl) :
    Mir f r r' := by
  subst h
  refine ⟨?_, rfl⟩
  rw [show f = id from funext hf]
  show r.1 = r.1.map id
  cases r.1 <;> rfl

/-- `lp'`, `upp'` are arbitrary: the prices go only into the action record, which `Mir` strips -/
theorem addAndLog_mirror {K K' : Kern} {pool : Pool} {ms : Nat → Nat} (hk : KernMirror K K' pool ms) (ht : TickErr K pool)
    (s : State) (b q : Rat) (lo up : Int) (sq : Option Nat) (lp upp lp' upp' : Rat) (hw : WalletHas pool s.wallet)
    (hne : pool.tok0 ≠ pool.tok1) :
    Mir mKeyResult (addAndLog K pool s b q lo up sq lp upp)
      (addAndLog K' (mPool pool) (mState s) b q (-up) (-lo) (sq.map ms) lp' upp') := by
  unfold addAndLog
  simp only [mPool_conv_swap pool b q]
  rw [addRaw_mirror hk ht s (pool.conv b q).1 (pool.conv b q).2 lo up sq hw hne]
  cases addRaw K pool s (pool.conv b q).1 (pool.conv b q).2 lo up sq with
  | mk out s1 =>
    cases out with
    | error e => exact ⟨rfl, rfl⟩
    | ok v =>
      obtain ⟨l, u, u0, u1, liq⟩ := v
      simp only [mAddRaw, Except.map, mPool_conv, mState_wallet, mPool_baseTok, mPool_quoteTok]
      cases balanceOf s1.wallet pool.baseTok with
      | error e => exact ⟨rfl, rfl⟩
      | ok bb =>
        cases balanceOf s1.wallet pool.quoteTok with
        | error e => exact ⟨rfl, rfl⟩
        | ok qb =>
          refine ⟨?_, rfl⟩
          simp only [Except.map, mKeyResult, Rat.intCast_neg]

theorem sqrtOrTick_mirror {K K' : Kern} {pool : Pool} {ms : Nat → Nat} (hk : KernMirror K K' pool ms)
    (sq : Option Nat) (t : Option Int) :
    sqrtOrTick K' (sq.map ms) (t.map (fun x => -x)) = (sqrtOrTick K sq t).map (Option.map ms) := by
  cases sq with
  | some x => rfl
  | none =>
    cases t with
    | none => rfl
    | some t =>
      simp only [Option.map_none, Option.map_some, sqrtOrTick, hk.tickToSqrt]
      cases K.tickToSqrt t <;> rfl

theorem addByTick_mirror {K K' : Kern} {pool : Pool} {ms : Nat → Nat} (hk : KernMirror K K' pool ms) (ht : TickErr K pool)
    (s : State) (lo up : Int) (b q : Option Rat) (sq : Option Nat) (t : Option Int) (trim : Bool)
    (hw : WalletHas pool s.wallet) (hne : pool.tok0 ≠ pool.tok1) :
    MirrorStep (.addByTick lo up b q sq t trim) (addByTick K pool s lo up b q sq t trim)
      (addByTick K' (mPool pool) (mState s) (-up) (-lo) b q (sq.map ms) (t.map (fun x => -x)) trim) := by
  unfold addByTick
  simp only [mPool_spacing, trim_neg, sortPair_neg, sqrtOrTick_mirror hk, mState_wallet, mPool_baseTok, mPool_quoteTok]
  cases sqrtOrTick K sq t with
  | error e => exact ⟨rfl, rfl⟩
  | ok sq1 =>
    cases orBalance s.wallet pool.baseTok b with
    | error e => exact ⟨rfl, rfl⟩
    | ok bv =>
      cases orBalance s.wallet pool.quoteTok q with
      | error e => exact ⟨rfl, rfl⟩
      | ok qv => exact addAndLog_mirror hk ht s bv qv _ _ sq1 _ _ _ _ hw hne

theorem addByPrice_mirror {K K' : Kern} {pool : Pool} {ms : Nat → Nat} (hk : KernMirror K K' pool ms) (ht : TickErr K pool)
    (s : State) (lp up : Rat) (lt ut : Int) (q b : Option Rat) (hw : WalletHas pool s.wallet) (hne : pool.tok0 ≠ pool.tok1) :
    MirrorStep (.addByPrice lp up lt ut q b) (addByPrice K pool s lp up lt ut q b)
      (addByPrice K' (mPool pool) (mState s) lp up (-lt) (-ut) q b) := by
  unfold addByPrice
  simp only [mPool_spacing, mState_wallet, mPool_baseTok, mPool_quoteTok]
  cases orBalance s.wallet pool.baseTok b with
  | error e => exact ⟨rfl, rfl⟩
  | ok bv =>
    cases orBalance s.wallet pool.quoteTok q with
    | error e => exact ⟨rfl, rfl⟩
    | ok qv =>
      have key : (if (mPool pool).q0 = true then (-ut, -lt) else (-lt, -ut)) =
          (-(if pool.q0 = true then (ut, lt) else (lt, ut)).2, -(if pool.q0 = true then (ut, lt) else (lt, ut)).1) := by
        rw [mPool_q0]; cases pool.q0 <;> rfl
      simp only [key, nearestUsable_neg]
      exact addAndLog_mirror hk ht s bv qv _ _ none lp up lp up hw hne

theorem swapPrice_mirror {K K' : Kern} (hcx : K'.cx = K.cx) (pool : Pool) (s : State) (f : String) (g : Option Rat) :
    swapPrice K' (mPool pool) (mState s) f g = swapPrice K pool s f g := by
  unfold swapPrice
  cases g with
  | some p => rfl
  | none => simp only [priceOf_mirror, mPool_baseTok, hcx]

theorem swap_mirror {K K' : Kern} (hcx : K'.cx = K.cx) (pool : Pool) (s : State) (a : Rat) (f t : String) (p : Option Rat)
    (log : Bool) :
    swap K' (mPool pool) (mState s) a f t p log = mRes (swap K pool s a f t p log) := by
  unfold swap
  simp only [mPool_baseTok, mPool_quoteTok, swapPrice_mirror hcx, mState_wallet, mState_allowNeg, hcx, mPool_feeRate]
  refine ite_mirror mRes (fun _ => rfl) fun _ => ?_
  refine ite_mirror mRes (fun _ => rfl) fun _ => ?_
  refine ite_mirror mRes (fun _ => rfl) fun _ => ?_
  cases swapPrice K pool s f (givenPrice p) with
  | error e => rfl
  | ok price =>
    cases debit K.cx s.wallet f a s.allowNeg with
    | error e => rfl
    | ok w1 => cases log <;> rfl

theorem orMarketPrice_mirror (s : State) (g : Option Rat) : orMarketPrice (mState s) g = orMarketPrice s g := by
  unfold orMarketPrice; cases g <;> simp

theorem buy_mirror {K K' : Kern} (hcx : K'.cx = K.cx) (pool : Pool) (s : State) (a : Rat) (p : Option Rat) :
    buy K' (mPool pool) (mState s) a p = mRes (buy K pool s a p) := by
  unfold buy
  simp only [mPool_baseTok, mPool_quoteTok, mPool_feeRate, hcx, swap_mirror hcx, orMarketPrice_mirror]
  refine ite_mirror mRes (fun _ => rfl) fun _ => ?_
  cases orMarketPrice s (givenPrice p) with
  | error e => rfl
  | ok price =>
    refine ite_mirror mRes (fun _ => rfl) fun _ => ?_
    refine ite_mirror mRes (fun _ => rfl) fun _ => ?_
    generalize swap K pool s (K.cx.div (K.cx.mul a price) (K.cx.sub 1 pool.feeRate)) pool.quoteTok pool.baseTok
      (some (K.cx.div 1 price)) false = r
    obtain ⟨out, s1⟩ := r
    cases out with
    | error e => rfl
    | ok v =>
      simp only [mRes, mState_wallet]
      cases balanceOf s1.wallet pool.baseTok <;> cases balanceOf s1.wallet pool.quoteTok <;> rfl

theorem sell_mirror {K K' : Kern} (hcx : K'.cx = K.cx) (pool : Pool) (s : State) (a : Rat) (p : Option Rat) :
    sell K' (mPool pool) (mState s) a p = mRes (sell K pool s a p) := by
  unfold sell
  simp only [mPool_baseTok, mPool_quoteTok, swap_mirror hcx, orMarketPrice_mirror]
  refine ite_mirror mRes (fun _ => rfl) fun _ => ?_
  cases orMarketPrice s (givenPrice p) with
  | error e => rfl
  | ok price =>
    simp only []
    generalize swap K pool s a pool.baseTok pool.quoteTok (some price) false = r
    obtain ⟨out, s1⟩ := r
    cases out with
    | error e => rfl
    | ok v =>
      simp only [mRes, mState_wallet]
      cases balanceOf s1.wallet pool.baseTok <;> cases balanceOf s1.wallet pool.quoteTok <;> rfl

theorem evenRebalance_mirror {K K' : Kern} (hcx : K'.cx = K.cx) (pool : Pool) (s : State) (p : Option Rat) :
    evenRebalance K' (mPool pool) (mState s) p = mRes (evenRebalance K pool s p) := by
  unfold evenRebalance
  simp only [orMarketPrice_mirror, mPool_baseTok, mPool_quoteTok, mPool_feeRate, hcx, mState_wallet, buy_mirror hcx, sell_mirror hcx]
  cases orMarketPrice s p with
  | error e => rfl
  | ok price =>
    cases balanceOf s.wallet pool.quoteTok with
    | error e => rfl
    | ok q =>
      cases balanceOf s.wallet pool.baseTok with
      | error e => rfl
      | ok b =>
        refine ite_mirror mRes (fun _ => rfl) fun _ => ?_
        refine ite_mirror mRes (fun _ => ?_) fun _ => ite_mirror mRes (fun _ => ?_) fun _ => rfl
        · generalize buy K pool s _ none = r
          obtain ⟨out, s1⟩ := r
          cases out <;> rfl
        · generalize sell K pool s _ none = r
          obtain ⟨out, s1⟩ := r
          cases out <;> rfl

theorem transferOut_mirror (s : State) (lo up : Int) : transferOut (mState s) (-up) (-lo) = mRes (transferOut s lo up) := by
  unfold transferOut
  simp only [mState_positions, findPos_mirror]
  cases findPos s.positions lo up with
  | none => rfl
  | some p =>
    simp only [Option.map_some, mPos_transferred]
    refine ite_mirror mRes (fun _ => ?_) fun _ => rfl
    rw [mapPos_mirror s.positions lo up (fun p => { p with transferred := true }) (fun p => { p with transferred := true }) (fun _ => rfl)]
    rfl

theorem transferIn_mirror (s : State) (lo up : Int) : transferIn (mState s) (-up) (-lo) = mRes (transferIn s lo up) := by
  unfold transferIn
  simp only [mState_positions, findPos_mirror]
  cases findPos s.positions lo up with
  | none => rfl
  | some p =>
    simp only [Option.map_some, mPos_transferred]
    refine ite_mirror mRes (fun _ => ?_) fun _ => rfl
    rw [mapPos_mirror s.positions lo up (fun p => { p with transferred := false }) (fun p => { p with transferred := false }) (fun _ => rfl)]
    rfl

end Demeter.Uni
