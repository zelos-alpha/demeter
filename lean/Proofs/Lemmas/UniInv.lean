/-
  The invariant behind the wallet look-ups of the Uniswap model: the wallet never loses a token, and positions
  exist only once both pool tokens are in the wallet.  Preserved by every transaction, accepted or rejected,
  hence by `step` and `runOps` (`wrel_stepRel`).
-/
import Proofs.Lemmas.UniAtomic
import Proofs.Lemmas.UniEff
namespace Demeter.Uni
open Demeter

def WRel (pool : Pool) (s s' : State) : Prop :=
  (∀ k, Has s.wallet k → Has s'.wallet k) ∧ (s.positions = [] → s'.positions = [] ∨ WalletHas pool s'.wallet)

theorem WRel.refl (pool : Pool) (s : State) : WRel pool s s := ⟨fun _ h => h, fun h => Or.inl h⟩

theorem WRel.trans {pool : Pool} {a b c : State} (h1 : WRel pool a b) (h2 : WRel pool b c) : WRel pool a c := by
  refine ⟨fun k h => h2.1 k (h1.1 k h), fun h => ?_⟩
  rcases h1.2 h with hb | hb
  · exact h2.2 hb
  · exact Or.inr ⟨h2.1 _ hb.1, h2.1 _ hb.2⟩

theorem WRel.inv {pool : Pool} {s s' : State} (h : WRel pool s s') (hi : PosImpliesWallet pool s) :
    PosImpliesWallet pool s' := by
  intro hne
  by_cases he : s.positions = []
  · rcases h.2 he with h' | h'
    · exact absurd h' hne
    · exact h'
  · have := hi he
    exact ⟨h.1 _ this.1, h.1 _ this.2⟩

theorem WRel.record {pool : Pool} (s : State) (a : Act) : WRel pool s (record s a) := WRel.refl pool s

theorem WRel.of_wallet {pool : Pool} {s s' : State} (hp : s.positions ≠ [])
    (hw : ∀ k, Has s.wallet k → Has s'.wallet k) : WRel pool s s' :=
  ⟨hw, fun he => absurd he hp⟩

theorem WRel.ofEff {K : Kern} {pool : Pool} {al : Allow} {n : Nat} {s s' : State} (h : Eff K pool al n s s') :
    WRel pool s s' := by
  cases h with
  | record => exact WRel.refl pool s
  | add _ A =>
    exact ⟨fun k hk => has_debit2 A.debit k (Or.inl hk), fun _ => Or.inr (walletHas_debit2 A.debit)⟩
  | collectCore _ hf =>
    exact WRel.of_wallet (findPos_some_nonempty hf) (fun _ hk => collectWallet_mono hk)
  | collect _ _ _ _ hf =>
    exact WRel.of_wallet (findPos_some_nonempty hf) (fun _ hk => by rw [collectFinish_wallet]; exact collectWallet_mono hk)
  | remove _ hf => exact WRel.of_wallet (findPos_some_nonempty hf) (fun _ hk => hk)
  | swap _ hd =>
    exact ⟨fun k hk => has_credit _ _ _ _ _ (Or.inl (has_debit hd _ (Or.inl hk))), fun he => Or.inl he⟩
  | flag _ lo up =>
    exact ⟨fun _ hk => hk, fun he => Or.inl (by show mapPos s.positions lo up _ = []; rw [he]; rfl)⟩

theorem wrel_stepRel (K : Kern) (pool : Pool) : StepRel K pool (WRel pool) :=
  .ofEff (WRel.refl pool) WRel.trans WRel.ofEff

theorem removeNoCollect_wrel (K : Kern) (pool : Pool) (s : State) (lo up : Int) (l : Option Int) (sq : Option Nat) :
    WRel pool s (removeNoCollect K pool s lo up l sq).2 :=
  remove_noCollect K pool s lo up l sq false ▸ (wrel_stepRel K pool).remove s lo up l false sq false

theorem removeAllLoop_wrel (K : Kern) (pool : Pool) : ∀ (ks : List (Int × Int)) (s : State),
    WRel pool s (removeAllLoop K pool ks s).2 :=
  (wrel_stepRel K pool).toG.removeAllLoop trivial

end Demeter.Uni
