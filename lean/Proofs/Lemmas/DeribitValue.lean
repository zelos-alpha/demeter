/-
  Value bookkeeping of the Deribit model: value of the positions at rounded mark and how it moves when the book or the
  position dict is updated; cost of a list of fills against a price bound.
-/
import Proofs.Lemmas.DeribitInv
import Proofs.Lemmas.AListSum
namespace Demeter
open Demeter.Deribit

def Deribit.markValue (c : TokenCfg) (book : List Instr) (ps : List (String × Position)) : Rat :=
  (ps.map (fun kp => match findInstr book kp.2.name with
    | some ins => kp.2.amount * roundDec c.feeExp ins.mark
    | none => 0)).sum

end Demeter
namespace Demeter.Deribit
open Demeter

theorem valueLoop_fst (c : TokenCfg) (book : List Instr) (ps : List (String × Position)) (a b d : Rat) :
    (valueLoop DCtx.exact c book ps (a, b, d)).1 = a + markValue c book ps := by
  induction ps generalizing a b d with
  | nil => simp [valueLoop, markValue]
  | cons kp ps ih =>
    obtain ⟨k, p⟩ := kp
    unfold valueLoop
    split
    · rename_i hnone
      rw [ih]; simp [markValue, hnone]
    · rename_i ins hsome
      simp only [exact_num, NumCtx.exact_add, NumCtx.exact_mul]
      rw [ih]; simp [markValue, hsome]; ring

theorem freshBalance_spec (c : TokenCfg) (s : DState) :
    (freshBalance DCtx.exact c s).netValue = s.cash + markValue c s.book s.positions ∧
    (freshBalance DCtx.exact c s).cash = s.cash ∧
    (freshBalance DCtx.exact c s).premium = markValue c s.book s.positions := by
  simp only [freshBalance]
  have := valueLoop_fst c s.book s.positions 0 0 0
  rcases hv : valueLoop DCtx.exact c s.book s.positions (0, 0, 0) with ⟨tp, dl, gm⟩
  rw [hv] at this
  simp only [] at this
  simp only [exact_num, NumCtx.exact_add]
  refine ⟨by rw [this]; ring, trivial, by rw [this]; ring⟩

def posValue (c : TokenCfg) (book : List Instr) (p : Position) : Rat :=
  match findInstr book p.name with
  | some ins => p.amount * roundDec c.feeExp ins.mark
  | none => 0

theorem markValue_eq (c : TokenCfg) (book : List Instr) (ps : List (String × Position)) :
    markValue c book ps = (ps.map (fun kp => posValue c book kp.2)).sum := rfl

theorem posValue_setSide (c : TokenCfg) (isBuy : Bool) (book : List Instr) (n : String) (ls : List Level) (p : Position) :
    posValue c (setSide isBuy book n ls) p = posValue c book p := by
  unfold posValue
  rw [findInstr_setSide_map]
  cases findInstr book p.name with
  | none => rfl
  | some i =>
    simp only [Option.map_some]
    split
    · rw [i.withSide_mark isBuy ls]
    · rfl

theorem markValue_setSide (c : TokenCfg) (isBuy : Bool) (book : List Instr) (n : String) (ls : List Level)
    (ps : List (String × Position)) : markValue c (setSide isBuy book n ls) ps = markValue c book ps := by
  simp only [markValue_eq, posValue_setSide]

theorem markValue_set (c : TokenCfg) (book : List Instr) (ps : AList String Position) (k : String) (p' : Position) :
    markValue c book (AList.set ps k p') =
      markValue c book ps - AList.held (fun kp => posValue c book kp.2) ps k + posValue c book p' := by
  rw [markValue_eq, markValue_eq, AList.sum_map_set]

theorem markValue_erase (c : TokenCfg) (book : List Instr) (ps : AList String Position) (k : String)
    (hn : (ps.map Prod.fst).Nodup) :
    markValue c book (AList.erase ps k) = markValue c book ps - AList.held (fun kp => posValue c book kp.2) ps k := by
  rw [markValue_eq, markValue_eq, AList.sum_map_erase _ _ _ hn]

/-- what is paid beyond `m`, with the sign `σ` of the side -/
theorem fillCost_spread (fs : List Fill) (m σ : Rat) (h : ∀ x ∈ fs, 0 ≤ x.amount ∧ 0 ≤ σ * (x.price - m)) :
    0 ≤ σ * (fillCost fs - m * fillSum fs) := by
  induction fs with
  | nil => simp [fillSum, fillCost]
  | cons x fs ih =>
    have hx := h x List.mem_cons_self
    have := ih (fun y hy => h y (List.mem_cons_of_mem _ hy))
    simp only [fillSum, fillCost, List.map_cons, List.sum_cons] at this ⊢
    nlinarith [mul_nonneg hx.1 hx.2]

end Demeter.Deribit
