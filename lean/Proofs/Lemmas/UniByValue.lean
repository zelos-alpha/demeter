/-
  What `add_liquidity_by_value` does to the state, whatever it returns: at most one `swap` at the market price, then
  at most one `add_liquidity_by_tick` at the pool price.  Every property that holds across those two transactions
  and composes is lifted to `add_liquidity_by_value` from this one description (`SwapThenAdd`).
-/
import Demeter.Uni.Step
namespace Demeter.Uni
open Demeter

/-- a property of the final state passes through an `if` from its two branches; unlike `split`, applying this does
    not simplify the branches, which matters when they are the rest of a long definition -/
theorem snd_ite {α : Type} {P : State → Prop} {c : Prop} [Decidable c] {a b : α × State} (ha : P a.2) (hb : P b.2) :
    P (if c then a else b).2 := by
  split
  · exact ha
  · exact hb

theorem snd_of_eq {α : Type} {P : State → Prop} {r : α × State} {x : α} {s' : State} (h : P r.2) (heq : r = (x, s')) :
    P s' := by
  rw [heq] at h; exact h

def MaybeSwap (K : Kern) (pool : Pool) (s s' : State) : Prop :=
  s' = s ∨ ∃ a f t, s' = (swap K pool s a f t none true).2

def MaybeAdd (K : Kern) (pool : Pool) (s s' : State) : Prop :=
  s' = s ∨ ∃ lo up b q, s' = (addByTick K pool s lo up b q none none true).2

def SwapThenAdd (K : Kern) (pool : Pool) (s s' : State) : Prop :=
  ∃ s1, MaybeSwap K pool s s1 ∧ MaybeAdd K pool s1 s'

variable {K : Kern} {pool : Pool}

theorem SwapThenAdd.refl (s : State) : SwapThenAdd K pool s s := ⟨s, .inl rfl, .inl rfl⟩

theorem optSwapFee_maybeSwap (s : State) (c : Bool) (a : Rat) (f t : String) :
    MaybeSwap K pool s (optSwapFee K pool s c a f t).2 := by
  unfold optSwapFee
  split
  · split
    · rename_i heq; exact .inr ⟨a, f, t, (congrArg Prod.snd heq).symm⟩
    · rename_i heq; exact .inr ⟨a, f, t, (congrArg Prod.snd heq).symm⟩
  · exact .inl rfl

theorem swapValue_maybeSwap (s : State) (b : Bool) (v p : Rat) : MaybeSwap K pool s (swapValue K pool s b v p).2 := by
  unfold swapValue
  split
  · exact .inr ⟨_, _, _, rfl⟩
  split
  · exact .inl rfl
  · exact .inr ⟨_, _, _, rfl⟩

theorem addValues_maybeAdd (s : State) (lo up : Int) (p x y : Rat) :
    MaybeAdd K pool s (addValues K pool s lo up p x y).2 := by
  unfold addValues
  split
  · exact .inl rfl
  · exact .inr ⟨_, _, _, _, rfl⟩

/-- the tail of the two in-range branches that rebalance first: `swapValue`, then (if it returned) `addValues` -/
theorem SwapThenAdd.swapValue_addValues (s : State) (c : Bool) (sv p x y : Rat) (lo up : Int) :
    SwapThenAdd K pool s
      (match swapValue K pool s c sv p with
        | (Except.error e, s') => (Except.error e, s')
        | (Except.ok _, s') => addValues K pool s' lo up p x y).2 := by
  have h := swapValue_maybeSwap (K := K) (pool := pool) s c sv p
  split
  · rename_i heq; exact ⟨_, snd_of_eq h heq, .inl rfl⟩
  · rename_i heq; exact ⟨_, snd_of_eq h heq, addValues_maybeAdd ..⟩

theorem addByValueInRange_swapThenAdd (s : State) (lo up t : Int) (p v r : Rat) :
    SwapThenAdd K pool s (addByValueInRange K pool s lo up t p v r).2 := by
  unfold addByValueInRange
  extract_lets cx rv v1 v0
  refine snd_ite (.refl s) ?_
  refine snd_ite (.refl s) ?_
  refine snd_ite (.refl s) ?_
  split
  · exact .refl s
  · exact .refl s
  refine snd_ite ⟨s, .inl rfl, addValues_maybeAdd ..⟩ ?_
  refine snd_ite (.refl s) ?_
  refine snd_ite ?_ ?_
  · split
    · exact .refl s
    · exact .swapValue_addValues ..
  refine snd_ite ?_ (.refl s)
  refine snd_ite (.refl s) ?_
  split
  · exact .refl s
  · exact .swapValue_addValues ..

/-- the tail of the two one-sided branches: `optSwapFee`, then (if it returned) `add_liquidity_by_tick` -/
theorem SwapThenAdd.optSwapFee_addByTick (s : State) (c : Bool) (a : Rat) (f t : String) (lo up : Int)
    (b q : Rat → Option Rat) :
    SwapThenAdd K pool s
      (match optSwapFee K pool s c a f t with
        | (Except.error e, s') => (Except.error e, s')
        | (Except.ok fee, s') => addByTick K pool s' lo up (b fee) (q fee) none none true).2 := by
  have h := optSwapFee_maybeSwap (K := K) (pool := pool) s c a f t
  split
  · rename_i heq; exact ⟨_, snd_of_eq h heq, .inl rfl⟩
  · rename_i heq; exact ⟨_, snd_of_eq h heq, .inr ⟨_, _, _, _, rfl⟩⟩

theorem addByValue_swapThenAdd (me : Rat) (s : State) (lo up : Int) (v : Option Rat) (trim : Bool) (o : ByValueOracle) :
    SwapThenAdd K pool s (addByValue K pool me s lo up v trim o).2 := by
  unfold addByValue
  extract_lets lo' up' tick cx
  split
  · exact .refl s
  split
  · exact .refl s
  split
  · exact .refl s
  refine snd_ite (.refl s) ?_
  refine snd_ite (.refl s) ?_
  refine snd_ite ?_ ?_
  · refine snd_ite (.refl s) ?_
    exact .optSwapFee_addByTick ..
  refine snd_ite ?_ ?_
  · refine snd_ite (.refl s) ?_
    exact .optSwapFee_addByTick ..
  · exact addByValueInRange_swapThenAdd ..

end Demeter.Uni
