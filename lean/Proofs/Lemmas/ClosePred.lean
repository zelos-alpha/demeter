/-
  The per-tick closeness check of C06 (c) and the tree walk that evaluates it for every tick (Proofs/C06/CloseShards*.lean).

  `encC i = ⌊2^192·(10000/10001)^(2^i/2)⌋` are 192-bit constants; multiplied up along the bits of `a` with every step
  rounded down they give a lower approximation `l` of `2^192·(10000/10001)^(a/2)` that is at most 40 too small.  The constants
  are NOT trusted: Proofs/C06/CloseCert.lean checks `c²·10001^(2^i) ≤ 2^384·10000^(2^i) ≤ (c+1)²·10001^(2^i)` in the kernel and
  Proofs/Lemmas/TickEnc.lean derives `l²·10001^a ≤ 2^384·10000^a ≤ (l+40)²·10001^a`.
  (constants from tools/gen_c06_close.py: `isqrt(2^384·10000^n // 10001^n)`, n = 2^i)

  Per tick the kernel only compares the model's Q128.128 ratio with `l` (`closeLeaf`: three comparisons, no product of two
  variables, no division); that the sqrt prices of both signs are then close is an argument, not an evaluation.
-/
import Demeter.TickMath
namespace Demeter.TickClose
open Demeter Gen

/-- `⌊2^192 · (10000/10001)^(2^i / 2)⌋`, i = 0 … 19 (certified in Proofs/C06/CloseCert.lean) -/
def encC : List Nat := [
  6276787903837081514829396598204045630580073477104785039927,
  6276474087977882975538235599647701645937761668297204792416,
  6275846503327550220516183981249576688268934774819722820134,
  6274591522277179561832021958537649572977843476346018852903,
  6272082313001951044836785449776160496731871304309039820029,
  6267066904348739216195255923761712854730933336302956688306,
  6257048115401272697612148328659971512688831233024887618396,
  6237058561236600351038219512792328282083500289158405225928,
  6197270832332368720461642383463214993684154772451400567706,
  6118455202464810974821409688218103339947731791676575210168,
  5963818278351134172059245797052747480708924454314892861785,
  5666170464736634851993488882073003136953485452467364313905,
  5114699281431355796537114337396143115031927467752303214933,
  4167552135087852783235469390455838697069644268186150720166,
  2766960219994807849376719907793812327906143938008457108625,
  1219682137039967511559029381836998852027973235289551580421,
  236992258230898617319205069060041340648307296879556599857,
  8947653364410708884414568062085377472852958613481882687,
  12754373611361965129659252728497653434375631199247510,
  25915470718141139432135155849719857479676324299
]

/-- (mask, constant) pairs for bits 1 … 19, same order as `tickTable` -/
def encTable : List (Nat × Nat) := [
  (2, 6276474087977882975538235599647701645937761668297204792416),
  (4, 6275846503327550220516183981249576688268934774819722820134),
  (8, 6274591522277179561832021958537649572977843476346018852903),
  (16, 6272082313001951044836785449776160496731871304309039820029),
  (32, 6267066904348739216195255923761712854730933336302956688306),
  (64, 6257048115401272697612148328659971512688831233024887618396),
  (128, 6237058561236600351038219512792328282083500289158405225928),
  (256, 6197270832332368720461642383463214993684154772451400567706),
  (512, 6118455202464810974821409688218103339947731791676575210168),
  (1024, 5963818278351134172059245797052747480708924454314892861785),
  (2048, 5666170464736634851993488882073003136953485452467364313905),
  (4096, 5114699281431355796537114337396143115031927467752303214933),
  (8192, 4167552135087852783235469390455838697069644268186150720166),
  (16384, 2766960219994807849376719907793812327906143938008457108625),
  (32768, 1219682137039967511559029381836998852027973235289551580421),
  (65536, 236992258230898617319205069060041340648307296879556599857),
  (131072, 8947653364410708884414568062085377472852958613481882687),
  (262144, 12754373611361965129659252728497653434375631199247510),
  (524288, 25915470718141139432135155849719857479676324299)
]
def encStartOdd : Nat := 6276787903837081514829396598204045630580073477104785039927
def encStartEven : Nat := 6277101735386680763835789423207666416102355444464034512896

def encSlack : Nat := 40

/-- `⌈r / 2^32⌉`: the final Q128.128 → Q64.96 round-up of `get_sqrt_ratio_at_tick` -/
def up32 (r : Nat) : Nat := Nat.shiftRight (Nat.add r 4294967295) 32

/-- `x && y` through the recursor: `and` is defined by a matcher, which the kernel unfolds at twice the price per tick -/
noncomputable def andK (x y : Bool) : Bool := Bool.rec false y x

theorem andK_eq_true (x y : Bool) : andK x y = true ↔ x = true ∧ y = true := by
  cases x <;> simp [andK]

/-- what is evaluated for `|tick| = a`, given the model's Q128.128 ratio `r` of tick `−a` and the enclosure `l` of that `a`
    (`l ≤ R·2^64 ≤ l + 40` for the ideal ratio `R = 2^128·1.0001^(−a/2)`), with `n = ⌈r/2^32⌉ = sqrtAt (−a)`:
      `(n − 1)·2^96 < l`,   `l + 40 ≤ (r + 5)·2^64`,   `r·2^64 ≤ l + 2·2^64`.
    The last two say `R − 5 ≤ r ≤ R + 2`: the table's products are within 5 units of Q128.128 of the ideal ratio (over the
    range `r − R` lies between −4.70 and +1.39).  The positive tick needs no more, since its allowance `β` is what 8 such
    units do to `2^224/r`; `I − n < 1` for the ideal `I = R/2^32` of tick `−a` follows as well, and so does the protocol
    minimum, `R` being smallest at the last tick.  Only `n − I < 1`, the first comparison, depends on where `r` falls between
    two multiples of `2^32` and has to be looked at tick by tick.
    The argument is in Proofs/Lemmas/TickCloseSound.lean; `sqrtAt a` is never computed. -/
noncomputable def closeLeaf (r l : Nat) : Bool :=
  andK (Nat.ble (Nat.mul (up32 r) 79228162514264337593543950336) (Nat.add l 79228162514264337593543950335))
  (andK (Nat.ble l (Nat.add (Nat.shiftLeft r 64) 92233720368547758040))
    (Nat.ble (Nat.shiftLeft r 64) (Nat.add l 36893488147419103232)))

/-- mask, Q128 multiplier of the source table, Q192 enclosure constant.  Bit 0 is a step like the others when the products
    start at `2^128` resp. `2^192`: `(2^128·c) >>> 128 = c`. -/
def closeSteps : List (Nat × Nat × Nat) :=
  (1, tickStartOdd, encStartOdd) :: List.zipWith (fun x y => (x.1, x.2, y.2)) tickTable encTable

/-- both running products after the steps selected by the bits of `a` -/
def stepFold (a : Nat) : List (Nat × Nat × Nat) → Nat × Nat → Nat × Nat
  | [], rl => rl
  | s :: tbl, rl =>
    stepFold a tbl (if a &&& s.1 != 0 then ((rl.1 * s.2.1) >>> 128, (rl.2 * s.2.2) >>> 192) else rl)

/-- `closeLeaf` for every `a` that is a sum of masks of `tbl` not exceeding the budget `b`, the products carried down the
    tree: each multiply-and-shift is done once per subtree, not once per tick.  Written with recursors because the kernel
    evaluates them directly (the equation compiler's `brecOn` form costs 2.5 times as much here); the budget, not `a` against
    the literal bound, is what is compared, so that in the lemmas about the walk `Nat.ble` is stuck on a variable and never
    unfolds a numeral. -/
noncomputable def closeWalk (tbl : List (Nat × Nat × Nat)) : Nat → Nat → Nat → Bool :=
  List.rec (fun _ r l => closeLeaf r l)
    (fun s _ walk b r l => Bool.rec false
      (Bool.rec true
        (walk (Nat.sub b s.1) (Nat.shiftRight (Nat.mul r s.2.1) 128) (Nat.shiftRight (Nat.mul l s.2.2) 192))
        (Nat.ble s.1 b))
      (walk b r l)) tbl

/-- the subtree of the ticks `≤ tickBound` whose five low bits are `k` (one kernel evaluation each: the kernel's caches grow
    with the number of leaves) -/
noncomputable def closeShard (k : Nat) : Bool :=
  closeWalk (closeSteps.drop 5) (Nat.sub tickBound k) (stepFold k (closeSteps.take 5) (tickStartEven, encStartEven)).1
    (stepFold k (closeSteps.take 5) (tickStartEven, encStartEven)).2

end Demeter.TickClose
