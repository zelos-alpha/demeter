/-
  A bar of the replayed loop (`runBarX`, Demeter/Deribit/Run.lean) taken apart, for C01 (the account row) and C16 (settlement) alike:
  `set_market_status` followed by calls — the strategy's early calls (up to `midState`), then `.update :: lateOps …`: the loop's
  `update()`, the calls of `after_bar`, the account row's balance read, the calls of `notify` (`runBarX_state`); what every call keeps,
  the bar keeps (`runBarX_preserves`).  For C16, settlement of one key `k` is followed by one invariant, `InBar b k P`: inside bar `b`,
  every expiry held under `k` satisfies `P`.  Every call keeps it — `update()` included — unless it names `k` while the bar's book lists
  `k` as open with an expiry outside `P`, and while the bar settles no expiry in `P` no Expired record for `k` is written
  (`InBar.step`); on the settling bar `update()` empties the key with one record (`InBar.settle`).
-/
import Proofs.Lemmas.DeribitExpiry
import Proofs.Lemmas.DeribitDeal
import Proofs.Lemmas.Run
namespace Demeter
open Demeter.Deribit

def Deribit.settlesAt (b : Bar) (T : Int) : Prop := (b.now % (Gen.deribitFreqMinutes : Int) == 0) = true ∧ T ≤ b.now

namespace Deribit

def Op.key : Op → Option String
  | .buy r => some r.name
  | .sell r => some r.name
  | _ => none

/-- the book rows named `k` are where a bought position takes its expiry from -/
def ExpP (P : Int → Prop) (k : String) (s : DState) : Prop :=
  (∀ p, (k, p) ∈ s.positions → P p.expiry) ∧ (∀ i ∈ s.book, i.name = k → P i.expiry)

abbrev ExpOk (k : String) (T : Int) (s : DState) : Prop := ExpP (fun e => T ≤ e) k s

/-- the state `update()` runs on in a bar: after the strategy's calls (and the second `set_market_status` when one of
    them was a successful trade) -/
def midState (cx : DCtx) (c : TokenCfg) (s : DState) (b : Bar) : DState :=
  if (runOpsO cx c (setStatus s b) b.ops).2.2 then setStatus (runOpsO cx c (setStatus s b) b.ops).2.1 b
  else (runOpsO cx c (setStatus s b) b.ops).2.1

def postUpdate (cx : DCtx) (c : TokenCfg) (s : DState) (b : Bar) : DState := update cx c (midState cx c s b)

def NoUpdate (b : Bar) : Prop := ∀ o ∈ b.ops, o ≠ Op.update

def Avoids (k : String) (b : Bar) : Prop := ∀ o ∈ b.ops, o.key ≠ some k

def BarAvoids (k : String) (b : Bar) : Prop := ∀ o ∈ b.ops, o ≠ Op.update ∧ o.key ≠ some k

def settlesKey (cx : DCtx) (c : TokenCfg) (s : DState) (b : Bar) (k : String) : Prop :=
  (b.now % (Gen.deribitFreqMinutes : Int) == 0) = true ∧
    k ∈ ((midState cx c s b).positions.filter (fun kp => decide (b.now ≥ kp.2.expiry))).map Prod.fst

instance (cx : DCtx) (c : TokenCfg) (s : DState) (b : Bar) (k : String) : Decidable (settlesKey cx c s b k) := by
  unfold settlesKey; infer_instance

def settlements (cx : DCtx) (c : TokenCfg) (k : String) : DState → List Bar → Nat
  | _, [] => 0
  | s, b :: bs => (if settlesKey cx c s b k then 1 else 0) + settlements cx c k (runBar cx c s b).state bs

/-- a bar with its late hooks: (bar, calls in `after_bar`, calls in `notify`) -/
abbrev XBar := Bar × List Op × List Op

def runBarsX (cx : DCtx) (c : TokenCfg) : DState → List XBar → DState
  | s, [] => s
  | s, x :: xs => runBarsX cx c (runBarX cx c s x.1 x.2.1 x.2.2).state xs

def NoUpdateX (x : XBar) : Prop := NoUpdate x.1 ∧ (∀ o ∈ x.2.1, o ≠ Op.update) ∧ (∀ o ∈ x.2.2, o ≠ Op.update)

def AvoidsX (k : String) (x : XBar) : Prop := Avoids k x.1 ∧ (∀ o ∈ x.2.1, o.key ≠ some k) ∧ (∀ o ∈ x.2.2, o.key ≠ some k)

def LateAvoids (k : String) (x : XBar) : Prop := (∀ o ∈ x.2.1, o.key ≠ some k) ∧ (∀ o ∈ x.2.2, o.key ≠ some k)

def settlementsX (cx : DCtx) (c : TokenCfg) (k : String) : DState → List XBar → Nat
  | _, [] => 0
  | s, x :: xs => (if settlesKey cx c s x.1 k then 1 else 0) + settlementsX cx c k (runBarX cx c s x.1 x.2.1 x.2.2).state xs

/-- does `Strategy.notify` run: the bar recorded an action -/
def fires (cx : DCtx) (c : TokenCfg) (s : DState) (b : Bar) (after : List Op) : Bool :=
  (getMarketBalance cx c (runOpsO cx c (postUpdate cx c s b) after).2.1).2.actions.length != s.actions.length

def lateOps (fire : Bool) (after notify : List Op) : List Op := after ++ Op.balance :: (if fire then notify else [])

/-- an order rewrites the sizes of one side of one row -/
def RowsOf (book' book : List Instr) : Prop :=
  ∀ i ∈ book', ∃ i0 ∈ book, i.name = i0.name ∧ i.stateOpen = i0.stateOpen ∧ i.expiry = i0.expiry

theorem RowsOf.refl (book : List Instr) : RowsOf book book := fun i hi => ⟨i, hi, rfl, rfl, rfl⟩

theorem RowsOf.trans {b1 b2 b3 : List Instr} (h12 : RowsOf b1 b2) (h23 : RowsOf b2 b3) : RowsOf b1 b3 := by
  intro i hi
  obtain ⟨i2, hi2, e1, e2, e3⟩ := h12 i hi
  obtain ⟨i3, hi3, f1, f2, f3⟩ := h23 i2 hi2
  exact ⟨i3, hi3, e1.trans f1, e2.trans f2, e3.trans f3⟩

theorem rowsOf_setSide (isBuy : Bool) (book : List Instr) (n : String) (ls : List Level) :
    RowsOf (setSide isBuy book n ls) book := by
  intro i hi
  cases isBuy
  all_goals
    obtain ⟨i0, hi0, rfl⟩ := List.mem_map.mp hi
    refine ⟨i0, hi0, ?_⟩
    split <;> exact ⟨rfl, rfl, rfl⟩

def Held (k : String) (P : Int → Prop) (s : DState) : Prop := ∀ p, (k, p) ∈ s.positions → P p.expiry

/-- the rows that list `k` as open are the only ones an order for `k` is matched with -/
def OpenRows (k : String) (P : Int → Prop) (book : List Instr) : Prop :=
  ∀ i ∈ book, i.name = k → i.stateOpen = true → P i.expiry

theorem held_false {k : String} {s : DState} : Held k (fun _ => False) s ↔ k ∉ s.positions.map Prod.fst :=
  ⟨fun h hk => by obtain ⟨⟨_, p⟩, hkp, rfl⟩ := List.mem_map.mp hk; exact h p hkp,
   fun h p hp => h (AList.mem_keys_of_mem hp)⟩

theorem openRows_false {k : String} {book : List Instr} :
    OpenRows k (fun _ => False) book ↔ ∀ i ∈ book, i.name = k → i.stateOpen = false :=
  forall₃_congr fun i _ _ => by cases i.stateOpen <;> simp

theorem RowsOf.openRows {b' b : List Instr} (h : RowsOf b' b) {k : String} {P : Int → Prop} (hb : OpenRows k P b) : OpenRows k P b' := by
  intro i hi hik hop
  obtain ⟨i0, hi0, e1, e2, e3⟩ := h i hi
  exact e3 ▸ hb i0 hi0 (e1 ▸ hik) (e2 ▸ hop)

theorem RowsOf.expiry {b' b : List Instr} (h : RowsOf b' b) {k : String} {P : Int → Prop} (hb : ∀ i ∈ b, i.name = k → P i.expiry) :
    ∀ i ∈ b', i.name = k → P i.expiry := by
  intro i hi hik
  obtain ⟨i0, hi0, e1, _, e3⟩ := h i hi
  rw [e3]; exact hb i0 hi0 (e1 ▸ hik)

theorem setStatus_positions (s : DState) (b : Bar) : (setStatus s b).positions = s.positions := rfl
theorem setStatus_actions (s : DState) (b : Bar) : (setStatus s b).actions = s.actions := rfl

theorem onGrid_setStatus (s : DState) (b : Bar) :
    (setStatus s b).onGrid = (b.now % (Gen.deribitFreqMinutes : Int) == 0) := rfl

theorem gmb_frame (cx : DCtx) (c : TokenCfg) (s : DState) :
    (getMarketBalance cx c s).2.positions = s.positions ∧ (getMarketBalance cx c s).2.actions = s.actions ∧
    (getMarketBalance cx c s).2.cash = s.cash := by
  obtain ⟨b, cache, h⟩ := gmb_eq cx c s
  rw [h]; exact ⟨rfl, rfl, rfl⟩

theorem gmb_now (cx : DCtx) (c : TokenCfg) (s : DState) : (getMarketBalance cx c s).2.now = s.now := by
  obtain ⟨b, cache, h⟩ := gmb_eq cx c s
  rw [h]

/-- The last disjunct: an accepted order for an instrument the book lists as open (row `i`) puts an entry under its name — a bought
    position expires like the row, or like the entry it adds to; a sold one like the entry it reduces — or deletes it (sold out). -/
def StepFrame (s : DState) (o : Op) (s' : DState) : Prop :=
  s'.now = s.now ∧
  (∃ acts, s'.actions = s.actions ++ acts ∧ ∀ k, expiredCount k acts = 0) ∧
  RowsOf s'.book s.book ∧
  (s'.positions = s.positions ∨
    ∃ i ∈ s.book, o.key = some i.name ∧ i.stateOpen = true ∧ ∃ e, s'.positions = Deal.putPos s.positions i.name e ∧
      ∀ p', e = some p' → p'.expiry = i.expiry ∨ ∃ p0, (i.name, p0) ∈ s.positions ∧ p'.expiry = p0.expiry)

theorem step_frame (cx : DCtx) (c : TokenCfg) (s : DState) (o : Op) (ho : o ≠ .update) : StepFrame s o (step cx c s o).2 := by
  refine step_deal (P := StepFrame s o) o ho ⟨rfl, ⟨[], (List.append_nil _).symm, fun _ => rfl⟩, RowsOf.refl _, Or.inl rfl⟩
    (fun isBuy r d hor => ?_)
    (fun _ _ _ _ _ => ⟨rfl, ⟨[_], rfl, fun _ => rfl⟩, RowsOf.refl _, Or.inl rfl⟩)
    (fun _ _ _ _ => ⟨rfl, ⟨[_], rfl, fun _ => rfl⟩, RowsOf.refl _, Or.inl rfl⟩)
    (fun b _ => ⟨rfl, ⟨[], (List.append_nil _).symm, fun _ => rfl⟩, RowsOf.refl _, Or.inl rfl⟩)
  have hname := findInstr_name d.find
  refine ⟨rfl, ⟨[_], rfl, fun k => by cases isBuy <;> rfl⟩, rowsOf_setSide isBuy _ _ _,
    Or.inr ⟨d.ins, findInstr_mem d.find, by rw [hor, hname]; cases isBuy <;> rfl, d.listed, d.newPos, hname ▸ d.after_positions,
      fun p' hnp => ?_⟩⟩
  rw [hname]
  exact (d.newPos_expiry hnp).imp id fun ⟨p0, hg, he⟩ => ⟨p0, AList.mem_of_get? hg, he⟩

theorem step_key_kept (cx : DCtx) (c : TokenCfg) (s : DState) (o : Op) (ho : o ≠ .update) (k : String)
    (hk : o.key ≠ some k ∨ OpenRows k (fun _ => False) s.book) (p : Position) :
    (k, p) ∈ (step cx c s o).2.positions ↔ (k, p) ∈ s.positions := by
  rcases (step_frame cx c s o ho).2.2.2 with h | ⟨i, hi, hkey, hopen, e, h, _⟩
  · rw [h]
  · rw [h]
    refine Deal.mem_putPos_of_ne e p ?_
    rintro rfl
    rcases hk with hk | hk
    · exact hk hkey
    · exact hk i hi rfl hopen

theorem step_held (cx : DCtx) (c : TokenCfg) (s : DState) (o : Op) (ho : o ≠ .update) {k : String} {P : Int → Prop} {B : List Instr}
    (hB : RowsOf s.book B) (he : o.key ≠ some k ∨ OpenRows k P B) (h : Held k P s) : Held k P (step cx c s o).2 := by
  intro p hp
  rcases (step_frame cx c s o ho).2.2.2 with e | ⟨i, hi, hkey, hopen, e, hset, hexp⟩
  · exact h p (e ▸ hp)
  · rw [hset] at hp
    by_cases hik : k = i.name
    · rcases Deal.mem_putPos hp with hp | ⟨_, he'⟩
      · exact h p hp
      · rcases hexp p he' with hx | ⟨p0, hp0, hx⟩
        · rw [hx]
          rcases he with he | he
          · exact absurd (hik ▸ hkey) he
          · exact hB.openRows he i hi hik.symm hopen
        · exact hx ▸ h p0 (hik ▸ hp0)
    · exact h p ((Deal.mem_putPos_of_ne e p hik).mp hp)

theorem runOpsO_held (cx : DCtx) (c : TokenCfg) (ops : List Op) (s : DState) (hops : ∀ o ∈ ops, o ≠ Op.update) {k : String}
    {P : Int → Prop} (hk : (∀ o ∈ ops, o.key ≠ some k) ∨ OpenRows k P s.book) (h : Held k P s) :
    Held k P (runOpsO cx c s ops).2.1 :=
  (runOpsO_preserves (P := fun s' => RowsOf s'.book s.book ∧ Held k P s') cx c ops s ⟨RowsOf.refl _, h⟩
    fun o ho s' hs' => ⟨(step_frame cx c s' o (hops o ho)).2.2.1.trans hs'.1,
      step_held cx c s' o (hops o ho) hs'.1 (hk.imp (fun h => h o ho) id) hs'.2⟩).2

theorem step_expP (cx : DCtx) (c : TokenCfg) (s : DState) (o : Op) (ho : o ≠ .update) (k : String) (P : Int → Prop) (h : ExpP P k s) :
    ExpP P k (step cx c s o).2 :=
  ⟨step_held cx c s o ho (RowsOf.refl _) (Or.inr fun i hi hik _ => h.2 i hi hik) h.1, (step_frame cx c s o ho).2.2.1.expiry h.2⟩

theorem runOpsO_expP (cx : DCtx) (c : TokenCfg) (ops : List Op) (s : DState) (hops : ∀ o ∈ ops, o ≠ Op.update)
    (k : String) (P : Int → Prop) (h : ExpP P k s) : ExpP P k (runOpsO cx c s ops).2.1 :=
  runOpsO_preserves cx c ops s h (fun o ho s' hs' => step_expP cx c s' o (hops o ho) k P hs')

theorem runOpsO_absent (cx : DCtx) (c : TokenCfg) (ops : List Op) (s : DState) (hops : ∀ o ∈ ops, o ≠ Op.update) (k : String)
    (hbook : ∀ i ∈ s.book, i.name = k → i.stateOpen = false) (habs : k ∉ s.positions.map Prod.fst) :
    k ∉ (runOpsO cx c s ops).2.1.positions.map Prod.fst :=
  held_false.mp (runOpsO_held cx c ops s hops (Or.inr (openRows_false.mpr hbook)) (held_false.mpr habs))

theorem runOpsO_now (cx : DCtx) (c : TokenCfg) (ops : List Op) (s : DState) : (runOpsO cx c s ops).2.1.now = s.now := by
  refine runOpsO_preserves (P := fun s' => s'.now = s.now) cx c ops s rfl (fun o _ s' h => ?_)
  by_cases ho : o = .update
  · rw [ho]; exact (update_frame cx c s').2.2.2.1.trans h
  · exact (step_frame cx c s' o ho).1.trans h

structure InBar (b : Bar) (k : String) (P : Int → Prop) (s : DState) : Prop where
  nodup : KeysNodup s
  now : s.now = b.now
  rows : RowsOf s.book b.book
  held : Held k P s

def Op.Keeps (b : Bar) (k : String) (P : Int → Prop) (o : Op) : Prop := o.key ≠ some k ∨ OpenRows k P b.book

theorem Op.keeps_true (b : Bar) (k : String) (o : Op) : o.Keeps b k (fun _ => True) := Or.inr fun _ _ _ _ => trivial

theorem InBar.status (b : Bar) {k : String} {P : Int → Prop} {s : DState} (hn : KeysNodup s) (h0 : Held k P s) :
    InBar b k P (setStatus s b) := ⟨hn, rfl, RowsOf.refl _, h0⟩

theorem InBar.step (cx : DCtx) (c : TokenCfg) {b : Bar} {k : String} {P : Int → Prop} {s : DState} (h : InBar b k P s)
    (o : Op) (he : o.Keeps b k P) :
    InBar b k P (step cx c s o).2 ∧
    ((o = .update → ∀ t, P t → ¬ settlesAt b t) → expiredCount k (step cx c s o).2.actions = expiredCount k s.actions) := by
  by_cases ho : o = .update
  · subst ho
    obtain ⟨hbook, _, _, hnow, _⟩ := update_frame cx c s
    refine ⟨⟨keysNodup_update cx c s h.nodup, hnow.trans h.now, hbook ▸ h.rows,
      fun p hp => h.held p ((mem_update_positions cx c s h.nodup _).mp hp).1⟩, fun hq => ?_⟩
    show expiredCount k (update cx c s).actions = _
    rw [expiredCount_update cx c s h.nodup k, if_neg, add_zero]
    -- `update()` writes a record for `k` only if something held under `k` is due; what is held is in `P`, which the bar does not settle
    rintro ⟨hg, hk⟩
    obtain ⟨p, hmem, hdue⟩ := mem_dueKeys.mp hk
    exact hq rfl _ (h.held p hmem) ⟨by rw [← h.now]; exact hg, by rw [← h.now]; exact hdue⟩
  · obtain ⟨g1, ⟨acts, g2, g2'⟩, g3, _⟩ := step_frame cx c s o ho
    exact ⟨⟨step_keysNodup cx c s o ho h.nodup, g1.trans h.now, g3.trans h.rows, step_held cx c s o ho h.rows he h.held⟩,
      fun _ => by rw [g2, expiredCount_append, g2' k]; rfl⟩

theorem InBar.calls (cx : DCtx) (c : TokenCfg) {b : Bar} {k : String} {P : Int → Prop} (ops : List Op)
    (hops : ∀ o ∈ ops, o.Keeps b k P) {s : DState} (h : InBar b k P s) :
    InBar b k P (runOpsO cx c s ops).2.1 ∧
    ((Op.update ∈ ops → ∀ t, P t → ¬ settlesAt b t) →
      expiredCount k (runOpsO cx c s ops).2.1.actions = expiredCount k s.actions) := by
  induction ops generalizing s with
  | nil => exact ⟨h, fun _ => rfl⟩
  | cons o os ih =>
    obtain ⟨h1, h2⟩ := h.step cx c o (hops o List.mem_cons_self)
    obtain ⟨i1, i2⟩ := ih (fun o' ho' => hops o' (List.mem_cons_of_mem _ ho')) h1
    exact ⟨i1, fun hq => (i2 fun hm => hq (List.mem_cons_of_mem _ hm)).trans (h2 fun he => hq (he ▸ List.mem_cons_self))⟩

theorem InBar.settle (cx : DCtx) (c : TokenCfg) {b : Bar} {k : String} {P : Int → Prop} {s : DState} (h : InBar b k P s)
    (hq : ∀ t, P t → settlesAt b t) :
    InBar b k (fun _ => False) (update cx c s) ∧
    expiredCount k (update cx c s).actions = expiredCount k s.actions + (if k ∈ s.positions.map Prod.fst then 1 else 0) := by
  obtain ⟨hbook, _, _, hnow, _⟩ := update_frame cx c s
  have hdue : ∀ p, (k, p) ∈ s.positions → s.onGrid = true ∧ p.expiry ≤ s.now := fun p hp => by
    obtain ⟨h1, h2⟩ := hq _ (h.held p hp)
    exact ⟨by unfold DState.onGrid; rw [h.now]; exact h1, h.now ▸ h2⟩
  refine ⟨⟨keysNodup_update cx c s h.nodup, hnow.trans h.now, hbook ▸ h.rows, fun p hp => ?_⟩, ?_⟩
  · obtain ⟨h1, h2⟩ := (mem_update_positions cx c s h.nodup _).mp hp
    exact h2 (hdue p h1)
  · rw [expiredCount_update cx c s h.nodup k]
    congr 1
    apply if_congr _ rfl rfl
    constructor
    · rintro ⟨_, hk⟩
      obtain ⟨p, hp, _⟩ := mem_dueKeys.mp hk
      exact AList.mem_keys_of_mem hp
    · intro hk
      obtain ⟨⟨_, p⟩, hkp, rfl⟩ := List.mem_map.mp hk
      exact ⟨(hdue p hkp).1, mem_dueKeys.mpr ⟨p, hkp, (hdue p hkp).2⟩⟩

theorem runOpsO_key_kept (cx : DCtx) (c : TokenCfg) (ops : List Op) (s : DState) {k : String} {B : List Instr} (hB : RowsOf s.book B)
    (hops : ∀ o ∈ ops, o ≠ Op.update ∧ (o.key ≠ some k ∨ OpenRows k (fun _ => False) B)) (p : Position) :
    (k, p) ∈ (runOpsO cx c s ops).2.1.positions ↔ (k, p) ∈ s.positions :=
  (runOpsO_preserves (P := fun s' => RowsOf s'.book B ∧ ((k, p) ∈ s'.positions ↔ (k, p) ∈ s.positions)) cx c ops s ⟨hB, Iff.rfl⟩
    fun o ho s' hs' => ⟨(step_frame cx c s' o (hops o ho).1).2.2.1.trans hs'.1,
      (step_key_kept cx c s' o (hops o ho).1 k ((hops o ho).2.imp id hs'.1.openRows) p).trans hs'.2⟩).2

theorem runOpsO_append_state (cx : DCtx) (c : TokenCfg) (l1 l2 : List Op) (s : DState) :
    (runOpsO cx c s (l1 ++ l2)).2.1 = (runOpsO cx c (runOpsO cx c s l1).2.1 l2).2.1 :=
  run_append (run := fun s ops => (runOpsO cx c s ops).2.1) (fun _ => rfl) (fun _ _ _ => rfl) l1 l2 s

theorem midState_positions (cx : DCtx) (c : TokenCfg) (s : DState) (b : Bar) :
    (midState cx c s b).positions = (runOpsO cx c (setStatus s b) b.ops).2.1.positions := by
  unfold midState; split <;> rfl

theorem midState_now (cx : DCtx) (c : TokenCfg) (s : DState) (b : Bar) : (midState cx c s b).now = b.now := by
  unfold midState; split
  · rfl
  · exact runOpsO_now cx c b.ops (setStatus s b)

theorem settlesKey_iff (cx : DCtx) (c : TokenCfg) (s : DState) (b : Bar) (k : String) :
    settlesKey cx c s b k ↔
      (b.now % (Gen.deribitFreqMinutes : Int) == 0) = true ∧ ∃ p, (k, p) ∈ (midState cx c s b).positions ∧ p.expiry ≤ b.now := by
  unfold settlesKey
  simp only [List.mem_map, List.mem_filter, decide_eq_true_eq]
  exact and_congr_right fun _ =>
    ⟨fun ⟨kp, ⟨h1, h2⟩, e⟩ => ⟨kp.2, e ▸ h1, h2⟩, fun ⟨p, h1, h2⟩ => ⟨(k, p), ⟨h1, h2⟩, rfl⟩⟩

theorem runBar_postUpdate (cx : DCtx) (c : TokenCfg) (s : DState) (b : Bar) :
    (runBar cx c s b).state.positions = (postUpdate cx c s b).positions ∧
    (runBar cx c s b).state.actions = (postUpdate cx c s b).actions ∧
    (runBar cx c s b).state.cash = (postUpdate cx c s b).cash :=
  gmb_frame cx c (postUpdate cx c s b)

theorem runBarX_state (cx : DCtx) (c : TokenCfg) (s : DState) (b : Bar) (after notify : List Op) :
    (runBarX cx c s b after notify).state =
      (runOpsO cx c (postUpdate cx c s b) (lateOps (fires cx c s b after) after notify)).2.1 := by
  have h : (runBarX cx c s b after notify).state =
      (if fires cx c s b after = true then
          runOpsO cx c (getMarketBalance cx c (runOpsO cx c (postUpdate cx c s b) after).2.1).2 notify
        else ([], (getMarketBalance cx c (runOpsO cx c (postUpdate cx c s b) after).2.1).2, false)).2.1 := rfl
  rw [h]
  unfold lateOps
  rw [runOpsO_append_state, runOpsO_cons]
  by_cases hf : fires cx c s b after = true
  · simp only [hf, if_true]; rfl
  · simp only [hf]; rfl

theorem runBarX_nil (cx : DCtx) (c : TokenCfg) (s : DState) (b : Bar) :
    (runBarX cx c s b [] []).state = (runBar cx c s b).state := by
  simp [runBarX, runBar, runOpsO]

theorem forall_mem_lateOps {Q : Op → Prop} (fire : Bool) {after notify : List Op} (hb : Q .balance) (ha : ∀ o ∈ after, Q o)
    (hnf : ∀ o ∈ notify, Q o) : ∀ o ∈ lateOps fire after notify, Q o := by
  intro o ho
  unfold lateOps at ho
  rcases List.mem_append.mp ho with h | h
  · exact ha o h
  · rcases List.mem_cons.mp h with rfl | h
    · exact hb
    · cases fire
      · simp at h
      · exact hnf o (by simpa using h)

theorem midState_preserves {J : DState → Prop} (cx : DCtx) (c : TokenCfg) (s : DState) (b : Bar)
    (hst : ∀ s', s' = s ∨ J s' → J (setStatus s' b)) (hcall : ∀ o ∈ b.ops, ∀ s', J s' → J (step cx c s' o).2) :
    J (midState cx c s b) := by
  have h := runOpsO_preserves cx c b.ops (setStatus s b) (hst s (Or.inl rfl)) hcall
  unfold midState
  split
  · exact hst _ (Or.inr h)
  · exact h

theorem runBarX_preserves {J : DState → Prop} (cx : DCtx) (c : TokenCfg) (s : DState) (x : XBar)
    (hst : ∀ s', s' = s ∨ J s' → J (setStatus s' x.1)) (hcall : ∀ o s', J s' → J (step cx c s' o).2) :
    J (runBarX cx c s x.1 x.2.1 x.2.2).state := by
  rw [runBarX_state]
  exact runOpsO_preserves cx c _ _ (hcall .update _ (midState_preserves cx c s x.1 hst fun o _ => hcall o)) fun o _ => hcall o

theorem midState_inBar (cx : DCtx) (c : TokenCfg) (s : DState) (b : Bar) (hn : KeysNodup s) (k : String) (P : Int → Prop)
    (hk : ∀ o ∈ b.ops, o.Keeps b k P) (h0 : Held k P s) :
    InBar b k P (midState cx c s b) ∧
    ((Op.update ∈ b.ops → ∀ t, P t → ¬ settlesAt b t) → expiredCount k (midState cx c s b).actions = expiredCount k s.actions) := by
  obtain ⟨h1, h2⟩ := InBar.calls cx c b.ops hk (InBar.status b hn h0)
  unfold midState
  split
  · exact ⟨.status b h1.nodup h1.held, h2⟩
  · exact ⟨h1, h2⟩

theorem postUpdate_inBar (cx : DCtx) (c : TokenCfg) (s : DState) (b : Bar) (hn : KeysNodup s) (k : String) :
    InBar b k (fun _ => True) (postUpdate cx c s b) :=
  ((midState_inBar cx c s b hn k _ (fun o _ => o.keeps_true b k) fun _ _ => trivial).1.step cx c .update (Op.keeps_true b k _)).1

theorem mem_postUpdate (cx : DCtx) (c : TokenCfg) (s : DState) (b : Bar) (hn : KeysNodup s) (kp : String × Position) :
    kp ∈ (postUpdate cx c s b).positions ↔ kp ∈ (midState cx c s b).positions ∧ ¬ settlesAt b kp.2.expiry := by
  obtain ⟨hm, _⟩ := midState_inBar cx c s b hn kp.1 (fun _ => True) (fun o _ => o.keeps_true _ _) fun _ _ => trivial
  unfold postUpdate settlesAt
  rw [mem_update_positions cx c _ hm.nodup, DState.onGrid, hm.now]

theorem midState_key_kept (cx : DCtx) (c : TokenCfg) (s : DState) (b : Bar) (hops : NoUpdate b) (k : String)
    (hk : Avoids k b ∨ OpenRows k (fun _ => False) b.book) (p : Position) :
    (k, p) ∈ (midState cx c s b).positions ↔ (k, p) ∈ s.positions := by
  rw [midState_positions]
  exact runOpsO_key_kept cx c b.ops (setStatus s b) (RowsOf.refl _) (fun o ho => ⟨hops o ho, hk.imp (fun h => h o ho) id⟩) p

theorem midState_expiry (cx : DCtx) (c : TokenCfg) (s : DState) (b : Bar) (hops : NoUpdate b) (k : String)
    (P : Int → Prop) (h0 : ∀ p, (k, p) ∈ s.positions → P p.expiry)
    (hk : Avoids k b ∨ ∀ i ∈ b.book, i.name = k → P i.expiry) :
    ∀ p, (k, p) ∈ (midState cx c s b).positions → P p.expiry := by
  rw [midState_positions]
  exact runOpsO_held cx c b.ops (setStatus s b) hops (hk.imp id fun h i hi hik _ => h i hi hik) h0

theorem midState_absent (cx : DCtx) (c : TokenCfg) (s : DState) (b : Bar) (hops : NoUpdate b) (k : String)
    (habs : k ∉ s.positions.map Prod.fst)
    (hk : Avoids k b ∨ ∀ i ∈ b.book, i.name = k → i.stateOpen = false) :
    k ∉ (midState cx c s b).positions.map Prod.fst :=
  held_false.mp (by
    rw [Held, midState_positions]
    exact runOpsO_held cx c b.ops (setStatus s b) hops (hk.imp id openRows_false.mpr) (held_false.mpr habs))

theorem lateOps_keeps {k : String} {x : XBar} {P : Int → Prop} (hk : LateAvoids k x ∨ OpenRows k P x.1.book) (fire : Bool) :
    ∀ o ∈ lateOps fire x.2.1 x.2.2, o.Keeps x.1 k P :=
  forall_mem_lateOps fire (Or.inl (by simp [Op.key])) (fun o ho => hk.imp (fun h => h.1 o ho) id) (fun o ho => hk.imp (fun h => h.2 o ho) id)

theorem not_update_mem_lateOps {x : XBar} (hx : NoUpdateX x) (fire : Bool) : Op.update ∉ lateOps fire x.2.1 x.2.2 :=
  fun hm => forall_mem_lateOps (Q := fun o => o ≠ Op.update) fire (by simp) hx.2.1 hx.2.2 _ hm rfl

theorem late_inBar (cx : DCtx) (c : TokenCfg) (s : DState) (x : XBar) {k : String} {P : Int → Prop}
    (hk : ∀ o ∈ lateOps (fires cx c s x.1 x.2.1) x.2.1 x.2.2, o.Keeps x.1 k P) (hu : InBar x.1 k P (postUpdate cx c s x.1)) :
    InBar x.1 k P (runBarX cx c s x.1 x.2.1 x.2.2).state ∧
    ((Op.update ∈ lateOps (fires cx c s x.1 x.2.1) x.2.1 x.2.2 → ∀ t, P t → ¬ settlesAt x.1 t) →
      expiredCount k (runBarX cx c s x.1 x.2.1 x.2.2).state.actions = expiredCount k (postUpdate cx c s x.1).actions) := by
  rw [runBarX_state]
  exact InBar.calls cx c _ hk hu

theorem keysNodup_runBarX (cx : DCtx) (c : TokenCfg) (s : DState) (x : XBar) (hn : KeysNodup s) :
    KeysNodup (runBarX cx c s x.1 x.2.1 x.2.2).state :=
  (late_inBar cx c s x (fun o _ => o.keeps_true _ "") (postUpdate_inBar cx c s x.1 hn "")).1.nodup

theorem expiredCount_runBarX (cx : DCtx) (c : TokenCfg) (s : DState) (x : XBar) (hx : NoUpdateX x) (hn : KeysNodup s) (k : String) :
    expiredCount k (runBarX cx c s x.1 x.2.1 x.2.2).state.actions =
      expiredCount k s.actions + (if settlesKey cx c s x.1 k then 1 else 0) := by
  obtain ⟨hm, hcm⟩ := midState_inBar cx c s x.1 hn k (fun _ => True) (fun o _ => o.keeps_true _ k) fun _ _ => trivial
  obtain ⟨_, hcl⟩ := late_inBar cx c s x (fun o _ => o.keeps_true _ k) (postUpdate_inBar cx c s x.1 hn k)
  rw [hcl fun hm => absurd hm (not_update_mem_lateOps hx _), postUpdate, expiredCount_update cx c _ hm.nodup k,
    hcm fun hm => absurd rfl (hx.1 _ hm)]
  exact congrArg _ (if_congr (by rw [settlesKey_iff, mem_dueKeys, DState.onGrid, hm.now]) rfl rfl)

theorem late_key_kept (cx : DCtx) (c : TokenCfg) (s : DState) (x : XBar) (hx : NoUpdateX x) (hn : KeysNodup s) (k : String)
    (hk : LateAvoids k x ∨ OpenRows k (fun _ => False) x.1.book) (p : Position) :
    (k, p) ∈ (runBarX cx c s x.1 x.2.1 x.2.2).state.positions ↔ (k, p) ∈ (postUpdate cx c s x.1).positions := by
  rw [runBarX_state]
  exact runOpsO_key_kept cx c _ _ (postUpdate_inBar cx c s x.1 hn k).rows (fun o ho => ⟨fun h => not_update_mem_lateOps hx _ (h ▸ ho),
    lateOps_keeps hk _ o ho⟩) p

theorem barX_keeps (cx : DCtx) (c : TokenCfg) (s : DState) (x : XBar) (hx : NoUpdateX x) (hn : KeysNodup s) (k : String)
    (hk : AvoidsX k x) (p : Position) :
    (k, p) ∈ (runBarX cx c s x.1 x.2.1 x.2.2).state.positions ↔ (k, p) ∈ s.positions ∧ ¬ settlesAt x.1 p.expiry := by
  rw [late_key_kept cx c s x hx hn k (Or.inl hk.2), mem_postUpdate cx c s x.1 hn, midState_key_kept cx c s x.1 hx.1 k (Or.inl hk.1)]

theorem barX_quiet (cx : DCtx) (c : TokenCfg) (s : DState) (x : XBar) (hn : KeysNodup s) (k : String) (P : Int → Prop)
    (hk : AvoidsX k x ∨ OpenRows k P x.1.book) (hq : ∀ t, P t → ¬ settlesAt x.1 t) (h0 : Held k P s) :
    InBar x.1 k P (runBarX cx c s x.1 x.2.1 x.2.2).state ∧
    expiredCount k (runBarX cx c s x.1 x.2.1 x.2.2).state.actions = expiredCount k s.actions := by
  obtain ⟨hm, hcm⟩ := midState_inBar cx c s x.1 hn k P (fun o ho => hk.imp (fun h => h.1 o ho) id) h0
  obtain ⟨hu, hcu⟩ := hm.step cx c .update (Or.inl (by simp [Op.key]))
  obtain ⟨hl, hcl⟩ := late_inBar cx c s x (lateOps_keeps (hk.imp (fun h => h.2) id) _) hu
  exact ⟨hl, (hcl fun _ => hq).trans ((hcu fun _ => hq).trans (hcm fun _ => hq))⟩

theorem runBarsX_append (cx : DCtx) (c : TokenCfg) (l1 l2 : List XBar) (s0 : DState) :
    runBarsX cx c s0 (l1 ++ l2) = runBarsX cx c (runBarsX cx c s0 l1) l2 :=
  run_append (fun _ => rfl) (fun _ _ _ => rfl) l1 l2 s0

theorem runBarsX_nil (cx : DCtx) (c : TokenCfg) (bs : List Bar) (s : DState) :
    runBarsX cx c s (bs.map (fun b => (b, [], []))) = runBars cx c s bs := by
  induction bs generalizing s with
  | nil => rfl
  | cons b bs ih =>
    show runBarsX cx c (runBarX cx c s b [] []).state _ = runBars cx c (runBar cx c s b).state bs
    rw [runBarX_nil]; exact ih _

/-- `P := (· = T)`, `(T ≤ ·)`: before the settling bar; `P := fun _ => False`: once `k` is gone and delisted -/
theorem runX_quiet (cx : DCtx) (c : TokenCfg) (xs : List XBar) (s : DState) (hn : KeysNodup s) (k : String) (P : Int → Prop)
    (hk : ∀ x ∈ xs, AvoidsX k x ∨ OpenRows k P x.1.book) (hq : ∀ x ∈ xs, ∀ t, P t → ¬ settlesAt x.1 t) (h0 : Held k P s) :
    KeysNodup (runBarsX cx c s xs) ∧ Held k P (runBarsX cx c s xs) ∧
    expiredCount k (runBarsX cx c s xs).actions = expiredCount k s.actions := by
  refine run_keeps (run := runBarsX cx c) (fun _ => rfl) (fun _ _ _ => rfl)
    (P := fun s' => KeysNodup s' ∧ Held k P s' ∧ expiredCount k s'.actions = expiredCount k s.actions) xs ?_ s ⟨hn, h0, rfl⟩
  rintro x hx s' ⟨hn', h0', hc'⟩
  obtain ⟨g1, g2⟩ := barX_quiet cx c s' x hn' k P (hk x hx) (hq x hx) h0'
  exact ⟨g1.nodup, g1.held, g2.trans hc'⟩

theorem runX_keeps (cx : DCtx) (c : TokenCfg) (xs : List XBar) (s : DState) (hn : KeysNodup s) (k : String) (p : Position)
    (hmem : (k, p) ∈ s.positions) (hops : ∀ x ∈ xs, NoUpdateX x) (hk : ∀ x ∈ xs, AvoidsX k x)
    (hpre : ∀ x ∈ xs, ¬ settlesAt x.1 p.expiry) : (k, p) ∈ (runBarsX cx c s xs).positions :=
  (run_keeps (run := runBarsX cx c) (fun _ => rfl) (fun _ _ _ => rfl) (P := fun s' => KeysNodup s' ∧ (k, p) ∈ s'.positions) xs
    (fun x hx s' h => ⟨keysNodup_runBarX cx c s' x h.1,
      (barX_keeps cx c s' x (hops x hx) h.1 k (hk x hx) p).mpr ⟨h.2, hpre x hx⟩⟩) s ⟨hn, hmem⟩).2

/-- The statement of `C16_runX_settles_exactly_once` (Proofs/C16/HooksRun.lean, where it is explained), with `NoUpdate` asked of the
    early calls of the settling bar `x` only (`hx1`: the conclusion speaks of the state the loop's `update()` runs on); anywhere else
    the strategy may call `update()` itself. -/
theorem runX_settles_exactly_once (cx : DCtx) (c : TokenCfg) (pre post : List XBar) (x : XBar) (s : DState)
    (hn : KeysNodup s) (k : String) (T : Int)
    (hx1 : NoUpdate x.1)
    (h0 : ∀ p, (k, p) ∈ s.positions → p.expiry = T)
    (hkpre : ∀ x' ∈ pre, AvoidsX k x' ∨ ∀ i ∈ x'.1.book, i.name = k → i.expiry = T)
    (hkx : Avoids k x.1 ∨ ∀ i ∈ x.1.book, i.name = k → i.expiry = T)
    (hlate : LateAvoids k x ∨ ∀ i ∈ x.1.book, i.name = k → i.stateOpen = false)
    (hpre : ∀ x' ∈ pre, ¬ settlesAt x'.1 T) (hb : settlesAt x.1 T)
    (hpost : ∀ x' ∈ post, AvoidsX k x' ∨ ∀ i ∈ x'.1.book, i.name = k → i.stateOpen = false) :
    expiredCount k (runBarsX cx c s pre).actions = expiredCount k s.actions ∧
    (∀ p, (k, p) ∈ (runBarsX cx c s pre).positions → p.expiry = T) ∧
    k ∉ (runBarsX cx c s (pre ++ [x])).positions.map Prod.fst ∧
    k ∉ (runBarsX cx c s (pre ++ x :: post)).positions.map Prod.fst ∧
    expiredCount k (runBarsX cx c s (pre ++ x :: post)).actions =
      expiredCount k s.actions +
        (if k ∈ (midState cx c (runBarsX cx c s pre) x.1).positions.map Prod.fst then 1 else 0) := by
  -- quiet up to `x`; in `x`: quiet up to `update()`, which settles all that is held under `k`; quiet ever after, with nothing held
  obtain ⟨hn1, he1, hc1⟩ := runX_quiet cx c pre s hn k (· = T)
    (fun x' h => (hkpre x' h).imp id fun h i hi hik _ => h i hi hik) (fun x' h t ht => ht ▸ hpre x' h) h0
  obtain ⟨hm, hcm⟩ := midState_inBar cx c (runBarsX cx c s pre) x.1 hn1 k (· = T)
    (fun o ho => hkx.imp (fun h => h o ho) fun h i hi hik _ => h i hi hik) he1
  obtain ⟨hu, hcu⟩ := hm.settle cx c (fun t ht => ht ▸ hb)
  obtain ⟨hl, hcl⟩ := late_inBar cx c (runBarsX cx c s pre) x (lateOps_keeps (hlate.imp id openRows_false.mpr) _) hu
  obtain ⟨_, hp3, hc3⟩ := runX_quiet cx c post _ hl.nodup k (fun _ => False) (fun x' h => (hpost x' h).imp id openRows_false.mpr)
    (fun _ _ _ h => h.elim) hl.held
  simp only [runBarsX_append]
  exact ⟨hc1, he1, held_false.mp hl.held, held_false.mp hp3,
    hc3.trans ((hcl fun _ _ h => h.elim).trans (hcu.trans (by rw [hcm fun hm => absurd rfl (hx1 _ hm), hc1])))⟩

theorem runX_untraded_settles_exactly_once (cx : DCtx) (c : TokenCfg) (pre post : List XBar) (x : XBar) (s : DState)
    (hn : KeysNodup s) (k : String) (p : Position) (hmem : (k, p) ∈ s.positions)
    (hops : ∀ x' ∈ pre ++ x :: post, NoUpdateX x' ∧ AvoidsX k x') (hpre : ∀ x' ∈ pre, ¬ settlesAt x'.1 p.expiry)
    (hb : settlesAt x.1 p.expiry) :
    (k, p) ∈ (runBarsX cx c s pre).positions ∧
    k ∉ (runBarsX cx c s (pre ++ [x])).positions.map Prod.fst ∧
    k ∉ (runBarsX cx c s (pre ++ x :: post)).positions.map Prod.fst ∧
    expiredCount k (runBarsX cx c s (pre ++ x :: post)).actions = expiredCount k s.actions + 1 := by
  have hx := hops x (List.mem_append_right _ List.mem_cons_self)
  have hpre' : ∀ x' ∈ pre, NoUpdateX x' ∧ AvoidsX k x' := fun x' h => hops x' (List.mem_append_left _ h)
  have h0 : ∀ q, (k, q) ∈ s.positions → q.expiry = p.expiry := fun q hq => hn.unique hq hmem ▸ rfl
  obtain ⟨_, _, g3, g4, g5⟩ := runX_settles_exactly_once cx c pre post x s hn k p.expiry hx.1.1 h0
    (fun x' h => Or.inl (hpre' x' h).2) (Or.inl hx.2.1) (Or.inl hx.2.2) hpre hb
    (fun x' h => Or.inl (hops x' (List.mem_append_right _ (List.mem_cons_of_mem _ h))).2)
  have hm1 := runX_keeps cx c pre s hn k p hmem (fun x' h => (hpre' x' h).1) (fun x' h => (hpre' x' h).2) hpre
  have hmid : k ∈ (midState cx c (runBarsX cx c s pre) x.1).positions.map Prod.fst :=
    AList.mem_keys_of_mem ((midState_key_kept cx c _ x.1 hx.1.1 k (Or.inl hx.2.1) p).mpr hm1)
  rw [if_pos hmid] at g5
  exact ⟨hm1, g3, g4, g5⟩

theorem barAvoids_of_hold {b : Bar} (h : b.ops = []) (k : String) : BarAvoids k b := by
  intro o ho; rw [h] at ho; cases ho

theorem BarAvoids.noHooks {k : String} {b : Bar} (h : BarAvoids k b) : NoUpdateX (b, [], []) ∧ AvoidsX k (b, [], []) :=
  ⟨⟨fun o ho => (h o ho).1, by simp, by simp⟩, fun o ho => (h o ho).2, by simp, by simp⟩

theorem forall_mem_noHooks {Q : XBar → Prop} {pre post : List Bar} {b : Bar} (h : ∀ b' ∈ pre ++ b :: post, Q (b', [], [])) :
    ∀ x ∈ pre.map (fun b => (b, [], [])) ++ (b, [], []) :: post.map (fun b => (b, [], [])), Q x := by
  intro x hx
  have : x ∈ (pre ++ b :: post).map (fun b => ((b, [], []) : XBar)) := by simpa using hx
  obtain ⟨b', hb', rfl⟩ := List.mem_map.mp this
  exact h b' hb'

theorem runX_record_count (cx : DCtx) (c : TokenCfg) (xs : List XBar) (s : DState) (hn : KeysNodup s)
    (hops : ∀ x ∈ xs, NoUpdateX x) (k : String) :
    expiredCount k (runBarsX cx c s xs).actions = expiredCount k s.actions + settlementsX cx c k s xs ∧
    KeysNodup (runBarsX cx c s xs) := by
  induction xs generalizing s with
  | nil => exact ⟨rfl, hn⟩
  | cons x xs ih =>
    obtain ⟨i1, i2⟩ := ih (runBarX cx c s x.1 x.2.1 x.2.2).state (keysNodup_runBarX cx c s x hn)
      (fun x' h => hops x' (List.mem_cons_of_mem _ h))
    exact ⟨i1.trans (by rw [expiredCount_runBarX cx c s x (hops x List.mem_cons_self) hn k, settlementsX, Nat.add_assoc]), i2⟩

theorem settlementsX_nil (cx : DCtx) (c : TokenCfg) (k : String) (bs : List Bar) (s : DState) :
    settlementsX cx c k s (bs.map (fun b => (b, [], []))) = settlements cx c k s bs := by
  induction bs generalizing s with
  | nil => rfl
  | cons b bs ih =>
    show _ + settlementsX cx c k (runBarX cx c s b [] []).state _ = _ + settlements cx c k (runBar cx c s b).state bs
    rw [runBarX_nil, ih]

theorem expiredCount_runBar (cx : DCtx) (c : TokenCfg) (s : DState) (b : Bar) (hops : NoUpdate b) (hn : KeysNodup s) (k : String) :
    expiredCount k (runBar cx c s b).state.actions = expiredCount k s.actions + (if settlesKey cx c s b k then 1 else 0) := by
  have h := expiredCount_runBarX cx c s (b, [], []) ⟨hops, by simp, by simp⟩ hn k
  rwa [runBarX_nil] at h

end Deribit
end Demeter
