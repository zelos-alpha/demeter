/-
  Inversion lemmas for the GMX v2 model instantiated at `Rat` (`ratOps pw`, any power function `pw`): what an `ok`
  result of each pricing function says in closed form, and what an accepted `deposit` / `withdraw` has passed and done
  (the rejected half, for every number type, is Lemmas/GmxV2Reject).
-/
import Proofs.Lemmas.Gmx
import Proofs.Lemmas.GmxV2Reject
import Mathlib.Tactic.FieldSimp
import Mathlib.Tactic.Ring
import Mathlib.Tactic.Positivity
import Mathlib.Tactic.NormNum
namespace Demeter.Gmx2
open Demeter Demeter.GmxV2 Demeter.Gmx

variable {pw : Rat → Rat → Rat}

structure PoolPos (ps : Pool Rat) : Prop where
  longPrice : 0 < ps.longPrice
  shortPrice : 0 < ps.shortPrice
  poolValue : 0 < ps.poolValue
  supply : 0 < ps.supply
  impactPool : 0 ≤ ps.impactPool

structure CfgOK (cfg : Config Rat) : Prop where
  dp0 : 0 ≤ cfg.depositFeePos
  dp1 : cfg.depositFeePos ≤ 1
  dn0 : 0 ≤ cfg.depositFeeNeg
  dn1 : cfg.depositFeeNeg ≤ 1
  wn0 : 0 ≤ cfg.withdrawFeeNeg
  wn1 : cfg.withdrawFeeNeg ≤ 1

theorem fdiv_ok {a b q : Rat} (h : fdiv (ratOps pw) a b = .ok q) : b ≠ 0 ∧ q = a / b := by
  unfold fdiv ratOps at h
  simp only [decide_eq_true_eq] at h
  split at h
  · cases h
  · cases h; exact ⟨by assumption, rfl⟩

/-- what a deposit is credited for its share of the price impact: a positive impact is paid from the impact pool and
    capped by it (`cap` = impact pool amount × price of the token it is paid in); a negative one is charged in full -/
def creditOf (impact cap : Rat) : Rat := if impact > 0 then min impact cap else impact

theorem creditOf_le_impact (impact cap : Rat) : creditOf impact cap ≤ impact := by
  unfold creditOf; split
  · exact min_le_left _ _
  · exact le_refl _

theorem creditOf_le_cap {impact cap : Rat} (h : 0 < impact) : creditOf impact cap ≤ cap := by
  unfold creditOf; rw [if_pos h]; exact min_le_right _ _

theorem creditOf_nonpos {impact cap : Rat} (h : impact ≤ 0) : creditOf impact cap ≤ 0 := by
  unfold creditOf; rw [if_neg (not_lt.mpr h)]; exact h

theorem creditOf_nonneg {impact cap : Rat} (h : 0 < impact) (hc : 0 ≤ cap) : 0 ≤ creditOf impact cap := by
  unfold creditOf; rw [if_pos h]; exact le_min (le_of_lt h) hc

/-- the two places where `calc_token_amount` applies the impact: the capped positive part is minted as it is, the negative
    part is charged in units of the token paid in (price `p`) -/
theorem creditOf_split (impact cap : Rat) {p : Rat} (hp : p ≠ 0) :
    creditOf impact cap = (if impact > 0 then min impact cap else 0) + (if impact < 0 then impact / p else 0) * p := by
  unfold creditOf
  rcases lt_trichotomy impact 0 with h | rfl | h
  · have hn : ¬ impact > 0 := not_lt.mpr h.le
    rw [if_neg hn, if_neg hn, if_pos h, div_mul_cancel₀ _ hp, zero_add]
  · simp
  · rw [if_pos h, if_pos h, if_neg (not_lt.mpr h.le), zero_mul, add_zero]

theorem impactAmountWithCap_ok {price impact pool amt : Rat} {capped : Bool}
    (h : impactAmountWithCap (ratOps pw) price impact pool = .ok (amt, capped)) :
    price ≠ 0 ∧ amt = (if impact > 0 then min (impact / price) pool else impact / price) := by
  unfold impactAmountWithCap at h
  simp only [Exc.bind_ok] at h
  obtain ⟨a, ha, h⟩ := h
  obtain ⟨hne, rfl⟩ := fdiv_ok ha
  refine ⟨hne, ?_⟩
  split_ifs at h with hi hc <;> cases h
  · rw [if_pos hi, min_eq_right hc.le]
  · rw [if_pos hi, min_eq_left (not_lt.mp hc)]
  · rw [if_neg hi]

/-- a cap in token units is the cap in USD: the one place where the two forms of "capped by the impact pool" meet -/
theorem min_div_mul {x c p : Rat} (hp : 0 < p) : min (x / p) c * p = min x (c * p) := by
  rw [min_mul_of_nonneg _ _ hp.le, div_mul_cancel₀ _ hp.ne']

theorem usdToGm_ok {usd pv sup m : Rat} (h : usdToGm (ratOps pw) usd pv sup = .ok m) : pv ≠ 0 ∧ m = sup * usd / pv := by
  unfold usdToGm at h; exact fdiv_ok h

theorem positiveImpactMint_ok {ps : Pool Rat} {priceOut impact pool mint : Rat} {capped : Bool} (hpo : 0 < priceOut)
    (h : positiveImpactMint (ratOps pw) ps priceOut impact pool = .ok (mint, capped)) :
    mint = ps.supply * (if impact > 0 then min impact (pool * priceOut) else 0) / ps.poolValue := by
  unfold positiveImpactMint at h
  by_cases hi : impact > 0
  · simp only [hi, if_true, Exc.bind_ok] at h ⊢
    obtain ⟨⟨amt, c⟩, ha, m, hm, hpure⟩ := h
    obtain ⟨_, rfl⟩ := impactAmountWithCap_ok ha
    obtain ⟨_, rfl⟩ := usdToGm_ok hm
    simp only [pure, Except.pure, Except.ok.injEq, Prod.mk.injEq] at hpure
    rw [← hpure.1, if_pos hi, min_div_mul hpo, zero_add]
  · simp only [hi, if_false, pure, Except.pure, Except.ok.injEq, Prod.mk.injEq] at h ⊢
    rw [← h.1]; simp

theorem afterNegativeImpact_ok {ps : Pool Rat} {priceIn after impact after' : Rat}
    (h : afterNegativeImpact (ratOps pw) ps priceIn after impact = .ok after') :
    after' = after + (if impact < 0 then impact / priceIn else 0) ∧ (impact < 0 → 0 ≤ after') := by
  unfold afterNegativeImpact at h
  by_cases hi : impact < 0
  · simp only [hi, if_true, Exc.bind_ok] at h ⊢
    obtain ⟨⟨amt, c⟩, ha, h⟩ := h
    obtain ⟨_, hamt⟩ := impactAmountWithCap_ok ha
    have hnp : ¬ (impact > 0) := by linarith
    rw [if_neg hnp] at hamt
    split at h
    · cases h
    · rename_i hge
      simp only [pure, Except.pure, Except.ok.injEq] at h
      subst hamt
      constructor
      · rw [← h]; ring
      · intro _; rw [← h]; exact not_lt.mp hge
  · simp only [hi, if_false, pure, Except.pure, Except.ok.injEq] at h ⊢
    exact ⟨by rw [h]; ring, fun hc => absurd hc (by simp)⟩

theorem calcTokenAmount_ok {cfg : Config Rat} {ps : Pool Rat} (hp : PoolPos ps) {pin pout amount impact pool mint fee : Rat}
    {capped : Bool} (hpi : 0 < pin) (hpo : 0 < pout)
    (h : calcTokenAmount (ratOps pw) cfg ps pin pout amount impact pool = .ok (mint, fee, capped)) :
    fee = (if impact > 0 then cfg.depositFeePos else cfg.depositFeeNeg) * amount ∧
    mint * (ps.poolValue / ps.supply) = (amount - fee) * pin + creditOf impact (pool * pout) ∧
    (impact < 0 → 0 ≤ (amount - fee) * pin + impact) := by
  unfold calcTokenAmount at h
  simp only [Exc.bind_ok] at h
  obtain ⟨⟨m1, c1⟩, h1, after, h2, m2, h3, hpure⟩ := h
  obtain ⟨rfl, rfl, rfl⟩ := hpure
  have hm1 := positiveImpactMint_ok hpo h1
  obtain ⟨hafter, hnn⟩ := afterNegativeImpact_ok h2
  obtain ⟨_, rfl⟩ := usdToGm_ok h3
  have hs := hp.supply
  refine ⟨rfl, ?_, ?_⟩
  · rw [hm1, hafter, creditOf_split impact _ hpi.ne']
    field_simp
    ring
  · intro hn
    have := mul_nonneg (hnn hn) hpi.le
    rwa [hafter, if_pos hn, add_mul, div_mul_cancel₀ _ hpi.ne'] at this

/-- the amount (in units of the token it is paid in) a positive impact share takes out of what is left of the impact pool -/
def paidOf (share priceOut pool : Rat) : Rat := if share > 0 then min (share / priceOut) pool else 0

theorem paidOf_nonneg {share priceOut pool : Rat} (hpo : 0 < priceOut) (hp : 0 ≤ pool) : 0 ≤ paidOf share priceOut pool := by
  unfold paidOf; split
  · rename_i hs; exact le_min (le_of_lt (div_pos hs hpo)) hp
  · exact le_refl _

theorem paidOf_le_pool {share priceOut pool : Rat} (hp : 0 ≤ pool) : paidOf share priceOut pool ≤ pool := by
  unfold paidOf; split
  · exact min_le_right _ _
  · exact hp

theorem creditOf_eq_paid {share priceOut pool : Rat} (hpo : 0 < priceOut) (hs : 0 < share) :
    creditOf share (pool * priceOut) = paidOf share priceOut pool * priceOut := by
  unfold creditOf paidOf
  rw [if_pos hs, if_pos hs, min_div_mul hpo]

theorem poolLeft_ok {priceOut share pool left : Rat} (h : poolLeft (ratOps pw) priceOut share pool = .ok left) :
    left = pool - paidOf share priceOut pool := by
  unfold poolLeft at h
  unfold paidOf
  by_cases hs : share > 0
  · simp only [hs, if_true, Exc.bind_ok] at h ⊢
    obtain ⟨⟨amt, c⟩, ha, hpure⟩ := h
    obtain ⟨_, rfl⟩ := impactAmountWithCap_ok ha
    simp only [pure, Except.pure, Except.ok.injEq] at hpure
    rw [← hpure, if_pos hs]
  · simp only [hs, if_false, pure, Except.pure, Except.ok.injEq] at h ⊢
    rw [← h]; ring

/-- value (in USD, at pool value per share) credited for one side of a deposit: amount after the deposit fee factor at
    the token's price, plus its share of the price impact, a positive share capped by what is left of the impact pool (`pool`) -/
def sideValue (cfg : Config Rat) (pool amount priceIn priceOut share : Rat) : Rat :=
  if amount > 0 then
    (amount - (if share > 0 then cfg.depositFeePos else cfg.depositFeeNeg) * amount) * priceIn
      + creditOf share (pool * priceOut)
  else 0

def sideLeft (pool amount priceOut share : Rat) : Rat := if amount > 0 then pool - paidOf share priceOut pool else pool

/-- what a side draws from the impact pool, in units of the token paid out: nothing without a deposit on that side -/
def sidePaid (pool amount priceOut share : Rat) : Rat := if amount > 0 then paidOf share priceOut pool else 0

theorem sidePaid_nonneg {pool amount priceOut share : Rat} (hpo : 0 < priceOut) (hp : 0 ≤ pool) :
    0 ≤ sidePaid pool amount priceOut share := by
  unfold sidePaid; split
  · exact paidOf_nonneg hpo hp
  · exact le_refl _

theorem sidePaid_le_pool {pool amount priceOut share : Rat} (hp : 0 ≤ pool) : sidePaid pool amount priceOut share ≤ pool := by
  unfold sidePaid; split
  · exact paidOf_le_pool hp
  · exact hp

theorem sideLeft_eq (pool amount priceOut share : Rat) :
    sideLeft pool amount priceOut share = pool - sidePaid pool amount priceOut share := by
  unfold sideLeft sidePaid; split <;> simp

def optMint : Option (Rat × Rat × Bool) → Rat
  | some (m, _, _) => m
  | none => 0

@[simp] theorem optMint_none : optMint none = 0 := rfl
@[simp] theorem optMint_some (m f : Rat) (c : Bool) : optMint (some (m, f, c)) = m := rfl

theorem sideValue_le_paid {cfg : Config Rat} (hc : CfgOK cfg) (pool : Rat) {amount pin pout share : Rat}
    (hpin : 0 < pin) (hs : share ≤ 0) : sideValue cfg pool amount pin pout share ≤ max amount 0 * pin := by
  unfold sideValue
  by_cases ha : amount > 0
  · rw [if_pos ha, if_neg (not_lt.mpr hs), max_eq_left (le_of_lt ha)]
    have h1 := creditOf_nonpos (cap := pool * pout) hs
    have h2 : 0 ≤ cfg.depositFeeNeg * amount * pin := mul_nonneg (mul_nonneg hc.dn0 ha.le) hpin.le
    linarith
  · rw [if_neg ha, max_eq_right (not_lt.mp ha)]; simp

theorem sideValue_nonneg {cfg : Config Rat} (hc : CfgOK cfg) {pool amount pin pout share : Rat} (hpool : 0 ≤ pool)
    (hpin : 0 < pin) (hpout : 0 < pout)
    (hneg : amount > 0 → share < 0 →
      0 ≤ (amount - (if share > 0 then cfg.depositFeePos else cfg.depositFeeNeg) * amount) * pin + share) :
    0 ≤ sideValue cfg pool amount pin pout share := by
  unfold sideValue
  split
  · rename_i ha
    rcases lt_trichotomy share 0 with hz | rfl | hsh
    · have hn : ¬ share > 0 := by linarith
      have := hneg ha hz
      rw [if_neg hn] at this
      rwa [creditOf, if_neg hn, if_neg hn]
    · have : 0 ≤ amount * (1 - cfg.depositFeeNeg) * pin :=
        mul_nonneg (mul_nonneg ha.le (by linarith [hc.dn1])) hpin.le
      rw [creditOf, if_neg (lt_irrefl _), if_neg (lt_irrefl _)]
      linarith
    · have h0 := creditOf_nonneg (cap := pool * pout) hsh (mul_nonneg hpool hpout.le)
      have : 0 ≤ amount * (1 - cfg.depositFeePos) * pin :=
        mul_nonneg (mul_nonneg ha.le (by linarith [hc.dp1])) hpin.le
      rw [if_pos hsh]
      linarith
  · exact le_refl _

theorem sideValue_of_pos (cfg : Config Rat) (pool : Rat) {amount pin pout share : Rat} (ha0 : 0 ≤ amount) (hpout : 0 < pout)
    (hsh : amount > 0 → 0 < share) (hs0 : 0 ≤ share) :
    sideValue cfg pool amount pin pout share
        = amount * (1 - cfg.depositFeePos) * pin + sidePaid pool amount pout share * pout ∧
      sidePaid pool amount pout share * pout ≤ share := by
  unfold sideValue sidePaid
  by_cases ha : amount > 0
  · have hpos := hsh ha
    rw [if_pos ha, if_pos hpos, if_pos ha, creditOf_eq_paid hpout hpos]
    exact ⟨by ring, by rw [← creditOf_eq_paid hpout hpos]; exact creditOf_le_impact _ _⟩
  · have h0 : amount = 0 := le_antisymm (not_lt.mp ha) ha0
    rw [if_neg ha, if_neg ha, h0]
    exact ⟨by ring, by rw [zero_mul]; exact hs0⟩

theorem sideLeft_nonneg {pool amount priceOut share : Rat} (hp : 0 ≤ pool) : 0 ≤ sideLeft pool amount priceOut share := by
  rw [sideLeft_eq]; exact sub_nonneg.2 (sidePaid_le_pool hp)

theorem sidePart_ok {cfg : Config Rat} {ps : Pool Rat} (hp : PoolPos ps) {pin pout amount usd total impact pool left : Rat}
    {res : Option (Rat × Rat × Bool)} (hpi : 0 < pin) (hpo : 0 < pout)
    (h : sidePart (ratOps pw) cfg ps pin pout amount usd total impact pool = .ok (res, left)) :
    optMint res * (ps.poolValue / ps.supply)
      = sideValue cfg pool amount pin pout (impact * usd / total) ∧
    left = sideLeft pool amount pout (impact * usd / total) ∧
    (amount > 0 → total ≠ 0) ∧
    (amount > 0 → impact * usd / total < 0 →
      0 ≤ (amount - (if impact * usd / total > 0 then cfg.depositFeePos else cfg.depositFeeNeg) * amount) * pin + impact * usd / total) := by
  unfold sidePart at h
  unfold sideValue sideLeft
  by_cases ha : amount > 0
  · simp only [ha, if_true, Exc.bind_ok] at h ⊢
    obtain ⟨share, hs, ⟨m, f, c⟩, hc, l, hl, hpure⟩ := h
    obtain ⟨hne, rfl⟩ := fdiv_ok hs
    obtain ⟨rfl, rfl⟩ := hpure
    obtain ⟨hf, hv, hnn⟩ := calcTokenAmount_ok hp hpi hpo hc
    simp only [optMint_some]
    refine ⟨?_, poolLeft_ok hl, fun _ => hne, fun _ hneg => ?_⟩
    · rw [hv, hf]
    · have := hnn hneg; rw [hf] at this; exact this
  · simp only [ha, if_false, pure, Except.pure, Except.ok.injEq, Prod.mk.injEq] at h ⊢
    obtain ⟨rfl, rfl⟩ := h
    simp

/-- `get_mint_amount` in closed form: the long side is capped by the impact pool, the short side by what the long side left -/
theorem mintAmount_ok {cfg : Config Rat} {ps : Pool Rat} (hp : PoolPos ps) {la sa : Rat} {r : LPResult Rat} {tag : String}
    (h : mintAmount (ratOps pw) cfg ps la sa = .ok (r, tag)) :
    ∃ tag0, priceImpactUsd (ratOps pw) cfg ps (la * ps.longPrice) (sa * ps.shortPrice) = .ok (r.priceImpactUsd, tag0) ∧
      r.longAmount = la ∧ r.shortAmount = sa ∧ r.totalUsd = la * ps.longPrice + sa * ps.shortPrice ∧
      r.gmAmount * (ps.poolValue / ps.supply)
        = sideValue cfg ps.impactPool la ps.longPrice ps.shortPrice
            (r.priceImpactUsd * (la * ps.longPrice) / (la * ps.longPrice + sa * ps.shortPrice))
        + sideValue cfg
            (sideLeft ps.impactPool la ps.shortPrice (r.priceImpactUsd * (la * ps.longPrice) / (la * ps.longPrice + sa * ps.shortPrice)))
            sa ps.shortPrice ps.longPrice
            (r.priceImpactUsd * (sa * ps.shortPrice) / (la * ps.longPrice + sa * ps.shortPrice)) ∧
      (CfgOK cfg → 0 ≤ r.gmAmount * (ps.poolValue / ps.supply)) ∧
      r.gmUsd = r.gmAmount * (ps.poolValue / ps.supply) ∧
      ((la > 0 ∨ sa > 0) → la * ps.longPrice + sa * ps.shortPrice ≠ 0) := by
  unfold mintAmount at h
  simp only [Exc.bind_ok] at h
  obtain ⟨⟨impact, tag0⟩, himp, ⟨lp, left⟩, hlp, ⟨sp, left2⟩, hsp, gp, hgp, hpure⟩ := h
  obtain ⟨hl, hleft, hlne, hln⟩ := sidePart_ok hp hp.longPrice hp.shortPrice hlp
  obtain ⟨hs, _, hsne, hsn⟩ := sidePart_ok hp hp.shortPrice hp.longPrice hsp
  obtain ⟨_, rfl⟩ := fdiv_ok hgp
  obtain ⟨rfl, _⟩ := hpure
  refine ⟨tag0, himp, rfl, rfl, rfl, ?hv, fun hc => ?hv ▸ ?_, rfl, ?_⟩
  case hv =>
    rw [← hleft, ← hl, ← hs]
    cases lp with
    | none => cases sp with
      | none => simp
      | some q => obtain ⟨m, f, c⟩ := q; simp
    | some p =>
      obtain ⟨m, f, c⟩ := p
      cases sp with
      | none => simp
      | some q => obtain ⟨m', f', c'⟩ := q; simp; ring
  · exact add_nonneg (sideValue_nonneg hc hp.impactPool hp.longPrice hp.shortPrice hln)
      (sideValue_nonneg hc (sideLeft_nonneg hp.impactPool) hp.shortPrice hp.longPrice hsn)
  · rintro (h1 | h1)
    · exact hlne h1
    · exact hsne h1

/-- a negative impact larger than the deposit is rejected -/
theorem gm_nonneg {cfg : Config Rat} (hc : CfgOK cfg) {ps : Pool Rat} (hp : PoolPos ps) {la sa : Rat}
    {r : LPResult Rat} {tag : String} (hm : mintAmount (ratOps pw) cfg ps la sa = .ok (r, tag)) : 0 ≤ r.gmAmount := by
  obtain ⟨_, _, _, _, _, _, hnn, _⟩ := mintAmount_ok hp hm
  exact nonneg_of_mul_nonneg_left (hnn hc) (div_pos hp.poolValue hp.supply)

theorem mint_value_le_paid {cfg : Config Rat} (hc : CfgOK cfg) {ps : Pool Rat} (hp : PoolPos ps) {la sa : Rat}
    (hla : 0 ≤ la) (hsa : 0 ≤ sa) {r : LPResult Rat} {tag : String}
    (hm : mintAmount (ratOps pw) cfg ps la sa = .ok (r, tag)) (himp : r.priceImpactUsd ≤ 0) :
    r.gmAmount * (ps.poolValue / ps.supply) ≤ la * ps.longPrice + sa * ps.shortPrice := by
  obtain ⟨_, _, _, _, _, hv, _⟩ := mintAmount_ok hp hm
  have hlu : 0 ≤ la * ps.longPrice := mul_nonneg hla hp.longPrice.le
  have hsu : 0 ≤ sa * ps.shortPrice := mul_nonneg hsa hp.shortPrice.le
  have hsh1 : r.priceImpactUsd * (la * ps.longPrice) / (la * ps.longPrice + sa * ps.shortPrice) ≤ 0 :=
    div_nonpos_of_nonpos_of_nonneg (mul_nonpos_of_nonpos_of_nonneg himp hlu) (by linarith)
  have hsh2 : r.priceImpactUsd * (sa * ps.shortPrice) / (la * ps.longPrice + sa * ps.shortPrice) ≤ 0 :=
    div_nonpos_of_nonpos_of_nonneg (mul_nonpos_of_nonpos_of_nonneg himp hsu) (by linarith)
  have h1 := sideValue_le_paid hc ps.impactPool (amount := la) (pout := ps.shortPrice) hp.longPrice hsh1
  have h2 := sideValue_le_paid hc (sideLeft ps.impactPool la ps.shortPrice
    (r.priceImpactUsd * (la * ps.longPrice) / (la * ps.longPrice + sa * ps.shortPrice))) (amount := sa) (pout := ps.longPrice)
    hp.shortPrice hsh2
  rw [max_eq_left hla] at h1
  rw [max_eq_left hsa] at h2
  rw [hv]; linarith

theorem tokenAmountsFromGm_ok {ps : Pool Rat} {g l s : Rat} (h : tokenAmountsFromGm (ratOps pw) ps g = .ok (l, s)) :
    let total := ps.longAmount * ps.longPrice + ps.shortAmount * ps.shortPrice
    let usd := ps.poolValue * g / ps.supply
    ps.supply ≠ 0 ∧ total ≠ 0 ∧ ps.longPrice ≠ 0 ∧ ps.shortPrice ≠ 0 ∧
      l = usd * (ps.longAmount * ps.longPrice) / total / ps.longPrice ∧
      s = usd * (ps.shortAmount * ps.shortPrice) / total / ps.shortPrice := by
  unfold tokenAmountsFromGm at h
  simp only [Exc.bind_ok] at h
  obtain ⟨gu, hgu, lo, hlo, so, hso, l', hl', s', hs', hp⟩ := h
  obtain ⟨hsup, rfl⟩ := fdiv_ok hgu
  obtain ⟨htot, rfl⟩ := fdiv_ok hlo
  obtain ⟨_, rfl⟩ := fdiv_ok hso
  obtain ⟨hlp, rfl⟩ := fdiv_ok hl'
  obtain ⟨hsp, rfl⟩ := fdiv_ok hs'
  simp only [pure, Except.pure, Except.ok.injEq, Prod.mk.injEq] at hp
  exact ⟨hsup, htot, hlp, hsp, hp.1.symm, hp.2.symm⟩

theorem outputAmount_ok {cfg : Config Rat} {ps : Pool Rat} {g : Rat} {r : LPResult Rat}
    (h : outputAmount (ratOps pw) cfg ps g = .ok r) :
    let total := ps.longAmount * ps.longPrice + ps.shortAmount * ps.shortPrice
    let usd := ps.poolValue * g / ps.supply
    ps.supply ≠ 0 ∧ total ≠ 0 ∧ ps.longPrice ≠ 0 ∧ ps.shortPrice ≠ 0 ∧ r.gmAmount = g ∧
      r.longAmount = (1 - cfg.withdrawFeeNeg) * (usd * (ps.longAmount * ps.longPrice) / total / ps.longPrice) ∧
      r.shortAmount = (1 - cfg.withdrawFeeNeg) * (usd * (ps.shortAmount * ps.shortPrice) / total / ps.shortPrice) ∧
      r.longAmount * ps.longPrice + r.shortAmount * ps.shortPrice = (1 - cfg.withdrawFeeNeg) * usd := by
  intro total usd
  unfold outputAmount at h
  simp only [Exc.bind_ok] at h
  obtain ⟨⟨l, s⟩, hls, gp, hgp, hpure⟩ := h
  obtain ⟨hsup, htot, hlp, hsp, rfl, rfl⟩ := tokenAmountsFromGm_ok hls
  simp only [pure, Except.pure, Except.ok.injEq] at hpure
  subst hpure
  refine ⟨hsup, htot, hlp, hsp, rfl, ?_, ?_, ?_⟩
  · simp only []; ring
  · simp only []; ring
  · simp only []
    show _ = (1 - cfg.withdrawFeeNeg) * (ps.poolValue * g / ps.supply)
    field_simp

theorem deposit_ok {cx : NumCtx} {cfg : Config Rat} {ps : Pool Rat} {lk sk : String} {s s' : State Rat} {la sa : Rat}
    {r : LPResult Rat} {tag : String}
    (h : deposit (ratOps pw) cx cfg ps lk sk s la sa = (.ok (r, tag), s')) :
    0 ≤ la ∧ 0 ≤ sa ∧ mintAmount (ratOps pw) cfg ps la sa = .ok (r, tag) ∧ s'.amount = s.amount + r.gmAmount ∧
      s'.actions = s.actions ++ [(true, r)] ∧
      ∃ w1, Wallet.debit cx s.wallet lk r.longAmount false = .ok w1 ∧ Wallet.debit cx w1 sk r.shortAmount false = .ok s'.wallet := by
  unfold deposit at h
  rw [show (!((ratOps pw).isFinite la && (ratOps pw).isFinite sa)) = false from rfl] at h
  simp only [Bool.false_eq_true, if_false] at h
  split at h
  · cases h
  · rename_i hneg
    rw [not_or, not_lt, not_lt] at hneg
    split at h
    · cases h
    · rename_i r' tag' hm
      rw [show (!(ratOps pw).isFinite r'.gmAmount) = false from rfl] at h
      simp only [Bool.false_eq_true, if_false] at h
      split at h
      · cases h
      · cases h
      · rename_i w1 hw1
        split at h
        · cases h
        · rename_i w2 hw2
          obtain ⟨⟨rfl, rfl⟩, rfl⟩ := h
          exact ⟨hneg.1, hneg.2, hm, rfl, rfl, w1, hw1, hw2⟩

theorem withdraw_ok {cx : NumCtx} {cfg : Config Rat} {ps : Pool Rat} {lk sk : String} {s s' : State Rat} {amt : Option Rat}
    {r : LPResult Rat} (h : withdraw (ratOps pw) cx cfg ps lk sk s amt = (.ok r, s')) :
    0 ≤ amt.getD s.amount ∧ amt.getD s.amount ≤ s.amount ∧ outputAmount (ratOps pw) cfg ps (amt.getD s.amount) = .ok r ∧
      s'.amount = s.amount - r.gmAmount ∧ s'.actions = s.actions ++ [(false, r)] ∧
      s'.wallet = Wallet.credit cx (Wallet.credit cx s.wallet lk r.longAmount) sk r.shortAmount := by
  obtain ⟨_, h1, h2, hr, _, _, rfl⟩ := withdraw_accepted h
  exact ⟨not_lt.mp h1, not_lt.mp h2, hr, rfl, rfl, rfl⟩

end Demeter.Gmx2

namespace Demeter
open Demeter.GmxV2

/-! the two calls as one operation type, for statements about sequences of calls on a frozen row -/

inductive Gmx2.Op
  | deposit (la sa : Rat)
  | withdraw (amt : Option Rat)

def Gmx2.step (pw : Rat → Rat → Rat) (cx : NumCtx) (cfg : Config Rat) (ps : Pool Rat) (lk sk : String) (s : State Rat) :
    Gmx2.Op → State Rat
  | .deposit la sa => (deposit (ratOps pw) cx cfg ps lk sk s la sa).2
  | .withdraw amt => (withdraw (ratOps pw) cx cfg ps lk sk s amt).2

end Demeter
