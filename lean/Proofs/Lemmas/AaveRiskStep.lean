/-
  One `_do_liquidate` call.  Its intermediate quantities get names of their own (`step*`), `doLiquidate` is a chain of tests
  over them, and each of its three outcomes says something about them — in every arithmetic context; the arithmetic of a
  step is for the exact context and well-formed rows.  `BaseOnly`: all a call does to the positions is writes
  `putSupplyBase` / `putDebtBase` (set, or delete at 0) of non-negative scaled balances.
-/
import Proofs.Lemmas.AaveRisk
import Proofs.Lemmas.AListSum
import Mathlib.Tactic.FieldSimp
namespace Demeter.AaveRisk
open Demeter

/-- the close factor of a step is one half: `health_factor > CLOSE_FACTOR_HF_THRESHOLD` -/
def stepHalf (cx : NumCtx) (p : Portfolio) : Bool := (healthFactor cx p).gtB Gen.arCloseFactorHfThreshold
def stepCf (cx : NumCtx) (p : Portfolio) : Rat :=
  if stepHalf cx p then Gen.arDefaultCloseFactor else Gen.arMaxCloseFactor
/-- `actual_debt_to_liquidate`: the value handed in, cut to `max_liquidateble_debt` -/
def stepToLiq (cx : NumCtx) (p : Portfolio) (d : Debt) (cover : Rat) : Rat :=
  if cover > cx.mul (d.amount cx) (stepCf cx p) then cx.mul (d.amount cx) (stepCf cx p) else cover
/-- `max_collateral_to_liquidate` -/
def stepMaxColl (cx : NumCtx) (p : Portfolio) (c : Supply) (d : Debt) (cover : Rat) : Rat :=
  cx.mul (cx.div (cx.mul d.row.price (stepToLiq cx p d cover)) c.row.price) (cx.add 1 c.row.bonus)
def stepCapped (cx : NumCtx) (p : Portfolio) (c : Supply) (d : Debt) (cover : Rat) : Bool :=
  decide (stepMaxColl cx p c d cover > c.amount cx)
def stepCollUsed (cx : NumCtx) (p : Portfolio) (c : Supply) (d : Debt) (cover : Rat) : Rat :=
  if stepCapped cx p c d cover then c.amount cx else stepMaxColl cx p c d cover
/-- the repayment that corresponds to seizing the whole balance -/
def stepScaled (cx : NumCtx) (c : Supply) (d : Debt) : Rat :=
  cx.div (cx.mul c.row.price (c.amount cx)) (cx.mul d.row.price (cx.add 1 c.row.bonus))
/-- `min(actual_debt_to_liquidate, scaled)` when capped -/
def stepRepaid (cx : NumCtx) (p : Portfolio) (c : Supply) (d : Debt) (cover : Rat) : Rat :=
  if stepCapped cx p c d cover then
    (if stepScaled cx c d < stepToLiq cx p d cover then stepScaled cx c d else stepToLiq cx p d cover)
  else stepToLiq cx p d cover
def stepCollBase (cx : NumCtx) (p : Portfolio) (c : Supply) (d : Debt) (cover : Rat) : Rat :=
  subBase cx c.base (cx.div (stepCollUsed cx p c d cover) c.row.liqIndex)
def stepDebtBase (cx : NumCtx) (p : Portfolio) (c : Supply) (d : Debt) (cover : Rat) : Rat :=
  subBase cx d.base (cx.div (stepRepaid cx p c d cover) d.row.borIndex)
/-- what a raise after the seizure leaves behind -/
def stepSeized (cx : NumCtx) (p : Portfolio) (c : Supply) (d : Debt) (cover : Rat) : Portfolio :=
  { p with supplies := putSupplyBase p.supplies c.tok (stepCollBase cx p c d cover) }
def stepEnd (cx : NumCtx) (p : Portfolio) (c : Supply) (d : Debt) (cover : Rat) : Portfolio :=
  { supplies := putSupplyBase p.supplies c.tok (stepCollBase cx p c d cover),
    debts := putDebtBase p.debts d.tok (stepDebtBase cx p c d cover) }
def stepAction (cx : NumCtx) (p : Portfolio) (c : Supply) (d : Debt) (cover : Rat) : LiqAction :=
  { collTok := c.tok, debtTok := d.tok, toCover := cover, collUsed := stepCollUsed cx p c d cover,
    debtRepaid := stepRepaid cx p c d cover, hfBefore := healthFactor cx p,
    hfAfter := healthFactor cx (stepEnd cx p c d cover),
    collAfter := cx.mul (stepCollBase cx p c d cover) c.row.liqIndex,
    debtAfter := cx.mul (stepDebtBase cx p c d cover) d.row.borIndex,
    half := stepHalf cx p, capped := stepCapped cx p c d cover }

theorem doLiquidate_eq (cx : NumCtx) (p : Portfolio) (c : Supply) (d : Debt) (cover : Rat) :
    doLiquidate cx p c d cover =
      if c.row.lt = 0 ∨ c.coll = false then .rejected
      else if d.amount cx = 0 then .rejected
      else if c.row.price = 0 then .raised .arith p
      else if stepCapped cx p c d cover = true ∧ cx.mul d.row.price (cx.add 1 c.row.bonus) = 0 then .raised .arith p
      else if d.amount cx < stepRepaid cx p c d cover then .raised .demeter p
      else if c.row.liqIndex = 0 then .raised .arith p
      else if d.row.borIndex = 0 then .raised .arith (stepSeized cx p c d cover)
      else .done (stepEnd cx p c d cover) (stepAction cx p c d cover) := rfl

/-- every test of `doLiquidate_eq` on the way to `.done` has failed -/
structure StepDone (cx : NumCtx) (p : Portfolio) (c : Supply) (d : Debt) (cover : Rat) : Prop where
  lt_ne : c.row.lt ≠ 0
  coll : c.coll = true
  debt_ne : d.amount cx ≠ 0
  price_ne : c.row.price ≠ 0
  scale_ne : stepCapped cx p c d cover = true → cx.mul d.row.price (cx.add 1 c.row.bonus) ≠ 0
  repaid_le : stepRepaid cx p c d cover ≤ d.amount cx
  liqIndex_ne : c.row.liqIndex ≠ 0
  borIndex_ne : d.row.borIndex ≠ 0

section inversion
variable {cx : NumCtx} {p : Portfolio} {c : Supply} {d : Debt} {cover : Rat}

theorem doLiquidate_done_iff {p' : Portfolio} {a : LiqAction} :
    doLiquidate cx p c d cover = .done p' a ↔
      StepDone cx p c d cover ∧ p' = stepEnd cx p c d cover ∧ a = stepAction cx p c d cover := by
  rw [doLiquidate_eq]
  constructor
  · intro h
    obtain ⟨h1, h⟩ := ite_eq_of_ne h nofun
    obtain ⟨h2, h⟩ := ite_eq_of_ne h nofun
    obtain ⟨h3, h⟩ := ite_eq_of_ne h nofun
    obtain ⟨h4, h⟩ := ite_eq_of_ne h nofun
    obtain ⟨h5, h⟩ := ite_eq_of_ne h nofun
    obtain ⟨h6, h⟩ := ite_eq_of_ne h nofun
    obtain ⟨h7, h⟩ := ite_eq_of_ne h nofun
    rw [not_or, Bool.not_eq_false] at h1
    cases h
    exact ⟨⟨h1.1, h1.2, h2, h3, fun hcap e => h4 ⟨hcap, e⟩, not_lt.mp h5, h6, h7⟩, rfl, rfl⟩
  · rintro ⟨h, rfl, rfl⟩
    rw [if_neg (not_or.mpr ⟨h.lt_ne, by rw [h.coll]; decide⟩), if_neg h.debt_ne, if_neg h.price_ne,
      if_neg (fun hc => h.scale_ne hc.1 hc.2), if_neg (not_lt.mpr h.repaid_le), if_neg h.liqIndex_ne,
      if_neg h.borIndex_ne]

theorem doLiquidate_rejected_iff :
    doLiquidate cx p c d cover = .rejected ↔ c.row.lt = 0 ∨ c.coll = false ∨ d.amount cx = 0 := by
  rw [doLiquidate_eq]
  constructor
  · intro h
    rcases ite_eq_iff.mp h with ⟨h1, _⟩ | ⟨_, h⟩
    · exact h1.elim Or.inl (fun e => Or.inr (Or.inl e))
    rcases ite_eq_iff.mp h with ⟨h2, _⟩ | ⟨_, h⟩
    · exact Or.inr (Or.inr h2)
    obtain ⟨_, h⟩ := ite_eq_of_ne h nofun
    obtain ⟨_, h⟩ := ite_eq_of_ne h nofun
    obtain ⟨_, h⟩ := ite_eq_of_ne h nofun
    obtain ⟨_, h⟩ := ite_eq_of_ne h nofun
    obtain ⟨_, h⟩ := ite_eq_of_ne h nofun
    cases h
  · intro h
    by_cases h1 : c.row.lt = 0 ∨ c.coll = false
    · rw [if_pos h1]
    · rw [if_neg h1, if_pos (h.resolve_left (fun e => h1 (Or.inl e)) |>.resolve_left (fun e => h1 (Or.inr e)))]

theorem doLiquidate_raised {e : Exc} {q : Portfolio} (h : doLiquidate cx p c d cover = .raised e q) :
    (e = .demeter ∧ q = p ∧ d.amount cx < stepRepaid cx p c d cover)
    ∨ (e = .arith ∧ q = p ∧
        (c.row.price = 0 ∨ cx.mul d.row.price (cx.add 1 c.row.bonus) = 0 ∨ c.row.liqIndex = 0))
    ∨ (e = .arith ∧ q = stepSeized cx p c d cover ∧ d.row.borIndex = 0) := by
  rw [doLiquidate_eq] at h
  obtain ⟨_, h⟩ := ite_eq_of_ne h nofun
  obtain ⟨_, h⟩ := ite_eq_of_ne h nofun
  rcases ite_eq_iff.mp h with ⟨h3, e3⟩ | ⟨_, h⟩
  · cases e3; exact Or.inr (Or.inl ⟨rfl, rfl, Or.inl h3⟩)
  rcases ite_eq_iff.mp h with ⟨h4, e4⟩ | ⟨_, h⟩
  · cases e4; exact Or.inr (Or.inl ⟨rfl, rfl, Or.inr (Or.inl h4.2)⟩)
  rcases ite_eq_iff.mp h with ⟨h5, e5⟩ | ⟨_, h⟩
  · cases e5; exact Or.inl ⟨rfl, rfl, h5⟩
  rcases ite_eq_iff.mp h with ⟨h6, e6⟩ | ⟨_, h⟩
  · cases e6; exact Or.inr (Or.inl ⟨rfl, rfl, Or.inr (Or.inr h6)⟩)
  rcases ite_eq_iff.mp h with ⟨h7, e7⟩ | ⟨_, h⟩
  · cases e7; exact Or.inr (Or.inr ⟨rfl, rfl, h7⟩)
  cases h

end inversion

theorem stepToLiq_eq_min (cx : NumCtx) (p : Portfolio) (d : Debt) (cover : Rat) :
    stepToLiq cx p d cover = min cover (cx.mul (d.amount cx) (stepCf cx p)) := ite_gt_eq_min _ _

theorem stepToLiq_le_max (cx : NumCtx) (p : Portfolio) (d : Debt) (cover : Rat) :
    stepToLiq cx p d cover ≤ cx.mul (d.amount cx) (stepCf cx p) := by
  rw [stepToLiq_eq_min]; exact min_le_right _ _

theorem stepToLiq_le_cover (cx : NumCtx) (p : Portfolio) (d : Debt) (cover : Rat) :
    stepToLiq cx p d cover ≤ cover := by
  rw [stepToLiq_eq_min]; exact min_le_left _ _

theorem stepRepaid_le_toLiq (cx : NumCtx) (p : Portfolio) (c : Supply) (d : Debt) (cover : Rat) :
    stepRepaid cx p c d cover ≤ stepToLiq cx p d cover := by
  unfold stepRepaid
  split
  · split
    · rename_i h; exact le_of_lt h
    · exact le_refl _
  · exact le_refl _

theorem stepRepaid_le_max (cx : NumCtx) (p : Portfolio) (c : Supply) (d : Debt) (cover : Rat) :
    stepRepaid cx p c d cover ≤ cx.mul (d.amount cx) (stepCf cx p) :=
  (stepRepaid_le_toLiq cx p c d cover).trans (stepToLiq_le_max cx p d cover)

theorem stepCollUsed_le_amount (cx : NumCtx) (p : Portfolio) (c : Supply) (d : Debt) (cover : Rat) :
    stepCollUsed cx p c d cover ≤ c.amount cx := by
  unfold stepCollUsed
  split
  · exact le_refl _
  · rename_i h; unfold stepCapped at h; exact not_lt.mp (of_decide_eq_false (Bool.eq_false_iff.mpr h))

theorem stepCf_cases (cx : NumCtx) (p : Portfolio) :
    (stepHalf cx p = true ∧ stepCf cx p = 1 / 2) ∨ (stepHalf cx p = false ∧ stepCf cx p = 1) := by
  unfold stepCf
  cases h : stepHalf cx p
  · right; simp [Gen.arMaxCloseFactor]
  · left; simp [Gen.arDefaultCloseFactor]

theorem stepCf_bounds (cx : NumCtx) (p : Portfolio) : 0 < stepCf cx p ∧ stepCf cx p ≤ 1 := by
  rcases stepCf_cases cx p with ⟨_, h⟩ | ⟨_, h⟩ <;> rw [h] <;> norm_num

/-- when the balance `bal` does not cover the seizure `pd·t/pc·ob`, the repayment `pc·bal/(pd·ob)` it does cover is
    below `t`: in exact arithmetic the `min` of a capped step always picks the scaled amount -/
theorem scaled_lt_of_capped {bal t pc pd ob : Rat} (hpc : 0 < pc) (hden : 0 < pd * ob) (h : bal < pd * t / pc * ob) :
    pc * bal / (pd * ob) < t := by
  rw [div_lt_iff₀ hden]
  rw [div_mul_eq_mul_div, lt_div_iff₀ hpc] at h
  linarith

theorem stepRepaid_of_capped (p : Portfolio) {c : Supply} {d : Debt} {cover : Rat} (hcr : c.row.WF) (hdr : d.row.WF)
    (hcap : stepCapped NumCtx.exact p c d cover = true) :
    stepRepaid NumCtx.exact p c d cover
      = c.row.price * c.amount NumCtx.exact / (d.row.price * (1 + c.row.bonus)) := by
  have hob : 0 < 1 + c.row.bonus := by linarith [hcr.bonus_nonneg]
  have hlt : stepScaled NumCtx.exact c d < stepToLiq NumCtx.exact p d cover :=
    scaled_lt_of_capped (bal := c.amount NumCtx.exact) (t := stepToLiq NumCtx.exact p d cover) hcr.price_pos
      (mul_pos hdr.price_pos hob) (of_decide_eq_true hcap)
  unfold stepRepaid
  rw [if_pos hcap, if_pos hlt]
  rfl

theorem step_value (p : Portfolio) {c : Supply} {d : Debt} {cover : Rat} (hcr : c.row.WF) (hdr : d.row.WF) :
    stepCollUsed NumCtx.exact p c d cover * c.row.price
      = stepRepaid NumCtx.exact p c d cover * d.row.price * (1 + c.row.bonus) := by
  have hpc := hcr.price_pos; have hb := hcr.bonus_nonneg; have hpd := hdr.price_pos
  cases hcap : stepCapped NumCtx.exact p c d cover
  · unfold stepCollUsed stepRepaid
    rw [hcap, if_neg Bool.false_ne_true, if_neg Bool.false_ne_true]
    show d.row.price * stepToLiq NumCtx.exact p d cover / c.row.price * (1 + c.row.bonus) * c.row.price = _
    field_simp
  · rw [stepRepaid_of_capped p hcr hdr hcap]
    unfold stepCollUsed
    rw [if_pos hcap]
    have : 0 < 1 + c.row.bonus := by linarith
    field_simp

theorem sum_putSupplyBase (g : Supply → Rat) (hg : ∀ s : Supply, g { s with base := 0 } = 0) {ss : List Supply}
    (hn : (ss.map (·.tok)).Nodup) {c : Supply} (hc : c ∈ ss) (b : Rat) :
    ((putSupplyBase ss c.tok b).map g).sum = (ss.map g).sum - g c + g { c with base := b } := by
  unfold putSupplyBase
  split
  · rename_i hb
    subst hb
    rw [hg c]
    unfold delSupply
    rw [sum_eraseP Supply.tok g hn hc]; ring
  · exact sum_updFirst Supply.tok g _ hn hc

theorem sum_putDebtBase (g : Debt → Rat) (hg : ∀ d : Debt, g { d with base := 0 } = 0) {ds : List Debt}
    (hn : (ds.map (·.tok)).Nodup) {c : Debt} (hc : c ∈ ds) (b : Rat) :
    ((putDebtBase ds c.tok b).map g).sum = (ds.map g).sum - g c + g { c with base := b } := by
  unfold putDebtBase
  split
  · rename_i hb
    subst hb
    rw [hg c]
    unfold delDebt
    rw [sum_eraseP Debt.tok g hn hc]; ring
  · exact sum_updFirst Debt.tok g _ hn hc

theorem mem_putSupplyBase {x : Supply} {ss : List Supply} {t : String} {b : Rat} (h : x ∈ putSupplyBase ss t b) :
    x ∈ ss ∨ ∃ s ∈ ss, s.tok = t ∧ x = { s with base := b } := by
  unfold putSupplyBase at h
  split at h
  · exact Or.inl (List.mem_of_mem_eraseP h)
  · rcases mem_updFirst _ _ h with h1 | ⟨s, hs, hq, rfl⟩
    · exact Or.inl h1
    · exact Or.inr ⟨s, hs, by simpa using hq, rfl⟩

theorem mem_putDebtBase {x : Debt} {ds : List Debt} {t : String} {b : Rat} (h : x ∈ putDebtBase ds t b) :
    x ∈ ds ∨ ∃ d ∈ ds, d.tok = t ∧ x = { d with base := b } := by
  unfold putDebtBase at h
  split at h
  · exact Or.inl (List.mem_of_mem_eraseP h)
  · rcases mem_updFirst _ _ h with h1 | ⟨s, hs, hq, rfl⟩
    · exact Or.inl h1
    · exact Or.inr ⟨s, hs, by simpa using hq, rfl⟩

theorem keys_putSupplyBase_sublist (ss : List Supply) (t : String) (b : Rat) :
    ((putSupplyBase ss t b).map (·.tok)).Sublist (ss.map (·.tok)) := by
  unfold putSupplyBase
  split
  · exact (List.eraseP_sublist).map _
  · unfold setSupplyBase
    rw [map_key_updFirst Supply.tok (fun s => { s with base := b }) (fun _ => rfl)]

theorem keys_putDebtBase_sublist (ds : List Debt) (t : String) (b : Rat) :
    ((putDebtBase ds t b).map (·.tok)).Sublist (ds.map (·.tok)) := by
  unfold putDebtBase
  split
  · exact (List.eraseP_sublist).map _
  · unfold setDebtBase
    rw [map_key_updFirst Debt.tok (fun s => { s with base := b }) (fun _ => rfl)]

theorem find_putSupplyBase_self {ss : List Supply} (hn : (ss.map (·.tok)).Nodup) {c : Supply} (hc : c ∈ ss) (b : Rat) :
    findSupply? (putSupplyBase ss c.tok b) c.tok = if b = 0 then none else some { c with base := b } := by
  unfold putSupplyBase findSupply?
  split
  · exact find_eraseP_self Supply.tok hn c.tok
  · exact find_updFirst_self Supply.tok (fun s => { s with base := b }) (fun _ => rfl) hn hc

theorem find_putSupplyBase_ne (ss : List Supply) {t u : String} (h : u ≠ t) (b : Rat) :
    findSupply? (putSupplyBase ss t b) u = findSupply? ss u := by
  unfold putSupplyBase findSupply?
  split
  · exact find_eraseP_ne Supply.tok t u h ss
  · exact find_updFirst_ne Supply.tok (fun s => { s with base := b }) (fun _ => rfl) t u h ss

theorem find_putDebtBase_self {ds : List Debt} (hn : (ds.map (·.tok)).Nodup) {c : Debt} (hc : c ∈ ds) (b : Rat) :
    findDebt? (putDebtBase ds c.tok b) c.tok = if b = 0 then none else some { c with base := b } := by
  unfold putDebtBase findDebt?
  split
  · exact find_eraseP_self Debt.tok hn c.tok
  · exact find_updFirst_self Debt.tok (fun s => { s with base := b }) (fun _ => rfl) hn hc

theorem find_putDebtBase_ne (ds : List Debt) {t u : String} (h : u ≠ t) (b : Rat) :
    findDebt? (putDebtBase ds t b) u = findDebt? ds u := by
  unfold putDebtBase findDebt?
  split
  · exact find_eraseP_ne Debt.tok t u h ds
  · exact find_updFirst_ne Debt.tok (fun s => { s with base := b }) (fun _ => rfl) t u h ds

theorem supplyAmountOf_put {ss : List Supply} (hn : (ss.map (·.tok)).Nodup) {c : Supply} (hc : c ∈ ss) (b : Rat)
    (ds : List Debt) :
    supplyAmountOf NumCtx.exact { supplies := putSupplyBase ss c.tok b, debts := ds } c.tok = b * c.row.liqIndex := by
  unfold supplyAmountOf
  rw [find_putSupplyBase_self hn hc]
  by_cases hb : b = 0
  · rw [if_pos hb, hb, zero_mul]
  · rw [if_neg hb]; rfl

theorem debtAmountOf_put {ds : List Debt} (hn : (ds.map (·.tok)).Nodup) {d : Debt} (hd : d ∈ ds) (b : Rat)
    (ss : List Supply) :
    debtAmountOf NumCtx.exact { supplies := ss, debts := putDebtBase ds d.tok b } d.tok = b * d.row.borIndex := by
  unfold debtAmountOf
  rw [find_putDebtBase_self hn hd]
  by_cases hb : b = 0
  · rw [if_pos hb, hb, zero_mul]
  · rw [if_neg hb]; rfl

theorem wf_putSupplyBase {p : Portfolio} (hwf : p.WF) (tok : String) {b : Rat} (hb : 0 ≤ b) :
    ({ p with supplies := putSupplyBase p.supplies tok b } : Portfolio).WF := by
  refine ⟨?_, hwf.deb, ?_, hwf.debKeys⟩
  · intro s hs
    rcases mem_putSupplyBase hs with h1 | ⟨s0, hs0, _, rfl⟩
    · exact hwf.sup s h1
    · obtain ⟨_, hr, hl⟩ := hwf.sup s0 hs0
      exact ⟨hb, hr, hl⟩
  · exact (keys_putSupplyBase_sublist _ _ _).nodup hwf.supKeys

theorem wf_updSupply {p : Portfolio} (hwf : p.WF) {s : Supply} (hs : s ∈ p.supplies) (f : Supply → Supply)
    (hk : ∀ x, (f x).tok = x.tok)
    (hf : 0 ≤ (f s).base ∧ (f s).row.WF ∧ ((f s).coll = true → 0 < (f s).row.lt)) :
    ({ p with supplies := updFirst (fun x => decide (x.tok = s.tok)) f p.supplies } : Portfolio).WF := by
  refine ⟨?_, hwf.deb, ?_, hwf.debKeys⟩
  · intro y hy
    rcases mem_updFirst _ _ hy with h1 | ⟨x, hx, hq, rfl⟩
    · exact hwf.sup y h1
    · rw [AList.eq_of_nodup_map Supply.tok hwf.supKeys hx hs (of_decide_eq_true hq)]
      exact hf
  · show ((updFirst (fun x => decide (Supply.tok x = s.tok)) f p.supplies).map Supply.tok).Nodup
    rw [map_key_updFirst Supply.tok f hk]
    exact hwf.supKeys

theorem wf_putDebtBase {p : Portfolio} (hwf : p.WF) (tok : String) {b : Rat} (hb : 0 ≤ b) :
    ({ p with debts := putDebtBase p.debts tok b } : Portfolio).WF := by
  refine ⟨hwf.sup, ?_, hwf.supKeys, ?_⟩
  · intro d hd
    rcases mem_putDebtBase hd with h1 | ⟨d0, hd0, _, rfl⟩
    · exact hwf.deb d h1
    · exact ⟨hb, (hwf.deb d0 hd0).2⟩
  · exact (keys_putDebtBase_sublist _ _ _).nodup hwf.debKeys

/-- `q` is reached from `p` by writes of non-negative scaled balances (`sub_base_amount`, then `del` at 0): all that
    `update()` does to the positions, whatever it liquidates or raises -/
inductive BaseOnly (p : Portfolio) : Portfolio → Prop
  | refl : BaseOnly p p
  | supply {q : Portfolio} (t : String) {b : Rat} : 0 ≤ b → BaseOnly p q →
      BaseOnly p { q with supplies := putSupplyBase q.supplies t b }
  | debt {q : Portfolio} (t : String) {b : Rat} : 0 ≤ b → BaseOnly p q →
      BaseOnly p { q with debts := putDebtBase q.debts t b }

theorem BaseOnly.wf {p q : Portfolio} (h : BaseOnly p q) (hp : p.WF) : q.WF := by
  induction h with
  | refl => exact hp
  | supply t hb _ ih => exact wf_putSupplyBase ih t hb
  | debt t hb _ ih => exact wf_putDebtBase ih t hb

theorem doLiquidate_baseOnly {cx : NumCtx} {p0 p : Portfolio} {c : Supply} {d : Debt} {cover : Rat} (h : BaseOnly p0 p) :
    (∀ p' a, doLiquidate cx p c d cover = .done p' a → BaseOnly p0 p') ∧
    (∀ e q, doLiquidate cx p c d cover = .raised e q → BaseOnly p0 q) := by
  have h1 := h.supply c.tok (subBase_nonneg cx c.base (cx.div (stepCollUsed cx p c d cover) c.row.liqIndex))
  refine ⟨fun p' a hdo => ?_, fun e q hdo => ?_⟩
  · rw [(doLiquidate_done_iff.mp hdo).2.1]
    exact h1.debt d.tok (subBase_nonneg cx _ _)
  · rcases doLiquidate_raised hdo with ⟨_, rfl, _⟩ | ⟨_, rfl, _⟩ | ⟨_, rfl, _⟩
    · exact h
    · exact h
    · exact h1

end Demeter.AaveRisk

namespace Demeter
open AaveRisk

/-- hypotheses shared by the step theorems; `cover_nonneg`: in `_liquidate` the value to cover is the debt's value -/
structure AaveRisk.StepOk (p : Portfolio) (c : Supply) (d : Debt) (cover : Rat) (p' : Portfolio) (a : LiqAction) : Prop where
  wf : p.WF
  hc : c ∈ p.supplies
  hd : d ∈ p.debts
  cover_nonneg : 0 ≤ cover
  run : doLiquidate NumCtx.exact p c d cover = .done p' a

namespace AaveRisk.StepOk
variable {p : Portfolio} {c : Supply} {d : Debt} {cover : Rat} {p' : Portfolio} {a : LiqAction}

/-- for a concrete step: one evaluation gives both that the call went through and the test `f` of its outcome -/
theorem of_check (hwf : p.WF) (hc : c ∈ p.supplies) (hd : d ∈ p.debts) (h0 : 0 ≤ cover) (f : Portfolio → LiqAction → Bool)
    (h : (match doLiquidate NumCtx.exact p c d cover with | .done p' a => f p' a | _ => false) = true) :
    ∃ p' a, StepOk p c d cover p' a ∧ f p' a = true := by
  cases hrun : doLiquidate NumCtx.exact p c d cover with
  | done p' a => rw [hrun] at h; exact ⟨p', a, ⟨hwf, hc, hd, h0, hrun⟩, h⟩
  | rejected => rw [hrun] at h; cases h
  | raised e q => rw [hrun] at h; cases h

theorem done (h : StepOk p c d cover p' a) : StepDone NumCtx.exact p c d cover := (doLiquidate_done_iff.mp h.run).1
theorem p'_eq (h : StepOk p c d cover p' a) : p' = stepEnd NumCtx.exact p c d cover := (doLiquidate_done_iff.mp h.run).2.1
theorem a_eq (h : StepOk p c d cover p' a) : a = stepAction NumCtx.exact p c d cover := (doLiquidate_done_iff.mp h.run).2.2

theorem collUsed_eq (h : StepOk p c d cover p' a) : a.collUsed = stepCollUsed NumCtx.exact p c d cover := by
  rw [h.a_eq]; rfl
theorem debtRepaid_eq (h : StepOk p c d cover p' a) : a.debtRepaid = stepRepaid NumCtx.exact p c d cover := by
  rw [h.a_eq]; rfl
theorem half_eq (h : StepOk p c d cover p' a) : a.half = stepHalf NumCtx.exact p := by
  rw [h.a_eq]; rfl

theorem crow (h : StepOk p c d cover p' a) : c.row.WF := (h.wf.sup c h.hc).2.1
theorem drow (h : StepOk p c d cover p' a) : d.row.WF := (h.wf.deb d h.hd).2

theorem debt_pos (h : StepOk p c d cover p' a) : 0 < d.amount NumCtx.exact :=
  lt_of_le_of_ne (mul_nonneg (h.wf.deb d h.hd).1 (le_of_lt h.drow.bi_pos)) (Ne.symm h.done.debt_ne)

theorem nonneg (h : StepOk p c d cover p' a) :
    0 ≤ stepToLiq NumCtx.exact p d cover ∧ 0 ≤ stepCollUsed NumCtx.exact p c d cover
    ∧ 0 ≤ stepRepaid NumCtx.exact p c d cover := by
  have hli := h.crow.li_pos; have hpc := h.crow.price_pos; have hb := h.crow.bonus_nonneg
  have hpd := h.drow.price_pos
  have hbal : 0 ≤ c.amount NumCtx.exact := mul_nonneg (h.wf.sup c h.hc).1 (le_of_lt hli)
  have ht : 0 ≤ stepToLiq NumCtx.exact p d cover := by
    rw [stepToLiq_eq_min]
    exact le_min h.cover_nonneg (mul_nonneg (le_of_lt h.debt_pos) (le_of_lt (stepCf_bounds _ p).1))
  refine ⟨ht, ?_, ?_⟩
  · unfold stepCollUsed
    split
    · exact hbal
    · show 0 ≤ d.row.price * stepToLiq NumCtx.exact p d cover / c.row.price * (1 + c.row.bonus)
      positivity
  · unfold stepRepaid
    split
    · split
      · show 0 ≤ c.row.price * c.amount NumCtx.exact / (d.row.price * (1 + c.row.bonus))
        positivity
      · exact ht
    · exact ht

theorem coll_div_le (h : StepOk p c d cover p' a) :
    stepCollUsed NumCtx.exact p c d cover / c.row.liqIndex ≤ c.base := by
  rw [div_le_iff₀ h.crow.li_pos]; exact stepCollUsed_le_amount _ p c d cover

theorem debt_div_le (h : StepOk p c d cover p' a) :
    stepRepaid NumCtx.exact p c d cover / d.row.borIndex ≤ d.base := by
  rw [div_le_iff₀ h.drow.bi_pos]; exact h.done.repaid_le

end AaveRisk.StepOk

end Demeter
