/-
  `has_update`: how a stretch of calls moves the flags (`HURel`), and with that the second refresh of a bar — it touches exactly the
  markets on which an operation was accepted in the part of the bar before it.
-/
import Proofs.Lemmas.CoreStretch
namespace Demeter.Core

def okOn (m : Nat) : Ev → Bool
  | .opOk _ _ m' _ => m' == m
  | _ => false

def HURel (st : St) (evs : List Ev) (st' : St) : Prop :=
  ∀ i, (st'.ms[i]?).map (·.hasUpdate) = (st.ms[i]?).map (fun s => s.hasUpdate || evs.any (okOn i))

theorem HURel.refl (st : St) : HURel st [] st := by
  intro i; simp

theorem HURel.trans {e1 e2 : List Ev} {a b c : St} (h1 : HURel a e1 b) (h2 : HURel b e2 c) : HURel a (e1 ++ e2) c := by
  intro i
  rw [h2 i]
  have : (b.ms[i]?).map (fun s => s.hasUpdate || e2.any (okOn i)) = ((b.ms[i]?).map (·.hasUpdate)).map (fun x => x || e2.any (okOn i)) := by
    rw [Option.map_map]; rfl
  rw [this, h1 i, Option.map_map]
  congr 1
  funext s
  simp [Bool.or_assoc]

theorem HURel.silent {e : Ev} (he : ∀ m, okOn m e = false) (st : St) : HURel st [e] st := by
  intro i; simp [he]

theorem HURel.length {st st' : St} {evs : List Ev} (h : HURel st evs st') : st'.ms.length = st.ms.length := by
  have key : ∀ i, st'.ms.length ≤ i ↔ st.ms.length ≤ i := fun i => by
    rw [← List.getElem?_eq_none_iff, ← List.getElem?_eq_none_iff, ← Option.map_eq_none_iff (f := (·.hasUpdate)), h i, Option.map_eq_none_iff]
  have := key st.ms.length
  have := key st'.ms.length
  omega

theorem doOp_hu (ts : Int) (h : Hook) (op : OpSpec) (st : St) : HURel st (doOp ts h op st).1 (doOp ts h op st).2 := by
  refine doOp_cases (motive := fun r => HURel st r.1 r.2) ts h op st (fun _ => HURel.refl _) (HURel.silent (fun _ => rfl) _)
    (HURel.silent (fun _ => rfl) _) (fun _ _ _ => HURel.silent (fun _ => rfl) _) (fun _ _ _ => HURel.silent (fun _ => rfl) _) ?_
  intro s hs _ i
  show ((st.ms.set op.m { s with hasUpdate := true })[i]?).map (·.hasUpdate) = _
  rw [getElem?_set_of_some hs]
  by_cases hi : op.m = i
  · subst hi
    simp [hs, okOn]
  · simp [okOn, show (op.m == i) = false by simpa using hi, hi]

theorem HURel.phaseRel (ts : Int) : PhaseRel ts HURel where
  nil := HURel.refl
  append := HURel.trans
  op := doOp_hu ts
  plain := fun e st he => HURel.silent (fun _ => by cases e <;> first | rfl | exact he.elim) st
  uact := fun _ _ st => HURel.silent (fun _ => rfl) st

theorem zipIdx_filter_snd {α : Type} (p : α → Bool) (l : List α) :
    ((l.zipIdx).filter (fun x => p x.1)).map (·.2) = (List.range l.length).filter (fun k => (l[k]?).map p == some true) := by
  rw [List.range_eq_range', ← List.zipIdx_map_snd 0 l, List.filter_map]
  congr 1
  apply List.filter_congr
  intro x hx
  obtain ⟨h1, h2⟩ := List.mem_zipIdx' hx
  simp [h2, List.getElem?_eq_getElem h1]

theorem setUpdatedFrom_sets (cfg : Cfg) (ts : Int) (ms : List MarketCfg) (ss : List MSt) (hl : ms.length = ss.length) :
    (setUpdatedFrom cfg ts 0 ms ss).1.filterMap set2Of =
      ((List.range ss.length).filter (fun k => (ss[k]?).map (·.hasUpdate) == some true)).map (fun k => (ts, k)) := by
  have hs : (ms.zip ss).map Prod.snd = ss := List.map_snd_zip (by omega)
  rw [setUpdatedFrom_eq, List.filterMap_map, ← zipIdx_filter_snd (·.hasUpdate) ss, List.map_map]
  conv => rhs; rw [← hs, List.zipIdx_map, List.filter_map, List.map_map]
  exact congrFun (List.filterMap_eq_map (f := fun x : (MarketCfg × MSt) × Nat => (ts, x.2))) _

theorem setAllFrom_hu (cfg : Cfg) (ts : Int) (stage : Nat) (i : Nat) (ms : List MarketCfg) :
    (setAllFrom cfg ts stage i ms).2.length = ms.length ∧ ∀ s ∈ (setAllFrom cfg ts stage i ms).2, s.hasUpdate = false := by
  rw [setAllFrom_eq]; exact ⟨List.length_map _, List.forall_mem_map.mpr fun _ _ => rfl⟩

theorem any_okOn_setAllFrom (cfg : Cfg) (ts : Int) (stage : Nat) (m : Nat) (i : Nat) (ms : List MarketCfg) :
    (setAllFrom cfg ts stage i ms).1.any (okOn m) = false := by
  rw [setAllFrom_eq]; exact List.any_eq_false.mpr (List.forall_mem_map.mpr fun _ _ => Bool.false_ne_true)

def okEarly (m : Nat) (e : Ev) : Bool := okOn m e && decide (e.phase ≤ 9)

section
variable {p : BarParts} {row : Nat} {ts : Int} (h : ∀ s ∈ p.segs row ts, AllAt ts s.1 s.2)
include h

theorem BarParts.filter_early : (p.trace row ts).filter (fun e => decide (e.phase ≤ 9)) = p.early row ts := by
  rw [BarParts.trace_eq_segs, filter_segs (fun k => decide (k ≤ 9)) h]
  simp [BarParts.segs, BarParts.early]

theorem BarParts.filter_late : (p.trace row ts).filter (fun e => decide (11 ≤ e.phase)) = p.late row ts := by
  rw [BarParts.trace_eq_segs, filter_segs (fun k => decide (11 ≤ k)) h]
  simp [BarParts.segs, BarParts.late]

theorem BarParts.any_okEarly (m : Nat) : (p.trace row ts).any (okEarly m) = (p.early row ts).any (okOn m) := by
  rw [← BarParts.filter_early h, List.any_filter]
  congr 1
  funext e
  exact Bool.and_comm _ _

end

theorem barParts_second_refresh (cfg : Cfg) (sc : Script) (row : Nat) (ts : Int) (st : St) (price : Option Int) :
    (barParts cfg sc row ts st price).s2.1.filterMap set2Of =
      ((List.range cfg.markets.length).filter
        (fun m => ((barParts cfg sc row ts st price).early row ts).any (okOn m))).map (fun m => (ts, m)) := by
  obtain ⟨h1, h2, _⟩ := barParts_stretch (HURel.phaseRel ts) cfg sc row st price (fun _ _ st _ _ _ => HURel.silent (fun _ => rfl) st)
  have rall := HURel.trans h1 h2
  generalize hp : barParts cfg sc row ts st price = p at rall ⊢
  have hs2 : p.s2 = setUpdatedFrom cfg ts 0 cfg.markets p.n.2.ms := by rw [← hp]; rfl
  have hs1e : p.s1 = setAllFrom cfg ts 1 0 cfg.markets := by rw [← hp]; rfl
  have hs1 := setAllFrom_hu cfg ts 1 0 cfg.markets
  have hlen : p.n.2.ms.length = cfg.markets.length := by rw [rall.length]; show p.s1.2.length = _; rw [hs1e, hs1.1]
  have hany : ∀ m, (p.early row ts).any (okOn m) =
      ((.before ts row price :: p.b.1 ++ p.f.1) ++ (p.o.1 ++ .on ts row price :: p.n.1)).any (okOn m) := by
    intro m
    have hpr : p.price = price := by rw [← hp]; rfl
    rw [BarParts.early_eq, List.append_assoc, List.any_append, hs1e, any_okOn_setAllFrom, Bool.false_or, hpr]
  rw [hs2, setUpdatedFrom_sets cfg ts cfg.markets p.n.2.ms hlen.symm, hlen]
  congr 1
  apply List.filter_congr
  intro k hk
  have hk' : k < cfg.markets.length := List.mem_range.mp hk
  rw [hany k, rall k]
  have hk1 : k < p.s1.2.length := by rw [hs1e, hs1.1]; exact hk'
  have hfalse : (p.s1.2[k]).hasUpdate = false := hs1.2 (p.s1.2[k]) (by rw [← hs1e]; exact List.getElem_mem hk1)
  show (Option.map (fun s => s.hasUpdate || _) (p.s1.2[k]?) == some true) = _
  rw [List.getElem?_eq_getElem hk1]
  simp only [Option.map_some, hfalse, Bool.false_or]
  cases ((.before ts row price :: p.b.1 ++ p.f.1) ++ (p.o.1 ++ .on ts row price :: p.n.1)).any (okOn k) <;> simp

end Demeter.Core
