/-
  The trigger part of the bar loop is `trigRun` (Demeter/Trigger.lean): nothing but the evaluation of a bar touches the installed
  triggers, and the trigger actions called are the ones it fires.  With that: which runs end normally.
-/
import Proofs.Lemmas.CoreStretch
import Proofs.Lemmas.CoreTriggerSpec
namespace Demeter.Core

theorem doOp_noFire (ts : Int) (h : Hook) (op : OpSpec) (st : St) : (doOp ts h op st).1.filterMap fireOfEv = [] :=
  doOp_cases (motive := fun r => r.1.filterMap fireOfEv = []) ts h op st (fun _ => rfl) rfl rfl (fun _ _ _ => rfl) (fun _ _ _ => rfl)
    (fun _ _ _ => rfl)

theorem runFires_fires (sc : Script) (ts : Int) (row : Nat) : ∀ (fs : List Fire) (st : St), (∀ f ∈ fs, f.ts = ts) →
    (runFires sc ts row fs st).1.filterMap fireOfEv = fs
  | [], _, _ => rfl
  | f :: fs, st, h => by
    have hf := h f (List.mem_cons_self ..)
    have ih := runFires_fires sc ts row fs (runOps ts (.fire f.id) (sc.fire row f.id) st).2 (fun x hx => h x (List.mem_cons_of_mem _ hx))
    simp only [runFires, List.filterMap_cons, fireOfEv, List.filterMap_append, runOps_fm_nil (doOp_noFire ts _), ih]
    cases f
    subst hf
    rfl

theorem fireLoop_ts (now : Int) : ∀ trigs : List Trig, ∀ f ∈ (fireLoop now trigs).1, f.ts = now
  | [], f, h => by cases h
  | t :: rest, f, h => by
    unfold fireLoop at h
    split at h
    · cases h
    · simp only [List.mem_append] at h
      rcases h with h' | h'
      · split at h'
        · rw [List.mem_singleton.mp h']
        · cases h'
      · exact fireLoop_ts now rest f h'

theorem barParts_trig (cfg : Cfg) (sc : Script) (row : Nat) (ts : Int) (st : St) (price : Option Int) :
    (barParts cfg sc row ts st price).tp = trigPhase ts st.trigs ∧
    ((barParts cfg sc row ts st price).trace row ts).filterMap fireOfEv = (trigPhase ts st.trigs).1 ∧
    ((barParts cfg sc row ts st price).final ts).trigs = (trigPhase ts st.trigs).2.1 := by
  obtain ⟨_, hb, hnt⟩ := barParts_frame cfg sc row ts st price
  have htp : (barParts cfg sc row ts st price).tp = trigPhase ts st.trigs := by
    show trigPhase ts (barParts cfg sc row ts st price).b.2.trigs = _
    rw [hb]
  refine ⟨htp, ?_, ?_⟩
  · rw [BarParts.fm_seg fireOfEv_phase (barParts_segs_at cfg sc row ts st price) (l := (barParts cfg sc row ts st price).f.1) rfl]
    show (runFires sc ts row (barParts cfg sc row ts st price).tp.1 _).1.filterMap fireOfEv = _
    rw [runFires_fires sc ts row _ _ (by rw [htp, trigPhase_fst]; exact fireLoop_ts ts st.trigs), htp]
  · show (barParts cfg sc row ts st price).nt.2.1.trigs = _
    rw [hnt, htp]

theorem runBars_trig (cfg : Cfg) (sc : Script) (bars : List Int) (row : Nat) (st : St) (h : (runBars cfg sc row bars st).2.2 = none) :
    (runBars cfg sc row bars st).1.filterMap fireOfEv = (trigRun bars st.trigs).1 ∧
    (runBars cfg sc row bars st).2.1.trigs = (trigRun bars st.trigs).2.1 ∧
    (trigRun bars st.trigs).2.2 = none := by
  refine runBars_ind (motive := fun bars _ st r => r.1.filterMap fireOfEv = (trigRun bars st.trigs).1 ∧
      r.2.1.trigs = (trigRun bars st.trigs).2.1 ∧ (trigRun bars st.trigs).2.2 = none)
    (fun _ _ => ⟨rfl, rfl, rfl⟩) ?_ bars row st h
  intro ts bars row st price _ htpn _ _ ih
  obtain ⟨b1, b2, b3⟩ := barParts_trig cfg sc row ts st price
  rw [b1] at htpn
  rw [b3] at ih
  obtain ⟨ih1, ih2, ih3⟩ := ih
  simp only [trigRun, htpn, List.filterMap_append, b2, ih1, ih2, ih3]
  exact ⟨trivial, trivial, trivial⟩

theorem core_run_trig (cfg : Cfg) (trigs : List Trig) (sc : Script) (h : (run cfg trigs sc).err = none) :
    (run cfg trigs sc).trace.filterMap fireOfEv = (trigRun (barIndex cfg) trigs).1 ∧
    (run cfg trigs sc).trigsLeft = (trigRun (barIndex cfg) trigs).2.1 ∧
    (trigRun (barIndex cfg) trigs).2.2 = none := by
  obtain ⟨ts0, bars, hb, hl, htr, hleft⟩ := core_run_fm_loop fireOfEv fireOfEv_phase (by omega) cfg trigs sc h
  obtain ⟨r1, r2, r3⟩ := runBars_trig cfg sc (ts0 :: bars) 0 _ hl
  have ht : (initRun cfg trigs sc ts0).2.trigs = trigs := (runOps_rel (Frame.phaseRel ts0) .init sc.init (initSt cfg trigs ts0)).2.1
  rw [ht] at r1 r2 r3
  rw [htr, hleft, hb]
  exact ⟨r1, r2, r3⟩

theorem runNotify_quiet (sc : Script) (ts : Int) (row : Nat) (hq : ∀ r t, sc.notify r t = []) : ∀ (fuel i : Nat) (st : St),
    st.cur.length ≤ i + fuel → (runNotify sc ts row fuel i st).2.2 = true
  | 0, i, st, h => by rw [runNotify_none (List.getElem?_eq_none_iff.mpr (by omega))]
  | fuel + 1, i, st, h => by
    cases ha : st.cur[i]? with
    | none => rw [runNotify_none ha]
    | some a =>
      rw [runNotify_some ha]
      simp only [hq, runOps]
      exact runNotify_quiet sc ts row hq fuel (i + 1) st (by omega)

theorem runBars_none (cfg : Cfg) (sc : Script) (hq : ∀ r t, sc.notify r t = []) : ∀ (bars : List Int) (row : Nat) (st : St),
    (∀ t ∈ bars, (priceAt cfg t).isSome) → (∀ x ∈ st.trigs, WF x.k) → (runBars cfg sc row bars st).2.2 = none
  | [], _, _, _, _ => rfl
  | ts :: bars, row, st, hp, hwf => by
    obtain ⟨price, hpr⟩ := Option.isSome_iff_exists.mp (hp ts (List.mem_cons_self ..))
    obtain ⟨b1, _, b3⟩ := barParts_trig cfg sc row ts st price
    have hph := trigPhase_ok ts st.trigs hwf
    have hstep := barStep_done hpr (by rw [b1, hph]) (runNotify_quiet sc ts row hq _ 0 _ (by omega))
    have hwf' : ∀ x ∈ ((barParts cfg sc row ts st price).final ts).trigs, WF x.k := by
      rw [b3, hph]; exact WF_phase ts hwf
    have ih := runBars_none cfg sc hq bars (row + 1) _ (fun t ht => hp t (List.mem_cons_of_mem _ ht)) hwf'
    rw [runBars_cons, hstep, andThen_mk_none]
    exact ih

theorem runBars_prices (cfg : Cfg) (sc : Script) (bars : List Int) (row : Nat) (st : St) (h : (runBars cfg sc row bars st).2.2 = none) :
    ∀ t ∈ bars, (priceAt cfg t).isSome := by
  intro t ht
  rw [← barsOf_ts h] at ht
  obtain ⟨x, hx, rfl⟩ := List.mem_map.mp ht
  rw [(runBars_normal h).2.2 x hx]
  rfl

end Demeter.Core
