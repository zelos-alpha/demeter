/-
  Histories of the Aave state machine and what they do to one token's entry.

  `runHist` runs a list of (bar, operation) steps; a relation that holds of every step and composes along `++` holds of the run
  (`runHist_rel`).  The ledger of a token: `c10SupEvents` / `c10BorEvents` read the accepted `supply`/`withdraw` (`borrow`/cash
  `repay`) calls off a run as lines `(±amount, index)`, `c10Ledger` sums them at an index.  One step moves the scaled balance in
  one of three ways (`Aave.BaseMove`: not at all, `+a/I`, `−a/I` through `sub_base_amount`), which is the step's ledger line
  exactly when nothing snaps (`LedgerEq`) and up to `MIN_TOKEN_VALUE` per withdrawal otherwise (`LedgerDust`).
-/
import Proofs.Lemmas.AaveFrame
import Proofs.Lemmas.AaveExact
import Proofs.Lemmas.AaveEffect
import Proofs.Lemmas.AListSum
namespace Demeter
open Aave

def runHist (cx : ACtx) : St → List (Env × Op) → St
  | s, [] => s
  | s, (env, op) :: rest => runHist cx (step cx env s op).2 rest

theorem runHist_rel {cx : ACtx} {α : Type} (B : St → α) (ev : Env → St → Op → List (Rat × Rat))
    (evs : St → List (Env × Op) → List (Rat × Rat)) (Q : St → List (Env × Op) → Prop)
    (T : List (Rat × Rat) → α → α → Prop)
    (hnil : ∀ s, evs s [] = [])
    (hcons : ∀ s env op rest, evs s ((env, op) :: rest) = ev env s op ++ evs (step cx env s op).2 rest)
    (Tnil : ∀ b, T [] b b) (Tapp : ∀ {e1 e2 b1 b2 b3}, T e1 b1 b2 → T e2 b2 b3 → T (e1 ++ e2) b1 b3)
    (hQ : ∀ s env op rest, Q s ((env, op) :: rest) → T (ev env s op) (B s) (B (step cx env s op).2) ∧ Q (step cx env s op).2 rest)
    (hist : List (Env × Op)) : ∀ s, Q s hist → T (evs s hist) (B s) (B (runHist cx s hist)) := by
  induction hist with
  | nil => intro s _; rw [hnil]; exact Tnil _
  | cons p rest ih =>
    intro s h
    obtain ⟨h1, h2⟩ := hQ s p.1 p.2 rest h
    rw [hcons]
    exact Tapp h1 (ih _ h2)

theorem runHist_keeps {cx : ACtx} {α : Type} (f : St → α) (Q : St → List (Env × Op) → Prop)
    (hQ : ∀ s env op rest, Q s ((env, op) :: rest) → f (step cx env s op).2 = f s ∧ Q (step cx env s op).2 rest)
    (hist : List (Env × Op)) : ∀ s, Q s hist → f (runHist cx s hist) = f s :=
  runHist_rel f (fun _ _ _ => []) (fun _ _ => []) Q (fun _ b b' => b' = b) (fun _ => rfl) (fun _ _ _ _ => rfl)
    (fun _ => rfl) (fun h1 h2 => h2.trans h1) hQ hist

theorem aave_supply_fresh {cx : ACtx} {env0 : Env} {s0 s1 : St} {tok : String} {a : Rat} {coll : Bool}
    (hnew : AList.get? s0.supplies tok = none) (h : supply cx env0 tok a coll s0 = (.ok (), s1)) :
    ∃ st0, env0.statusOf tok = .ok st0 ∧ 0 < a ∧
      AList.get? s1.supplies tok = some ⟨cx.add 0 (cx.div a st0.liqIdx), coll, st0.liqIdx⟩ := by
  obtain ⟨st0, _, _, hapos, hst0, _, _, _, hcore⟩ := supply_accepted h
  have : s1.supplies = _ := hcore.1
  refine ⟨st0, hst0, hapos, ?_⟩
  rw [this, hnew]
  exact AList.get?_set_self _ _ _

theorem aave_supply_accrues_of_kept {env0 : Env} {s0 s1 s2 : St} {tok : String} {a : Rat} {coll : Bool}
    (hnew : AList.get? s0.supplies tok = none) (h : supply aaveExact env0 tok a coll s0 = (.ok (), s1))
    (hkept : AList.get? s2.supplies tok = AList.get? s1.supplies tok) (I : Rat) :
    ∃ st0 e, env0.statusOf tok = .ok st0 ∧ AList.get? s2.supplies tok = some e ∧ e.base * I = a * I / st0.liqIdx := by
  obtain ⟨st0, hst0, _, hs1⟩ := aave_supply_fresh hnew h
  refine ⟨st0, _, hst0, hkept.trans hs1, ?_⟩
  show (0 + a / st0.liqIdx) * I = a * I / st0.liqIdx
  ring

theorem aave_borrow_fresh {cx : ACtx} {env0 : Env} {s0 s1 : St} {tok : String} {a : Rat}
    (hnew : AList.get? s0.borrows tok = none) (h : borrow cx env0 tok (some a) s0 = (.ok (), s1)) :
    ∃ st0, env0.statusOf tok = .ok st0 ∧ 0 < a ∧
      AList.get? s1.borrows tok = some ⟨cx.add 0 (cx.div a st0.varIdx), st0.varIdx⟩ := by
  obtain ⟨a', st0, _, hapos, ha, hst0, _, hcore⟩ := borrow_accepted h
  obtain rfl := ha a rfl
  have : s1.borrows = _ := hcore.2.1
  refine ⟨st0, hst0, hapos, ?_⟩
  rw [this, hnew]
  exact AList.get?_set_self _ _ _

theorem aave_debt_accrues_of_kept {env0 : Env} {s0 s1 s2 : St} {tok : String} {a : Rat}
    (hnew : AList.get? s0.borrows tok = none) (h : borrow aaveExact env0 tok (some a) s0 = (.ok (), s1))
    (hkept : AList.get? s2.borrows tok = AList.get? s1.borrows tok) (I : Rat) :
    ∃ st0 e, env0.statusOf tok = .ok st0 ∧ AList.get? s2.borrows tok = some e ∧ e.base * I = a * I / st0.varIdx := by
  obtain ⟨st0, hst0, _, hs1⟩ := aave_borrow_fresh hnew h
  refine ⟨st0, _, hst0, hkept.trans hs1, ?_⟩
  show (0 + a / st0.varIdx) * I = a * I / st0.varIdx
  ring

def c10SupBase (tok : String) (s : St) : Rat := ((AList.get? s.supplies tok).map (·.base)).getD 0
def c10BorBase (tok : String) (s : St) : Rat := ((AList.get? s.borrows tok).map (·.base)).getD 0
/-- the 1 of a missing row is never read: the ledger takes an index only from an accepted call (`c10Accepted`), and that found
    the row -/
def c10LiqIdx (env : Env) (tok : String) : Rat :=
  match env.statusOf tok with
  | .ok st => st.liqIdx
  | .error _ => 1
def c10VarIdx (env : Env) (tok : String) : Rat :=
  match env.statusOf tok with
  | .ok st => st.varIdx
  | .error _ => 1

def c10Accepted (r : Res Val) : Bool :=
  match r with
  | .ok _ => true
  | .error _ => false

/-- the ledger line `(signed amount, index)` of a step; `None` is the balance shown, `base × index` -/
def c10SupEvent (tok : String) (env : Env) (s : St) (op : Op) : List (Rat × Rat) :=
  if c10Accepted (step aaveExact env s op).1 then
    match op with
    | .supply t a _ => if t = tok then [(a, c10LiqIdx env tok)] else []
    | .withdraw t a? => if t = tok then [(-(a?.getD (c10SupBase tok s * c10LiqIdx env tok)), c10LiqIdx env tok)] else []
    | _ => []
  else []

def c10SupEvents (tok : String) : St → List (Env × Op) → List (Rat × Rat)
  | _, [] => []
  | s, (env, op) :: rest => c10SupEvent tok env s op ++ c10SupEvents tok (step aaveExact env s op).2 rest

def c10BorEvent (tok : String) (env : Env) (s : St) (op : Op) : List (Rat × Rat) :=
  if c10Accepted (step aaveExact env s op).1 then
    match op with
    | .borrow t (some a) => if t = tok then [(a, c10VarIdx env tok)] else []
    | .repay t a? false _ => if t = tok then [(-(a?.getD (c10BorBase tok s * c10VarIdx env tok)), c10VarIdx env tok)] else []
    | _ => []
  else []

def c10BorEvents (tok : String) : St → List (Env × Op) → List (Rat × Rat)
  | _, [] => []
  | s, (env, op) :: rest => c10BorEvent tok env s op ++ c10BorEvents tok (step aaveExact env s op).2 rest

def c10Ledger (evs : List (Rat × Rat)) (I : Rat) : Rat := (evs.map (fun p => p.1 * I / p.2)).sum

theorem c10Ledger_nil (I : Rat) : c10Ledger [] I = 0 := rfl
theorem c10Ledger_append (a b : List (Rat × Rat)) (I : Rat) : c10Ledger (a ++ b) I = c10Ledger a I + c10Ledger b I := by
  unfold c10Ledger; rw [List.map_append, List.sum_append]
theorem c10Ledger_single (a i I : Rat) : c10Ledger [(a, i)] I = a / i * I := by
  unfold c10Ledger; simp; ring

theorem c10Ledger_scale (evs : List (Rat × Rat)) (I : Rat) : c10Ledger evs I = c10Ledger evs 1 * I := by
  unfold c10Ledger
  rw [← ListSum.mul_right]
  exact congrArg List.sum (List.map_congr_left fun p _ => by ring)

def c10Withdrawals (evs : List (Rat × Rat)) : Nat := (evs.filter (fun p => decide (p.1 < 0))).length

theorem c10Withdrawals_append (a b : List (Rat × Rat)) : c10Withdrawals (a ++ b) = c10Withdrawals a + c10Withdrawals b := by
  unfold c10Withdrawals; rw [List.filter_append, List.length_append]

def Aave.LedgerEq (e : List (Rat × Rat)) (b b' : Rat) : Prop := ∀ I : Rat, b' * I = b * I + c10Ledger e I

theorem Aave.LedgerEq.nil (b : Rat) : LedgerEq [] b b := fun I => by rw [c10Ledger_nil, add_zero]
theorem Aave.LedgerEq.append {e1 e2 : List (Rat × Rat)} {b1 b2 b3 : Rat} (h1 : LedgerEq e1 b1 b2) (h2 : LedgerEq e2 b2 b3) :
    LedgerEq (e1 ++ e2) b1 b3 := fun I => by rw [h2 I, h1 I, c10Ledger_append, add_assoc]

def Aave.LedgerDust (e : List (Rat × Rat)) (b b' : Rat) : Prop :=
  b' ≤ b + c10Ledger e 1 ∧ b + c10Ledger e 1 - b' ≤ Gen.aaveMinTokenValue * (c10Withdrawals e : Rat)

theorem Aave.LedgerDust.nil (b : Rat) : LedgerDust [] b b := by simp [LedgerDust, c10Ledger_nil, c10Withdrawals]
theorem Aave.LedgerDust.append {e1 e2 : List (Rat × Rat)} {b1 b2 b3 : Rat} (h1 : LedgerDust e1 b1 b2) (h2 : LedgerDust e2 b2 b3) :
    LedgerDust (e1 ++ e2) b1 b3 := by
  unfold LedgerDust at *
  rw [c10Ledger_append, c10Withdrawals_append]
  push_cast
  constructor <;> linarith [h1.1, h1.2, h2.1, h2.2]

/-- how one call moves a scaled balance `B`, with the ledger line it leaves; `D a I`: what the caller wants to know of the
    amount taken -/
inductive Aave.BaseMove (D : Rat → Rat → Prop) (B : Rat) : List (Rat × Rat) → Rat → Prop
  | same : BaseMove D B [] B
  | inc (a I : Rat) : BaseMove D B [(a, I)] (B + a / I)
  | dec (a I : Rat) : D a I → BaseMove D B [(-a, I)] (subBase aaveExact B (a / I))

section moves
variable {D : Rat → Rat → Prop} {tok : String} {env : Env} {s : St} {op : Op}

theorem Aave.BaseMove.of_same {B B' : Rat} {ev : List (Rat × Rat)} (e1 : B' = B) (e2 : ev = []) : BaseMove D B ev B' := by
  rw [e1, e2]; exact .same

theorem Aave.BaseMove.ledger {B B' : Rat} {ev : List (Rat × Rat)}
    (h : BaseMove (fun a I => B - a / I < Gen.aaveMinTokenValue → B - a / I = 0) B ev B') : LedgerEq ev B B' := by
  intro J
  cases h with
  | same => exact LedgerEq.nil B J
  | inc a I => rw [c10Ledger_single]; ring
  | dec a I hd => rw [c10Ledger_single, aave_subBase_noSnap hd]; ring

theorem Aave.BaseMove.dust {B B' : Rat} {ev : List (Rat × Rat)} (h : BaseMove (fun a I => 0 < a ∧ 0 ≤ B - a / I) B ev B') :
    LedgerDust ev B B' := by
  have hmin := aave_minToken_pos
  unfold LedgerDust
  cases h with
  | same => exact LedgerDust.nil B
  | inc a I =>
    rw [c10Ledger_single, mul_one]
    exact ⟨le_refl _, by rw [sub_self]; exact mul_nonneg hmin.le (by exact_mod_cast Nat.zero_le _)⟩
  | dec a I hd =>
    obtain ⟨ha, hr⟩ := hd
    have hw : c10Withdrawals [(-a, I)] = 1 := by unfold c10Withdrawals; simp [ha]
    rw [c10Ledger_single, mul_one, hw, neg_div]
    rcases aave_subBase_cases B (a / I) with ⟨hlt, h0⟩ | ⟨_, heq, _⟩
    · rw [h0]; constructor <;> push_cast <;> linarith
    · rw [heq]; constructor <;> push_cast <;> linarith

theorem c10LiqIdx_pos {env : Env} (hI : AavePosIdx env) (tok : String) : 0 < c10LiqIdx env tok := by
  unfold c10LiqIdx
  cases hst : env.statusOf tok with
  | ok st => exact (hI tok st hst).1
  | error e => exact one_pos

theorem c10SupBase_congr {s' : St} (h : s'.supplies = s.supplies) : c10SupBase tok s' = c10SupBase tok s := by
  unfold c10SupBase; rw [h]

/-- **`change_collateral(tok, ·)` never changes the scaled balance** — accepted, rejected (health factor too low, token not
    usable as collateral) or raising inside the health-factor read: only the flag is written (and written back). -/
theorem aave_changeCollateral_base {cx : ACtx} (env : Env) (tok : String) (c : Bool) (s : St) :
    c10SupBase tok (changeCollateral cx env tok c s).2 = c10SupBase tok s := by
  refine (changeCollateral_eff s tok c).snd ?_ (fun _ hmv => c10SupBase_congr hmv.sup) (Moved.refl s)
  rintro _ _ ⟨info, _, hg, ⟨_, s1, h1, rfl⟩ | ⟨_, s2, ⟨s1, h1, h2⟩, rfl⟩⟩
  · exact c10SupBase_congr (s' := s1) h1.sup
  · -- only the flag of the entry was written
    show c10SupBase tok s2 = _
    unfold c10SupBase
    rw [show s2.supplies = AList.set s1.supplies tok { info with coll := c } from h2.sup, AList.get?_set_self, hg]
    rfl

/-- a rejected user call moves nothing and leaves no ledger line -/
theorem aave_call_move {m : M Unit} (hop : step aaveExact env s op = unitM m s) (hu : op ≠ .update)
    {B : St → Rat} (hB : ∀ s', s'.supplies = s.supplies → s'.borrows = s.borrows → B s' = B s)
    {ev : List (Rat × Rat)} (hev : c10Accepted (step aaveExact env s op).1 = false → ev = [])
    (hacc : ∀ s1, m s = (.ok (), s1) → step aaveExact env s op = (.ok .unit, s1) → BaseMove D (B s) ev (B s1)) :
    BaseMove D (B s) ev (B (step aaveExact env s op).2) := by
  rcases hm : m s with ⟨r, s1⟩
  cases r with
  | error e =>
    have h : step aaveExact env s op = (.error e, s1) := hop.trans (aave_unitM_err hm)
    have hmv := step_rejected_moved s (e := e) (by rw [h]) hu
    exact .of_same (hB _ hmv.sup hmv.bor) (hev (by rw [h]; rfl))
  | ok u =>
    have h : step aaveExact env s op = (.ok .unit, s1) := hop.trans (aave_unitM_ok hm)
    rw [h]
    exact hacc s1 hm h

theorem c10SupEvent_rejected (h : c10Accepted (step aaveExact env s op).1 = false) : c10SupEvent tok env s op = [] := by
  unfold c10SupEvent; rw [h]; rfl

/-- **how a step moves `tok`'s scaled supply**: `h` has the shape of the step predicates `C10SupLedgerStep` / `C10SupLedgerStepD`,
    with their two state-dependent clauses as variables — `U`, under which `update()` must leave the supplies alone, and `W`,
    which together with what an accepted withdrawal is known to have checked of its amount (`0 < a ≤ B · I`, `a` = the argument
    or the balance shown) must give the caller's `D` -/
theorem aave_supBase_move {U : Prop} {W : Option Rat → Prop}
    (hU : U → (step aaveExact env s .update).2.supplies = s.supplies)
    (hW : ∀ a?, W a? → c10Accepted (step aaveExact env s (.withdraw tok a?)).1 = true →
      0 < a?.getD (c10SupBase tok s * c10LiqIdx env tok) →
      a?.getD (c10SupBase tok s * c10LiqIdx env tok) ≤ c10SupBase tok s * c10LiqIdx env tok →
      D (a?.getD (c10SupBase tok s * c10LiqIdx env tok)) (c10LiqIdx env tok))
    (h : ¬ TouchesSupply tok op ∨ (op = .update ∧ U) ∨ (∃ a c, op = .supply tok a c) ∨
      (∃ a?, op = .withdraw tok a? ∧ W a?) ∨ (∃ c, op = .changeCollateral tok c)) :
    BaseMove D (c10SupBase tok s) (c10SupEvent tok env s op) (c10SupBase tok (step aaveExact env s op).2) := by
  rcases h with hn | ⟨rfl, hq⟩ | ⟨a, c, rfl⟩ | ⟨a?, rfl, hw⟩ | ⟨c, rfl⟩
  · have hk := step_supply_untouched (cx := aaveExact) hn env s
    refine .of_same (by unfold c10SupBase; rw [hk]) ?_
    unfold c10SupEvent
    split
    · cases op with
      | supply t a c => have : t ≠ tok := fun e => hn e; simp [this]
      | withdraw t a => have : t ≠ tok := fun e => hn e; simp [this]
      | _ => rfl
    · rfl
  · exact .of_same (c10SupBase_congr (hU hq)) (by unfold c10SupEvent; split <;> rfl)
  · refine aave_call_move rfl (by simp) (fun _ h _ => c10SupBase_congr h) c10SupEvent_rejected (fun s1 hm hstep => ?_)
    obtain ⟨st, _, _, _, hst, _, _, _, k1, _⟩ := supply_accepted hm
    have e2 : c10SupEvent tok env s (.supply tok a c) = [(a, st.liqIdx)] := by
      unfold c10SupEvent c10LiqIdx; rw [hstep, hst]; simp [c10Accepted]
    have e1 : c10SupBase tok s1 = c10SupBase tok s + a / st.liqIdx := by
      unfold c10SupBase
      rw [k1, AList.get?_set_self]
      exact supplyEntry_base _ _ _ _ _
    rw [e2, e1]
    exact .inc a st.liqIdx
  · refine aave_call_move rfl (by simp) (fun _ h _ => c10SupBase_congr h) c10SupEvent_rejected (fun s1 hm hstep => ?_)
    obtain ⟨st, info, amount, nb, _, hst, _, hg, ha, hpos, hle, hnb, k1, _⟩ := withdraw_accepted hm
    have ha : amount = a?.getD (info.base * st.liqIdx) := ha
    have hidx : c10LiqIdx env tok = st.liqIdx := by unfold c10LiqIdx; rw [hst]
    have hbase : c10SupBase tok s = info.base := by unfold c10SupBase; rw [hg]; rfl
    have e2 : c10SupEvent tok env s (.withdraw tok a?) = [(-amount, st.liqIdx)] := by
      unfold c10SupEvent; rw [hstep, hidx, hbase]; simp [c10Accepted, ha]
    have e1 : c10SupBase tok s1 = subBase aaveExact info.base (amount / st.liqIdx) := by
      unfold c10SupBase
      rw [k1, supAfterSub_base]
      exact hnb
    have hD := hW a? hw
    rw [hidx, hbase, ← ha, hstep] at hD
    rw [e2, e1, hbase]
    exact .dec amount st.liqIdx (hD rfl hpos hle)
  · refine .of_same ?_ (by unfold c10SupEvent; split <;> rfl)
    show c10SupBase tok (unitM (changeCollateral aaveExact env tok c) s).2 = _
    rw [aave_unitM_snd]
    exact aave_changeCollateral_base env tok c s

theorem c10BorEvent_rejected (h : c10Accepted (step aaveExact env s op).1 = false) : c10BorEvent tok env s op = [] := by
  unfold c10BorEvent; rw [h]; rfl

theorem c10BorBase_congr {s' : St} (h : s'.borrows = s.borrows) : c10BorBase tok s' = c10BorBase tok s := by
  unfold c10BorBase; rw [h]

/-- **how a step moves `tok`'s scaled debt**: `h` has the shape of `C10BorLedgerStep`, its `update()` clause and its repayment
    clause as the variables `U`, `W`; `W` must give the caller's `D` of the amount of an accepted cash repayment (the argument, or
    the debt shown) -/
theorem aave_borBase_move {U : Prop} {W : Option Rat → Option String → Prop}
    (hU : U → (step aaveExact env s .update).2.borrows = s.borrows)
    (hW : ∀ a? c, W a? c → c10Accepted (step aaveExact env s (.repay tok a? false c)).1 = true →
      D (a?.getD (c10BorBase tok s * c10VarIdx env tok)) (c10VarIdx env tok))
    (h : ¬ TouchesBorrow tok op ∨ (op = .update ∧ U) ∨ (∃ a, op = .borrow tok (some a)) ∨
      (∃ a? c, op = .repay tok a? false c ∧ W a? c)) :
    BaseMove D (c10BorBase tok s) (c10BorEvent tok env s op) (c10BorBase tok (step aaveExact env s op).2) := by
  rcases h with hn | ⟨rfl, hq⟩ | ⟨a, rfl⟩ | ⟨a?, c, rfl, hw⟩
  · have hk := step_debt_untouched (cx := aaveExact) hn env s
    refine .of_same (by unfold c10BorBase; rw [hk]) ?_
    unfold c10BorEvent
    split
    · cases op with
      | borrow t a =>
        have : t ≠ tok := fun e => hn e
        cases a <;> simp [this]
      | repay t a w c =>
        have : t ≠ tok := fun e => hn e
        cases w <;> simp [this]
      | _ => rfl
    · rfl
  · exact .of_same (c10BorBase_congr (hU hq)) (by unfold c10BorEvent; split <;> rfl)
  · refine aave_call_move rfl (by simp) (fun _ _ h => c10BorBase_congr h) c10BorEvent_rejected (fun s1 hm hstep => ?_)
    obtain ⟨amount, st, _, _, ha, hst, _, _, k2, _⟩ := borrow_accepted hm
    obtain rfl := ha a rfl
    have e2 : c10BorEvent tok env s (.borrow tok (some amount)) = [(amount, st.varIdx)] := by
      unfold c10BorEvent c10VarIdx; rw [hstep, hst]; simp [c10Accepted]
    have e1 : c10BorBase tok s1 = c10BorBase tok s + amount / st.varIdx := by
      unfold c10BorBase
      rw [k2, AList.get?_set_self]
      exact borrowEntry_base _ _ _ _
    rw [e2, e1]
    exact .inc amount st.varIdx
  · refine aave_call_move rfl (by simp) (fun _ _ h => c10BorBase_congr h) c10BorEvent_rejected (fun s1 hm hstep => ?_)
    obtain ⟨st, info, payback, _, _, hst, _, hg, hp, _, _, _, _, k2, _⟩ := repay_cash_accepted hm
    have hp : payback = a?.getD (info.base * st.varIdx) := hp
    have hidx : c10VarIdx env tok = st.varIdx := by unfold c10VarIdx; rw [hst]
    have hbase : c10BorBase tok s = info.base := by unfold c10BorBase; rw [hg]; rfl
    have e2 : c10BorEvent tok env s (.repay tok a? false c) = [(-payback, st.varIdx)] := by
      unfold c10BorEvent; rw [hstep, hidx, hbase]; simp [c10Accepted, hp]
    have e1 : c10BorBase tok s1 = subBase aaveExact info.base (payback / st.varIdx) := by
      unfold c10BorBase
      rw [k2, borAfterSub_base]
      rfl
    have hD := hW a? c hw
    rw [hidx, hbase, ← hp, hstep] at hD
    rw [e2, e1, hbase]
    exact .dec payback st.varIdx (hD rfl)

end moves

end Demeter
