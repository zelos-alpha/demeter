/-
  Every `run` of the development (a list of operations, of bars, of (environment, operation) pairs) is the left fold of its
  step, written as a structural recursion with the two equations below holding by `rfl`.  What every step keeps, the run keeps.
  For a run written as `List.foldl` itself: a potential and an unchanged component.
-/
namespace Demeter

theorem run_keeps {σ ο : Type} {run : σ → List ο → σ} {step : σ → ο → σ}
    (hnil : ∀ s, run s [] = s) (hcons : ∀ s o os, run s (o :: os) = run (step s o) os) {P : σ → Prop} :
    ∀ (ops : List ο), (∀ o ∈ ops, ∀ s, P s → P (step s o)) → ∀ s, P s → P (run s ops)
  | [], _, s, h => by rw [hnil]; exact h
  | o :: os, hstep, s, h => by
    rw [hcons]
    exact run_keeps hnil hcons os (fun o' ho' => hstep o' (List.mem_cons_of_mem _ ho')) _ (hstep o List.mem_cons_self s h)

theorem run_append {σ ο : Type} {run : σ → List ο → σ} {step : σ → ο → σ}
    (hnil : ∀ s, run s [] = s) (hcons : ∀ s o os, run s (o :: os) = run (step s o) os) :
    ∀ (a b : List ο) (s : σ), run s (a ++ b) = run (run s a) b
  | [], b, s => by rw [hnil]; rfl
  | o :: a, b, s => by rw [List.cons_append, hcons, hcons]; exact run_append hnil hcons a b _

theorem foldl_le_of_step {L Op : Type} (f : L → Op → L) (Φ : L → Rat) (ops : List Op) (l : L)
    (h : ∀ l, ∀ op ∈ ops, Φ (f l op) ≤ Φ l) : Φ (ops.foldl f l) ≤ Φ l :=
  List.foldlRecOn (motive := fun l' => Φ l' ≤ Φ l) ops f Rat.le_refl fun l0 h0 op hop => Rat.le_trans (h l0 op hop) h0

theorem foldl_eq_of_step {L Op β : Type} (f : L → Op → L) (Φ : L → β) (ops : List Op) (l : L)
    (h : ∀ l, ∀ op ∈ ops, Φ (f l op) = Φ l) : Φ (ops.foldl f l) = Φ l :=
  List.foldlRecOn (motive := fun l' => Φ l' = Φ l) ops f rfl fun l0 h0 op hop => (h l0 op hop).trans h0

end Demeter
