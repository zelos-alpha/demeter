/-
  The lifting kit for relations between states of the Uniswap market model:

  * the relation is *graded* by a natural number (a budget that adds up along a composition: here `Op.debits`), and
  * the primitive transactions may be *restricted* (`Allow`): which `sqrt_price_x96` arguments of
    `_add_liquidity_by_tick` / `remove_liquidity` are admitted, which execution prices of `swap`, and whether the
    two transfers are admitted at all.

  A graded relation that holds across the admitted primitive transactions holds across every admitted operation of
  the public interface, accepted or rejected, with the operation's budget, and across every list of them.
-/
import Proofs.Lemmas.UniByValue
import Proofs.Lemmas.UniRan
import Proofs.Lemmas.Run
namespace Demeter.Uni
open Demeter

structure Allow where
  /-- the `sqrt_price_x96` argument of `_add_liquidity_by_tick` -/
  addSqrt : Option Nat → Prop
  /-- the `sqrt_price_x96` argument of `remove_liquidity` -/
  remSqrt : Option Nat → Prop
  /-- the `price` argument of `swap` (in a state, for a spent token) -/
  swapPx : State → String → Option Rat → Prop
  /-- `transfer_position_out` / `transfer_position_in` -/
  transfer : Prop

def Allow.all : Allow := { addSqrt := fun _ => True, remSqrt := fun _ => True, swapPx := fun _ _ _ => True, transfer := True }

/-- the number of debiting transactions an operation can perform: `_add_liquidity_by_tick` (two debits, of two different
    tokens) and `swap` (one debit) count one each -/
def Op.debits : Op → Nat
  | .addRaw .. => 1 | .addByTick .. => 1 | .addByPrice .. => 1
  | .remove .. => 0 | .collect .. => 0 | .removeAll => 0
  | .swap .. => 1 | .buy .. => 1 | .sell .. => 1 | .evenRebalance .. => 1
  | .addByValue .. => 2
  | .transferOut .. => 0 | .transferIn .. => 0

def Op.allowed (al : Allow) : Op → Prop
  | .addRaw _ _ _ _ sq => al.addSqrt sq
  | .addByTick _ _ _ _ sq t _ => (sq = none ∧ t = none ∧ al.addSqrt none) ∨ (∀ x, al.addSqrt x)
  | .addByPrice .. => al.addSqrt none
  | .remove _ _ _ _ sq _ => al.remSqrt sq
  | .collect .. => True
  | .removeAll => al.remSqrt none
  | .swap _ f _ p _ => ∀ s, al.swapPx s f p
  | .buy _ p => givenPrice p = none ∨ (∀ s f q, al.swapPx s f q)
  | .sell _ p => givenPrice p = none ∨ (∀ s f q, al.swapPx s f q)
  | .evenRebalance _ => True
  | .addByValue .. => al.addSqrt none
  | .transferOut .. => al.transfer
  | .transferIn .. => al.transfer

theorem Op.allowed_all (op : Op) : op.allowed Allow.all := by
  cases op <;> simp [Op.allowed, Allow.all]

def Op.isTransfer : Op → Bool
  | .transferOut .. => true
  | .transferIn .. => true
  | _ => false

def Allow.noTransfer : Allow := { Allow.all with transfer := False }

theorem allowed_noTransfer (op : Op) (h : op.isTransfer = false) : op.allowed Allow.noTransfer := by
  cases op <;> simp [Op.allowed, Allow.noTransfer, Allow.all, Op.isTransfer] at h ⊢

structure GStepRel (K : Kern) (pool : Pool) (al : Allow) (R : Nat → State → State → Prop) : Prop where
  refl : ∀ s, R 0 s s
  trans : ∀ {n m a b c}, R n a b → R m b c → R (n + m) a c
  mono : ∀ {n m a b}, n ≤ m → R n a b → R m a b
  record : ∀ s a, R 0 s (Uni.record s a)
  addRaw : ∀ s a0 a1 lo up sq, al.addSqrt sq → R 1 s (addRaw K pool s a0 a1 lo up sq).2
  collect : ∀ s lo up m0 m1 rd tu, R 0 s (collect K pool s lo up m0 m1 rd tu).2
  remove : ∀ s lo up l c sq rd, al.remSqrt sq → R 0 s (remove K pool s lo up l c sq rd).2
  swap : ∀ s a f t p log, al.swapPx s f p → R 1 s (swap K pool s a f t p log).2
  transferOut : al.transfer → ∀ s lo up, R 0 s (transferOut s lo up).2
  transferIn : al.transfer → ∀ s lo up, R 0 s (transferIn s lo up).2
  /-- the market price is always an admitted execution price: not given, … -/
  px_none : ∀ s f, al.swapPx s f none
  /-- … or given as what `buy` passes (the reciprocal of the market price, spending the quote token), … -/
  px_buy : ∀ s price, priceOf s = .ok price → price ≠ 0 → al.swapPx s pool.quoteTok (some (K.cx.div 1 price))
  /-- … or as what `sell` passes (the market price, spending the base token) -/
  px_sell : ∀ s price, priceOf s = .ok price → al.swapPx s pool.baseTok (some price)

def debitsOf : List Op → Nat
  | [] => 0
  | op :: ops => op.debits + debitsOf ops

namespace GStepRel
variable {K : Kern} {pool : Pool} {al : Allow} {R : Nat → State → State → Prop} (H : GStepRel K pool al R)
include H

theorem refl' (n : Nat) (s : State) : R n s s := H.mono (Nat.zero_le n) (H.refl s)

/-- the logging single-transaction operations debit once -/
theorem ran {s : State} {r : Res} (h : Ran pool (R 1) s r) : R 1 s r.2 :=
  h.snd (H.refl' 1 s) (fun a h => H.trans h (H.record _ a))

theorem addByTickOf (s : State) (lo up : Int) (b q : Option Rat) (sq : Option Nat) (t : Option Int) (trim : Bool)
    (hs : ∀ x, sqrtOrTick K sq t = .ok x → al.addSqrt x) : R 1 s (addByTick K pool s lo up b q sq t trim).2 :=
  H.ran (addByTick_ran lo up b q sq t trim (fun x a0 a1 lo up hx => H.addRaw s a0 a1 lo up x (hs x hx)))

theorem addByTickNone (s : State) (lo up : Int) (b q : Option Rat) (trim : Bool) (hs : al.addSqrt none) :
    R 1 s (addByTick K pool s lo up b q none none trim).2 :=
  H.addByTickOf s lo up b q none none trim (fun x hx => by cases hx; exact hs)

theorem addByPrice (s : State) (lp up : Rat) (lt ut : Int) (q b : Option Rat) (hs : al.addSqrt none) :
    R 1 s (addByPrice K pool s lp up lt ut q b).2 :=
  H.ran (addByPrice_ran lp up lt ut q b (fun a0 a1 lo up => H.addRaw s a0 a1 lo up none hs))

theorem removeAllLoop (hs : al.remSqrt none) : ∀ (ks : List (Int × Int)) (s : State), R 0 s (removeAllLoop K pool ks s).2
  | [], s => H.refl s
  | (lo, up) :: ks, s => by
    unfold Uni.removeAllLoop
    have h := H.remove s lo up none true none true hs
    split
    · rename_i heq; exact snd_of_eq h heq
    · rename_i heq; exact H.trans (snd_of_eq h heq) (removeAllLoop hs ks _)

theorem buy (s : State) (a : Rat) (p : Option Rat) (hp : givenPrice p = none ∨ (∀ s f q, al.swapPx s f q)) :
    R 1 s (buy K pool s a p).2 :=
  H.ran (buy_ran a p (fun price x hpr hne => H.swap s x _ _ _ false
    (hp.elim (fun hp => H.px_buy s price (by rwa [hp] at hpr) hne) (· _ _ _))))

theorem sell (s : State) (a : Rat) (p : Option Rat) (hp : givenPrice p = none ∨ (∀ s f q, al.swapPx s f q)) :
    R 1 s (sell K pool s a p).2 :=
  H.ran (sell_ran a p (fun price hpr => H.swap s a _ _ _ false
    (hp.elim (fun hp => H.px_sell s price (by rwa [hp] at hpr)) (· _ _ _))))

theorem evenRebalance (s : State) (p : Option Rat) : R 1 s (evenRebalance K pool s p).2 :=
  H.ran (evenRebalance_ran p (fun price x hp hne => H.swap s x _ _ _ false (H.px_buy s price hp hne))
    (fun price x hp => H.swap s x _ _ _ false (H.px_sell s price hp)))

theorem maybeSwap {s s' : State} (h : MaybeSwap K pool s s') : R 1 s s' := by
  rcases h with rfl | ⟨a, f, t, rfl⟩
  · exact H.refl' 1 _
  · exact H.swap _ _ _ _ _ _ (H.px_none ..)

theorem maybeAdd {s s' : State} (h : MaybeAdd K pool s s') (hs : al.addSqrt none) : R 1 s s' := by
  rcases h with rfl | ⟨lo, up, b, q, rfl⟩
  · exact H.refl' 1 _
  · exact H.addByTickNone _ _ _ _ _ _ hs

theorem addByValue (me : Rat) (s : State) (lo up : Int) (v : Option Rat) (trim : Bool) (o : ByValueOracle)
    (hs : al.addSqrt none) : R 2 s (addByValue K pool me s lo up v trim o).2 := by
  obtain ⟨s1, h1, h2⟩ := addByValue_swapThenAdd (K := K) (pool := pool) me s lo up v trim o
  exact H.trans (H.maybeSwap h1) (H.maybeAdd h2 hs)

theorem step (me : Rat) (s : State) (op : Op) (hop : op.allowed al) : R op.debits s (step K pool me s op).2 := by
  cases op
  case addRaw a0 a1 lo up sq => rw [step_addRaw_snd]; exact H.addRaw s a0 a1 lo up sq hop
  case swap a f t p log => rw [step_swap_snd]; exact H.swap s a f t p log (hop s)
  all_goals simp only [Uni.step, Op.debits]; simp only [Op.allowed] at hop
  case addByTick lo up b q sq t trim =>
    rcases hop with ⟨h1, h2, h3⟩ | h
    · subst h1; subst h2; exact H.addByTickNone _ _ _ _ _ _ h3
    · exact H.addByTickOf _ _ _ _ _ _ _ _ (fun x _ => h x)
  case addByPrice => exact H.addByPrice _ _ _ _ _ _ _ hop
  case remove => exact H.remove _ _ _ _ _ _ _ hop
  case collect => exact H.collect ..
  case removeAll => exact H.removeAllLoop hop ..
  case buy => exact H.buy _ _ _ hop
  case sell => exact H.sell _ _ _ hop
  case evenRebalance => exact H.evenRebalance ..
  case addByValue => exact H.addByValue _ _ _ _ _ _ _ hop
  case transferOut => exact H.transferOut hop ..
  case transferIn => exact H.transferIn hop ..

theorem runOps (me : Rat) : ∀ (ops : List Op) (s : State), (∀ op ∈ ops, op.allowed al) →
    R (debitsOf ops) s (runOps K pool me s ops)
  | [], s, _ => H.refl s
  | op :: ops, s, h =>
    H.trans (H.step me s op (h op (List.mem_cons_self ..)))
      (runOps me ops _ (fun o ho => h o (List.mem_cons_of_mem _ ho)))

end GStepRel

theorem runOps_append (K : Kern) (pool : Pool) (me : Rat) (s : State) (a b : List Op) :
    runOps K pool me s (a ++ b) = runOps K pool me (runOps K pool me s a) b :=
  run_append (fun _ => rfl) (fun _ _ _ => rfl) a b s

theorem debitsOf_le (ops : List Op) : debitsOf ops ≤ 2 * ops.length := by
  induction ops with
  | nil => simp [debitsOf]
  | cons op ops ih =>
    have : op.debits ≤ 2 := by cases op <;> simp [Op.debits]
    simp only [debitsOf, List.length_cons]; omega

end Demeter.Uni
