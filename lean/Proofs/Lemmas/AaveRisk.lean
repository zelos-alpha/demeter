/-
  Helper lemmas for the Aave risk / liquidation model (C11 and C12).  The model keeps its dicts as lists of records
  carrying their own key (`Supply.tok`, `Debt.tok`), not as `AList` pairs: `section dict` is for those, over any
  `key : α → String`.
-/
import Demeter.AaveRisk
import Proofs.Lemmas.Exact
import Mathlib.Tactic.Linarith
import Mathlib.Tactic.Ring
import Mathlib.Tactic.Positivity
import Mathlib.Tactic.NormNum
import Mathlib.Algebra.Order.Field.Rat
import Mathlib.Algebra.BigOperators.Group.List.Basic
namespace Demeter.AaveRisk
open Demeter

theorem ite_eq_of_ne {α : Type} {c : Prop} [Decidable c] {x y z : α} (h : (if c then x else y) = z) (hx : x ≠ z) :
    ¬ c ∧ y = z :=
  (ite_eq_iff.mp h).resolve_left (fun e => hx e.2)

@[simp] theorem dsum_exact (xs : List Rat) : dsum NumCtx.exact xs = xs.sum := by
  unfold dsum; rw [foldl_exact_add, zero_add]

section dict
variable {α : Type} (key : α → String)

theorem map_key_updFirst (f : α → α) (hf : ∀ x, key (f x) = key x) (t : String) (l : List α) :
    (updFirst (fun x => decide (key x = t)) f l).map key = l.map key := by
  induction l with
  | nil => rfl
  | cons x r ih =>
    unfold updFirst
    by_cases h : key x = t <;> simp [h, hf, ih]

theorem mem_updFirst_find (q : α → Bool) (f : α → α) :
    ∀ (l : List α) (y : α), y ∈ updFirst q f l → y ∈ l ∨ ∃ s, l.find? q = some s ∧ y = f s
  | [], y, h => by simp [updFirst] at h
  | x :: r, y, h => by
    unfold updFirst at h
    by_cases hq : q x = true
    · rw [if_pos hq] at h
      rcases List.mem_cons.mp h with rfl | h'
      · right; exact ⟨x, by simp [List.find?, hq], rfl⟩
      · left; exact List.mem_cons_of_mem _ h'
    · rw [if_neg hq] at h
      rcases List.mem_cons.mp h with rfl | h'
      · left; exact List.mem_cons_self ..
      · rcases mem_updFirst_find q f r y h' with h1 | ⟨s, hs, rfl⟩
        · left; exact List.mem_cons_of_mem _ h1
        · right; exact ⟨s, by simp [List.find?, hq, hs], rfl⟩

theorem mem_updFirst (q : α → Bool) (f : α → α) {y : α} {l : List α} (h : y ∈ updFirst q f l) :
    y ∈ l ∨ ∃ x ∈ l, q x = true ∧ y = f x := by
  rcases mem_updFirst_find q f l y h with h1 | ⟨s, hs, rfl⟩
  · exact Or.inl h1
  · exact Or.inr ⟨s, List.mem_of_find?_eq_some hs, List.find?_some hs, rfl⟩

theorem split_at_key {l : List α} (hn : (l.map key).Nodup) {c : α} (hc : c ∈ l) :
    ∃ l1 l2, l = l1 ++ c :: l2 ∧ (∀ x ∈ l1, decide (key x = key c) = false)
      ∧ (∀ x ∈ l2, decide (key x = key c) = false) := by
  obtain ⟨l1, l2, rfl⟩ := List.append_of_mem hc
  rw [List.map_append, List.map_cons, List.nodup_middle, List.nodup_cons, ← List.map_append] at hn
  have h : ∀ x ∈ l1 ++ l2, decide (key x = key c) = false := fun x hx =>
    decide_eq_false (fun e => hn.1 (e ▸ List.mem_map_of_mem hx))
  exact ⟨l1, l2, rfl, fun x hx => h x (List.mem_append_left _ hx), fun x hx => h x (List.mem_append_right _ hx)⟩

theorem updFirst_append {q : α → Bool} (f : α → α) {l1 : List α} (h1 : ∀ x ∈ l1, q x = false) {y : α}
    (hy : q y = true) (l2 : List α) : updFirst q f (l1 ++ y :: l2) = l1 ++ f y :: l2 := by
  induction l1 with
  | nil => rw [List.nil_append, updFirst, if_pos hy, List.nil_append]
  | cons x r ih =>
    rw [List.cons_append, updFirst, if_neg (by rw [h1 x List.mem_cons_self]; decide),
      ih (fun z hz => h1 z (List.mem_cons_of_mem _ hz)), List.cons_append]

theorem sum_updFirst (g : α → Rat) (f : α → α) {l : List α} (hn : (l.map key).Nodup) {c : α} (hc : c ∈ l) :
    ((updFirst (fun x => decide (key x = key c)) f l).map g).sum = (l.map g).sum - g c + g (f c) := by
  obtain ⟨l1, l2, rfl, h1, _⟩ := split_at_key key hn hc
  rw [updFirst_append f h1 (decide_eq_true rfl)]
  simp only [List.map_append, List.map_cons, List.sum_append, List.sum_cons]
  ring

theorem sum_eraseP (g : α → Rat) {l : List α} (hn : (l.map key).Nodup) {c : α} (hc : c ∈ l) :
    ((l.eraseP (fun x => decide (key x = key c))).map g).sum = (l.map g).sum - g c := by
  obtain ⟨l1, l2, rfl, h1, _⟩ := split_at_key key hn hc
  rw [List.eraseP_append_right _ (fun x hx => by rw [h1 x hx]; decide),
    List.eraseP_cons_of_pos (p := fun x => decide (key x = key c)) (decide_eq_true rfl)]
  simp only [List.map_append, List.map_cons, List.sum_append, List.sum_cons]
  ring

theorem find_updFirst_ne (f : α → α) (hf : ∀ x, key (f x) = key x) (t u : String) (htu : u ≠ t) (l : List α) :
    (updFirst (fun x => decide (key x = t)) f l).find? (fun x => decide (key x = u))
      = l.find? (fun x => decide (key x = u)) := by
  induction l with
  | nil => rfl
  | cons x r ih =>
    unfold updFirst
    by_cases h : key x = t
    · have hx : key x ≠ u := fun e => htu (e ▸ h)
      simp [h, hf, List.find?_cons]
      rw [h] at hx; simp [hx]
    · simp only [h, decide_false, Bool.false_eq_true, if_false, List.find?_cons, ih]

theorem find_updFirst_self (f : α → α) (hf : ∀ x, key (f x) = key x) {l : List α} (hn : (l.map key).Nodup)
    {c : α} (hc : c ∈ l) :
    (updFirst (fun x => decide (key x = key c)) f l).find? (fun x => decide (key x = key c)) = some (f c) := by
  obtain ⟨l1, l2, rfl, h1, _⟩ := split_at_key key hn hc
  rw [updFirst_append f h1 (decide_eq_true rfl), List.find?_append,
    List.find?_eq_none.mpr (fun x hx => by rw [h1 x hx]; decide), Option.none_or, List.find?_cons_of_pos (p := fun x => decide (key x = key c)) (decide_eq_true (hf c))]

theorem find_eraseP_ne (t u : String) (htu : u ≠ t) (l : List α) :
    (l.eraseP (fun x => decide (key x = t))).find? (fun x => decide (key x = u))
      = l.find? (fun x => decide (key x = u)) := by
  induction l with
  | nil => rfl
  | cons x r ih =>
    by_cases h : key x = t
    · have hx : key x ≠ u := fun e => htu (e ▸ h)
      rw [List.eraseP_cons_of_pos (by simp [h])]
      simp [hx]
    · rw [List.eraseP_cons_of_neg (by simp [h])]
      simp only [List.find?_cons, ih]

theorem find_eraseP_self {l : List α} (hn : (l.map key).Nodup) (t : String) :
    (l.eraseP (fun x => decide (key x = t))).find? (fun x => decide (key x = t)) = none := by
  induction l with
  | nil => rfl
  | cons x r ih =>
    rw [List.map_cons, List.nodup_cons] at hn
    by_cases h : key x = t
    · rw [List.eraseP_cons_of_pos (by simp [h])]
      rw [List.find?_eq_none]
      intro y hy
      have : key y ∈ r.map key := List.mem_map_of_mem (f := key) hy
      simp only [decide_eq_true_eq]
      intro e
      exact hn.1 (h ▸ e ▸ this)
    · rw [List.eraseP_cons_of_neg (by simp [h])]
      simp only [List.find?_cons, h, decide_false]
      exact ih hn.2

theorem find_of_mem {l : List α} (hn : (l.map key).Nodup) {c : α} (hc : c ∈ l) :
    l.find? (fun x => decide (key x = key c)) = some c := by
  obtain ⟨l1, l2, rfl, h1, _⟩ := split_at_key key hn hc
  rw [List.find?_append, List.find?_eq_none.mpr (fun x hx => by rw [h1 x hx]; decide), Option.none_or,
    List.find?_cons_of_pos (p := fun x => decide (key x = key c)) (decide_eq_true rfl)]

theorem sum_filter_ne (g : α → Rat) {l : List α} (hn : (l.map key).Nodup) {c : α} (hc : c ∈ l) :
    ((l.filter (fun x => decide (key x ≠ key c))).map g).sum = (l.map g).sum - g c := by
  obtain ⟨l1, l2, rfl, h1, h2⟩ := split_at_key key hn hc
  have hk : ∀ l' : List α, (∀ x ∈ l', decide (key x = key c) = false) →
      l'.filter (fun x => decide (key x ≠ key c)) = l' := fun l' h =>
    List.filter_eq_self.mpr (fun x hx => by simpa using h x hx)
  rw [List.filter_append, List.filter_cons_of_neg (by simp), hk l1 h1, hk l2 h2]
  simp only [List.map_append, List.map_cons, List.sum_append, List.sum_cons]
  ring
end dict

theorem minTokenValue_pos : 0 < Gen.arMinTokenValue := by unfold Gen.arMinTokenValue; norm_num

theorem hfLiqThreshold_eq_one : Gen.arHfLiqThreshold = 1 := rfl

/-- what `sub_base_amount` drops when it snaps to 0 -/
def snapDust (old v : Rat) : Rat := if old - v < Gen.arMinTokenValue then old - v else 0

theorem subBase_exact (old v : Rat) : subBase NumCtx.exact old v = old - v - snapDust old v := by
  unfold subBase snapDust
  simp only [NumCtx.exact_sub]
  by_cases h : old - v < Gen.arMinTokenValue <;> simp [h]

theorem subBase_nonneg (cx : NumCtx) (old v : Rat) : 0 ≤ subBase cx old v := by
  unfold subBase
  dsimp only
  split
  · exact le_refl _
  · rename_i h; exact le_trans (le_of_lt minTokenValue_pos) (not_lt.mp h)

theorem snapDust_bounds {old v : Rat} (h : v ≤ old) : 0 ≤ snapDust old v ∧ snapDust old v < Gen.arMinTokenValue := by
  unfold snapDust
  split
  · constructor <;> linarith
  · exact ⟨le_refl _, minTokenValue_pos⟩

theorem snapDust_eq_zero {old v : Rat} (h : Gen.arMinTokenValue ≤ old - v) : snapDust old v = 0 := by
  unfold snapDust; rw [if_neg (by linarith)]

theorem subBase_le {old x : Rat} (hx : 0 ≤ x) (ho : 0 ≤ old) : subBase NumCtx.exact old x ≤ old := by
  unfold subBase
  simp only [NumCtx.exact_sub]
  by_cases h : old - x < Gen.arMinTokenValue
  · simp [h]; exact ho
  · simp [h]; exact hx

theorem subBase_le_sub {old x : Rat} (hx : x ≤ old) : subBase NumCtx.exact old x ≤ old - x := by
  rw [subBase_exact]
  have := (snapDust_bounds hx).1
  linarith

structure Row.WF (r : Row) : Prop where
  li_pos : 0 < r.liqIndex
  bi_pos : 0 < r.borIndex
  price_pos : 0 < r.price
  ltv_nonneg : 0 ≤ r.ltv
  lt_nonneg : 0 ≤ r.lt
  bonus_nonneg : 0 ≤ r.bonus

/-- Keys are unique because the containers are dicts.  The positive liquidation threshold of a supply used as collateral
    holds for every collateral-enabled token of the risk tables under /repo/tests/aave_risk_parameters; the harness
    re-checks that on every run. -/
structure Portfolio.WF (p : Portfolio) : Prop where
  sup : ∀ s ∈ p.supplies, 0 ≤ s.base ∧ s.row.WF ∧ (s.coll = true → 0 < s.row.lt)
  deb : ∀ d ∈ p.debts, 0 ≤ d.base ∧ d.row.WF
  supKeys : (p.supplies.map (·.tok)).Nodup
  debKeys : (p.debts.map (·.tok)).Nodup

def Row.wfB (r : Row) : Bool :=
  decide (0 < r.liqIndex) && decide (0 < r.borIndex) && decide (0 < r.price) && decide (0 ≤ r.ltv) && decide (0 ≤ r.lt)
    && decide (0 ≤ r.bonus)

def Portfolio.wfB (p : Portfolio) : Bool :=
  p.supplies.all (fun s => decide (0 ≤ s.base) && s.row.wfB && (!s.coll || decide (0 < s.row.lt)))
    && p.debts.all (fun d => decide (0 ≤ d.base) && d.row.wfB)
    && decide (p.supplies.map (·.tok)).Nodup && decide (p.debts.map (·.tok)).Nodup

theorem Row.wfB_sound {r : Row} (h : r.wfB = true) : r.WF := by
  unfold Row.wfB at h
  simp only [Bool.and_eq_true, decide_eq_true_eq] at h
  obtain ⟨⟨⟨⟨⟨h1, h2⟩, h3⟩, h4⟩, h5⟩, h6⟩ := h
  exact ⟨h1, h2, h3, h4, h5, h6⟩

theorem Portfolio.wfB_sound {p : Portfolio} (h : p.wfB = true) : p.WF := by
  unfold Portfolio.wfB at h
  simp only [Bool.and_eq_true, List.all_eq_true, decide_eq_true_eq, Bool.or_eq_true, Bool.not_eq_true'] at h
  obtain ⟨⟨⟨hs, hd⟩, hks⟩, hkd⟩ := h
  refine ⟨fun s hm => ?_, fun d hm => ?_, hks, hkd⟩
  · obtain ⟨⟨hb, hr⟩, hl⟩ := hs s hm
    exact ⟨hb, Row.wfB_sound hr, fun hc => hl.resolve_left (by rw [hc]; decide)⟩
  · obtain ⟨hb, hr⟩ := hd d hm
    exact ⟨hb, Row.wfB_sound hr⟩

theorem Supply.amount_exact (s : Supply) : s.amount NumCtx.exact = s.base * s.row.liqIndex := rfl
theorem Supply.value_exact (s : Supply) : s.value NumCtx.exact = s.base * s.row.liqIndex * s.row.price := rfl
theorem Debt.amount_exact (d : Debt) : d.amount NumCtx.exact = d.base * d.row.borIndex := rfl
theorem Debt.value_exact (d : Debt) : d.value NumCtx.exact = d.base * d.row.borIndex * d.row.price := rfl

theorem Portfolio.WF.supply_value_nonneg {p : Portfolio} (h : p.WF) {s : Supply} (hs : s ∈ p.supplies) :
    0 ≤ s.value NumCtx.exact := by
  obtain ⟨hb, hr, _⟩ := h.sup s hs
  rw [Supply.value_exact]
  have := hr.li_pos; have := hr.price_pos
  positivity

theorem Portfolio.WF.debt_value_nonneg {p : Portfolio} (h : p.WF) {d : Debt} (hd : d ∈ p.debts) :
    0 ≤ d.value NumCtx.exact := by
  obtain ⟨hb, hr⟩ := h.deb d hd
  rw [Debt.value_exact]
  have := hr.bi_pos; have := hr.price_pos
  positivity

end Demeter.AaveRisk
