/-
  The Decimal amounts of Demeter/LiqMath.lean against the exact ones, for every arithmetic context whose rounding has
  relative error ≤ ε ≤ 1 (`Rounds`, in the `Within`/`UpTo` calculus): `get_amount0` rounds three quotients, `get_amount1` two, so
  `getAmountsS` stays within `(1 ± ε)³` of `amountsWei / 10^decimals` in every regime, and what the minted liquidity needs
  exceeds the offer by at most that.  For the 35-digit context (`ε = 5·10⁻³⁵`) this is inside 10⁻³⁰.
-/
import Proofs.Lemmas.LiqMath
import Proofs.Lemmas.RelRnd
import Proofs.Lemmas.Round35Ctx
namespace Demeter

variable {cx : NumCtx} {ε : Rat}

theorem getAmount0_within (h : Rounds cx ε) (sa sb l d : Nat) :
    Within ε 3 3 (amount0Wei sa sb l / ((pow10 d : Nat) : Rat)) (getAmount0 cx sa sb l d) := by
  unfold getAmount0 amount0Wei
  exact h.div (by positivity) (pow10_cast_pos d).le (h.div (by positivity) (Nat.cast_nonneg _)
    (h.div (Nat.cast_nonneg _) (Nat.cast_nonneg _) (.refl _)))

theorem getAmount1_within (h : Rounds cx ε) (sa sb l d : Nat) :
    Within ε 2 2 (amount1Wei sa sb l / ((pow10 d : Nat) : Rat)) (getAmount1 cx sa sb l d) := by
  unfold getAmount1 amount1Wei
  exact h.div (by positivity) (pow10_cast_pos d).le (h.div (Nat.cast_nonneg _) Q96_cast_pos.le (.refl _))

/-- `to_wei` is one rounding and a truncation -/
theorem toWei_up (hc : Rounds cx ε) (a : Rat) (d : Nat) (ha : 0 ≤ a) :
    UpTo ε 1 (a * ((pow10 d : Nat) : Rat)) ((toWei cx a d : Int) : Rat) := by
  have r := hc.up (UpTo.refl (mul_nonneg ha (pow10_cast_pos d).le))
  obtain ⟨b1, _, b3⟩ := truncInt_bounds _ r.1
  exact r.of_le (Int.cast_nonneg b3) b1

/-- token1 has only two roundings; the vanishing side is the literal 0 -/
theorem getAmountsS_enclosure (h : Rounds cx ε) (s sa sb l d0 d1 : Nat) (hab : sa < sb) :
    Within ε 3 3 ((amountsWei s sa sb l).1 / ((pow10 d0 : Nat) : Rat)) (getAmountsS cx s sa sb l d0 d1).1 ∧
    Within ε 3 3 ((amountsWei s sa sb l).2 / ((pow10 d1 : Nat) : Rat)) (getAmountsS cx s sa sb l d0 d1).2 := by
  have A := fun x y => getAmount0_within h x y l d0
  have B := fun x y => (getAmount1_within h x y l d1).weaken h.eps_nonneg h.le_one
    (div_nonneg (amount1Wei_nonneg x y l) (pow10_cast_pos d1).le) (Nat.le_succ 2) (Nat.le_succ 2)
  have z : ∀ p : Rat, Within ε 3 3 ((0 : Rat) / p) 0 := fun p => by rw [zero_div]; exact .zero ..
  rcases regime_cases s sa sb with hs | ⟨h1, h2⟩ | hs
  · rw [getAmountsS_below cx hab hs, amountsWei_below hs]; exact ⟨A _ _, z _⟩
  · rw [getAmountsS_inside cx h1 h2, amountsWei_inside h1 h2]; exact ⟨A _ _, B _ _⟩
  · rw [getAmountsS_above cx hab hs, amountsWei_above hab hs]; exact ⟨z _, B _ _⟩

theorem getAmountsS_no_overspend (h : Rounds cx ε)
    (s sa sb a0 a1 d0 d1 : Nat) (h0 : 0 < sa) (hab : sa < sb) :
    UpTo ε 3 ((a0 : Rat) / ((pow10 d0 : Nat) : Rat)) (getAmountsS cx s sa sb (getLiquidityWei s sa sb a0 a1) d0 d1).1 ∧
    UpTo ε 3 ((a1 : Rat) / ((pow10 d1 : Nat) : Rat)) (getAmountsS cx s sa sb (getLiquidityWei s sa sb a0 a1) d0 d1).2 := by
  obtain ⟨e0, e1⟩ := getAmountsS_enclosure h s sa sb (getLiquidityWei s sa sb a0 a1) d0 d1 hab
  obtain ⟨n0, n1⟩ := getLiquidityWei_no_overspend s sa sb a0 a1 h0 hab
  obtain ⟨z0, z1⟩ := amountsWei_zero_le s sa sb (getLiquidityWei s sa sb a0 a1)
  exact ⟨e0.upTo h.eps_nonneg h.le_one (div_nonneg z0 (pow10_cast_pos d0).le) (div_le_div_of_nonneg_right n0 (pow10_cast_pos d0).le),
    e1.upTo h.eps_nonneg h.le_one (div_nonneg z1 (pow10_cast_pos d1).le) (div_le_div_of_nonneg_right n1 (pow10_cast_pos d1).le)⟩

open Numerics

/-- up to four roundings of 5·10⁻³⁵ stay inside the property's 10⁻³⁰ -/
theorem liqRound_eps35 : (1 + EPS35) ^ 3 ≤ 1 + 1 / 10 ^ 30 ∧ 1 - 1 / 10 ^ 30 ≤ (1 - EPS35) ^ 3 ∧
    (1 + EPS35) ^ 4 ≤ 1 + 1 / 10 ^ 30 := by
  unfold EPS35; norm_num

theorem getAmountsS_round35 (s sa sb l d0 d1 : Nat) (h : sa < sb) :
    (amountsWei s sa sb l).1 / ((pow10 d0 : Nat) : Rat) * (1 - 1 / 10 ^ 30) ≤ (getAmountsS NumCtx.pyG s sa sb l d0 d1).1 ∧
    (getAmountsS NumCtx.pyG s sa sb l d0 d1).1 ≤ (amountsWei s sa sb l).1 / ((pow10 d0 : Nat) : Rat) * (1 + 1 / 10 ^ 30) ∧
    (amountsWei s sa sb l).2 / ((pow10 d1 : Nat) : Rat) * (1 - 1 / 10 ^ 30) ≤ (getAmountsS NumCtx.pyG s sa sb l d0 d1).2 ∧
    (getAmountsS NumCtx.pyG s sa sb l d0 d1).2 ≤ (amountsWei s sa sb l).2 / ((pow10 d1 : Nat) : Rat) * (1 + 1 / 10 ^ 30) := by
  obtain ⟨k1, k2, _⟩ := liqRound_eps35
  obtain ⟨a, b⟩ := getAmountsS_enclosure NumCtx.pyG_rounds s sa sb l d0 d1 h
  obtain ⟨n0, n1⟩ := amountsWei_zero_le s sa sb l
  obtain ⟨a1, a2⟩ := a.loosen (div_nonneg n0 (pow10_cast_pos d0).le) k2 k1
  obtain ⟨b1, b2⟩ := b.loosen (div_nonneg n1 (pow10_cast_pos d1).le) k2 k1
  exact ⟨a1, a2, b1, b2⟩

theorem getAmountsS_no_overspend_round35 (s sa sb a0 a1 d0 d1 : Nat) (h0 : 0 < sa) (h : sa < sb) :
    (getAmountsS NumCtx.pyG s sa sb (getLiquidityWei s sa sb a0 a1) d0 d1).1 ≤
      (a0 : Rat) / ((pow10 d0 : Nat) : Rat) * (1 + 1 / 10 ^ 30) ∧
    (getAmountsS NumCtx.pyG s sa sb (getLiquidityWei s sa sb a0 a1) d0 d1).2 ≤
      (a1 : Rat) / ((pow10 d1 : Nat) : Rat) * (1 + 1 / 10 ^ 30) := by
  obtain ⟨k, _, _⟩ := liqRound_eps35
  obtain ⟨u0, u1⟩ := getAmountsS_no_overspend NumCtx.pyG_rounds s sa sb a0 a1 d0 d1 h0 h
  exact ⟨u0.loosen (div_nonneg (Nat.cast_nonneg a0) (pow10_cast_pos d0).le) k,
    u1.loosen (div_nonneg (Nat.cast_nonneg a1) (pow10_cast_pos d1).le) k⟩

end Demeter
