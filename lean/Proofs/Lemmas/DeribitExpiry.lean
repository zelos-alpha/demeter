/-
  `check_option_exercise` (Demeter/Deribit.lean: exerciseLoop / expireLoop / exercise) as a function of the due positions, and from it
  `update()` as one event: what it leaves alone, who survives, and how many Expired records a key gets.
-/
import Proofs.Lemmas.Deribit
namespace Demeter.Deribit
open Demeter

def due (s : DState) (p : Position) : Bool := decide (s.now ≥ p.expiry)

def dueKeys (s : DState) (ps : List (String × Position)) : List String :=
  (ps.filter (fun kp => due s kp.2)).map Prod.fst

def netPayoff (c : TokenCfg) (s : DState) (p : Position) : Rat :=
  match paidOf DCtx.exact c s p with
  | some gf => gf.1 - gf.2
  | none => 0

theorem payoffRatio_exact (q : Quote) (strike : Rat) (isCall : Bool) :
    payoffRatio DCtx.exact q strike isCall = (if isCall then q.under - strike else strike - q.under) / q.under := by
  unfold payoffRatio
  split <;> rfl

theorem netPayoff_of_otm {c : TokenCfg} {s : DState} {p : Position} (h : itm p (settleQuote s p.name).under = none) :
    netPayoff c s p = 0 := by
  simp only [netPayoff, paidOf, h]

theorem netPayoff_of_itm {c : TokenCfg} {s : DState} {p : Position} {isCall : Bool}
    (h : itm p (settleQuote s p.name).under = some isCall) :
    netPayoff c s p =
      let q := settleQuote s p.name
      let gross := roundDec c.feeExp (p.amount * ((if isCall then q.under - p.strike else p.strike - q.under) / q.under))
      let fee := roundDec c.feeExp (min (c.deliveryFee * p.amount) (maxFeeRate * (p.amount * roundDec c.feeExp q.mark)))
      if gross ≤ fee then 0 else gross - fee := by
  have key : ∀ gross fee : Rat, (match (if gross ≤ fee then none else some (gross, fee)) with
      | some gf => gf.1 - gf.2 | none => (0 : Rat)) = if gross ≤ fee then 0 else gross - fee := by
    intro gross fee
    split_ifs <;> rfl
  simp only [netPayoff, paidOf, h, deliverOption, deliverFee, payoffRatio_exact, exact_num, NumCtx.exact_mul]
  exact key _ _

def deliverRecs (cx : DCtx) (c : TokenCfg) (s : DState) (ps : List (String × Position)) : List Action :=
  (ps.filter (fun kp => due s kp.2)).filterMap (fun kp => (paidOf cx c s kp.2).map (deliverRec cx c s kp.1 kp.2))

theorem exerciseLoop_log (cx : DCtx) (c : TokenCfg) (s : DState) (ps : List (String × Position))
    (cash : Rat) (acts : List Action) (keys : List String) :
    (exerciseLoop cx c s ps (cash, acts, keys)).2 = (acts ++ deliverRecs cx c s ps, keys ++ dueKeys s ps) := by
  induction ps generalizing cash acts keys with
  | nil => simp [exerciseLoop, deliverRecs, dueKeys]
  | cons kp ps ih =>
    obtain ⟨k, p⟩ := kp
    unfold exerciseLoop
    by_cases hd : s.now ≥ p.expiry
    · cases hp : paidOf cx c s p <;> simp [ih, deliverRecs, dueKeys, due, hd, hp]
    · simp [ih, deliverRecs, dueKeys, due, hd]

theorem exerciseLoop_cash (c : TokenCfg) (s : DState) (ps : List (String × Position))
    (cash : Rat) (acts : List Action) (keys : List String) :
    (exerciseLoop DCtx.exact c s ps (cash, acts, keys)).1 =
      cash + ((ps.filter (fun kp => due s kp.2)).map (fun kp => netPayoff c s kp.2)).sum := by
  induction ps generalizing cash acts keys with
  | nil => simp [exerciseLoop]
  | cons kp ps ih =>
    obtain ⟨k, p⟩ := kp
    unfold exerciseLoop
    by_cases hd : s.now ≥ p.expiry
    · cases hp : paidOf DCtx.exact c s p <;> simp [ih, due, hd, netPayoff, hp, add_assoc]
    · simp [ih, due, hd]

def expiredRecs (cx : DCtx) (c : TokenCfg) (s : DState) (pos : AList String Position) (ks : List String) : List Action :=
  ks.filterMap (fun k => (AList.get? pos k).map (expiredRec cx c s k))

theorem expireLoop_eq (cx : DCtx) (c : TokenCfg) (s : DState) (ks : List String)
    (pos : AList String Position) (acts : List Action) :
    (expireLoop cx c s ks (pos, acts)).1 = pos.filter (fun kp => kp.1 ∉ ks) ∧
    (ks.Nodup → (expireLoop cx c s ks (pos, acts)).2 = acts ++ expiredRecs cx c s pos ks) := by
  induction ks generalizing pos acts with
  | nil => simp [expireLoop, expiredRecs]
  | cons k ks ih =>
    unfold expireLoop
    cases hg : AList.get? pos k with
    | none =>
      have hk : ∀ kp ∈ pos, ¬ kp.1 = k := by
        simpa only [AList.get?, Option.map_eq_none_iff, List.find?_eq_none, decide_eq_true_eq] using hg
      refine ⟨?_, fun hn => ?_⟩
      · rw [(ih pos acts).1]
        exact List.filter_congr (fun kp hkp => by simp only [List.mem_cons, hk kp hkp, false_or])
      · rw [(ih pos acts).2 (List.nodup_cons.mp hn).2]
        simp only [expiredRecs, List.filterMap_cons, hg, Option.map_none]
    | some p =>
      refine ⟨?_, fun hn => ?_⟩
      · rw [(ih _ _).1]
        simp only [AList.erase, List.filter_filter]
        apply List.filter_congr
        intro kp _
        simp only [List.mem_cons, not_or, ne_eq, decide_not, Bool.decide_and]
        exact Bool.and_comm _ _
      · obtain ⟨hk, hn⟩ := List.nodup_cons.mp hn
        have : expiredRecs cx c s (AList.erase pos k) ks = expiredRecs cx c s pos ks :=
          List.filterMap_congr (fun k' hk' => by rw [AList.get?_erase_ne _ (ne_of_mem_of_not_mem hk' hk).symm])
        rw [(ih _ _).2 hn, this]
        simp only [expiredRecs, List.filterMap_cons, hg, Option.map_some, List.append_assoc, List.singleton_append]

theorem exercise_positions (cx : DCtx) (c : TokenCfg) (s : DState) :
    (exercise cx c s).positions = s.positions.filter (fun kp => kp.1 ∉ dueKeys s s.positions) := by
  simp only [exercise, exerciseLoop_log, (expireLoop_eq _ _ _ _ _ _).1, List.nil_append]

theorem mem_dueKeys {s : DState} {ps : List (String × Position)} {k : String} :
    k ∈ dueKeys s ps ↔ ∃ p, (k, p) ∈ ps ∧ s.now ≥ p.expiry := by
  simp only [dueKeys, List.mem_map, List.mem_filter, due, decide_eq_true_eq]
  constructor
  · rintro ⟨⟨_, p⟩, h, rfl⟩
    exact ⟨p, h⟩
  · rintro ⟨p, h⟩
    exact ⟨(k, p), h, rfl⟩

theorem exercise_actions (cx : DCtx) (c : TokenCfg) (s : DState) (hn : (s.positions.map Prod.fst).Nodup) :
    (exercise cx c s).actions = s.actions ++ deliverRecs cx c s s.positions ++
      (s.positions.filter (fun kp => due s kp.2)).map (fun kp => expiredRec cx c s kp.1 kp.2) := by
  simp only [exercise, exerciseLoop_log, List.nil_append]
  rw [(expireLoop_eq cx c s (dueKeys s s.positions) _ _).2 (AList.nodup_map_filter Prod.fst _ hn)]
  congr 1
  -- the keys being unique, each due key finds the position it was taken from
  unfold expiredRecs dueKeys
  rw [List.filterMap_map, ← List.filterMap_eq_map]
  apply List.filterMap_congr
  rintro ⟨k, p⟩ hkp
  simp [show AList.get? s.positions k = some p from AList.get?_of_mem hn (List.mem_filter.mp hkp).1]

theorem exercise_cash (c : TokenCfg) (s : DState) :
    (exercise DCtx.exact c s).cash =
      s.cash + ((s.positions.filter (fun kp => due s kp.2)).map (fun kp => netPayoff c s kp.2)).sum := by
  simp only [exercise, exerciseLoop_cash]

end Demeter.Deribit

namespace Demeter
open Demeter.Deribit

/-- unique dict keys (what `market.positions` being a dict gives) -/
def Deribit.KeysNodup (s : DState) : Prop := (s.positions.map Prod.fst).Nodup

def Deribit.isExpiredOf (k : String) : Action → Bool
  | .expired r => decide (r.name = k)
  | _ => false

def Deribit.expiredCount (k : String) (acts : List Action) : Nat := (acts.filter (Deribit.isExpiredOf k)).length

end Demeter

namespace Demeter.Deribit
open Demeter

theorem update_off_grid (cx : DCtx) (c : TokenCfg) (s : DState) (h : s.onGrid = false) : update cx c s = s := by
  simp [update, h]

theorem update_frame (cx : DCtx) (c : TokenCfg) (s : DState) :
    (update cx c s).book = s.book ∧ (update cx c s).wallet = s.wallet ∧ (update cx c s).cache = s.cache ∧
    (update cx c s).now = s.now ∧ (update cx c s).flagOpen = s.flagOpen := by
  unfold update; split <;> simp [exercise]

theorem update_on_grid (cx : DCtx) (c : TokenCfg) (s : DState) (h : s.onGrid = true) : update cx c s = exercise cx c s := by
  simp [update, h]

theorem KeysNodup.unique {s : DState} (hn : KeysNodup s) {k : String} {p q : Position} (hp : (k, p) ∈ s.positions)
    (hq : (k, q) ∈ s.positions) : p = q :=
  congrArg Prod.snd (List.inj_on_of_nodup_map hn hp hq rfl)

theorem mem_dueKeys_iff_of_nodup {s : DState} (hn : KeysNodup s) {kp : String × Position} (hkp : kp ∈ s.positions) :
    kp.1 ∈ dueKeys s s.positions ↔ kp.2.expiry ≤ s.now := by
  rw [mem_dueKeys]
  constructor
  · rintro ⟨p, hp, hdue⟩
    rw [← hn.unique hp hkp]
    exact hdue
  · exact fun h => ⟨kp.2, hkp, h⟩

theorem expiredCount_append (k : String) (a b : List Action) :
    expiredCount k (a ++ b) = expiredCount k a + expiredCount k b := by
  simp [expiredCount, List.filter_append]

theorem expiredCount_delivers (cx : DCtx) (c : TokenCfg) (s : DState) (k : String) (ps : List (String × Position)) :
    expiredCount k (deliverRecs cx c s ps) = 0 := by
  unfold expiredCount deliverRecs
  rw [List.length_eq_zero_iff, List.filter_eq_nil_iff]
  intro a ha
  simp only [List.mem_filterMap, Option.map_eq_some_iff] at ha
  obtain ⟨kp, _, gf, _, rfl⟩ := ha
  simp [isExpiredOf, deliverRec]

theorem expiredCount_expireds (cx : DCtx) (c : TokenCfg) (s : DState) (k : String) (l : List (String × Position)) :
    expiredCount k (l.map (fun kp => expiredRec cx c s kp.1 kp.2)) = (l.filter (fun kp => decide (kp.1 = k))).length := by
  rw [expiredCount, List.filter_map, List.length_map]
  congr 2  -- `isExpiredOf k (expiredRec … k' p)` is `decide (k' = k)` by definition

theorem count_key_nodup {l : List (String × Position)} (hn : (l.map Prod.fst).Nodup) (k : String) :
    (l.filter (fun kp => decide (kp.1 = k))).length = if k ∈ l.map Prod.fst then 1 else 0 := by
  rw [← hn.count, List.count, List.countP_map, List.countP_eq_length_filter]
  congr 2

theorem mem_update_positions (cx : DCtx) (c : TokenCfg) (m : DState) (hn : KeysNodup m) (kp : String × Position) :
    kp ∈ (update cx c m).positions ↔ kp ∈ m.positions ∧ ¬ (m.onGrid = true ∧ kp.2.expiry ≤ m.now) := by
  by_cases hg : m.onGrid = true
  · rw [update_on_grid cx c m hg, exercise_positions, List.mem_filter, decide_eq_true_eq]
    exact and_congr_right fun hkp => by rw [mem_dueKeys_iff_of_nodup hn hkp, and_iff_right hg]
  · rw [update_off_grid cx c m (by simpa using hg)]
    exact ⟨fun h => ⟨h, fun h' => hg h'.1⟩, fun h => h.1⟩

theorem keysNodup_update (cx : DCtx) (c : TokenCfg) (m : DState) (hn : KeysNodup m) : KeysNodup (update cx c m) := by
  unfold KeysNodup
  by_cases hg : m.onGrid = true
  · rw [update_on_grid cx c m hg, exercise_positions]; exact AList.nodup_map_filter Prod.fst _ hn
  · rw [update_off_grid cx c m (by simpa using hg)]; exact hn

theorem expiredCount_update (cx : DCtx) (c : TokenCfg) (m : DState) (hn : KeysNodup m) (k : String) :
    expiredCount k (update cx c m).actions = expiredCount k m.actions +
      (if m.onGrid = true ∧ k ∈ dueKeys m m.positions then 1 else 0) := by
  by_cases hg : m.onGrid = true
  · rw [update_on_grid cx c m hg, exercise_actions cx c m hn]
    simp only [expiredCount_append]
    rw [expiredCount_delivers, expiredCount_expireds, count_key_nodup (AList.nodup_map_filter Prod.fst _ hn), add_zero]
    exact congrArg _ (if_congr (and_iff_right hg).symm rfl rfl)
  · rw [update_off_grid cx c m (by simpa using hg), if_neg (fun h => hg h.1)]; rfl

/-- the NON-RAISING path of `check_option_exercise` (`update`, whose payoff division is `Rat`'s total one).  The statement about the
    code's `update()`, which raises when a due in-the-money position has underlying price 0, is `C16_cash_moves_by_payoffs` in
    Proofs/C16/Guard.lean. -/
theorem update_cash_eq (c : TokenCfg) (s : DState) :
    (update DCtx.exact c s).cash =
      if s.onGrid then s.cash + ((s.positions.filter (fun kp => due s kp.2)).map (fun kp => netPayoff c s kp.2)).sum
      else s.cash := by
  unfold update
  split
  · exact exercise_cash c s
  · rfl

end Demeter.Deribit
