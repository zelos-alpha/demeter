/-
  Binary-splitting exhaustive checker over an integer interval, with its soundness lemma.
  `decide +kernel` on `chkRange p lo d = true` makes the kernel evaluate `p` on `lo … lo + 2^d − 1`
  without deep recursion; no `native_decide`.
-/
namespace Demeter

def chkRange (p : Int → Bool) (lo : Int) : Nat → Bool
  | 0 => p lo
  | d + 1 => chkRange p lo d && chkRange p (lo + (2 ^ d : Nat)) d

theorem chkRange_sound (p : Int → Bool) : ∀ (d : Nat) (lo : Int), chkRange p lo d = true →
    ∀ t, lo ≤ t → t < lo + (2 ^ d : Nat) → p t = true := by
  intro d
  induction d with
  | zero =>
    intro lo h t h1 h2
    have : t = lo := by simp at h2; omega
    subst this; simpa [chkRange] using h
  | succ d ih =>
    intro lo h t h1 h2
    simp only [chkRange, Bool.and_eq_true] at h
    have hp : (2 ^ (d + 1) : Nat) = 2 ^ d + 2 ^ d := by rw [Nat.pow_succ]; omega
    by_cases hlt : t < lo + (2 ^ d : Nat)
    · exact ih lo h.1 t h1 hlt
    · refine ih _ h.2 t (by omega) ?_
      rw [hp] at h2
      push_cast at h2 ⊢
      omega

end Demeter

namespace Demeter

def shardCount : Nat := 28

end Demeter
