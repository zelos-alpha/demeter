/-
  "The same calls, or stopped by an exception after a prefix of them" (`Cut`), as a relation between the results of two scripts: it is kept by
  `Res.andThen`, holds between a hook body and the body cut short by a `raise`, hence between the bar loops and the `initialize()` steps of
  two scripts that differ by such cuts (`GCut`).
-/
import Proofs.Lemmas.CoreHooks
namespace Demeter.Core

def Cut (r' r : Res) : Prop := r' = r ∨ (r'.2.2 ≠ none ∧ r'.1 <+: r.1)

theorem Cut.refl (r : Res) : Cut r r := Or.inl rfl

theorem Cut.andThen {r' r : Res} {k' k : St → Res} (h1 : Cut r' r) (h2 : ∀ st, Cut (k' st) (k st)) :
    Cut (r'.andThen k') (r.andThen k) := by
  rcases h1 with rfl | ⟨he, hp⟩
  · cases hr : r'.2.2 with
    | some e => rw [andThen_err hr, andThen_err hr]; exact Or.inl rfl
    | none =>
      rw [andThen_ok hr, andThen_ok hr]
      rcases h2 r'.2.1 with heq | ⟨he, hp⟩
      · rw [heq]; exact Or.inl rfl
      · exact Or.inr ⟨he, (List.prefix_append_right_inj _).mpr hp⟩
  · cases hr' : r'.2.2 with
    | none => exact absurd hr' he
    | some e =>
      rw [andThen_err hr']
      exact Or.inr ⟨he, hp.trans (andThen_fst_prefix r k)⟩

theorem Cut.seq : Rel.Seq (fun _ => Cut) := fun _ _ _ _ _ h1 h2 => Cut.andThen h1 h2

theorem runStmts_cut (ts : Int) (h : Hook) (e : PyErr) : ∀ (j : Nat) (body : List HStmt) (st : St),
    Cut (runStmts ts h (cutBody j e body) st) (runStmts ts h body st)
  | 0, body, st => Or.inr (by simp [cutBody, runStmts, doStmt, Res.andThen])
  | j + 1, [], st => Or.inr (by simp [cutBody, runStmts, doStmt, Res.andThen])
  | j + 1, s :: ss, st => by
    have : cutBody (j + 1) e (s :: ss) = s :: cutBody j e ss := by simp [cutBody]
    rw [this]
    simp only [runStmts]
    exact Cut.andThen (Cut.refl _) (fun st' => runStmts_cut ts h e j ss st')

structure BarCut (b' b : BarScript) : Prop where
  before : ∀ ts st, Cut (runStmts ts .before b'.before st) (runStmts ts .before b.before st)
  fire : ∀ ts id st, Cut (runStmts ts (.fire id) (b'.fire id) st) (runStmts ts (.fire id) (b.fire id) st)
  openCb : ∀ ts m st, Cut (runStmts ts (.openCb m) (b'.openCb m) st) (runStmts ts (.openCb m) (b.openCb m) st)
  on : ∀ ts st, Cut (runStmts ts .on b'.on st) (runStmts ts .on b.on st)
  after : ∀ ts st, Cut (runStmts ts .after b'.after st) (runStmts ts .after b.after st)
  notify : ∀ ts tag st, Cut (runStmts ts .notify (b'.notify tag) st) (runStmts ts .notify (b.notify tag) st)
  upd : b'.upd = b.upd

theorem BarCut.refl (b : BarScript) : BarCut b b :=
  ⟨fun _ _ => Cut.refl _, fun _ _ _ => Cut.refl _, fun _ _ _ => Cut.refl _, fun _ _ => Cut.refl _, fun _ _ => Cut.refl _,
   fun _ _ _ => Cut.refl _, rfl⟩

theorem barStepG_cut {b' b : BarScript} (hb : BarCut b' b) (cfg : Cfg) (fuel tfuel row : Nat) (ts : Int) (st : St) :
    Cut (barStepG cfg b' fuel tfuel row ts st) (barStepG cfg b fuel tfuel row ts st) :=
  barStepG_rel Cut.seq ⟨hb.before ts, hb.fire ts, hb.openCb ts, hb.on ts, hb.after ts, hb.notify ts, hb.upd⟩
    (fun _ _ r _ => Cut.refl r) fuel tfuel row st

structure GCut (g' g : GScript) : Prop where
  init : ∀ ts st, Cut (runStmts ts .init g'.init st) (runStmts ts .init g.init st)
  bar : ∀ row, BarCut (g'.bar row) (g.bar row)
  fuel : g'.fuel = g.fuel
  tfuel : g'.tfuel = g.tfuel

theorem runBarsG_cut {g' g : GScript} (hg : GCut g' g) (cfg : Cfg) (bars : List Int) (row : Nat) (st : St) :
    Cut (runBarsG cfg g' row bars st) (runBarsG cfg g row bars st) :=
  runBarsG_rel Cut.seq (fun _ => Cut.refl _)
    (fun row ts st => by rw [hg.fuel, hg.tfuel]; exact barStepG_cut (hg.bar row) cfg _ _ row ts st) bars row st

theorem initG_cut {g' g : GScript} (hg : GCut g' g) (cfg : Cfg) (trigs : List Trig) (ts0 : Int) :
    Cut (initG cfg trigs g' ts0) (initG cfg trigs g ts0) := by
  unfold initG
  exact Cut.andThen (Cut.refl _) (fun st => hg.init ts0 st)

theorem loopFrom_cut {g' g : GScript} (hg : GCut g' g) (cfg : Cfg) (bars : List Int) {i' i : Res} (hi : Cut i' i) :
    loopFrom cfg g' bars i' = loopFrom cfg g bars i ∨
    ((loopFrom cfg g' bars i').1.2.2 ≠ none ∧ (loopFrom cfg g' bars i').1.1 <+: (loopFrom cfg g bars i).1.1) := by
  rcases hi with rfl | ⟨hne, hpre⟩
  · unfold loopFrom
    split
    · exact .inl rfl
    · rcases Cut.andThen (Cut.refl i') (runBarsG_cut hg cfg bars 0) with hb | hb
      · exact .inl (by rw [hb])
      · exact .inr hb
  · obtain ⟨e, he⟩ := Option.ne_none_iff_exists'.mp hne
    rw [loopFrom_err he, loopFrom_fst]
    exact .inr ⟨hne, hpre.trans (andThen_fst_prefix _ _)⟩

theorem runCore_cut (cfg : Cfg) (trigs : List Trig) (g' g : GScript) (hg : GCut g' g) (ts0 : Int) (bars : List Int) :
    runCore cfg trigs g' ts0 bars = runCore cfg trigs g ts0 bars ∨
    ((runCore cfg trigs g' ts0 bars).1.2.2 ≠ none ∧ (runCore cfg trigs g' ts0 bars).1.1 <+: (runCore cfg trigs g ts0 bars).1.1) :=
  loopFrom_cut hg cfg (ts0 :: bars) (initG_cut hg cfg trigs ts0)

end Demeter.Core
