/-
  Sequencing by `Res.andThen` (its equations; `Rel.Seq`: the relations it keeps), and the bar loop of both models as one function: a step
  per bar, sequenced until a step raises (`barLoop`; `runBars` and `runBarsG` are it), and what holds of such a loop whatever the step is.
-/
import Demeter.Actuator.Hooks
namespace Demeter.Core

theorem andThen_err {r : Res} {k : St → Res} {e : PyErr} (h : r.2.2 = some e) : r.andThen k = r := by
  unfold Res.andThen; rw [h]

theorem andThen_ok {r : Res} {k : St → Res} (h : r.2.2 = none) :
    r.andThen k = (r.1 ++ (k r.2.1).1, (k r.2.1).2.1, (k r.2.1).2.2) := by
  unfold Res.andThen; rw [h]

theorem andThen_mk_none (evs : List Ev) (st : St) (k : St → Res) :
    Res.andThen (evs, st, none) k = (evs ++ (k st).1, (k st).2.1, (k st).2.2) := rfl

/-- `andThen_mk_none` in the model's spelling of a normal result, for `rw` -/
theorem andThen_okRes (evs : List Ev) (st : St) (k : St → Res) :
    (Res.ok evs st).andThen k = (evs ++ (k st).1, (k st).2.1, (k st).2.2) := andThen_mk_none evs st k

theorem andThen_mk_some (evs : List Ev) (st : St) (e : PyErr) (k : St → Res) : Res.andThen (evs, st, some e) k = (evs, st, some e) :=
  andThen_err rfl

theorem andThen_none {r : Res} {k : St → Res} (h : (r.andThen k).2.2 = none) :
    r.2.2 = none ∧ (k r.2.1).2.2 = none ∧ (r.andThen k).2.1 = (k r.2.1).2.1 := by
  cases hr : r.2.2 with
  | some e => rw [andThen_err hr, hr] at h; cases h
  | none => rw [andThen_ok hr] at h ⊢; exact ⟨rfl, h, rfl⟩

theorem andThen_fst_prefix (r : Res) (k : St → Res) : r.1 <+: (r.andThen k).1 := by
  cases hr : r.2.2 with
  | some e => rw [andThen_err hr]; exact List.prefix_refl _
  | none => rw [andThen_ok hr]; exact List.prefix_append _ _

theorem andThen_mem {r : Res} {k : St → Res} {e : Ev} (h : e ∈ (r.andThen k).1) : e ∈ r.1 ∨ e ∈ (k r.2.1).1 := by
  cases hr : r.2.2 with
  | some x => rw [andThen_err hr] at h; exact .inl h
  | none => rw [andThen_ok hr] at h; exact List.mem_append.mp h

theorem andThen_assoc (r : Res) (k1 k2 : St → Res) : (r.andThen k1).andThen k2 = r.andThen (fun st => (k1 st).andThen k2) := by
  cases hr : r.2.2 with
  | some e => rw [andThen_err hr, andThen_err hr, andThen_err hr]
  | none =>
    rw [andThen_ok hr, andThen_ok hr]
    cases hk : (k1 r.2.1).2.2 with
    | some e => rw [andThen_err hk, andThen_mk_some, hk]
    | none => rw [andThen_ok hk, andThen_mk_none, List.append_assoc]

/-- a relation between the results of two stretches that start in the same state -/
abbrev Rel := St → Res → Res → Prop

def Rel.Seq (R : Rel) : Prop :=
  ∀ ⦃st : St⦄ ⦃r' r : Res⦄ ⦃k' k : St → Res⦄, R st r' r → (∀ st', R st' (k' st') (k st')) → R st (r'.andThen k') (r.andThen k)

/-- a property of one stretch, as a relation: the first result is not looked at, so `Seq` asks of `P` just that it composes -/
def Rel.diag (P : St → Res → Prop) : Rel := fun st _ r => P st r

theorem Rel.diag_seq {P : St → Res → Prop}
    (h : ∀ {st : St} {r : Res} {k : St → Res}, P st r → (∀ st', P st' (k st')) → P st (r.andThen k)) : (Rel.diag P).Seq :=
  fun _ _ _ _ _ h1 h2 => h h1 h2

theorem Rel.Seq.of_diag {P : St → Res → Prop} (hS : (Rel.diag P).Seq) {st : St} {r : Res} {k : St → Res} (h1 : P st r)
    (h2 : ∀ st', P st' (k st')) : P st (r.andThen k) :=
  hS (r' := r) (k' := k) h1 h2

/-- the continuation either does not run or appends -/
theorem Rel.seq_of_append {R : St → List Ev → St → Prop}
    (happ : ∀ {a b c : St} {e₁ e₂ : List Ev}, R a e₁ b → R b e₂ c → R a (e₁ ++ e₂) c) :
    (Rel.diag (fun st r => R st r.1 r.2.1)).Seq :=
  Rel.diag_seq fun {st r k} h1 h2 => by
    cases hr : r.2.2 with
    | some e => rw [andThen_err hr]; exact h1
    | none => rw [andThen_ok hr]; exact happ h1 (h2 _)

def barLoop (step : Nat → Int → St → Res) : Nat → List Int → St → Res
  | _, [], st => ([], st, none)
  | row, ts :: bars, st => (step row ts st).andThen (barLoop step (row + 1) bars)

theorem runBars_eq_barLoop (cfg : Cfg) (sc : Script) : runBars cfg sc = barLoop (barStep cfg sc) := by
  funext row bars
  induction bars generalizing row with
  | nil => rfl
  | cons ts bars ih =>
    funext st
    rw [barLoop, ← ih, runBars]
    cases h : (barStep cfg sc row ts st).2.2 with
    | some e => rw [andThen_err h]; simp only; rw [← h]
    | none => rw [andThen_ok h]

theorem runBarsG_eq_barLoop (cfg : Cfg) (g : GScript) :
    runBarsG cfg g = barLoop (fun row => barStepG cfg (g.bar row) g.fuel g.tfuel row) := by
  funext row bars
  induction bars generalizing row with
  | nil => rfl
  | cons ts bars ih => funext st; rw [barLoop, ← ih, runBarsG]

theorem barLoop_rel {R : Rel} (hS : R.Seq) {s' s : Nat → Int → St → Res} (hnil : ∀ st, R st ([], st, none) ([], st, none)) :
    ∀ (bars : List Int) (row : Nat) (st : St), (∀ ts ∈ bars, ∀ row st, R st (s' row ts st) (s row ts st)) →
      R st (barLoop s' row bars st) (barLoop s row bars st)
  | [], _, st, _ => hnil st
  | ts :: bars, row, st, h =>
    hS (h ts (List.mem_cons_self ..) row st) (fun st' => barLoop_rel hS hnil bars (row + 1) st' (fun t ht => h t (List.mem_cons_of_mem _ ht)))

theorem barLoop_congr {s' s : Nat → Int → St → Res} (bars : List Int) (row : Nat) (st : St)
    (h : ∀ ts ∈ bars, ∀ row st, s' row ts st = s row ts st) : barLoop s' row bars st = barLoop s row bars st :=
  barLoop_rel (R := fun _ r' r => r' = r) (fun _ _ _ _ _ h1 h2 => by rw [h1, funext h2]) (fun _ => rfl) bars row st h

theorem barLoop_append (s : Nat → Int → St → Res) : ∀ (pre suf : List Int) (row : Nat) (st : St),
    barLoop s row (pre ++ suf) st = (barLoop s row pre st).andThen (barLoop s (row + pre.length) suf)
  | [], suf, row, st => by rw [List.nil_append, barLoop, andThen_mk_none]; rfl
  | ts :: pre, suf, row, st => by
    have e : row + 1 + pre.length = row + (ts :: pre).length := by rw [List.length_cons]; omega
    have ih : barLoop s (row + 1) (pre ++ suf) = fun st' => (barLoop s (row + 1) pre st').andThen (barLoop s (row + (ts :: pre).length) suf) :=
      funext fun st' => by rw [barLoop_append s pre suf (row + 1) st', e]
    rw [List.cons_append, barLoop, barLoop, andThen_assoc, ih]

/-- the bars a loop gets to, each with its row id and the state it starts in: those before the first step that raises, and that one -/
def barStarts (step : Nat → Int → St → Res) : Nat → List Int → St → List (Nat × Int × St)
  | _, [], _ => []
  | row, ts :: bars, st =>
    (row, ts, st) :: (match (step row ts st).2.2 with
      | none => barStarts step (row + 1) bars (step row ts st).2.1
      | some _ => [])

theorem barStarts_prefix (s : Nat → Int → St → Res) : ∀ (bars : List Int) (row : Nat) (st : St),
    (barStarts s row bars st).map (fun x => (x.2.1, x.1)) <+: bars.zipIdx row
  | [], _, _ => List.prefix_refl _
  | ts :: bars, row, st => by
    rw [barStarts, List.map_cons, List.zipIdx_cons]
    refine (List.prefix_cons_inj _).mpr ?_
    split
    · exact barStarts_prefix s bars (row + 1) _
    · exact List.nil_prefix

theorem barStarts_mem {s : Nat → Int → St → Res} {bars : List Int} {row : Nat} {st : St} {x : Nat × Int × St}
    (hx : x ∈ barStarts s row bars st) : x.2.1 ∈ bars :=
  List.fst_mem_of_mem_zipIdx ((barStarts_prefix s bars row st).subset (List.mem_map.mpr ⟨x, hx, rfl⟩))

theorem barLoop_trace (s : Nat → Int → St → Res) : ∀ (bars : List Int) (row : Nat) (st : St),
    (barLoop s row bars st).1 = (barStarts s row bars st).flatMap (fun x => (s x.1 x.2.1 x.2.2).1)
  | [], _, _ => rfl
  | ts :: bars, row, st => by
    rw [barLoop, barStarts, List.flatMap_cons]
    cases h : (s row ts st).2.2 with
    | some e => rw [andThen_err h, List.flatMap_nil, List.append_nil]
    | none => rw [andThen_ok h, barLoop_trace s bars]

theorem barLoop_ok {s : Nat → Int → St → Res} : ∀ {bars : List Int} {row : Nat} {st : St}, (barLoop s row bars st).2.2 = none →
    (barStarts s row bars st).map (fun x => (x.2.1, x.1)) = bars.zipIdx row ∧ ∀ x ∈ barStarts s row bars st, (s x.1 x.2.1 x.2.2).2.2 = none
  | [], _, _, _ => ⟨rfl, fun _ h => nomatch h⟩
  | ts :: bars, row, st, h => by
    rw [barLoop] at h
    obtain ⟨h1, h2, _⟩ := andThen_none h
    obtain ⟨i1, i2⟩ := barLoop_ok h2
    rw [barStarts, h1]
    exact ⟨by rw [List.map_cons, i1, List.zipIdx_cons], List.forall_mem_cons.mpr ⟨h1, i2⟩⟩

end Demeter.Core
