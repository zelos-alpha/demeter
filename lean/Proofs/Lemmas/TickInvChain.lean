/-
  The round trip  sqrt price s  →  base-unit price  →  Decimal sqrt price  →  sqrt price x96  under an arithmetic with
  relative error ≤ ε per operation: the Decimal sqrt price is within (1−ε)^15 … (1+ε)^16 of s/2^96, the integer
  sqrt price within (1−ε)^16·s − 1 … (1+ε)^17·s.  Both token orientations, all decimals.  Before it, what the helpers
  compute on a tick in range and on a positive sqrt price, and that they read `Decimal(10 ** e)` at `d0 − d1` only.
-/
import Proofs.Lemmas.TickInv
import Proofs.Lemmas.Num
namespace Demeter.TickInv
open Demeter Gen

variable {tn : TickNum} {ε : Rat}

theorem q96Rat_pos : (0 : Rat) < q96Rat := by unfold q96Rat; positivity

theorem q96Rat_eq : q96Rat = 2 ^ 96 := by unfold q96Rat; norm_num

theorem tickOk_of_range (t : Int) (h1 : minTick ≤ t) (h2 : t ≤ maxTick) : tickOk t = true := by
  unfold minTick at h1; unfold maxTick at h2
  unfold tickOk; simp only [decide_eq_true_eq]; omega

theorem tickToPrice_of_range (tn : TickNum) (t : Int) (h1 : minTick ≤ t) (h2 : t ≤ maxTick) (d0 d1 : Nat) (q0 : Bool) :
    tickToPrice tn t d0 d1 q0 = sqrtX96ToPrice tn (sqrtAt t) d0 d1 q0 := by
  simp only [tickToPrice, tickOk_of_range t h1 h2, Bool.not_true, Bool.false_eq_true, if_false]

theorem priceToTick_ok {tn : TickNum} {p sp : Rat} {d0 d1 : Nat} {q0 : Bool}
    (e : priceToSqrt tn p d0 d1 q0 = .ok sp) (hsp : 0 < sp) : priceToTick tn p d0 d1 q0 = .ok (tn.lg sp) := by
  simp only [priceToTick, e]
  rw [if_neg (not_le.2 hsp)]

theorem tickPrice_congr (tn tn' : TickNum) (hcx : tn.cx = tn'.cx) (hsq : tn.sq = tn'.sq) (hlg : tn.lg = tn'.lg)
    (d0 d1 : Nat) (hfac : tn.fac ((d0 : Int) - d1) = tn'.fac ((d0 : Int) - d1)) (q0 : Bool) :
    (∀ t, tickToPrice tn t d0 d1 q0 = tickToPrice tn' t d0 d1 q0) ∧
    (∀ fuel est p, priceToTickX96 tn fuel est p d0 d1 q0 = priceToTickX96 tn' fuel est p d0 d1 q0) ∧
    (∀ p, priceToTick tn p d0 d1 q0 = priceToTick tn' p d0 d1 q0) := by
  have e1 : ∀ x, invIf tn q0 x = invIf tn' q0 x := by intro x; unfold invIf NumCtx.div; rw [hcx]
  have e2 : ∀ p, priceToSqrt tn p d0 d1 q0 = priceToSqrt tn' p d0 d1 q0 := by
    intro p; unfold priceToSqrt NumCtx.div; rw [e1, hfac, hcx]
  have e3 : ∀ p, priceToSqrtX96 tn p d0 d1 q0 = priceToSqrtX96 tn' p d0 d1 q0 := by
    intro p; unfold priceToSqrtX96 toX96 NumCtx.mul; rw [e2, hcx]
  refine ⟨fun t => ?_, fun fuel est p => ?_, fun p => ?_⟩
  · unfold tickToPrice sqrtX96ToPrice fromX96 NumCtx.mul NumCtx.div; rw [hfac, hcx, hsq]
    simp only [e1]
  · unfold priceToTickX96; rw [e3]
  · unfold priceToTick; rw [e2, hlg]

/-- forward: `_from_x96(s) ** 2 * Decimal(10 ** e)` -/
theorem pool_rel (h : Approx tn ε) (s : Nat) (e : Int) :
    Within ε 5 5 ((s : Rat) / q96Rat * ((s : Rat) / q96Rat) * tn.fac e)
      (tn.cx.mul (tn.sq (fromX96 tn s)) (tn.fac e)) := by
  have h0 := h.eps_nonneg
  have h1 := h.eps_le_one
  have hS : 0 ≤ (s : Rat) / q96Rat := div_nonneg (Nat.cast_nonneg s) q96Rat_pos.le
  -- x1 = rnd(S), x2 = x1 ** 2, x3 = rnd(x2 * F)
  have r1 : Within ε 1 1 ((s : Rat) / q96Rat) (fromX96 tn s) := h.rounds.step hS (.refl _)
  have r2 : Within ε 4 4 _ (tn.sq (fromX96 tn s)) := (r1.mul_self h1 hS).trans h0 h1 (i' := 2) (j' := 2) (h.sq _)
  exact h.rounds.mul (mul_nonneg hS hS) (h.fac_pos e).le r2

/-- `Decimal(1 / x) if q0 else x` on a positive value -/
theorem invIf_rel (h : Approx tn ε) (q0 : Bool) {i j : Nat} {A x : Rat} (hA : 0 < A) (r : Within ε i j A x) :
    ∃ p, invIf tn q0 x = .ok p ∧
      (q0 = false → Within ε i j A p) ∧ (q0 = true → Within ε (j + 1) (2 * i + 1) (1 / A) p) := by
  have h0 := h.eps_nonneg
  have hx : 0 < x := r.pos h.eps_lt_one hA
  cases q0 with
  | false => exact ⟨x, by simp [invIf], fun _ => r, fun hc => (by cases hc)⟩
  | true =>
    refine ⟨tn.cx.div 1 x, by simp [invIf, ne_of_gt hx], fun hc => (by cases hc), fun _ => ?_⟩
    exact h.rounds.step (by positivity) (r.inv h0 h.eps_le_half hA)

/-- the orientation applied twice comes back to the value; when it inverts, each way is a reciprocal (which doubles the
    count on one side and swaps the sides) and one rounding -/
theorem invIf_invIf_rel (h : Approx tn ε) (q0 : Bool) {i j : Nat} {A x : Rat} (hA : 0 < A) (r : Within ε i j A x) :
    ∃ p y, invIf tn q0 x = .ok p ∧ invIf tn q0 p = .ok y ∧ Within ε (2 * i + 2) (2 * j + 3) A y := by
  obtain ⟨p, ep, f, t⟩ := invIf_rel h q0 hA r
  cases q0 with
  | false =>
    exact ⟨p, p, ep, rfl, (f rfl).weaken h.eps_nonneg h.eps_le_one hA.le (by omega) (by omega)⟩
  | true =>
    obtain ⟨y, ey, _, t'⟩ := invIf_rel h true (one_div_pos.2 hA) (t rfl)
    exact ⟨p, y, ep, ey, one_div_one_div A ▸ t' rfl⟩

theorem Exact.invIf_invIf (h : Exact tn) (q0 : Bool) {x : Rat} (hx : x ≠ 0) :
    ∃ p, invIf tn q0 x = .ok p ∧ invIf tn q0 p = .ok x := by
  cases q0 with
  | false => exact ⟨x, rfl, rfl⟩
  | true =>
    refine ⟨1 / x, by simp only [invIf, NumCtx.div, h.rnd, hx, if_true, if_false], ?_⟩
    simp only [invIf, NumCtx.div, h.rnd, one_div_ne_zero hx, one_div_one_div, if_true, if_false]

theorem priceToSqrt_of_invIf {p y : Rat} {d0 d1 : Nat} {q0 : Bool} (e : invIf tn q0 p = .ok y)
    (hy : 0 ≤ tn.cx.div y (tn.fac ((d0 : Int) - d1))) :
    priceToSqrt tn p d0 d1 q0 = .ok (tn.cx.dsqrt (tn.cx.div y (tn.fac ((d0 : Int) - d1)))) := by
  simp only [priceToSqrt, e]
  rw [if_neg (not_lt.2 hy)]

/-- three roundings more: the quotient, and the square root's two -/
theorem priceToSqrt_rel (h : Approx tn ε) {p y A : Rat} {i j : Nat} {d0 d1 : Nat} {q0 : Bool} (e : invIf tn q0 p = .ok y)
    (hA : 0 < A) (r : Within ε i j A y) :
    ∃ sp, priceToSqrt tn p d0 d1 q0 = .ok sp ∧ 0 ≤ sp ∧
      Within ε (i + 3) (j + 3) (A / tn.fac ((d0 : Int) - d1)) (sp ^ 2) := by
  have hF := h.fac_pos ((d0 : Int) - d1)
  have r1 := h.rounds.div hA.le hF.le r
  have hat := r1.pos h.eps_lt_one (div_pos hA hF)
  obtain ⟨s0, s1, s2⟩ := h.sqrt _ hat.le
  exact ⟨_, priceToSqrt_of_invIf e hat.le, s0, r1.trans h.eps_nonneg h.eps_le_one (i' := 2) (j' := 2) ⟨s1, s2⟩⟩

theorem roundtrip_sqrt (h : Approx tn ε) (s : Nat) (hs : 0 < s) (d0 d1 : Nat) (q0 : Bool) :
    ∃ p y, sqrtX96ToPrice tn s d0 d1 q0 = .ok p ∧ priceToSqrt tn p d0 d1 q0 = .ok y ∧
      Within ε 15 16 ((s : Rat) / q96Rat) y := by
  have hF := h.fac_pos ((d0 : Int) - d1)
  have hS : 0 < (s : Rat) / q96Rat := div_pos (by exact_mod_cast hs) q96Rat_pos
  -- 5, 5 to the pool price `S·S·F`; 12, 13 after the orientation both ways; 15, 16 for the square of the result against `S·S`
  obtain ⟨p, y1, ep, ey1, r1⟩ := invIf_invIf_rel h q0 (by positivity) (pool_rel h s ((d0 : Int) - d1))
  obtain ⟨y, ey, y0, r⟩ := priceToSqrt_rel h (d0 := d0) (d1 := d1) ey1 (by positivity) r1
  rw [mul_div_cancel_right₀ _ hF.ne'] at r
  exact ⟨p, y, ep, ey, r.sqrt h.eps_nonneg h.eps_le_one hS.le y0⟩

theorem roundtrip_x96 (h : Approx tn ε) (s : Nat) (hs : 0 < s) (d0 d1 : Nat) (q0 : Bool) :
    ∃ p x, sqrtX96ToPrice tn s d0 d1 q0 = .ok p ∧ priceToSqrtX96 tn p d0 d1 q0 = .ok x ∧ 0 ≤ x ∧
      (s : Rat) * (1 - ε) ^ 16 - 1 < (x : Rat) ∧ (x : Rat) ≤ (s : Rat) * (1 + ε) ^ 17 := by
  have hq := q96Rat_pos
  have hsq : (0 : Rat) < (s : Rat) := by exact_mod_cast hs
  obtain ⟨p, y, e1, e2, r⟩ := roundtrip_sqrt h s hs d0 d1 q0
  have r9 : Within ε 16 17 (s : Rat) (tn.cx.mul y q96Rat) := by
    have := h.rounds.mul (div_pos hsq hq).le hq.le r
    rwa [div_mul_cancel₀ _ (ne_of_gt hq)] at this
  have hy4 : 0 < tn.cx.mul y q96Rat := r9.pos h.eps_lt_one hsq
  obtain ⟨t1, t2, t3⟩ := truncInt_bounds _ (le_of_lt hy4)
  refine ⟨p, toX96 tn y, e1, ?_, t3, ?_, ?_⟩
  · unfold priceToSqrtX96; simp only [e2]
  · have := r9.1
    unfold toX96; linarith
  · have := r9.2
    unfold toX96; linarith

end Demeter.TickInv
