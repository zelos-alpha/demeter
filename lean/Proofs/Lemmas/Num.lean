/-
  The integer helpers of Demeter/Num.lean (`pow10`, `truncInt`, natural-number quotients) seen in ℚ.
-/
import Demeter.Num
import Mathlib.Tactic.Positivity
import Mathlib.Algebra.Order.Field.Rat
import Mathlib.Data.Rat.Cast.Order
import Mathlib.Data.Rat.Floor
namespace Demeter

theorem pow10_cast_pos (d : Nat) : (0 : Rat) < ((pow10 d : Nat) : Rat) := by
  unfold pow10; positivity

theorem truncInt_int (a : Int) : truncInt ((a : Int) : Rat) = a := by
  simp [truncInt]

theorem truncInt_eq_floor {x : Rat} (hx : 0 ≤ x) : truncInt x = ⌊x⌋ := by
  unfold truncInt
  rw [Rat.floor_def', Int.tdiv_eq_ediv_of_nonneg (Rat.num_nonneg.mpr hx)]

theorem truncInt_bounds (y : Rat) (hy : 0 ≤ y) :
    ((truncInt y : Int) : Rat) ≤ y ∧ y < ((truncInt y : Int) : Rat) + 1 ∧ 0 ≤ truncInt y := by
  rw [truncInt_eq_floor hy]; exact ⟨Int.floor_le y, Int.lt_floor_add_one y, Int.floor_nonneg.2 hy⟩

theorem truncInt_nonneg {x : Rat} (h : 0 ≤ x) : 0 ≤ truncInt x := (truncInt_bounds x h).2.2

theorem natDiv_bracket (x : Nat) {y : Nat} (hy : 0 < y) :
    ((x / y : Nat) : Rat) * y ≤ x ∧ (x : Rat) < (((x / y : Nat) : Rat) + 1) * y := by
  constructor
  · exact_mod_cast Nat.div_mul_le_self x y
  · rw [mul_comm]
    exact_mod_cast Nat.lt_mul_div_succ x hy

theorem natDiv_eq_floor (a b : Nat) : ((a / b : Nat) : Rat) = ((⌊(a : Rat) / b⌋ : Int) : Rat) := by
  rw [Rat.floor_natCast_div_natCast, ← Int.natCast_div, Int.cast_natCast]

theorem truncInt_range {x : Rat} {n : Int} (h0 : 0 ≤ x) (h1 : x < n + 1) :
    (0 : Rat) ≤ (truncInt x : Rat) ∧ (truncInt x : Rat) ≤ n := by
  rw [truncInt_eq_floor h0]
  have : ⌊x⌋ < n + 1 := Int.floor_lt.mpr (by exact_mod_cast h1)
  exact ⟨by exact_mod_cast Int.floor_nonneg.mpr h0, by exact_mod_cast Int.lt_add_one_iff.mp this⟩

theorem floor_close {x y : Rat} (h : |x - y| < 1) : |((⌊x⌋ : Int) : Rat) - ((⌊y⌋ : Int) : Rat)| ≤ 1 := by
  obtain ⟨h1, h2⟩ := abs_lt.mp h
  have a : ⌊x⌋ ≤ ⌊y⌋ + 1 := by
    rw [← Int.floor_add_one]; exact Int.floor_mono (by linarith)
  have b : ⌊y⌋ ≤ ⌊x⌋ + 1 := by
    rw [← Int.floor_add_one]; exact Int.floor_mono (by linarith)
  have a' : ((⌊x⌋ : Int) : Rat) ≤ ⌊y⌋ + 1 := by exact_mod_cast a
  have b' : ((⌊y⌋ : Int) : Rat) ≤ ⌊x⌋ + 1 := by exact_mod_cast b
  rw [abs_le]; constructor <;> linarith

end Demeter
