/-
  Bookkeeping along a run of the general model (`runG`), whether it ends normally or in an exception: what is in `_action_list`,
  `_currents.actions` and `_account_status_list`, and what has been delivered to `notify`, in terms of the calls made so far (`Ledger` for the
  stretches without rows, `Quiet` for those without deliveries as well, `Books` for any stretch); every call of a bar carries the bar's
  timestamp (`TsAll`) and while a bar runs the pending actions carry its stamp (`OnTime`), so every delivery happens in the bar its action is
  stamped with.
-/
import Proofs.Lemmas.CoreHooks
import Proofs.Lemmas.CoreStretch
namespace Demeter.Core

theorem filterMap_concat_none {β : Type} {f : Ev → Option β} {e : Ev} (h : f e = none) {l : List Ev} :
    (l ++ [e]).filterMap f = l.filterMap f := by
  rw [List.filterMap_append, List.filterMap_cons_none h, List.filterMap_nil, List.append_nil]

def Ledger (st : St) (r : Res) : Prop :=
  r.2.1.cur = st.cur ++ recOf r.1 ∧ r.2.1.all = st.all ++ recOf r.1 ∧ r.2.1.rows = st.rows ∧ r.1.filterMap rowOf = []

theorem Ledger.append {a b c : St} {e₁ e₂ : List Ev} {x y z : Option PyErr} (h1 : Ledger a (e₁, b, x)) (h2 : Ledger b (e₂, c, y)) :
    Ledger a (e₁ ++ e₂, c, z) := by
  obtain ⟨a1, a2, a3, a4⟩ := h1
  obtain ⟨b1, b2, b3, b4⟩ := h2
  exact ⟨by show c.cur = _; rw [b1, a1, recOf_append, List.append_assoc], by show c.all = _; rw [b2, a2, recOf_append, List.append_assoc],
    by show c.rows = _; rw [b3, a3], by show (e₁ ++ e₂).filterMap rowOf = []; rw [List.filterMap_append, a4, b4]; rfl⟩

theorem Ledger.seq : (Rel.diag Ledger).Seq := Rel.seq_of_append (R := fun st evs st' => Ledger st (evs, st', none)) Ledger.append

/-- holds of every stretch of a bar before its account row -/
def Quiet (st : St) (r : Res) : Prop := Ledger st r ∧ r.1.filterMap notifyAct = []

theorem Quiet.seq : (Rel.diag Quiet).Seq :=
  Rel.seq_of_append (R := fun st evs st' => Quiet st (evs, st', none)) fun {_ _ _ e₁ e₂} h1 h2 =>
    ⟨Ledger.append h1.1 h2.1, by show (e₁ ++ e₂).filterMap notifyAct = []; rw [List.filterMap_append, h1.2, h2.2]; rfl⟩

theorem Quiet.silent {st st' : St} (evs : List Ev) (e : Option PyErr) (hc : st'.cur = st.cur) (ha : st'.all = st.all) (hr : st'.rows = st.rows)
    (h1 : recOf evs = []) (h2 : evs.filterMap notifyAct = []) (h3 : evs.filterMap rowOf = []) : Quiet st (evs, st', e) :=
  ⟨⟨by simp [hc, h1], by simp [ha, h1], hr, h3⟩, h2⟩

theorem Quiet.nil (st : St) (e : Option PyErr) : Quiet st ([], st, e) := Quiet.silent [] e rfl rfl rfl rfl rfl rfl

theorem hook_phase_ne_14 (h : Hook) : h.phase ≠ 14 := by cases h <;> simp [Hook.phase]
theorem hook_phase_ne_15' (h : Hook) (hn : h ≠ .notify) : h.phase ≠ 15 := by cases h <;> simp_all [Hook.phase]

theorem doStmt_quiet (ts : Int) (h : Hook) (s : HStmt) (st : St) : Quiet st (doStmt ts h s st) := by
  cases s with
  | op o =>
    obtain ⟨f1, _, f3, f4⟩ := doOp_frame ts h o st
    exact ⟨⟨f3, f4, f1, fm_nil_of_allAt rowOf_phase (doOp_at ts h o st) (hook_phase_ne_14 h)⟩, doOp_noNotify ts h o st⟩
  | _ => exact Quiet.silent [] _ rfl rfl rfl rfl rfl rfl

theorem runStmts_quiet (ts : Int) (h : Hook) (body : List HStmt) (st : St) : Quiet st (runStmts ts h body st) :=
  runStmts_walk Quiet.seq ts h (fun st => Quiet.nil st none) body (fun s _ => doStmt_quiet ts h s) st

theorem runUpdFromG_rel {ts : Int} {R : St → List Ev → St → Prop} (hR : PhaseRel ts R) (b : BarScript) : ∀ (i : Nat) (ms : List MarketCfg) (st : St),
    R st (runUpdFromG b ts i ms st).1 (runUpdFromG b ts i ms st).2
  | _, [], st => hR.nil st
  | i, _ :: rest, st =>
    hR.cons (hR.plain (.update ts i) st trivial) (hR.append (recUpd_rel hR i _ st) (runUpdFromG_rel hR b (i + 1) rest _))

theorem runUpdFromG_frame (b : BarScript) (ts : Int) (i : Nat) (ms : List MarketCfg) (st : St) : Frame st (runUpdFromG b ts i ms st).1 (runUpdFromG b ts i ms st).2 :=
  runUpdFromG_rel (Frame.phaseRel ts) b i ms st

theorem runUpdFromG_at (b : BarScript) (ts : Int) : ∀ (i : Nat) (ms : List MarketCfg) (st : St), AllAt ts 11 (runUpdFromG b ts i ms st).1
  | _, [], _ => AllAt.nil
  | i, _ :: rest, st => AllAt.cons ⟨rfl, rfl⟩ (AllAt.append (recUpd_at ts i _ st) (runUpdFromG_at b ts (i + 1) rest _))

theorem midG_quiet (cfg : Cfg) (b : BarScript) (row : Nat) (ts : Int) (price : Option Int) (st : St) : Quiet st (midG cfg b row ts price st) := by
  unfold midG
  have fu := runUpdFromG_frame b ts 0 cfg.markets { st with ms := (setUpdatedFrom cfg ts 0 cfg.markets st.ms).2 }
  have au := runUpdFromG_at b ts 0 cfg.markets { st with ms := (setUpdatedFrom cfg ts 0 cfg.markets st.ms).2 }
  have as2 := setUpdatedFrom_at cfg ts 0 cfg.markets st.ms
  have rs2 := recOf_setUpdatedFrom cfg ts 0 cfg.markets st.ms
  obtain ⟨f1, _, f3, f4⟩ := fu
  have hrec : ∀ u : List Ev, recOf ((setUpdatedFrom cfg ts 0 cfg.markets st.ms).1 ++ u ++ [Ev.after ts row price]) = recOf u := by
    intro u
    rw [recOf, filterMap_concat_none rfl, ← recOf, recOf_append, rs2]; rfl
  refine ⟨⟨?_, ?_, f1, ?_⟩, ?_⟩
  · show _ = st.cur ++ recOf _
    rw [hrec]; exact f3
  · show _ = st.all ++ recOf _
    rw [hrec]; exact f4
  · simp only [List.filterMap_append, fm_nil_of_allAt rowOf_phase as2 (by decide), fm_nil_of_allAt rowOf_phase au (by decide)]
    rfl
  · simp only [List.filterMap_append, fm_nil_of_allAt notifyAct_phase as2 (by decide), fm_nil_of_allAt notifyAct_phase au (by decide)]
    rfl

theorem Quiet.refresh {cfg : Cfg} {ts : Int} {stage c : Nat} (as : AllAt ts c (setAllFrom cfg ts stage 0 cfg.markets).1) (h14 : c ≠ 14)
    (h15 : c ≠ 15) (e : Ev) (st : St) (h1 : recordedAct e = none) (h2 : notifyAct e = none) (h3 : rowOf e = none) :
    Quiet st (Res.ok ((setAllFrom cfg ts stage 0 cfg.markets).1 ++ [e]) { st with ms := (setAllFrom cfg ts stage 0 cfg.markets).2 }) := by
  refine Quiet.silent _ none rfl rfl rfl ?_ ?_ ?_
  · rw [recOf_append, recOf_setAllFrom]; simp [recOf, h1]
  · simp only [List.filterMap_append, fm_nil_of_allAt notifyAct_phase as h15, List.filterMap_cons, h2]; rfl
  · simp only [List.filterMap_append, fm_nil_of_allAt rowOf_phase as h14, List.filterMap_cons, h3]; rfl

theorem Prim.quiet {cfg : Cfg} {ts : Int} {st : St} {r : Res} (h : Prim cfg ts .head st r) : Quiet st r := by
  cases h with
  | refresh => exact Quiet.refresh (setAllFrom_at cfg ts 1 0 cfg.markets) (by decide) (by decide) _ st rfl rfl rfl
  | mid _ b row price => exact midG_quiet cfg b row ts price st
  | _ => exact Quiet.silent _ _ rfl rfl rfl rfl rfl rfl

theorem barHeadG_quiet (cfg : Cfg) (b : BarScript) (tfuel row : Nat) (ts : Int) (price : Option Int) (st : St) :
    Quiet st (barHeadG cfg b tfuel row ts price st) :=
  barHeadG_rel Quiet.seq (HooksRel.diag b (runStmts_quiet ts)) (fun _ _ h => h.quiet) tfuel row price st

theorem runNotifyG_ledger (b : BarScript) (ts : Int) (fuel i : Nat) (st : St) : Ledger st (runNotifyG b ts fuel i st) :=
  runNotifyG_rel Ledger.seq (HooksRel.diag b fun hk body st => (runStmts_quiet ts hk body st).1)
    (fun st e => (Quiet.nil st e).1) (fun _ _ _ _ => ⟨(List.append_nil _).symm, (List.append_nil _).symm, rfl, rfl⟩) fuel i st

theorem drop_append_of_getElem? {l : List Act} {i : Nat} {a : Act} (h : l[i]? = some a) (x : List Act) :
    (l ++ x).drop i = a :: (l ++ x).drop (i + 1) := by
  obtain ⟨hi, ha⟩ := List.getElem?_eq_some_iff.mp h
  have hi' : i < (l ++ x).length := by rw [List.length_append]; omega
  rw [List.drop_eq_getElem_cons hi', List.getElem_append_left hi, ha]

/-- the pending list is taken as it is at the END of the loop: it includes what the hooks recorded meanwhile -/
theorem runNotifyG_deliveries (b : BarScript) (ts : Int) : ∀ (fuel i : Nat) (st : St),
    (runNotifyG b ts fuel i st).1.filterMap notifyAct <+: (runNotifyG b ts fuel i st).2.1.cur.drop i ∧
    ((runNotifyG b ts fuel i st).2.2 = none → (runNotifyG b ts fuel i st).1.filterMap notifyAct = (runNotifyG b ts fuel i st).2.1.cur.drop i)
  | 0, i, st => by
    simp only [runNotifyG]
    refine ⟨List.nil_prefix, fun h => ?_⟩
    have : st.cur.length ≤ i := List.getElem?_eq_none_iff.mp (by
      cases hq : st.cur[i]? with
      | none => rfl
      | some a => simp [hq] at h)
    simp [List.drop_eq_nil_of_le this]
  | fuel + 1, i, st => by
    have hl := (runNotifyG_ledger b ts (fuel + 1) i st).1
    unfold runNotifyG at hl ⊢
    split
    · rename_i hn
      exact ⟨List.nil_prefix, fun _ => by simp [List.drop_eq_nil_of_le (List.getElem?_eq_none_iff.mp hn)]⟩
    · rename_i a ha
      simp only [ha] at hl
      -- the element at `i` is still there at the end: the list only grows
      rw [hl, drop_append_of_getElem? ha, ← hl]
      have q4 := (runStmts_quiet ts .notify (b.notify a.tag) st).2
      rw [andThen_okRes]
      have hhead : ∀ l : List Ev, ([Ev.notify ts a.tag a.stamp a.m] ++ (runStmts ts .notify (b.notify a.tag) st).1 ++ l).filterMap notifyAct =
          a :: l.filterMap notifyAct := fun l => by
        simp only [List.filterMap_append, q4, List.append_nil]; cases a; rfl
      cases hb : (runStmts ts .notify (b.notify a.tag) st).2.2 with
      | some e =>
        rw [andThen_mk_some]
        have := hhead []
        simp only [List.append_nil, List.filterMap_nil] at this
        exact ⟨by rw [this]; exact (List.prefix_cons_inj _).mpr List.nil_prefix, fun h => nomatch h⟩
      | none =>
        rw [andThen_mk_none]
        obtain ⟨n5, n6⟩ := runNotifyG_deliveries b ts fuel (i + 1) (runStmts ts .notify (b.notify a.tag) st).2.1
        exact ⟨by rw [hhead]; exact (List.prefix_cons_inj _).mpr n5, fun h => by rw [hhead, n6 h]⟩

/-- `d` has been delivered so far and `_action_list = d ++ _currents.actions` -/
def Pending (d : List Act) (st : St) : Prop := st.all = d ++ st.cur

def Delivers (d : List Act) (st : St) (r : Res) : Prop :=
  Pending d st → (d ++ r.1.filterMap notifyAct) <+: r.2.1.all ∧ (r.2.2 = none → Pending (d ++ r.1.filterMap notifyAct) r.2.1)

theorem Quiet.delivers {st : St} {r : Res} (h : Quiet st r) (d : List Act) : Delivers d st r := by
  intro hp
  obtain ⟨⟨a1, a2, _, _⟩, a4⟩ := h
  unfold Pending at hp ⊢
  rw [a4, List.append_nil, a2, a1, hp]
  exact ⟨by rw [List.append_assoc]; exact List.prefix_append _ _, fun _ => by rw [List.append_assoc]⟩

theorem barTailG_eq {b : BarScript} {fuel : Nat} {ts : Int} {price : Option Int} {st : St} {n : Res}
    (hn : runNotifyG b ts (st.cur.length + fuel) 0 { st with rows := st.rows ++ [(ts, price)] } = n) :
    barTailG b fuel ts price st = (.row ts price :: n.1, { n.2.1 with cur := if n.2.2 = none then [] else n.2.1.cur }, n.2.2) := by
  unfold barTailG
  rw [andThen_okRes]
  rw [hn]
  obtain ⟨evs, st', e⟩ := n
  cases e with
  | some e => rfl
  | none => simp [Res.andThen, Res.ok]

theorem barTailG_books (b : BarScript) (fuel : Nat) (ts : Int) (price : Option Int) (st : St) :
    (barTailG b fuel ts price st).2.1.all = st.all ++ recOf (barTailG b fuel ts price st).1 ∧
    (barTailG b fuel ts price st).2.1.rows = st.rows ++ (barTailG b fuel ts price st).1.filterMap rowOf ∧
    (barTailG b fuel ts price st).1.filterMap rowOf = [(ts, price)] ∧
    (∀ d, Delivers d st (barTailG b fuel ts price st)) ∧
    (barTailG b fuel ts price st).1.filterMap notifyAct <+: st.cur ++ recOf (barTailG b fuel ts price st).1 ∧
    ((barTailG b fuel ts price st).2.2 = none →
      (barTailG b fuel ts price st).1.filterMap notifyAct = st.cur ++ recOf (barTailG b fuel ts price st).1) := by
  rw [barTailG_eq rfl]
  obtain ⟨n1, n2, n3, n4⟩ := runNotifyG_ledger b ts (st.cur.length + fuel) 0 { st with rows := st.rows ++ [(ts, price)] }
  obtain ⟨n5, n6⟩ := runNotifyG_deliveries b ts (st.cur.length + fuel) 0 { st with rows := st.rows ++ [(ts, price)] }
  rw [List.drop_zero, n1] at n5 n6
  generalize runNotifyG b ts (st.cur.length + fuel) 0 { st with rows := st.rows ++ [(ts, price)] } = n at n1 n2 n3 n4 n5 n6
  have hrow : (Ev.row ts price :: n.1).filterMap rowOf = [(ts, price)] := by rw [List.filterMap_cons, n4]; rfl
  -- the row call shows nothing recorded and nothing delivered: `recOf` and `filterMap notifyAct` pass over it by computation
  refine ⟨n2, by rw [hrow]; exact n3, hrow, fun d hp => ?_, n5, n6⟩
  unfold Pending at hp ⊢
  have hall : n.2.1.all = d ++ (st.cur ++ recOf n.1) := by rw [n2, hp, List.append_assoc]
  refine ⟨?_, fun h => ?_⟩
  · show d ++ n.1.filterMap notifyAct <+: n.2.1.all
    rw [hall]; exact (List.prefix_append_right_inj d).mpr n5
  · show n.2.1.all = d ++ n.1.filterMap notifyAct ++ (if n.2.2 = none then [] else n.2.1.cur)
    rw [hall, n6 h, if_pos h, List.append_nil]

def Books (st : St) (r : Res) : Prop :=
  r.2.1.all = st.all ++ recOf r.1 ∧ r.2.1.rows = st.rows ++ r.1.filterMap rowOf ∧ ∀ d, Delivers d st r

theorem Quiet.books {st : St} {r : Res} (h : Quiet st r) : Books st r :=
  ⟨h.1.2.1, by rw [h.1.2.2.1, h.1.2.2.2, List.append_nil], fun d => h.delivers d⟩

theorem Books.andThen {st : St} {r : Res} {k : St → Res} (h1 : Books st r) (h2 : ∀ st', Books st' (k st')) : Books st (r.andThen k) := by
  cases hr : r.2.2 with
  | some e => rw [andThen_err hr]; exact h1
  | none =>
    rw [andThen_ok hr]
    obtain ⟨a1, a2, a3⟩ := h1
    obtain ⟨b1, b2, b3⟩ := h2 r.2.1
    refine ⟨?_, ?_, ?_⟩
    · show (k r.2.1).2.1.all = st.all ++ recOf (r.1 ++ (k r.2.1).1)
      rw [b1, a1, recOf_append, List.append_assoc]
    · show (k r.2.1).2.1.rows = st.rows ++ (r.1 ++ (k r.2.1).1).filterMap rowOf
      rw [b2, a2, List.filterMap_append, List.append_assoc]
    · intro d hp
      obtain ⟨_, c2⟩ := a3 d hp
      obtain ⟨e1, e2⟩ := b3 _ (c2 hr)
      show d ++ (r.1 ++ (k r.2.1).1).filterMap notifyAct <+: (k r.2.1).2.1.all ∧
        ((k r.2.1).2.2 = none → Pending (d ++ (r.1 ++ (k r.2.1).1).filterMap notifyAct) (k r.2.1).2.1)
      rw [List.filterMap_append, ← List.append_assoc]
      exact ⟨e1, e2⟩

theorem barStepG_books (cfg : Cfg) (b : BarScript) (fuel tfuel row : Nat) (ts : Int) (st : St) : Books st (barStepG cfg b fuel tfuel row ts st) := by
  unfold barStepG
  split
  · exact (Quiet.nil ..).books
  · refine Books.andThen (barHeadG_quiet cfg b tfuel row ts _ st).books (fun st' => ?_)
    obtain ⟨t1, t2, _, t4, _⟩ := barTailG_books b fuel ts _ st'
    exact ⟨t1, t2, t4⟩

theorem runBarsG_books (cfg : Cfg) (g : GScript) (bars : List Int) (row : Nat) (st : St) : Books st (runBarsG cfg g row bars st) :=
  runBarsG_walk (Rel.diag_seq Books.andThen) (fun st => (Quiet.nil st none).books)
    (fun row ts st => barStepG_books cfg (g.bar row) g.fuel g.tfuel row ts st) bars row st

theorem initG_quiet (cfg : Cfg) (trigs : List Trig) (g : GScript) (ts0 : Int) :
    Quiet ⟨(setAllFrom cfg ts0 0 0 cfg.markets).2, trigs, [], [], []⟩ (initG cfg trigs g ts0) :=
  Quiet.seq.of_diag (Quiet.refresh (setAllFrom_at cfg ts0 0 0 cfg.markets) (by decide) (by decide) _ ⟨[], trigs, [], [], []⟩ rfl rfl rfl)
    (fun st' => runStmts_quiet ts0 .init g.init st')

def TsAll (ts : Int) (r : Res) : Prop := ∀ e ∈ r.1, e.ts = some ts

theorem TsAll.seq (ts : Int) : (Rel.diag (fun _ => TsAll ts)).Seq :=
  Rel.seq_of_append (R := fun _ evs _ => ∀ e ∈ evs, e.ts = some ts) fun h1 h2 => List.forall_mem_append.mpr ⟨h1, h2⟩

theorem TsAll.nil {ts : Int} {st : St} {e : Option PyErr} : TsAll ts ([], st, e) := fun _ h => nomatch h

theorem TsAll.single {ts : Int} {e : Ev} (he : e.ts = some ts) (st : St) : TsAll ts (Res.ok [e] st) := by
  intro x hx
  rw [List.mem_singleton.mp hx]; exact he

theorem TsAll.refresh {ts : Int} (cfg : Cfg) (stage : Nat) {e : Ev} (he : e.ts = some ts) (st : St) :
    TsAll ts (Res.ok ((setAllFrom cfg ts stage 0 cfg.markets).1 ++ [e]) st) := by
  intro x hx
  rcases List.mem_append.mp hx with h | h
  · exact (setAllFrom_at cfg ts stage 0 cfg.markets x h).1
  · rw [List.mem_singleton.mp h]; exact he

theorem runStmts_ts (ts : Int) (h : Hook) (body : List HStmt) (st : St) : TsAll ts (runStmts ts h body st) := by
  refine runStmts_walk (TsAll.seq ts) ts h (fun _ => TsAll.nil) body (fun s _ st => ?_) st
  cases s with
  | op o => exact fun x hx => (doOp_at ts h o st x hx).1
  | _ => exact TsAll.nil

theorem Prim.ts {cfg : Cfg} {ts : Int} {tl : Part} {st : St} {r : Res} (h : Prim cfg ts tl st r) : TsAll ts r := by
  cases h with
  | refresh => exact TsAll.refresh cfg 1 rfl _
  | fire | openCb | on | row | notify => exact TsAll.single rfl _
  | mid _ b row price =>
    unfold midG
    intro e he
    simp only [List.mem_append, List.mem_singleton] at he
    rcases he with (h | h) | h
    · exact (setUpdatedFrom_at cfg ts 0 cfg.markets st.ms e h).1
    · exact (runUpdFromG_at b ts 0 cfg.markets _ e h).1
    · rw [h]; rfl
  | _ => exact TsAll.nil

theorem barStepG_ts (cfg : Cfg) (b : BarScript) (fuel tfuel row : Nat) (ts : Int) (st : St) : TsAll ts (barStepG cfg b fuel tfuel row ts st) :=
  barStepG_rel (TsAll.seq ts) (HooksRel.diag b (runStmts_ts ts)) (fun _ _ _ h => h.ts) fuel tfuel row st

theorem initG_ts (cfg : Cfg) (trigs : List Trig) (g : GScript) (ts0 : Int) : TsAll ts0 (initG cfg trigs g ts0) :=
  initG_walk (TsAll.seq ts0) cfg trigs g ts0 (st := ⟨[], trigs, [], [], []⟩) (TsAll.refresh cfg 0 rfl _) (runStmts_ts ts0 .init g.init)

theorem barStepG_cur_nil (cfg : Cfg) (b : BarScript) (fuel tfuel row : Nat) (ts : Int) (st : St)
    (h : (barStepG cfg b fuel tfuel row ts st).2.2 = none) : (barStepG cfg b fuel tfuel row ts st).2.1.cur = [] := by
  unfold barStepG at h ⊢
  split at h
  · cases h
  · rename_i price _
    obtain ⟨_, h2, h3⟩ := andThen_none h
    rw [h3]
    rw [barTailG_eq rfl] at h2 ⊢
    exact if_pos h2

theorem runBarsG_cur_nil (cfg : Cfg) (g : GScript) : ∀ (bars : List Int) (row : Nat) (st : St), bars ≠ [] →
    (runBarsG cfg g row bars st).2.2 = none → (runBarsG cfg g row bars st).2.1.cur = []
  | [], _, _, hne, _ => absurd rfl hne
  | ts :: bars, row, st, _, h => by
    simp only [runBarsG] at h ⊢
    obtain ⟨h1, h2, h3⟩ := andThen_none h
    rw [h3]
    cases bars with
    | nil => simp only [runBarsG]; exact barStepG_cur_nil cfg _ _ _ row ts st h1
    | cons t2 rest => exact runBarsG_cur_nil cfg g (t2 :: rest) (row + 1) _ (by simp) h2

theorem runG_of_start {cfg : Cfg} {trigs : List Trig} {g : GScript} {ts0 : Int} {bars : List Int} (h : startOf cfg = .ok (ts0, bars)) :
    runG cfg trigs g = finishG (runCore cfg trigs g ts0 bars) ((ts0 :: bars).getLast?.getD ts0) := by
  rw [runG_eq, runFrom, h]; rfl

theorem runG_cases (cfg : Cfg) (trigs : List Trig) :
    (∃ e, ∀ g' : GScript, runG cfg trigs g' = ⟨[.raised e], [], [], trigs, some e⟩) ∨
    ∃ ts0 bars, barIndex cfg = ts0 :: bars ∧
      ∀ g' : GScript, runG cfg trigs g' = finishG (runCore cfg trigs g' ts0 bars) ((ts0 :: bars).getLast?.getD ts0) := by
  cases h : startOf cfg with
  | error e => exact Or.inl ⟨e, fun g' => by rw [runG_eq]; unfold runFrom; rw [h]⟩
  | ok p => exact Or.inr ⟨p.1, p.2, (startOf_ok_iff.mp h).2.1, fun _ => runG_of_start h⟩

theorem runBarsG_ts (cfg : Cfg) (g : GScript) (bars : List Int) (row : Nat) (st : St) :
    ∀ e ∈ (runBarsG cfg g row bars st).1, ∃ t ∈ bars, e.ts = some t := by
  intro e he
  rw [runBarsG_eq_barLoop, barLoop_trace] at he
  obtain ⟨x, hx, hex⟩ := List.mem_flatMap.mp he
  exact ⟨x.2.1, barStarts_mem hx, barStepG_ts cfg _ _ _ x.1 x.2.1 x.2.2 e hex⟩

theorem runG_events_on_bars (cfg : Cfg) (trigs : List Trig) (g : GScript) :
    ∀ e ∈ (runG cfg trigs g).trace, (∃ t ∈ barIndex cfg, e.ts = some t) ∨ ∃ x, e = .raised x ∧ (runG cfg trigs g).err = some x := by
  rcases runG_cases cfg trigs with ⟨x, hx⟩ | ⟨ts0, bars, hb, hr⟩
  · rw [hx g]; intro e he; exact .inr ⟨x, List.mem_singleton.mp he, rfl⟩
  · rw [hr g, hb]
    have hcore : ∀ e ∈ (runCore cfg trigs g ts0 bars).1.1, ∃ t ∈ ts0 :: bars, e.ts = some t := by
      intro e he
      rw [runCore_eq, loopFrom_fst] at he
      rcases andThen_mem he with h | h
      · exact ⟨ts0, List.mem_cons_self .., initG_ts cfg trigs g ts0 e h⟩
      · exact runBarsG_ts cfg g _ 0 _ e h
    intro e he
    unfold finishG at he ⊢
    split at he <;> rcases List.mem_append.mp he with h | h
    · exact .inl (hcore e h)
    · rw [List.mem_singleton.mp h]
      exact .inl ⟨_, List.mem_of_getLast? (by simp [List.getLast?_cons]), rfl⟩
    · exact .inl (hcore e h)
    · exact .inr ⟨_, List.mem_singleton.mp h, rfl⟩

theorem runCore_cur_nil {cfg : Cfg} {trigs : List Trig} {g : GScript} {ts0 : Int} {bars : List Int}
    (h : (runCore cfg trigs g ts0 bars).1.2.2 = none) : (runCore cfg trigs g ts0 bars).1.2.1.cur = [] := by
  rw [runCore_eq, loopFrom_fst] at h ⊢
  obtain ⟨_, h2, h3⟩ := andThen_none h
  rw [h3]
  exact runBarsG_cur_nil cfg g (ts0 :: bars) 0 _ (by simp) h2

theorem runCore_books (cfg : Cfg) (trigs : List Trig) (g : GScript) (ts0 : Int) (bars : List Int) :
    (runCore cfg trigs g ts0 bars).1.2.1.all = recOf (runCore cfg trigs g ts0 bars).1.1 ∧
    (runCore cfg trigs g ts0 bars).1.2.1.rows = (runCore cfg trigs g ts0 bars).1.1.filterMap rowOf ∧
    (runCore cfg trigs g ts0 bars).1.1.filterMap notifyAct <+: (runCore cfg trigs g ts0 bars).1.2.1.all ∧
    ((runCore cfg trigs g ts0 bars).1.2.2 = none →
      (runCore cfg trigs g ts0 bars).1.1.filterMap notifyAct = (runCore cfg trigs g ts0 bars).1.2.1.all) := by
  have hp : Pending [] (⟨(setAllFrom cfg ts0 0 0 cfg.markets).2, trigs, [], [], []⟩ : St) := rfl
  obtain ⟨b1, b2, b3⟩ : Books _ (runCore cfg trigs g ts0 bars).1 := by
    rw [runCore_eq, loopFrom_fst]
    exact Books.andThen (initG_quiet cfg trigs g ts0).books (runBarsG_books cfg g (ts0 :: bars) 0)
  obtain ⟨d1, d2⟩ := b3 [] hp
  simp only [List.nil_append] at b1 b2 d1 d2
  exact ⟨b1, b2, d1, fun h => by rw [show _ = _ from d2 h, runCore_cur_nil h, List.append_nil]⟩

theorem runG_books (cfg : Cfg) (trigs : List Trig) (g : GScript) :
    (runG cfg trigs g).actions = recOf (runG cfg trigs g).trace ∧
    (runG cfg trigs g).rows = (runG cfg trigs g).trace.filterMap rowOf ∧
    (runG cfg trigs g).trace.filterMap notifyAct <+: (runG cfg trigs g).actions ∧
    ((runG cfg trigs g).err = none → (runG cfg trigs g).trace.filterMap notifyAct = (runG cfg trigs g).actions) := by
  rcases runG_cases cfg trigs with ⟨e, he⟩ | ⟨ts0, bars, _, hr⟩
  · rw [he g]; exact ⟨rfl, rfl, List.prefix_refl _, fun h => by cases h⟩
  · rw [hr g]
    obtain ⟨c1, c2, c3, c4⟩ := runCore_books cfg trigs g ts0 bars
    unfold finishG
    split <;> rw [recOf, filterMap_concat_none (f := recordedAct) rfl, filterMap_concat_none (f := rowOf) rfl,
      filterMap_concat_none (f := notifyAct) rfl]
    · exact ⟨c1, c2, c3, fun _ => c4 ‹_›⟩
    · exact ⟨c1, c2, c3, fun h => by cases h⟩

/-- along a bar at `ts` the pending actions are stamped `ts`, so whatever is delivered is delivered in its own bar -/
def OnTime (ts : Int) : St → Res → Prop := fun st r =>
  (∀ a ∈ st.cur, a.stamp = ts) → (∀ e ∈ r.1, NotifyOnTime e) ∧ ∀ a ∈ r.2.1.cur, a.stamp = ts

theorem OnTime.seq (ts : Int) : (Rel.diag (OnTime ts)).Seq :=
  Rel.seq_of_append (R := fun st evs st' => OnTime ts st (evs, st', none)) fun h1 h2 hc =>
    ⟨List.forall_mem_append.mpr ⟨(h1 hc).1, (h2 (h1 hc).2).1⟩, (h2 (h1 hc).2).2⟩

theorem Quiet.onTime {ts : Int} {st : St} {r : Res} (hq : Quiet st r) (ht : TsAll ts r) : OnTime ts st r := by
  intro hc
  refine ⟨fun e he => ?_, fun a ha => ?_⟩
  · cases e with
    | notify t tag stamp m =>
      have : (⟨tag, stamp, m⟩ : Act) ∈ r.1.filterMap notifyAct := List.mem_filterMap.mpr ⟨_, he, rfl⟩
      rw [hq.2] at this
      cases this
    | _ => trivial
  · rw [hq.1.1] at ha
    rcases List.mem_append.mp ha with h | h
    · exact hc a h
    · exact recOf_stamp ht a h

theorem barStepG_onTime (cfg : Cfg) (b : BarScript) (fuel tfuel row : Nat) (ts : Int) (st : St) : OnTime ts st (barStepG cfg b fuel tfuel row ts st) := by
  refine barStepG_rel (OnTime.seq ts) (HooksRel.diag b fun hk body st => (runStmts_quiet ts hk body st).onTime (runStmts_ts ts hk body st))
    (fun tl st r h => ?_) fuel tfuel row st
  cases tl with
  | head => exact h.quiet.onTime h.ts
  | deliver =>
    intro hc
    cases h with
    | stop => exact ⟨fun _ he => (nomatch he), hc⟩
    | notify _ i a ha =>
      exact ⟨fun e he => by rw [List.mem_singleton.mp he]; exact (hc a (List.mem_of_getElem? ha)).symm, hc⟩
  | close =>
    intro hc
    cases h with
    | stop => exact ⟨fun _ he => (nomatch he), hc⟩
    | row => exact ⟨fun e he => by rw [List.mem_singleton.mp he]; trivial, hc⟩
    | clear => exact ⟨fun _ he => (nomatch he), fun _ ha => (nomatch ha)⟩

theorem runBarsG_onTime (cfg : Cfg) (g : GScript) : ∀ (bars : List Int) (row : Nat) (st : St),
    (∀ a ∈ st.cur, ∀ t ∈ bars.head?, a.stamp = t) → ∀ e ∈ (runBarsG cfg g row bars st).1, NotifyOnTime e
  | [], _, _, _ => fun e he => nomatch he
  | ts :: bars, row, st, hcur => by
    have h1 := (barStepG_onTime cfg (g.bar row) g.fuel g.tfuel row ts st (fun a ha => hcur a ha ts rfl)).1
    simp only [runBarsG]
    cases hb : (barStepG cfg (g.bar row) g.fuel g.tfuel row ts st).2.2 with
    | some e => rw [andThen_err hb]; exact h1
    | none =>
      rw [andThen_ok hb]
      intro e he
      rcases List.mem_append.mp he with h | h
      · exact h1 e h
      · refine runBarsG_onTime cfg g bars (row + 1) _ ?_ e h
        intro a ha
        rw [barStepG_cur_nil cfg _ _ _ row ts st hb] at ha
        cases ha

theorem runG_onTime (cfg : Cfg) (trigs : List Trig) (g : GScript) :
    ∀ e ∈ (runG cfg trigs g).trace, NotifyOnTime e := by
  rcases runG_cases cfg trigs with ⟨e, he⟩ | ⟨ts0, bars, _, hr⟩
  · rw [he g]; intro x hx; rw [List.mem_singleton.mp hx]; trivial
  · rw [hr g]
    -- `initialize()` runs under the first bar's timestamp: what it records is pending, stamped `ts0`, when the loop starts
    obtain ⟨hi1, hi2⟩ := (initG_quiet cfg trigs g ts0).onTime (initG_ts cfg trigs g ts0) (fun _ ha => nomatch ha)
    have hcore : ∀ e ∈ (runCore cfg trigs g ts0 bars).1.1, NotifyOnTime e := by
      intro e he
      rw [runCore_eq, loopFrom_fst] at he
      rcases andThen_mem he with h | h
      · exact hi1 e h
      · exact runBarsG_onTime cfg g (ts0 :: bars) 0 _ (fun a ha t ht => by cases ht; exact hi2 a ha) e h
    unfold finishG
    split <;> exact List.forall_mem_append.mpr ⟨hcore, fun e he => by rw [List.mem_singleton.mp he]; trivial⟩

theorem barStepG_rows (cfg : Cfg) (b : BarScript) (fuel tfuel row : Nat) (ts : Int) (st : St) :
    ((barStepG cfg b fuel tfuel row ts st).1.filterMap rowOf = [] ∧ (barStepG cfg b fuel tfuel row ts st).2.2 ≠ none) ∨
    ∃ price, (barStepG cfg b fuel tfuel row ts st).1.filterMap rowOf = [(ts, price)] := by
  unfold barStepG
  split
  · exact Or.inl ⟨rfl, by simp⟩
  · rename_i price _
    have hq := (barHeadG_quiet cfg b tfuel row ts price st).1.2.2.2
    cases hh : (barHeadG cfg b tfuel row ts price st).2.2 with
    | some e => rw [andThen_err hh]; exact Or.inl ⟨hq, by rw [hh]; simp⟩
    | none =>
      rw [andThen_ok hh]
      refine Or.inr ⟨price, ?_⟩
      simp only [List.filterMap_append, hq, List.nil_append]
      exact (barTailG_books b fuel ts price _).2.2.1

theorem runBarsG_rows_prefix (cfg : Cfg) (g : GScript) : ∀ (bars : List Int) (row : Nat) (st : St),
    ((runBarsG cfg g row bars st).1.filterMap rowOf).map (·.1) <+: bars ∧
    ((runBarsG cfg g row bars st).2.2 = none → ((runBarsG cfg g row bars st).1.filterMap rowOf).map (·.1) = bars)
  | [], _, _ => ⟨List.prefix_refl _, fun _ => rfl⟩
  | ts :: bars, row, st => by
    simp only [runBarsG]
    cases hs : (barStepG cfg (g.bar row) g.fuel g.tfuel row ts st).2.2 with
    | some e =>
      rw [andThen_err hs]
      refine ⟨?_, fun h => by rw [hs] at h; cases h⟩
      rcases barStepG_rows cfg (g.bar row) g.fuel g.tfuel row ts st with ⟨h, _⟩ | ⟨price, h⟩
      · rw [h]; exact List.nil_prefix
      · rw [h]; simp
    | none =>
      rw [andThen_ok hs]
      rcases barStepG_rows cfg (g.bar row) g.fuel g.tfuel row ts st with ⟨_, h⟩ | ⟨price, h⟩
      · exact absurd hs h
      · obtain ⟨i1, i2⟩ := runBarsG_rows_prefix cfg g bars (row + 1) (barStepG cfg (g.bar row) g.fuel g.tfuel row ts st).2.1
        simp only [List.filterMap_append, h, List.map_cons, List.singleton_append]
        exact ⟨(List.prefix_cons_inj ts).mpr i1, fun hn => by rw [i2 hn]⟩

end Demeter.Core
