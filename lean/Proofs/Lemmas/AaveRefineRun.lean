/-
  What single pieces of the state machine's calls return when run in a coherent state, in the risk model's terms.
-/
import Proofs.Lemmas.AaveRefineOps
import Proofs.Lemmas.AaveLiqCoh
import Proofs.Lemmas.AaveRiskLoop
namespace Demeter.Aave
open Demeter M

variable {cx : ACtx} {env : Env}

theorem good_of_fresh {sup : AList String SupplyInfo} {bor : AList String BorrowInfo} (ndS : (keys sup).Nodup)
    (cvS : Covers env sup) (ndB : (keys bor).Nodup) (cvB : Covers env bor) :
    Good cx env { St.init with supplies := sup, borrows := bor } :=
  ⟨⟨ndS, cvS, CohC.fresh _, CohC.fresh _, CohC.fresh _⟩, ⟨ndB, cvB, CohC.fresh _, CohC.fresh _⟩⟩

theorem good_of_fresh_pair {k1 k2 : String} (h1 : HasData env k1) (h2 : HasData env k2) (x : SupplyInfo) (y : BorrowInfo) :
    Good cx env { St.init with supplies := [(k1, x)], borrows := [(k2, y)] } := by
  refine good_of_fresh (by simp [keys]) ?_ (by simp [keys]) ?_
  · intro k hk; simp [keys] at hk; subst hk; exact h1
  · intro k hk; simp [keys] at hk; subst hk; exact h2

/-- `health_factor` needs less than full coherence: the listing caches (`_supplies_cache`, `_borrows_cache`) may be stale -/
theorem healthFactor_of_amountCaches {s : St} (nd : (keys s.supplies).Nodup) (cv : Covers env s.supplies)
    (sa : CohC s.supAmtC (specSupAmt cx env s.supplies)) (co : CohC s.collC (specColl cx env s.supplies))
    (gb : GoodB cx env s) :
    (healthFactor cx env s).1 = .ok (toX (AaveRisk.healthFactor cx.toNumCtx (projPos env s.supplies s.borrows))) := by
  obtain ⟨cs, c', hcs, _, hrun⟩ := collateralValue_run nd cv sa co
  unfold healthFactor
  rw [run_bind_ok hrun]
  obtain ⟨vs, hvs, hrun2⟩ := borrowsValue_run (cx := cx) (env := env)
    (s := { s with supAmtC := c', collC := cacheOf cs }) gb.nd gb.cv gb.ba
  rw [run_bind_ok hrun2]
  show hfOf cx env cs vs = _
  rw [specColl_proj cv] at hcs
  cases hcs
  have hvs' : specBorAmt cx env s.borrows = .ok vs := hvs
  rw [specBorAmt_proj gb.cv] at hvs'
  cases hvs'
  exact hfOf_proj s.borrows cv

/-- `_supplies_cache` is stale while the figure is read: `healthFactor_of_amountCaches` -/
theorem run_trialHealthFactor {s sa : St} (h : At cx env s.frame sa) {tok : String} {info : SupplyInfo}
    (hg : AList.get? s.supplies tok = some info) (a : Rat) :
    ∃ s3, trialHealthFactor cx env tok info (cx.sub info.base (cx.div a (rowOf env tok).liqIndex)) sa =
        (.ok (toX (AaveRisk.healthFactor cx.toNumCtx
          (AaveRisk.withdrawTrial cx.toNumCtx (proj env s) (projSup env (tok, info)) a))), s3) ∧
      s3.frame = s.frame := by
  have hsa : sa.supplies = s.supplies := supplies_of_frame h.2
  have hga : AList.get? sa.supplies tok = some info := by rw [hsa]; exact hg
  obtain ⟨gS, gB⟩ := h.1
  have hf1 := healthFactor_of_amountCaches (cx := cx) (env := env)
    (s := trialSet tok { info with base := cx.sub info.base (cx.div a (rowOf env tok).liqIndex) } sa)
    ((AList.nodup_keys_set _ _ _).mpr gS.nd) (covers_set gS.cv (gS.cv tok (aget_mem_keys hga)) _) (CohC.fresh _) (CohC.fresh _)
    (gB.congr rfl rfl rfl)
  have hptrial : projPos env (trialSet tok { info with base := cx.sub info.base (cx.div a (rowOf env tok).liqIndex) } sa).supplies
      (trialSet tok { info with base := cx.sub info.base (cx.div a (rowOf env tok).liqIndex) } sa).borrows =
      AaveRisk.withdrawTrial cx.toNumCtx (proj env s) (projSup env (tok, info)) a := by
    show projPos env (AList.set sa.supplies tok _) sa.borrows = _
    unfold projPos AaveRisk.withdrawTrial proj projPos
    rw [hsa, borrows_of_frame h.2, set_proj_supply_base _ _ _ _ hg]
    rfl
  rw [hptrial] at hf1
  refine ⟨_, Prod.ext ?_ rfl, (moved_trial (cx := cx) (env := env) hga _).1.trans h.2⟩
  rw [← hf1]
  unfold trialHealthFactor
  rw [run_bind_modify]
  unfold finally'
  rfl

theorem subSupplyAmount_ok {t : St} {tok : String} {info : SupplyInfo} {st : TokStatus}
    (hg : AList.get? t.supplies tok = some info) (h1 : env.statusOf tok = .ok st) (hli : st.liqIdx ≠ 0) (a : Rat) :
    subSupplyAmount cx env tok a t = (.ok (subBase cx info.base (cx.div a st.liqIdx)),
      (commitSubSupply tok info (subBase cx info.base (cx.div a st.liqIdx)) t).2) := by
  rw [subSupplyAmount_eq, hg, h1]
  simp only [hli, if_false]

theorem subSupplyAmount_divZero {t : St} {tok : String} {info : SupplyInfo} {st : TokStatus}
    (hg : AList.get? t.supplies tok = some info) (h1 : env.statusOf tok = .ok st) (hli : st.liqIdx = 0) (a : Rat) :
    subSupplyAmount cx env tok a t = (.error .divZero, t) := by
  rw [subSupplyAmount_eq, hg, h1]
  simp only [hli, if_true]

theorem run_bind_lookupSupply {β : Type} {s : St} {tok : String} {info : SupplyInfo}
    (hg : AList.get? s.supplies tok = some info) (f : SupplyInfo → M β) : (lookupSupply tok >>= f) s = f info s := by
  unfold lookupSupply
  rw [run_bind_queryPos_ok (a := info) (by rw [hg]; rfl)]

/-- `_do_liquidate`'s test of the collateral, for a supplied token: the short-circuit does not show -/
theorem run_bind_liqEnabled {β : Type} {s : St} {ctok : String} {cinfo : SupplyInfo}
    (hg : AList.get? s.supplies ctok = some cinfo) (cr : Risk) (f : Bool → M β) :
    (liqEnabled ctok cr >>= f) s = f (decide (cr.lt ≠ 0) && cinfo.coll) s := by
  unfold liqEnabled
  by_cases h : cr.lt = 0
  · rw [if_neg (not_not.mpr h), run_bind_pure]; simp [h]
  · rw [if_pos h, run_bind_assoc, run_bind_lookupSupply hg, run_bind_pure]; simp [h]

theorem getSupply_missing {s : St} {tok : String} (hg : AList.get? s.supplies tok = none) :
    getSupply cx env tok s = (.error .keySupply, s) := by
  unfold getSupply
  rw [run_bind_queryPos_err (e := .keySupply) (by simp [hg, optRes])]

theorem withdraw_tail {s t : St} (hs : Good cx env s) (hfr : t.frame = s.frame) {tok : String} {info : SupplyInfo}
    {st : TokStatus} (hg : AList.get? s.supplies tok = some info) (h1 : env.statusOf tok = .ok st) (hli : st.liqIdx ≠ 0)
    (a : Rat) :
    ∃ t', (do
        let fin ← subSupplyAmount cx env tok a
        walletCredit cx tok a
        record (.withdraw tok a (cx.mul fin st.liqIdx))
        setUpdated) t = (.ok (), t') ∧
      proj env t' = ⟨AaveRisk.putSupplyBase (proj env s).supplies tok
        (AaveRisk.subBase cx.toNumCtx info.base (cx.div a st.liqIdx)), (proj env s).debts⟩ ∧
      t'.borrows = s.borrows ∧ t'.wallet = Wallet.credit cx.toNumCtx s.wallet tok a := by
  have hgt : AList.get? t.supplies tok = some info := by rw [supplies_of_frame hfr]; exact hg
  rw [run_bind_ok (subSupplyAmount_ok hgt h1 hli a)]
  refine ⟨_, rfl, ?_, (borrows_of_frame hfr : t.borrows = _), ?_⟩
  · show projPos env (if _ then _ else _) t.borrows = _
    unfold projPos proj projPos
    rw [supplies_of_frame hfr, borrows_of_frame hfr, put_proj_supply _ _ _ _ hg hs.1.nd, subBase_eq]
  · show Wallet.credit cx.toNumCtx t.wallet tok a = _
    rw [wallet_of_frame hfr]

theorem liqAmounts_step (p : AaveRisk.Portfolio) (c : AaveRisk.Supply) (d : AaveRisk.Debt) (cover : Rat) :
    liqAmounts cx d.row.price c.row.price (AaveRisk.stepToLiq cx.toNumCtx p d cover) (c.amount cx.toNumCtx) c.row.bonus =
      if c.row.price = 0 then .error .divZero else
      if AaveRisk.stepCapped cx.toNumCtx p c d cover = true ∧ cx.mul d.row.price (cx.add 1 c.row.bonus) = 0 then
        .error .divZero
      else .ok (AaveRisk.stepCollUsed cx.toNumCtx p c d cover, AaveRisk.stepRepaid cx.toNumCtx p c d cover) := by
  have hc : AaveRisk.stepCapped cx.toNumCtx p c d cover = decide
      (cx.mul (cx.div (cx.mul d.row.price (AaveRisk.stepToLiq cx.toNumCtx p d cover)) c.row.price) (cx.add 1 c.row.bonus) >
        c.amount cx.toNumCtx) := rfl
  unfold liqAmounts divE AaveRisk.stepCollUsed AaveRisk.stepRepaid
  rw [hc]
  by_cases h0 : c.row.price = 0
  · simp only [h0, if_true]; rfl
  simp only [h0, if_false]
  show (if cx.mul (cx.div (cx.mul d.row.price (AaveRisk.stepToLiq cx.toNumCtx p d cover)) c.row.price)
      (cx.add 1 c.row.bonus) > c.amount cx.toNumCtx then _ else _) = _
  by_cases hcap : cx.mul (cx.div (cx.mul d.row.price (AaveRisk.stepToLiq cx.toNumCtx p d cover)) c.row.price)
      (cx.add 1 c.row.bonus) > c.amount cx.toNumCtx
  · rw [if_pos hcap]
    by_cases h1 : cx.mul d.row.price (cx.add 1 c.row.bonus) = 0
    · simp only [h1, decide_eq_true hcap, if_true, and_self]; rfl
    · simp only [h1, decide_eq_true hcap, if_true, if_false, and_false]; rfl
  · rw [if_neg hcap]
    simp only [decide_eq_false hcap, Bool.false_eq_true, if_false, false_and]
    rfl

theorem run_liqDebtOf {s0 s : St} (h : At cx env s0.frame s) {dtok : String} {dinfo : BorrowInfo}
    (hd : AList.get? s0.borrows dtok = some dinfo) :
    ∃ s', liqDebtOf cx env dtok s = (.ok ((projBor env (dtok, dinfo)).amount cx.toNumCtx), s') ∧
      At cx env s0.frame s' := by
  obtain ⟨s', e, h'⟩ := run_getBorrow h hd
  refine ⟨s', ?_, h'⟩
  unfold liqDebtOf
  have hc : AList.contains s.borrows dtok = true := by
    rw [borrows_of_frame h.2]
    exact AList.contains_iff.mpr ⟨dinfo, hd⟩
  rw [run_bind_queryPos_ok (a := true) (by rw [hc])]
  simp only [if_true]
  rw [run_bind_ok e]
  rfl

theorem catch_ok {m : M Unit} {s s' : St} (h : m s = (.ok (), s')) : catchAssertion m s = (.ok (), s') := by
  unfold catchAssertion; rw [h]

theorem catch_assert {m : M Unit} {s s' : St} {e : Err} (h : m s = (.error e, s')) (ha : e.isAssertion = true) :
    catchAssertion m s = (.ok (), s') := by
  unfold catchAssertion; rw [h]; simp only [ha, if_true]

theorem catch_other {m : M Unit} {s s' : St} {e : Err} (h : m s = (.error e, s')) (ha : e.isAssertion = false) :
    catchAssertion m s = (.error e, s') := by
  unfold catchAssertion; rw [h]; simp only [ha, Bool.false_eq_true, if_false]

/-- `_do_liquidate(None, debt, …)`: `collateral_token.name` on `None` raises `AttributeError` after the health-factor read -/
theorem doLiquidate_noColl {s : St} (hs : Good cx env s) {dtok : String} {dinfo : BorrowInfo}
    (hd : AList.get? s.borrows dtok = some dinfo) (v : Rat) :
    ∃ s', doLiquidate cx env none (some dtok) v s = (.error .noneToken, s') ∧ s'.frame = s.frame := by
  obtain ⟨⟨dst, hdst⟩, _, _⟩ := hs.2.cv dtok (aget_mem_keys hd)
  obtain ⟨s1, e1, hat1⟩ := run_healthFactor hs.at
  refine ⟨s1, ?_, hat1.2⟩
  unfold doLiquidate
  rw [run_bind_ok e1]
  simp only [optRes]
  rw [run_bind_ofRes_ok, hdst, run_bind_ofRes_ok]
  rfl

theorem guard_toX (h : AaveRisk.XRat) :
    ((toX h).gtR 0 && (toX h).ltR Gen.aaveHfThreshold) = (h.gtB 0 && h.ltB Gen.arHfLiqThreshold) := by
  rw [toX_gtR, toX_ltR, hfThreshold_eq]

theorem liquidateLoop_stop (fuel : Nat) (vis : List String) {p : AaveRisk.Portfolio}
    (h : AaveRisk.liqCond cx.toNumCtx p = false) (s : St) :
    liquidateLoop cx env fuel vis (toX (AaveRisk.healthFactor cx.toNumCtx p)) s = (.ok (), s) := by
  cases fuel with
  | zero => unfold liquidateLoop; rfl
  | succ n =>
    rw [liquidateLoop, guard_toX, show ((AaveRisk.healthFactor cx.toNumCtx p).gtB 0 &&
      (AaveRisk.healthFactor cx.toNumCtx p).ltB Gen.arHfLiqThreshold) = false from h]
    rfl

end Demeter.Aave
