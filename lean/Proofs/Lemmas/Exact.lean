/-
  The unrounded arithmetic context (`rnd = id`): `+ − × ÷` are those of ℚ, the semantics the theorems are stated for.
  Its square root is NOT exact: `dsqrt` stays the 35-digit `dsqrt35`, so a theorem "in `NumCtx.exact`" about a
  quantity that takes a square root (Uniswap prices, Squeeth's normalisation) is about that rounded root.
-/
import Demeter.Num
namespace Demeter

def NumCtx.exact : NumCtx := { rnd := id, dsqrt := dsqrt35 }

@[simp] theorem NumCtx.exact_add (a b : Rat) : NumCtx.exact.add a b = a + b := rfl
@[simp] theorem NumCtx.exact_sub (a b : Rat) : NumCtx.exact.sub a b = a - b := rfl
@[simp] theorem NumCtx.exact_mul (a b : Rat) : NumCtx.exact.mul a b = a * b := rfl
@[simp] theorem NumCtx.exact_div (a b : Rat) : NumCtx.exact.div a b = a / b := rfl
@[simp] theorem NumCtx.exact_rnd (a : Rat) : NumCtx.exact.rnd a = a := rfl

theorem foldl_add_eq {α : Type} (xs : List α) (g : α → Rat) (a : Rat) :
    xs.foldl (fun acc x => acc + g x) a = a + (xs.map g).sum := by
  induction xs generalizing a with
  | nil => exact (Rat.add_zero a).symm
  | cons x xs ih => simp [List.foldl, ih, Rat.add_assoc]

theorem foldl_exact_add (xs : List Rat) (a : Rat) : xs.foldl (fun a x => NumCtx.exact.add a x) a = a + xs.sum := by
  simpa using foldl_add_eq xs id a

/-- `min(a, b)` as the sources spell it with a conditional -/
theorem ite_gt_eq_min (a b : Rat) : (if a > b then b else a) = min a b := by
  rw [Rat.min_def]
  by_cases h : b < a
  · simp [h, Rat.not_le.mpr h]
  · simp [h, Rat.not_lt.mp h]

end Demeter
