/-
  C03 on the Uniswap market, what one step is measured by (exact arithmetic, frozen status row): the soundness invariant
  `Sound` (no negative holding) and the graded relation `NoGain` (sound again, worth at most `(1 + dust)ⁿ` times as much) with
  its algebra.
-/
import Proofs.Lemmas.UniValue
import Mathlib.Tactic.Positivity
namespace Demeter.Uni
open Demeter

/-- `Frozen` with the signs the value argument needs -/
structure FrozenPos (K : Kern) (pool : Pool) (row : Row) (sqrt : Nat) (A : Int → Int → Int → Rat × Rat) : Prop where
  base : Frozen K pool row sqrt A
  price_pos : 0 < row.price
  fee_nonneg : 0 ≤ pool.feeRate
  fee_le_one : pool.feeRate ≤ 1
  A_nonneg : ∀ lo up l, 0 ≤ l → 0 ≤ (A lo up l).1 ∧ 0 ≤ (A lo up l).2
  newPos_nonneg : ∀ lo up a0 a1 u0 u1 L, 0 ≤ a0 → 0 ≤ a1 → K.newPos pool sqrt lo up a0 a1 = .ok (u0, u1, L) → 0 ≤ L

/-- **no negative holding**, and the frame the valuation is taken in: the frozen row, overdraft not allowed, unique
    position keys -/
structure Sound (row : Row) (s : State) : Prop where
  row_eq : s.row = some row
  noNeg : s.allowNeg = false
  keys : KeysNodup s.positions
  wallet_nonneg : ∀ k, 0 ≤ bal s.wallet k
  pos_nonneg : ∀ p ∈ s.positions, 0 ≤ p.liq ∧ 0 ≤ p.pending0 ∧ 0 ≤ p.pending1

theorem Sound.of_same {row : Row} {s s' : State} (h : Sound row s) (hr : s'.row = s.row) (hn : s'.allowNeg = s.allowNeg)
    (hp : s'.positions = s.positions) (hw : s'.wallet = s.wallet) : Sound row s' :=
  ⟨hr.trans h.row_eq, hn.trans h.noNeg, by rw [hp]; exact h.keys, by rw [hw]; exact h.wallet_nonneg,
   by rw [hp]; exact h.pos_nonneg⟩

variable {K : Kern} {pool : Pool} {row : Row} {sqrt : Nat} {A : Int → Int → Int → Rat × Rat}

theorem posValue_nonneg (F : FrozenPos K pool row sqrt A) (p : Pos) (h : 0 ≤ p.liq ∧ 0 ≤ p.pending0 ∧ 0 ≤ p.pending1) :
    0 ≤ posValue pool row.price (fun p => A p.lower p.upper p.liq) p := by
  rw [posValue_eq_tokVal]
  have hA := F.A_nonneg p.lower p.upper p.liq h.1
  exact tokVal_nonneg pool F.price_pos.le (add_nonneg h.2.1 hA.1) (add_nonneg h.2.2 hA.2)

theorem walletVal_nonneg (F : FrozenPos K pool row sqrt A) (w : Wallet) (h : ∀ k, 0 ≤ bal w k) :
    0 ≤ walletVal pool row.price w :=
  tokVal_nonneg pool F.price_pos.le (h _) (h _)

theorem sumAllPos_nonneg (F : FrozenPos K pool row sqrt A) {s : State} (h : Sound row s) :
    0 ≤ sumAll (posValue pool row.price (fun p => A p.lower p.upper p.liq)) s.positions :=
  (sumAll_eq_sum _ _).symm ▸ ListSum.nonneg _ _ (fun p hp => posValue_nonneg F p (h.pos_nonneg p hp))

theorem allVal_nonneg (F : FrozenPos K pool row sqrt A) {s : State} (h : Sound row s) : 0 ≤ allVal pool row A s :=
  add_nonneg (walletVal_nonneg F _ h.wallet_nonneg) (sumAllPos_nonneg F h)

theorem walletVal_le_allVal (F : FrozenPos K pool row sqrt A) {s : State} (h : Sound row s) :
    walletVal pool row.price s.wallet ≤ allVal pool row A s := by
  unfold allVal; linarith [sumAllPos_nonneg F h]

def NoGain (pool : Pool) (row : Row) (A : Int → Int → Int → Rat × Rat) (n : Nat) (s s' : State) : Prop :=
  Sound row s → Sound row s' ∧ allVal pool row A s' ≤ (1 + assetDust) ^ n * allVal pool row A s

theorem NoGain.refl (s : State) : NoGain pool row A 0 s s := fun h => ⟨h, by simp⟩

theorem NoGain.trans {n m : Nat} {a b c : State} (h1 : NoGain pool row A n a b) (h2 : NoGain pool row A m b c) :
    NoGain pool row A (n + m) a c := by
  intro ha
  obtain ⟨hb, v1⟩ := h1 ha
  obtain ⟨hc, v2⟩ := h2 hb
  refine ⟨hc, ?_⟩
  have hpos : (0 : Rat) ≤ (1 + assetDust) ^ m := by have := assetDust_pos; positivity
  calc allVal pool row A c ≤ (1 + assetDust) ^ m * allVal pool row A b := v2
    _ ≤ (1 + assetDust) ^ m * ((1 + assetDust) ^ n * allVal pool row A a) := mul_le_mul_of_nonneg_left v1 hpos
    _ = (1 + assetDust) ^ (n + m) * allVal pool row A a := by rw [pow_add]; ring

theorem NoGain.mono (F : FrozenPos K pool row sqrt A) {n m : Nat} {a b : State} (hnm : n ≤ m)
    (h : NoGain pool row A n a b) : NoGain pool row A m a b := by
  intro ha
  obtain ⟨hb, v⟩ := h ha
  refine ⟨hb, le_trans v ?_⟩
  apply mul_le_mul_of_nonneg_right _ (allVal_nonneg F ha)
  exact pow_le_pow_right₀ (by linarith [assetDust_pos]) hnm

theorem NoGain.of_same {s s' : State} (hr : s'.row = s.row) (hn : s'.allowNeg = s.allowNeg)
    (hp : s'.positions = s.positions) (hw : s'.wallet = s.wallet) : NoGain pool row A 0 s s' := by
  intro h
  refine ⟨h.of_same hr hn hp hw, ?_⟩
  unfold allVal; rw [hp, hw]; simp

theorem allVal_le_one_dust (F : FrozenPos K pool row sqrt A) {s s' : State} (hs : Sound row s)
    (hv : allVal pool row A s' ≤ allVal pool row A s + assetDust * walletVal pool row.price s.wallet) :
    allVal pool row A s' ≤ (1 + assetDust) ^ 1 * allVal pool row A s := by
  have h1 := walletVal_le_allVal F hs
  have h2 : assetDust * walletVal pool row.price s.wallet ≤ assetDust * allVal pool row A s :=
    mul_le_mul_of_nonneg_left h1 assetDust_pos.le
  rw [pow_one]; linarith

theorem Sound.mapPos {s s' : State} (h : Sound row s) {lo up : Int} {p q : Pos} (hf : findPos s.positions lo up = some p)
    (hqn : 0 ≤ q.liq ∧ 0 ≤ q.pending0 ∧ 0 ≤ q.pending1) (hq : keyOf q = keyOf p)
    (hr : s'.row = s.row) (hn : s'.allowNeg = s.allowNeg)
    (hp : s'.positions.Sublist (mapPos s.positions lo up (fun _ => q))) (hw : ∀ k, 0 ≤ bal s'.wallet k) : Sound row s' := by
  refine ⟨hr.trans h.row_eq, hn.trans h.noNeg, (mapPos_const_keys_nodup hf hq h.keys).sublist (hp.map keyOf), hw,
    fun x hx => ?_⟩
  obtain ⟨y, hy, hx⟩ := mem_mapPos (hp.subset hx)
  rcases hx with rfl | rfl
  · exact h.pos_nonneg _ hy
  · exact hqn

theorem Sound.replace {s s' : State} (h : Sound row s) {l r : List Pos} {p q : Pos} (e : s.positions = l ++ p :: r)
    (hq : keyOf q = keyOf p) (hqn : 0 ≤ q.liq ∧ 0 ≤ q.pending0 ∧ 0 ≤ q.pending1)
    (hr : s'.row = s.row) (hn : s'.allowNeg = s.allowNeg) (hp : s'.positions = l ++ q :: r)
    (hw : ∀ k, 0 ≤ bal s'.wallet k) : Sound row s' := by
  have hk : p.hasKey p.lower p.upper = true := (hasKey_iff p _ _).mpr rfl
  have ho := keysNodup_others (e ▸ h.keys) hk
  exact h.mapPos (findPos_of_mem h.keys (e ▸ List.mem_append_right l (List.mem_cons_self ..))) hqn hq hr hn
    (by rw [hp, e, mapPos_decomp l r p _ _ _ ho.1 ho.2 hk]) hw

end Demeter.Uni
