/-
  What the operations of the Deribit model do, read off their definitions once: each either rejects, state intact, or meets
  its conditions and then has an explicit end state; a balance read touches only the cache.  Orders: Proofs/Lemmas/DeribitDeal.lean.
  `DCtx.exact` = Decimal arithmetic exact, book floats as real numbers.
-/
import Demeter.Deribit.Run
import Proofs.Lemmas.Exact
import Proofs.Lemmas.AList
import Proofs.Lemmas.Run
import Proofs.Lemmas.DeribitRound
import Mathlib.Tactic.Ring
import Mathlib.Tactic.NormNum
namespace Demeter.Deribit
open Demeter

def DCtx.exact : DCtx := DCtx.ideal NumCtx.exact

@[simp] theorem exact_num : DCtx.exact.num = NumCtx.exact := rfl
@[simp] theorem exact_toF (x : Rat) : DCtx.exact.toF x = x := rfl
@[simp] theorem exact_fsub (a b : Rat) : DCtx.exact.fsub a b = a - b := rfl
@[simp] theorem exact_fdiv (a b : Rat) : DCtx.exact.fdiv a b = a / b := rfl
@[simp] theorem exact_reprD (x : Rat) : DCtx.exact.reprD x = x := rfl
@[simp] theorem exact_fadd (a b : Rat) : DCtx.exact.fadd a b = a + b := rfl

theorem maxFeeRate_eq : maxFeeRate = 125 / 1000 := by
  unfold maxFeeRate Gen.deribitMaxFeeRate; norm_num

theorem matchErr_eq : matchErr = 1 / 1000 := rfl

/-- a quarter: `round` at most doubles, and the fee is capped at 12.5 % -/
theorem tradeFee_range (c : TokenCfg) (hc : 0 ≤ c.tradeFee) (a p : Rat) (ha : 0 ≤ a) (hp : 0 ≤ p) :
    0 ≤ tradeFee DCtx.exact c a p ∧ tradeFee DCtx.exact c a p ≤ p / 4 := by
  unfold tradeFee
  simp only [exact_num, NumCtx.exact_mul]
  have h0 : 0 ≤ min (c.tradeFee * a) (maxFeeRate * p) := le_min (mul_nonneg hc ha) (by rw [maxFeeRate_eq]; positivity)
  refine ⟨roundDec_nonneg _ h0, ?_⟩
  calc roundDec c.feeExp (min (c.tradeFee * a) (maxFeeRate * p))
      ≤ 2 * min (c.tradeFee * a) (maxFeeRate * p) := roundDec_le_two _ h0
    _ ≤ 2 * (maxFeeRate * p) := by linarith [min_le_right (c.tradeFee * a) (maxFeeRate * p)]
    _ = p / 4 := by rw [maxFeeRate_eq]; ring

def fillSum (fs : List Fill) : Rat := (fs.map (·.amount)).sum
def fillCost (fs : List Fill) : Rat := (fs.map (fun f => f.amount * f.price)).sum

theorem premiumOf_exact (fs : List Fill) : premiumOf DCtx.exact fs = fillCost fs :=
  (foldl_add_eq fs (fun f => f.amount * f.price) 0).trans (zero_add _)

theorem amountOf_exact (fs : List Fill) : amountOf DCtx.exact fs = fillSum fs :=
  (foldl_add_eq fs (·.amount) 0).trans (zero_add _)

theorem avgPrice_exact (fs : List Fill) (h : fillSum fs ≠ 0) : avgPrice DCtx.exact fs = fillCost fs / fillSum fs := by
  unfold avgPrice
  rw [amountOf_exact, premiumOf_exact, if_neg h]; rfl

theorem avgPrice_two (avg a pa pb : Rat) (h : a + pb ≠ 0) :
    avgPrice DCtx.exact [⟨avg, a⟩, ⟨pa, pb⟩] = (a * avg + pb * pa) / (a + pb) := by
  rw [avgPrice_exact _ (by simpa [fillSum] using h)]
  simp [fillSum, fillCost]

/-- the average the position records keep (`boughtPosition`, `soldPosition`): the fills `fs` and an old lot of `b` contracts at `avg` -/
theorem avgPrice_fills_lot (fs : List Fill) (avg b : Rat) (hpos : fillSum fs ≠ 0) (hne : b + fillSum fs ≠ 0) :
    avgPrice DCtx.exact [⟨avgPrice DCtx.exact fs, fillSum fs⟩, ⟨avg, b⟩] = (avg * b + fillCost fs) / (b + fillSum fs) := by
  rw [avgPrice_exact fs hpos, avgPrice_two _ _ _ _ (by rwa [add_comm] at hne), mul_div_cancel₀ _ hpos]
  ring

def sizeSum (ls : List Level) : Rat := (ls.map (·.size)).sum

theorem sumSizes_exact (ls : List Level) : sumSizes DCtx.exact ls = sizeSum ls :=
  (foldl_add_eq ls (·.size) 0).trans (zero_add _)

theorem checkTx_ok {cx : DCtx} {c : TokenCfg} {book : List Instr} {r : Req} {isBuy : Bool} {ck : Checked}
    (h : checkTx cx c book r isBuy = .ok ck) :
    (∃ ins0, findInstr book r.name = some ins0 ∧ ck.ins = normInstr cx ins0) ∧ ck.ins.stateOpen = true ∧
    c.minAmount ≤ r.amount ∧
    ck.amount = roundDec c.tradeExp r.amount ∧
    ∃ avail, availSide cx ck.ins r.mult isBuy = .ok avail ∧
      ((reqPrice cx ck.ins r = .ok none ∧ ck.price = none ∧ ck.amount ≤ sumSizes cx avail) ∨
       (∃ p l rest, reqPrice cx ck.ins r = .ok (some p) ∧ findAvailable cx p avail = l :: rest ∧
          ck.price = some (cx.reprD l.price) ∧ ck.amount ≤ cx.reprD l.size)) := by
  unfold checkTx at h
  split at h
  · exact absurd h (by simp)
  · rename_i ins0 hfind
    simp only [] at h
    split at h
    · exact absurd h (by simp)
    · rename_i hopen
      split at h
      · exact absurd h (by simp)
      · rename_i hmin
        have hta : tradeAmount c r.amount = roundDec c.tradeExp r.amount := by
          unfold tradeAmount; rw [if_neg hmin]
        split at h
        · exact absurd h (by simp)
        · rename_i price hprice
          split at h
          · exact absurd h (by simp)
          · rename_i avail havail
            split at h
            · rename_i p
              split at h
              · exact absurd h (by simp)
              · rename_i l rest hfa
                split at h
                · exact absurd h (by simp)
                · rename_i hle
                  simp only [Except.ok.injEq] at h
                  subst h
                  exact ⟨⟨ins0, hfind, rfl⟩, by simpa using hopen, not_lt.mp hmin, hta, avail, havail,
                    Or.inr ⟨p, l, rest, hprice, hfa, rfl, not_lt.mp hle⟩⟩
            · split at h
              · exact absurd h (by simp)
              · rename_i hle
                simp only [Except.ok.injEq] at h
                subst h
                exact ⟨⟨ins0, hfind, rfl⟩, by simpa using hopen, not_lt.mp hmin, hta, avail, havail,
                  Or.inl ⟨hprice, rfl, not_lt.mp hle⟩⟩

theorem reqPrice_exact_some {ins : Instr} {r : Req} {p : Rat} (h : reqPrice DCtx.exact ins r = .ok (some p)) :
    (∀ t, r.priceTok = some t → p = t) ∧
    (∀ u, r.priceTok = none → r.priceUsd = some u → ins.underlying ≠ 0 ∧ p = u / ins.underlying) := by
  unfold reqPrice at h
  split at h
  · rename_i t _ ht
    simp only [Except.ok.injEq, Option.some.injEq] at h
    exact ⟨fun t' ht' => by rw [ht] at ht'; simp only [Option.some.injEq] at ht'; rw [← h, ht'],
           fun u hn _ => by rw [ht] at hn; simp at hn⟩
  · rename_i u hn hu
    refine ⟨fun t ht => by rw [hn] at ht; simp at ht, ?_⟩
    intro u' _ hu'
    rw [hu] at hu'
    simp only [Option.some.injEq] at hu'
    subst hu'
    simp only [decDiv, exact_reprD, exact_num, NumCtx.exact_div] at h
    by_cases h0 : ins.underlying = 0
    · simp only [h0, if_true] at h
      split at h
      · rename_i heq; split at heq <;> simp at heq
      · simp at h
    · simp only [h0, if_false, Except.ok.injEq, Option.some.injEq] at h
      exact ⟨h0, h.symm⟩
  · simp at h

theorem reqPrice_none_iff {cx : DCtx} {ins : Instr} {r : Req} :
    reqPrice cx ins r = .ok none ↔ r.priceTok = none ∧ r.priceUsd = none := by
  refine ⟨fun h => ?_, fun h => by simp only [reqPrice, h.1, h.2]⟩
  unfold reqPrice at h
  split at h
  · simp at h
  · split at h <;> simp at h
  · rename_i h1 h2; exact ⟨h1, h2⟩

theorem checkTx_market {cx : DCtx} {c : TokenCfg} {book : List Instr} {r : Req} {isBuy : Bool} {ins : Instr} {avail : List Level}
    (hfind : findInstr book r.name = some ins) (hso : ins.stateOpen = true) (hmin : c.minAmount ≤ r.amount)
    (hm : r.priceTok = none ∧ r.priceUsd = none) (hav : availSide cx (normInstr cx ins) r.mult isBuy = .ok avail) :
    checkTx cx c book r isBuy =
      if roundDec c.tradeExp r.amount > sumSizes cx avail then .error (.demeter "insufficient-depth")
      else .ok ⟨roundDec c.tradeExp r.amount, normInstr cx ins, none⟩ := by
  have h1 : (normInstr cx ins).stateOpen = true := hso
  have h2 : ¬ r.amount < c.minAmount := not_lt.mpr hmin
  simp only [checkTx, hfind, h1, Bool.not_true, Bool.false_eq_true, if_false, h2, reqPrice_none_iff.mpr hm, hav, tradeAmount]

/-- the `write_func` gate -/
theorem closed_gate (cx : DCtx) (c : TokenCfg) (s : DState) (r : Req) (h : s.flagOpen = false) :
    buy cx c s r = (.error (.demeter "market-closed"), s) ∧ sell cx c s r = (.error (.demeter "market-closed"), s) := by
  constructor <;> simp [buy, sell, h]

theorem deposit_cases (cx : DCtx) (c : TokenCfg) (s : DState) (a : Rat) :
    (∃ e, deposit cx c s a = (.error e, s)) ∨ (0 ≤ a ∧ ∃ w, Wallet.debit cx.num s.wallet c.token a s.allowNeg = .ok w) := by
  unfold deposit
  split
  · exact Or.inl ⟨_, rfl⟩
  · rename_i hneg
    split
    · exact Or.inl ⟨_, rfl⟩
    · exact Or.inl ⟨_, rfl⟩
    · rename_i w hw
      exact Or.inr ⟨not_lt.mp hneg, w, hw⟩

theorem deposit_eq {cx : DCtx} {c : TokenCfg} {s : DState} {a : Rat} {w : Wallet} (ha : 0 ≤ a)
    (hw : Wallet.debit cx.num s.wallet c.token a s.allowNeg = .ok w) :
    deposit cx c s a = (.ok (.cashR (cx.num.add s.cash a)),
      { s with wallet := w, cash := cx.num.add s.cash a, actions := s.actions ++ [.deposit c.token a] }) := by
  simp [deposit, not_lt.mpr ha, hw]

theorem deposit_ok {cx : DCtx} {c : TokenCfg} {s s' : DState} {a : Rat} {res : Res}
    (h : deposit cx c s a = (.ok res, s')) :
    0 ≤ a ∧ ∃ w, Wallet.debit cx.num s.wallet c.token a s.allowNeg = .ok w ∧ res = .cashR (cx.num.add s.cash a) ∧
      s' = { s with wallet := w, cash := cx.num.add s.cash a, actions := s.actions ++ [.deposit c.token a] } := by
  rcases deposit_cases cx c s a with ⟨e, he⟩ | ⟨ha, w, hw⟩
  · rw [he] at h; cases h
  · rw [deposit_eq ha hw] at h; cases h; exact ⟨ha, w, hw, rfl, rfl⟩

theorem deposit_err {cx : DCtx} {c : TokenCfg} {s s' : DState} {a : Rat} {e : Err}
    (h : deposit cx c s a = (.error e, s')) : s' = s := by
  rcases deposit_cases cx c s a with ⟨e', he⟩ | ⟨ha, w, hw⟩
  · rw [he] at h; cases h; rfl
  · rw [deposit_eq ha hw] at h; cases h

theorem withdraw_cases (cx : DCtx) (c : TokenCfg) (s : DState) (a : Rat) :
    (∃ e, withdraw cx c s a = (.error e, s)) ∨ (0 ≤ a ∧ 0 ≤ cx.num.sub s.cash a) := by
  unfold withdraw
  split
  · exact Or.inl ⟨_, rfl⟩
  · rename_i hneg
    simp only []
    split
    · exact Or.inl ⟨_, rfl⟩
    · rename_i hleft
      exact Or.inr ⟨not_lt.mp hneg, not_lt.mp hleft⟩

theorem withdraw_eq {cx : DCtx} {c : TokenCfg} {s : DState} {a : Rat} (ha : 0 ≤ a) (hl : 0 ≤ cx.num.sub s.cash a) :
    withdraw cx c s a = (.ok (.cashR (cx.num.sub s.cash a)),
      { s with cash := cx.num.sub s.cash a, wallet := Wallet.credit cx.num s.wallet c.token a,
               actions := s.actions ++ [.withdraw c.token a] }) := by
  simp [withdraw, not_lt.mpr ha, not_lt.mpr hl]

theorem withdraw_ok {cx : DCtx} {c : TokenCfg} {s s' : DState} {a : Rat} {res : Res}
    (h : withdraw cx c s a = (.ok res, s')) :
    0 ≤ a ∧ 0 ≤ cx.num.sub s.cash a ∧ res = .cashR (cx.num.sub s.cash a) ∧
      s' = { s with cash := cx.num.sub s.cash a, wallet := Wallet.credit cx.num s.wallet c.token a,
                    actions := s.actions ++ [.withdraw c.token a] } := by
  rcases withdraw_cases cx c s a with ⟨e, he⟩ | ⟨ha, hl⟩
  · rw [he] at h; cases h
  · rw [withdraw_eq ha hl] at h; cases h; exact ⟨ha, hl, rfl, rfl⟩

theorem withdraw_err {cx : DCtx} {c : TokenCfg} {s s' : DState} {a : Rat} {e : Err}
    (h : withdraw cx c s a = (.error e, s')) : s' = s := by
  rcases withdraw_cases cx c s a with ⟨e', he⟩ | ⟨ha, hl⟩
  · rw [he] at h; cases h; rfl
  · rw [withdraw_eq ha hl] at h; cases h

theorem gmb_eq (cx : DCtx) (c : TokenCfg) (s : DState) :
    ∃ b cache, getMarketBalance cx c s = (.ok (.balance b), { s with cache := cache }) := by
  unfold getMarketBalance
  split
  · exact ⟨_, _, rfl⟩
  · split
    · exact ⟨none, s.cache, rfl⟩
    · split
      · exact ⟨_, s.cache, rfl⟩
      · exact ⟨_, _, rfl⟩

theorem gmb_fresh (cx : DCtx) (c : TokenCfg) (s : DState) (h : s.onGrid = true ∨ s.cache = none) :
    getMarketBalance cx c s =
      (.ok (.balance (some (freshBalance cx c s))), { s with cache := some (freshBalance cx c s) }) := by
  unfold getMarketBalance
  rw [if_pos]
  rcases h with h | h <;> simp [h]

/-- off the grid a cached valuation is reported with the current cash (/repo c97518c) -/
theorem gmb_cached (cx : DCtx) (c : TokenCfg) (s : DState) (b : Balance) (hg : s.onGrid = false) (hc : s.cache = some b) :
    getMarketBalance cx c s =
      if b.cash = s.cash then (.ok (.balance (some b)), s)
      else (.ok (.balance (some { b with netValue := cx.num.add s.cash b.premium, cash := s.cash })),
            { s with cache := some { b with netValue := cx.num.add s.cash b.premium, cash := s.cash } }) := by
  unfold getMarketBalance
  simp only [hg, hc, Option.isNone_some, Bool.or_self, Bool.false_eq_true, if_false]

theorem runOpsO_cons (cx : DCtx) (c : TokenCfg) (s : DState) (o : Op) (os : List Op) :
    (runOpsO cx c s (o :: os)).2.1 = (runOpsO cx c (step cx c s o).2 os).2.1 := rfl

theorem runOpsO_state (cx : DCtx) (c : TokenCfg) (ops : List Op) (s : DState) : (runOpsO cx c s ops).2.1 = runOps cx c s ops := by
  induction ops generalizing s with
  | nil => rfl
  | cons o os ih => rw [runOpsO_cons]; exact ih _

theorem runOps_preserves {P : DState → Prop} (cx : DCtx) (c : TokenCfg) (ops : List Op) (s : DState) (h : P s)
    (hstep : ∀ o ∈ ops, ∀ s, P s → P (step cx c s o).2) : P (runOps cx c s ops) :=
  run_keeps (run := runOps cx c) (fun _ => rfl) (fun _ _ _ => rfl) ops hstep s h

theorem runOpsO_preserves {P : DState → Prop} (cx : DCtx) (c : TokenCfg) (ops : List Op) (s : DState) (h : P s)
    (hstep : ∀ o ∈ ops, ∀ s, P s → P (step cx c s o).2) : P (runOpsO cx c s ops).2.1 :=
  runOpsO_state cx c ops s ▸ runOps_preserves cx c ops s h hstep

end Demeter.Deribit
