/-
  GMX v2: every rejection path of `deposit` / `withdraw` returns the state it was given — for every number type,
  arithmetic context and power function.  The only path that has mutated something when it fails (second wallet debit
  refused after the first succeeded) writes the remembered balance back; `AList.set_restore` shows that this is the
  original wallet.  `withdraw_accepted` is the converse reading of the same case split: what an accepted `withdraw` has passed.
-/
import Demeter.GmxV2
import Proofs.Lemmas.Wallet
namespace Demeter.Gmx2
open Demeter Demeter.GmxV2

section
set_option linter.unusedSectionVars false
variable {α : Type} [Add α] [Sub α] [Mul α] [Div α] [Neg α] [LT α] [LE α] [OfNat α 0] [DecidableLT α] [DecidableLE α]

theorem deposit_reject {o : Ops α} {cx : NumCtx} {cfg : Config α} {ps : Pool α} {lk sk : String} {s s' : State α}
    {la sa : α} {e : Err} {an : Bool} (h : deposit o cx cfg ps lk sk s la sa an = (.error e, s')) : s' = s := by
  unfold deposit at h
  split at h
  · cases h; rfl
  split at h
  · cases h; rfl
  · split at h
    · cases h; rfl
    · split at h
      · cases h; rfl
      split at h
      · cases h; rfl
      · cases h; rfl
      · rename_i w1 hw1
        split at h
        · rename_i e2 he2
          cases an with
          | true => exact absurd he2 (Wallet.debit_true_ne_error _ _ _ _ _)
          | false =>
          obtain ⟨b, b', hb, _, rfl⟩ := Wallet.debit_false_ok hw1
          simp only [Prod.mk.injEq] at h
          rw [← h.2]
          simp only [hb, AList.set_restore hb]
        · cases h

theorem withdraw_reject {o : Ops α} {cx : NumCtx} {cfg : Config α} {ps : Pool α} {lk sk : String} {s s' : State α}
    {amt : Option α} {e : Err} (h : withdraw o cx cfg ps lk sk s amt = (.error e, s')) : s' = s := by
  unfold withdraw at h
  simp only [] at h
  split at h
  · cases h; rfl
  split at h
  · cases h; rfl
  · split at h
    · cases h; rfl
    · split at h
      · cases h; rfl
      · split at h
        · cases h; rfl
        · cases h

theorem withdraw_accepted {o : Ops α} {cx : NumCtx} {cfg : Config α} {ps : Pool α} {lk sk : String}
    {s s' : State α} {amt : Option α} {r : LPResult α}
    (h : withdraw o cx cfg ps lk sk s amt = (.ok r, s')) :
    o.isFinite (amt.getD s.amount) = true ∧ ¬ amt.getD s.amount < 0 ∧ ¬ amt.getD s.amount > s.amount ∧
      outputAmount o cfg ps (amt.getD s.amount) = .ok r ∧ o.isFinite r.longAmount = true ∧ o.isFinite r.shortAmount = true ∧
      s' = { amount := s.amount - r.gmAmount,
             wallet := Wallet.credit cx (Wallet.credit cx s.wallet lk (o.toRat r.longAmount)) sk (o.toRat r.shortAmount),
             actions := s.actions ++ [(false, r)] } := by
  unfold withdraw at h
  simp only [] at h
  split at h
  · cases h
  rename_i hfin
  split at h
  · cases h
  rename_i hneg
  split at h
  · cases h
  rename_i hheld
  split at h
  · cases h
  rename_i r' hr
  split at h
  · cases h
  rename_i hout
  simp only [Prod.mk.injEq, Except.ok.injEq] at h
  obtain ⟨rfl, rfl⟩ := h
  have h1 : o.isFinite (amt.getD s.amount) = true := by
    cases hc : o.isFinite (amt.getD s.amount) with
    | true => rfl
    | false => simp [hc] at hfin
  have h2 : o.isFinite r'.longAmount = true ∧ o.isFinite r'.shortAmount = true := by
    cases hc : o.isFinite r'.longAmount <;> cases hd : o.isFinite r'.shortAmount <;> simp [hc, hd] at hout ⊢
  exact ⟨h1, hneg, hheld, hr, h2.1, h2.2, rfl⟩
end

end Demeter.Gmx2
