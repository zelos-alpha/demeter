/-
  `sqrtSig p x` is the square root to within half a unit in the `p`-th digit.

  For `x > 0`:  `sqrtSig p x = roundSig p (sqrtY p n d)` where `n/d = x`, `k = p + 2 − ⌊(digits n − digits d)/2⌋`,
  `X = x·10^(2k)`, `s = ⌊√⌊X⌋⌋` and `sqrtY = s/10^k` if `s² = X`, else `(s + 1/2)/10^k`.
  On the magnitude range (`InRange x`; for `p ≤ 22000` the number that is rounded, `sqrtY`, is then in range too:
  `InRange_sqrtY`), with `ε = (1/2)·10^(1−p)`:
        `0 ≤ r  ∧  x·(1−ε)² ≤ r² ≤ x·(1+ε)²`        (`r = sqrtSig p x`).
-/
import Proofs.Lemmas.Round35Sqrt
import Proofs.Lemmas.Round35Range
import Proofs.Lemmas.NatSqrtQuot
namespace Demeter.Numerics
open Demeter

local notation "T" => (10 : ℚ)

def sqrtK (p n d : ℕ) : ℤ := (p:ℤ) + 2 - ((ndigits n : ℤ) - (ndigits d : ℤ)) / 2

noncomputable def sqrtS (p n d : ℕ) : ℕ := Nat.sqrt ⌊(n:ℚ) / d * T ^ (2 * sqrtK p n d)⌋₊

noncomputable def sqrtY (p n d : ℕ) : ℚ :=
  if ((sqrtS p n d : ℕ) : ℚ) ^ 2 = (n:ℚ) / d * T ^ (2 * sqrtK p n d)
  then (sqrtS p n d : ℚ) / T ^ sqrtK p n d
  else ((sqrtS p n d : ℚ) + 1 / 2) / T ^ sqrtK p n d

theorem sqrtSig_mag (p n d : ℕ) (hd : 0 < d) :
    (let a : Int := (ndigits n : Int) - (ndigits d : Int)
     let k : Int := (p : Int) + 2 - a / 2
     let (sn, sd) := scale10 n d (-(2 * k))
     let t := sn / sd
     let s := Nat.sqrt t
     let exact := (s * s * sd == sn)
     let num2 : Nat := 2 * s + (if exact then 0 else 1)
     let y : Rat := if k ≥ 0 then mkRat num2 (2 * pow10 k.toNat) else ((num2 * pow10 (-k).toNat : Nat) : Rat) / 2
     roundSig p y) = roundSig p (sqrtY p n d) := by
  have hdq : (0:ℚ) < d := by exact_mod_cast hd
  obtain ⟨sd_pos, sval⟩ := scale10_spec n d (-(2 * sqrtK p n d)) hd
  have hX : (n : ℚ) / d / T ^ (-(2 * sqrtK p n d)) = (n:ℚ) / d * T ^ (2 * sqrtK p n d) := by
    rw [zpow_neg, div_inv_eq_mul]
  rw [hX] at sval
  simp only []
  rw [show (p : Int) + 2 - ((ndigits n : Int) - (ndigits d : Int)) / 2 = sqrtK p n d from rfl]
  rcases hsc : scale10 n d (-(2 * sqrtK p n d)) with ⟨sn, sd⟩
  rw [hsc] at sd_pos sval
  have hsdq : (0:ℚ) < sd := by exact_mod_cast sd_pos
  have hfl : sn / sd = ⌊(n:ℚ) / d * T ^ (2 * sqrtK p n d)⌋₊ := by
    rw [← sval]; exact (Nat.floor_div_eq_div sn sd).symm
  have hs : Nat.sqrt (sn / sd) = sqrtS p n d := by rw [hfl]; rfl
  rw [hs]
  unfold sqrtY
  generalize sqrtS p n d = s at *
  have hex : (s * s * sd == sn) = true ↔ ((s:ℕ):ℚ) ^ 2 = (n:ℚ) / d * T ^ (2 * sqrtK p n d) := by
    rw [beq_iff_eq, ← sval, eq_div_iff (ne_of_gt hsdq)]
    constructor
    · intro h; have : ((s * s * sd : ℕ) : ℚ) = sn := by exact_mod_cast h
      push_cast at this; rw [← this]; ring
    · intro h; have : ((s * s * sd : ℕ) : ℚ) = sn := by push_cast; rw [← h]; ring
      exact_mod_cast this
  congr 1
  generalize sqrtK p n d = k at *
  have hTk := Tz_pos k
  have hy : ∀ m : ℕ, (if k ≥ 0 then mkRat m (2 * pow10 k.toNat) else ((m * pow10 (-k).toNat : Nat) : Rat) / 2)
      = (m:ℚ) / 2 / T ^ k := by
    intro m
    unfold pow10
    split
    · rename_i h
      rw [Tz_of_nonneg h, Rat.mkRat_eq_div]; push_cast; rw [div_div]
    · rename_i h
      rw [Tz_of_neg h, div_inv_eq_mul, div_mul_eq_mul_div]; push_cast; rfl
  rw [hy]
  by_cases hc : (s * s * sd == sn) = true
  · rw [if_pos (hex.1 hc)]
    simp only [hc, if_true]
    push_cast; congr 1; ring
  · rw [if_neg (fun h => hc (hex.2 h))]
    simp only [hc]
    push_cast; congr 1; ring

theorem sqrtSig_pos_eq (p : ℕ) {x : ℚ} (hx : 0 < x) :
    sqrtSig p x = roundSig p (sqrtY p x.num.natAbs x.den) := by
  have hn : ¬ x.num ≤ 0 := not_le.2 (Rat.num_pos.2 hx)
  unfold sqrtSig
  rw [if_neg hn]
  exact sqrtSig_mag p x.num.natAbs x.den x.den_pos

theorem sqrtSig_of_nonpos (p : ℕ) {x : ℚ} (hx : x ≤ 0) : sqrtSig p x = 0 := by
  have hn : x.num ≤ 0 := Rat.num_nonpos.2 hx
  unfold sqrtSig
  rw [if_pos hn]

theorem sqrt_scaled_bounds (p n d : ℕ) (hn : 0 < n) (hd : 0 < d)
    (hbn : n.log2 < LOG2_BOUND) (hbd : d.log2 < LOG2_BOUND) :
    T ^ (2 * (p:ℤ) + 3) ≤ (n:ℚ) / d * T ^ (2 * sqrtK p n d) ∧
    (n:ℚ) / d * T ^ (2 * sqrtK p n d) < T ^ (2 * (p:ℤ) + 6) := by
  obtain ⟨q1, q2⟩ := quot_digits_bounds n d hn hd hbn hbd
  unfold sqrtK
  generalize (ndigits n : ℤ) = A at *
  generalize (ndigits d : ℤ) = B at *
  have hK := Tz_pos (2 * ((p:ℤ) + 2 - (A - B) / 2))
  constructor
  · calc T ^ (2 * (p:ℤ) + 3) ≤ T ^ ((A - B - 1) + 2 * ((p:ℤ) + 2 - (A - B) / 2)) := Tz_mono (by omega)
      _ = T ^ (A - B - 1) * T ^ (2 * ((p:ℤ) + 2 - (A - B) / 2)) := Tz_add _ _
      _ ≤ (n:ℚ) / d * T ^ (2 * ((p:ℤ) + 2 - (A - B) / 2)) := mul_le_mul_of_nonneg_right (le_of_lt q1) (le_of_lt hK)
  · calc (n:ℚ) / d * T ^ (2 * ((p:ℤ) + 2 - (A - B) / 2))
        < T ^ (A - B + 1) * T ^ (2 * ((p:ℤ) + 2 - (A - B) / 2)) := mul_lt_mul_of_pos_right q2 hK
      _ = T ^ ((A - B + 1) + 2 * ((p:ℤ) + 2 - (A - B) / 2)) := (Tz_add _ _).symm
      _ ≤ T ^ (2 * (p:ℤ) + 6) := Tz_mono (by omega)

theorem sqrtS_spec (p n d : ℕ) (hn : 0 < n) (hd : 0 < d)
    (hbn : n.log2 < LOG2_BOUND) (hbd : d.log2 < LOG2_BOUND) :
    ((sqrtS p n d : ℕ) : ℚ) ^ 2 ≤ (n:ℚ) / d * T ^ (2 * sqrtK p n d) ∧
    (n:ℚ) / d * T ^ (2 * sqrtK p n d) < ((sqrtS p n d : ℚ) + 1) ^ 2 ∧
    10 ^ (p + 1) ≤ sqrtS p n d := by
  have hge := (sqrt_scaled_bounds p n d hn hd hbn hbd).1
  unfold sqrtS
  generalize (n:ℚ) / d * T ^ (2 * sqrtK p n d) = X at *
  have hX0 : 0 ≤ X := le_trans (le_of_lt (Tz_pos _)) hge
  have f1 : (⌊X⌋₊ : ℚ) ≤ X := Nat.floor_le hX0
  have f2 : X < (⌊X⌋₊ : ℚ) + 1 := Nat.lt_floor_add_one X
  obtain ⟨b1, b2⟩ := natSqrt_bounds ⌊X⌋₊
  have hfl : 10 ^ (2 * p + 3) ≤ ⌊X⌋₊ := by
    apply Nat.le_floor
    have : (2 * (p:ℤ) + 3) = ((2 * p + 3 : ℕ) : ℤ) := by push_cast; ring
    rw [this, zpow_natCast] at hge
    push_cast; exact hge
  refine ⟨b1.trans f1, lt_of_lt_of_le f2 b2, Nat.le_sqrt'.2 (le_trans ?_ hfl)⟩
  rw [← Nat.pow_mul]; exact Nat.pow_le_pow_right (by decide) (by omega)

theorem sqrtS_lt (p n d : ℕ) (hn : 0 < n) (hd : 0 < d)
    (hbn : n.log2 < LOG2_BOUND) (hbd : d.log2 < LOG2_BOUND) : sqrtS p n d < 10 ^ (p + 3) := by
  obtain ⟨s1, _, _⟩ := sqrtS_spec p n d hn hd hbn hbd
  have h := (sqrt_scaled_bounds p n d hn hd hbn hbd).2
  have : (2 * (p:ℤ) + 6) = ((2 * (p + 3) : ℕ) : ℤ) := by push_cast; ring
  rw [this, zpow_natCast] at h
  have h2 : ((sqrtS p n d ^ 2 : ℕ) : ℚ) < ((10 ^ (2 * (p + 3)) : ℕ) : ℚ) := by
    push_cast; exact lt_of_le_of_lt s1 h
  have h3 : sqrtS p n d ^ 2 < 10 ^ (2 * (p + 3)) := by exact_mod_cast h2
  rw [Nat.mul_comm, Nat.pow_mul] at h3
  exact (Nat.pow_lt_pow_iff_left two_ne_zero).1 h3

theorem sqrtK_bounds (p n d : ℕ) (hn : 0 < n) (hd : 0 < d)
    (hbn : n.log2 < LOG2_BOUND) (hbd : d.log2 < LOG2_BOUND) :
    (p:ℤ) - 22576 ≤ sqrtK p n d ∧ sqrtK p n d ≤ (p:ℤ) + 22579 := by
  have a1 := ndigits_le n hn hbn
  have a2 := ndigits_le d hd hbd
  have b1 := ndigits_pos n
  have b2 := ndigits_pos d
  unfold sqrtK
  omega

theorem InRange_sqrtY (p n d : ℕ) (hp : p ≤ 22000) (hn : 0 < n) (hd : 0 < d)
    (hbn : n.log2 < LOG2_BOUND) (hbd : d.log2 < LOG2_BOUND) : InRange (sqrtY p n d) := by
  have hs := sqrtS_lt p n d hn hd hbn hbd
  obtain ⟨k1, k2⟩ := sqrtK_bounds p n d hn hd hbn hbd
  -- both shapes are `(2s + c) / (2·10^k) = 5(2s + c)·10^(−k−1)`
  have key : ∀ c : ℕ, c ≤ 1 → InRange (((2 * sqrtS p n d + c : ℕ) : ℚ) / 2 / T ^ sqrtK p n d) := by
    intro c hc
    generalize sqrtS p n d = s at *
    generalize sqrtK p n d = k at *
    have e1 : ((2 * s + c : ℕ) : ℚ) / 2 / T ^ k = ((5 * (2 * s + c) : ℕ) : ℚ) * T ^ (-k - 1) := by
      rw [show -k - 1 = -(k + 1) by ring, zpow_neg, Tz_succ]; push_cast; ring
    rw [e1]
    have hnum : 5 * (2 * s + c) < 10 ^ (p + 5) := by
      rw [Nat.pow_succ, Nat.pow_succ]; omega
    exact InRange_mul_Tz _ _ (p + 5) hnum (by omega) (by omega) (by omega)
  unfold sqrtY
  split_ifs
  · have := key 0 (by decide)
    have e : ((2 * sqrtS p n d + 0 : ℕ) : ℚ) / 2 / T ^ sqrtK p n d = (sqrtS p n d : ℚ) / T ^ sqrtK p n d := by
      push_cast; congr 1; ring
    rwa [e] at this
  · have := key 1 (by decide)
    have e : ((2 * sqrtS p n d + 1 : ℕ) : ℚ) / 2 / T ^ sqrtK p n d = ((sqrtS p n d : ℚ) + 1 / 2) / T ^ sqrtK p n d := by
      push_cast; congr 1; ring
    rwa [e] at this

theorem sqrtSig_spec (p : ℕ) (hp : 1 ≤ p) (hp' : p ≤ 22000) {x : ℚ} (hx : 0 < x) (hr : InRange x) :
    0 ≤ sqrtSig p x ∧ x * (1 - epsP p) ^ 2 ≤ sqrtSig p x ^ 2 ∧ sqrtSig p x ^ 2 ≤ x * (1 + epsP p) ^ 2 := by
  have hn : 0 < x.num.natAbs := Int.natAbs_pos.2 (ne_of_gt (Rat.num_pos.2 hx))
  have hry := InRange_sqrtY p _ _ hp' hn x.den_pos hr.1 hr.2
  obtain ⟨s1, s2, s3⟩ := sqrtS_spec p x.num.natAbs x.den hn x.den_pos hr.1 hr.2
  rw [sqrtSig_pos_eq p hx]
  unfold sqrtY at hry ⊢
  rw [natAbs_div_den hx] at s1 s2 hry ⊢
  generalize sqrtS p x.num.natAbs x.den = s at *
  generalize sqrtK p x.num.natAbs x.den = k at *
  have hTk := Tz_pos k
  have hT2 : T ^ (2 * k) = (T ^ k) ^ 2 := by rw [two_mul, Tz_add, sq]
  rw [hT2] at s1 s2 hry ⊢
  have hTk2 : (0:ℚ) < (T ^ k) ^ 2 := pow_pos hTk 2
  have hε1 : epsP p ≤ 1 := le_trans (epsP_le_half p hp) (by norm_num)
  have hs10 : 10 ^ p ≤ s := le_trans (Nat.pow_le_pow_right (by decide) (by omega)) s3
  -- `lo = s/10^k` and `hi = (s+1)/10^k` have `lo² ≤ x < hi²`; the result is within `ε` of both
  have hlo : ((s:ℚ) / T ^ k) ^ 2 ≤ x := by rw [div_pow, div_le_iff₀ hTk2]; exact s1
  have hhi : x ≤ (((s:ℚ) + 1) / T ^ k) ^ 2 := by rw [div_pow, le_div_iff₀ hTk2]; exact s2.le
  split_ifs at hry ⊢ with hc
  · have hy0 : (0:ℚ) ≤ (s:ℚ) / T ^ k := by positivity
    have hyx : x ≤ ((s:ℚ) / T ^ k) ^ 2 := by rw [div_pow, le_div_iff₀ hTk2]; exact hc.ge
    obtain ⟨b1, b2⟩ := roundSig_bounds p hy0 hry
    have hr0 := roundSig_nonneg p hy0
    exact ⟨hr0, le_sq_of_root_ge hε1 hy0 hyx b1, sq_le_of_root_le hr0 hlo b2⟩
  · have hy0 : (0:ℚ) < ((s:ℚ) + 1 / 2) / T ^ k := by positivity
    obtain ⟨c1, c2⟩ := sqrt_inexact_core p hp s hs10 k hry
    rw [roundSig_of_pos p hy0]
    have hr0 := rpos_nonneg p (((s:ℚ) + 1 / 2) / T ^ k)
    exact ⟨hr0, le_sq_of_root_ge hε1 (by positivity) hhi (by rw [div_mul_eq_mul_div, div_le_iff₀ hTk]; exact c1),
      sq_le_of_root_le hr0 hlo (by rw [div_mul_eq_mul_div, le_div_iff₀ hTk]; exact c2)⟩

end Demeter.Numerics
