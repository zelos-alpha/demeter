/-
  `round35` / `dsqrt35` specialisations (`p = 35`, `ε = EPS35 = 5·10⁻³⁵`) and the guarded context.

  `NumCtx.pyG` is `NumCtx.py` on the magnitude range `InRange` (numerator and denominator `< 2^150000`) and a harmless
  fallback outside it (identity for `rnd`, a 36-digit integer-square-root quotient for `dsqrt`).  Hence
     * `pyG` agrees with the context the compiled drivers run on every number with fewer than 45 154 digits, and
     * `pyG` satisfies the ε-hypotheses of the robust theorems for **all** rationals, with no side condition.
-/
import Proofs.Lemmas.Round35Sqrt2
import Proofs.Lemmas.RelRnd
namespace Demeter.Numerics
open Demeter

/-- CPython's unit roundoff at `prec = 35`: half a unit in the 35th significant digit -/
def EPS35 : ℚ := 5 / 10 ^ 35

theorem epsP_35 : epsP 35 = EPS35 := by
  unfold epsP EPS35; norm_num

theorem EPS35_pos : 0 < EPS35 := by unfold EPS35; norm_num
theorem EPS35_small : EPS35 ≤ 1 / 1000000000 := by unfold EPS35; norm_num

theorem round35_rel_err (x : ℚ) (hr : InRange x) : |round35 x - x| ≤ EPS35 * |x| := by
  have := roundSig_rel_err 35 x hr
  rwa [epsP_35] at this

theorem round35_bounds {x : ℚ} (hx : 0 ≤ x) (hr : InRange x) :
    x * (1 - EPS35) ≤ round35 x ∧ round35 x ≤ x * (1 + EPS35) := by
  have := roundSig_bounds 35 hx hr
  rwa [epsP_35] at this

theorem dsqrt35_spec {x : ℚ} (hx : 0 ≤ x) (hr : InRange x) :
    0 ≤ dsqrt35 x ∧ x * (1 - EPS35) ^ 2 ≤ dsqrt35 x ^ 2 ∧ dsqrt35 x ^ 2 ≤ x * (1 + EPS35) ^ 2 := by
  rcases eq_or_lt_of_le hx with h | h
  · subst h
    have : dsqrt35 0 = 0 := sqrtSig_of_nonpos 35 (le_refl 0)
    rw [this]; simp
  · have := sqrtSig_spec 35 (by decide) (by decide) h hr
    rwa [epsP_35] at this

/-- a rational within `10⁻³⁶` (relative) below `√y`, for any `y > 0` — only used outside the magnitude range -/
def sqrtFallback (y : ℚ) : ℚ :=
  (Nat.sqrt (y.num.natAbs * y.den * (10 ^ 36) ^ 2) : ℚ) / ((y.den : ℚ) * 10 ^ 36)

theorem sqrtFallback_spec {y : ℚ} (hy : 0 < y) :
    0 ≤ sqrtFallback y ∧ y * (1 - EPS35) ^ 2 ≤ sqrtFallback y ^ 2 ∧ sqrtFallback y ^ 2 ≤ y * (1 + EPS35) ^ 2 := by
  obtain ⟨a, b, c⟩ := natSqrt_quot_spec y.num.natAbs y.den (10 ^ 36) y.den_pos (by positivity)
  rw [natAbs_div_den hy] at b c
  rw [← sq] at a b c
  push_cast at a b c
  unfold sqrtFallback
  refine ⟨a, le_trans (mul_le_mul_of_nonneg_left ?_ (le_of_lt hy)) c, le_trans b (le_mul_of_one_le_right (le_of_lt hy) ?_)⟩
  · unfold EPS35; norm_num
  · unfold EPS35; norm_num

end Demeter.Numerics

namespace Demeter
open Demeter.Numerics

/-- `NumCtx.py` guarded by the magnitude range: identical to the drivers' context on every number whose numerator
    and denominator are below `2^150000` (all numbers of up to 45 154 digits). -/
def NumCtx.pyG : NumCtx :=
  { rnd := fun x => if InRange x then round35 x else x
    dsqrt := fun x => if InRange x then dsqrt35 x else sqrtFallback x }

theorem NumCtx.pyG_rnd_cases {Q : ℚ → Prop} (x : ℚ) (hin : InRange x → Q (round35 x)) (hout : ¬ InRange x → Q x) :
    Q (NumCtx.pyG.rnd x) := by
  show Q (if InRange x then round35 x else x)
  split_ifs with h
  exacts [hin h, hout h]

theorem NumCtx.pyG_rnd_eq {x : ℚ} (h : InRange x) : NumCtx.pyG.rnd x = NumCtx.py.rnd x := if_pos h

theorem NumCtx.pyG_dsqrt_eq {x : ℚ} (h : InRange x) : NumCtx.pyG.dsqrt x = NumCtx.py.dsqrt x := if_pos h

theorem NumCtx.pyG_rnd_zero : NumCtx.pyG.rnd 0 = 0 :=
  NumCtx.pyG_rnd_cases (Q := (· = 0)) 0 (fun _ => roundSig_zero 35) (fun _ => rfl)

/-- a rounded number that left the range is not rounded again -/
theorem NumCtx.pyG_rnd_idem (x : Rat) : NumCtx.pyG.rnd (NumCtx.pyG.rnd x) = NumCtx.pyG.rnd x :=
  NumCtx.pyG_rnd_cases (Q := fun y => NumCtx.pyG.rnd y = y) x
    (fun h => NumCtx.pyG_rnd_cases (Q := (· = round35 x)) _ (roundSig_idem 35 (by decide) x h) (fun _ => rfl))
    (fun h => if_neg h)

theorem NumCtx.pyG_relRnd : RelRnd NumCtx.pyG EPS35 := fun x hx =>
  NumCtx.pyG_rnd_cases (Q := fun y => x * (1 - EPS35) ≤ y ∧ y ≤ x * (1 + EPS35)) x (fun h => round35_bounds hx h)
    (fun _ => ⟨mul_le_of_le_one_right hx (by linarith only [EPS35_pos]), le_mul_of_one_le_right hx (by linarith only [EPS35_pos])⟩)

theorem NumCtx.pyG_rounds : Rounds NumCtx.pyG EPS35 := ⟨NumCtx.pyG_relRnd, le_trans EPS35_small (by norm_num)⟩

theorem NumCtx.pyG_rnd_nonpos {x : ℚ} (hx : x ≤ 0) : NumCtx.pyG.rnd x ≤ 0 :=
  NumCtx.pyG_rnd_cases (Q := (· ≤ 0)) x (fun _ => roundSig_nonpos 35 hx) (fun _ => hx)

/-- the shape of `Approx.sqrt` -/
theorem NumCtx.pyG_dsqrt_spec {y : ℚ} (hy : 0 ≤ y) : 0 ≤ NumCtx.pyG.dsqrt y ∧
    y * (1 - EPS35) ^ 2 ≤ NumCtx.pyG.dsqrt y ^ 2 ∧ NumCtx.pyG.dsqrt y ^ 2 ≤ y * (1 + EPS35) ^ 2 := by
  rw [show NumCtx.pyG.dsqrt y = if InRange y then dsqrt35 y else sqrtFallback y from rfl]
  split_ifs with h
  · exact dsqrt35_spec hy h
  · have : y ≠ 0 := fun h0 => h (h0 ▸ InRange_zero)
    exact sqrtFallback_spec (lt_of_le_of_ne hy (Ne.symm this))

end Demeter
