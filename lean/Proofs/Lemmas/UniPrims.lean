/-
  The primitive transactions of the Uniswap market model, each inverted once: a call is either rejected with the
  state it was given, or it has passed every check and ends in the explicit state named here.  (`collect_fee` and
  `remove_liquidity` can also raise at the balance look-up for their action record, after `__collect_fee` /
  `__remove_liquidity` have run; that is the middle case of their lemmas.)
-/
import Demeter.Uni.Step
namespace Demeter.Uni
open Demeter

theorem collectFinish_wallet (K : Kern) (pool : Pool) (s : State) (lo up : Int) (p : Pos) (f0 f1 : Rat) (rd tu : Bool)
    (bb qb : Rat) : (collectFinish K pool s lo up p f0 f1 rd tu bb qb).wallet = collectWallet K.cx pool s.wallet tu f0 f1 := by
  unfold collectFinish; split <;> rfl

theorem collectFinish_positions (K : Kern) (pool : Pool) (s : State) (lo up : Int) (p : Pos) (f0 f1 : Rat) (rd tu : Bool)
    (bb qb : Rat) : (collectFinish K pool s lo up p f0 f1 rd tu bb qb).positions =
      if isDry (collectPos K.cx p f0 f1) rd then erasePos (mapPos s.positions lo up (fun _ => collectPos K.cx p f0 f1)) lo up
      else mapPos s.positions lo up (fun _ => collectPos K.cx p f0 f1) := by
  unfold collectFinish; split <;> rfl

theorem collectFinish_frame (K : Kern) (pool : Pool) (s : State) (lo up : Int) (p : Pos) (f0 f1 : Rat) (rd tu : Bool)
    (bb qb : Rat) : (collectFinish K pool s lo up p f0 f1 rd tu bb qb).row = s.row ∧
      (collectFinish K pool s lo up p f0 f1 rd tu bb qb).allowNeg = s.allowNeg := by
  unfold collectFinish; split <;> exact ⟨rfl, rfl⟩

theorem capAt_bounds {m : Option Rat} {pending : Rat} (hm : negGiven m = false) (hp : 0 ≤ pending) :
    0 ≤ capAt m pending ∧ capAt m pending ≤ pending := by
  unfold capAt
  cases m with
  | none => exact ⟨hp, Rat.le_refl⟩
  | some x =>
    have hx : 0 ≤ x := by
      simp only [negGiven, Bool.and_eq_false_iff, bne_eq_false_iff_eq, decide_eq_false_iff_not, Rat.not_lt] at hm
      rcases hm with h | h
      · rw [h]; exact Rat.le_refl
      · exact h
    simp only []
    split
    · rename_i h; exact ⟨hx, Rat.le_of_lt h⟩
    · exact ⟨hp, Rat.le_refl⟩

theorem removeDelta_bounds {l : Option Int} {p : Pos} (hl : negLiq l = false) (hp : 0 ≤ p.liq) :
    0 ≤ (removeDelta l p).1 ∧ (removeDelta l p).1 ≤ p.liq := by
  unfold removeDelta
  cases l with
  | none => exact ⟨hp, Int.le_refl _⟩
  | some x =>
    have hx : 0 ≤ x := by simpa [negLiq] using hl
    simp only []
    split
    · rename_i h; exact ⟨hx, Int.le_of_lt h⟩
    · exact ⟨hp, Int.le_refl _⟩

theorem collect_cases (K : Kern) (pool : Pool) (s : State) (lo up : Int) (m0 m1 : Option Rat) (rd tu : Bool) :
    (∃ e, collect K pool s lo up m0 m1 rd tu = (.error e, s)) ∨
    ∃ p, findPos s.positions lo up = some p ∧ p.transferred = false ∧ s.isOpen = true ∧ negGiven m0 = false ∧
      negGiven m1 = false ∧
      ((∃ e, (balanceOf (collectWallet K.cx pool s.wallet tu (capAt m0 p.pending0) (capAt m1 p.pending1)) pool.baseTok = .error e ∨
              balanceOf (collectWallet K.cx pool s.wallet tu (capAt m0 p.pending0) (capAt m1 p.pending1)) pool.quoteTok = .error e) ∧
          collect K pool s lo up m0 m1 rd tu =
            (.error e, collectCore K pool s lo up p (capAt m0 p.pending0) (capAt m1 p.pending1) tu)) ∨
       ∃ bb qb, collect K pool s lo up m0 m1 rd tu =
         (.ok [(pool.conv (capAt m0 p.pending0) (capAt m1 p.pending1)).1, (pool.conv (capAt m0 p.pending0) (capAt m1 p.pending1)).2],
          collectFinish K pool s lo up p (capAt m0 p.pending0) (capAt m1 p.pending1) rd tu bb qb)) := by
  generalize hr : collect K pool s lo up m0 m1 rd tu = r
  unfold collect at hr
  by_cases c1 : (negGiven m0 || negGiven m1) = true
  · rw [if_pos c1] at hr; exact .inl ⟨_, hr.symm⟩
  rw [if_neg c1] at hr
  simp only [Bool.or_eq_true, not_or, Bool.not_eq_true] at c1
  split at hr
  · exact .inl ⟨_, hr.symm⟩
  rename_i p hf
  by_cases c2 : p.transferred = true
  · rw [if_pos c2] at hr; exact .inl ⟨_, hr.symm⟩
  rw [if_neg c2] at hr
  by_cases c3 : (!s.isOpen) = true
  · rw [if_pos c3] at hr; exact .inl ⟨_, hr.symm⟩
  rw [if_neg c3] at hr
  refine .inr ⟨p, hf, by simpa using c2, by simpa using c3, c1.1, c1.2, ?_⟩
  split at hr
  · exact .inr ⟨_, _, hr.symm⟩
  · rename_i h; exact .inl ⟨_, .inl h, hr.symm⟩
  · rename_i h _; exact .inl ⟨_, .inr h, hr.symm⟩

theorem removeNoCollect_cases (K : Kern) (pool : Pool) (s : State) (lo up : Int) (l : Option Int) (sq : Option Nat) :
    (∃ e, removeNoCollect K pool s lo up l sq = (.error e, s)) ∨
    ∃ p sqrt g0 g1, findPos s.positions lo up = some p ∧ p.transferred = false ∧ s.isOpen = true ∧ negLiq l = false ∧
      resolveSqrt K pool s sq = .ok sqrt ∧
      K.amounts pool sqrt lo up (removeDelta l p).1 (removeDelta l p).2 = .ok (g0, g1) ∧
      ((∃ e, (balanceOf s.wallet pool.baseTok = .error e ∨ balanceOf s.wallet pool.quoteTok = .error e) ∧
          removeNoCollect K pool s lo up l sq =
            (.error e, removeCore K s lo up p (removeDelta l p).1 (removeDelta l p).2 g0 g1)) ∨
       ∃ bb qb, removeNoCollect K pool s lo up l sq =
         (.ok [(pool.conv g0 g1).1, (pool.conv g0 g1).2],
          record (removeCore K s lo up p (removeDelta l p).1 (removeDelta l p).2 g0 g1)
            (removeAct pool (removePos K.cx p (removeDelta l p).1 (removeDelta l p).2 g0 g1) (removeDelta l p).1 g0 g1 bb qb))) := by
  generalize hr : removeNoCollect K pool s lo up l sq = r
  unfold removeNoCollect at hr
  by_cases c1 : negLiq l = true
  · rw [if_pos c1] at hr; exact .inl ⟨_, hr.symm⟩
  rw [if_neg c1] at hr
  by_cases c2 : isTransferred s.positions lo up = true
  · rw [if_pos c2] at hr; exact .inl ⟨_, hr.symm⟩
  rw [if_neg c2] at hr
  by_cases c3 : (!s.isOpen) = true
  · rw [if_pos c3] at hr; exact .inl ⟨_, hr.symm⟩
  rw [if_neg c3] at hr
  split at hr
  · exact .inl ⟨_, hr.symm⟩
  rename_i sqrt hsq
  split at hr
  · exact .inl ⟨_, hr.symm⟩
  rename_i p hf
  split at hr
  · exact .inl ⟨_, hr.symm⟩
  rename_i g0 g1 hamt
  refine .inr ⟨p, sqrt, g0, g1, hf, by simpa [isTransferred, hf] using c2, by simpa using c3, by simpa using c1, hsq, hamt, ?_⟩
  split at hr
  · exact .inr ⟨_, _, hr.symm⟩
  · rename_i h; exact .inl ⟨_, .inl h, hr.symm⟩
  · rename_i h _; exact .inl ⟨_, .inr h, hr.symm⟩

/-- `remove_liquidity` is `__remove_liquidity` + its record, then (if asked) `collect_fee` on what that left -/
theorem remove_state (K : Kern) (pool : Pool) (s : State) (lo up : Int) (l : Option Int) (c : Bool) (sq : Option Nat)
    (rd : Bool) :
    (remove K pool s lo up l c sq rd).2 = (removeNoCollect K pool s lo up l sq).2 ∨
    (remove K pool s lo up l c sq rd).2 = (collect K pool (removeNoCollect K pool s lo up l sq).2 lo up none none rd true).2 := by
  unfold remove
  split
  · rename_i heq; rw [heq]; exact Or.inl rfl
  · rename_i heq; rw [heq]
    split
    · exact Or.inr rfl
    · exact Or.inl rfl

theorem remove_noCollect (K : Kern) (pool : Pool) (s : State) (lo up : Int) (l : Option Int) (sq : Option Nat) (rd : Bool) :
    remove K pool s lo up l false sq rd = removeNoCollect K pool s lo up l sq := by
  unfold remove
  split
  · rename_i heq; exact heq.symm
  · rename_i heq; exact heq.symm

structure AddRawOK (K : Kern) (pool : Pool) (s : State) (a0 a1 : Rat) (lo up : Int) (sq : Option Nat)
    (sqrt : Nat) (u0 u1 : Rat) (liq : Int) (ent : Option Pos) (w2 : Wallet) : Prop where
  isOpen : s.isOpen = true
  le : lo ≤ up
  resolved : resolveSqrt K pool s sq = .ok sqrt
  nonneg0 : 0 ≤ a0
  nonneg1 : 0 ≤ a1
  newPos : K.newPos pool sqrt lo up a0 a1 = .ok (u0, u1, liq)
  entity : newEntity K pool s lo up liq sqrt = .ok ent
  debit : debit2 K.cx s.wallet pool.tok0 u0 pool.tok1 u1 s.allowNeg = .ok w2
  result : addRaw K pool s a0 a1 lo up sq = (.ok (lo, up, u0, u1, liq),
    markUpdate { s with wallet := w2, positions := addToPositions s.positions lo up liq ent })

theorem addRaw_cases (K : Kern) (pool : Pool) (s : State) (a0 a1 : Rat) (lo up : Int) (sq : Option Nat) :
    (∃ e, addRaw K pool s a0 a1 lo up sq = (.error e, s)) ∨
    ∃ sqrt u0 u1 liq ent w2, AddRawOK K pool s a0 a1 lo up sq sqrt u0 u1 liq ent w2 := by
  generalize hr : addRaw K pool s a0 a1 lo up sq = r
  have hr0 := hr
  unfold addRaw at hr
  by_cases c1 : (!s.isOpen) = true
  · rw [if_pos c1] at hr; exact .inl ⟨_, hr.symm⟩
  rw [if_neg c1] at hr
  by_cases c2 : (!(pyMod lo pool.spacing == 0 && pyMod up pool.spacing == 0)) = true
  · rw [if_pos c2] at hr; exact .inl ⟨_, hr.symm⟩
  rw [if_neg c2] at hr
  split at hr
  · exact .inl ⟨_, hr.symm⟩
  rename_i sqrt hsq
  by_cases c3 : lo > up
  · rw [if_pos c3] at hr; exact .inl ⟨_, hr.symm⟩
  rw [if_neg c3] at hr
  by_cases c4 : (decide (a0 < 0) || decide (a1 < 0)) = true
  · rw [if_pos c4] at hr; exact .inl ⟨_, hr.symm⟩
  rw [if_neg c4] at hr
  simp only [Bool.or_eq_true, decide_eq_true_eq, not_or, Rat.not_lt] at c4
  split at hr
  · exact .inl ⟨_, hr.symm⟩
  rename_i u0 u1 liq hnew
  split at hr
  · exact .inl ⟨_, hr.symm⟩
  rename_i ent hent
  split at hr
  · exact .inl ⟨_, hr.symm⟩
  rename_i w2 hd
  exact .inr ⟨sqrt, u0, u1, liq, ent, w2, by simpa using c1, Int.not_lt.mp c3, hsq, c4.1, c4.2, hnew, hent, hd, hr0.trans hr.symm⟩

theorem newEntity_cases {K : Kern} {pool : Pool} {s : State} {lo up liq : Int} {sqrt : Nat} {ent : Option Pos}
    (h : newEntity K pool s lo up liq sqrt = .ok ent) :
    (∃ p0, findPos s.positions lo up = some p0 ∧ ent = none) ∨
    (findPos s.positions lo up = none ∧ ∃ lp up' ip, ent = some (mkPos lo up liq lp up' ip)) := by
  unfold newEntity at h
  split at h
  · rename_i p0 hf; injection h with h; exact Or.inl ⟨p0, hf, h.symm⟩
  · rename_i hf
    split at h
    · injection h with h
      refine Or.inr ⟨hf, ?_⟩
      split at h <;> exact ⟨_, _, _, h.symm⟩
    · cases h
    · cases h
    · cases h

theorem swapPrice_market {K : Kern} {pool : Pool} {s : State} {f : String} {price : Rat}
    (h : swapPrice K pool s f none = .ok price) :
    ∃ row, s.row = some row ∧
      ((f = pool.baseTok ∧ price = row.price) ∨ (f ≠ pool.baseTok ∧ row.price ≠ 0 ∧ price = K.cx.div 1 row.price)) := by
  unfold swapPrice priceOf at h
  cases hrow : s.row with
  | none => rw [hrow] at h; cases h
  | some row =>
    rw [hrow] at h
    refine ⟨row, rfl, ?_⟩
    simp only [] at h
    by_cases hb : f = pool.baseTok
    · rw [if_pos (by simpa using hb)] at h
      injection h with h
      exact .inl ⟨hb, h.symm⟩
    · rw [if_neg (by simpa using hb)] at h
      by_cases h0 : row.price = 0
      · rw [if_pos h0] at h; cases h
      · rw [if_neg h0] at h
        injection h with h
        exact .inr ⟨hb, h0, h.symm⟩

theorem swap_cases (K : Kern) (pool : Pool) (s : State) (a : Rat) (f t : String) (p : Option Rat) (log : Bool) :
    (∃ e, swap K pool s a f t p log = (.error e, s)) ∨
    ∃ price w1, f ≠ t ∧ (f = pool.quoteTok ∨ f = pool.baseTok) ∧ (t = pool.quoteTok ∨ t = pool.baseTok) ∧ 0 ≤ a ∧
      swapPrice K pool s f (givenPrice p) = .ok price ∧ debit K.cx s.wallet f a s.allowNeg = .ok w1 ∧
      swap K pool s a f t p log =
        (.ok (K.cx.mul a pool.feeRate, K.cx.mul (K.cx.sub a (K.cx.mul a pool.feeRate)) price),
         if log then
           record { s with wallet := Wallet.credit K.cx w1 t (K.cx.mul (K.cx.sub a (K.cx.mul a pool.feeRate)) price) }
             { kind := "SwapAction",
               nums := [a, price, K.cx.mul a pool.feeRate, K.cx.mul (K.cx.sub a (K.cx.mul a pool.feeRate)) price] }
         else { s with wallet := Wallet.credit K.cx w1 t (K.cx.mul (K.cx.sub a (K.cx.mul a pool.feeRate)) price) }) := by
  generalize hr : swap K pool s a f t p log = r
  unfold swap at hr
  by_cases c1 : (f == t) = true
  · rw [if_pos c1] at hr; exact .inl ⟨_, hr.symm⟩
  rw [if_neg c1] at hr
  by_cases c2 : (!(f == pool.quoteTok || f == pool.baseTok) || !(t == pool.quoteTok || t == pool.baseTok)) = true
  · rw [if_pos c2] at hr; exact .inl ⟨_, hr.symm⟩
  rw [if_neg c2] at hr
  simp only [Bool.or_eq_true, beq_iff_eq, Bool.not_eq_true', not_or, Bool.not_eq_false] at c2
  by_cases c3 : a < 0
  · rw [if_pos c3] at hr; exact .inl ⟨_, hr.symm⟩
  rw [if_neg c3] at hr
  split at hr
  · exact .inl ⟨_, hr.symm⟩
  rename_i price hp
  split at hr
  · exact .inl ⟨_, hr.symm⟩
  rename_i w1 hd
  exact .inr ⟨price, w1, by simpa using c1, c2.1, c2.2, Rat.not_lt.mp c3, hp, hd, hr.symm⟩

theorem transferOut_cases (s : State) (lo up : Int) :
    transferOut s lo up = (.error .demeter, s) ∨
    transferOut s lo up =
      (.ok [], { s with positions := mapPos s.positions lo up (fun p => { p with transferred := true }) }) := by
  unfold transferOut
  split
  · split
    · exact Or.inr rfl
    · exact Or.inl rfl
  · exact Or.inl rfl

theorem transferIn_cases (s : State) (lo up : Int) :
    transferIn s lo up = (.error .demeter, s) ∨
    transferIn s lo up =
      (.ok [], { s with positions := mapPos s.positions lo up (fun p => { p with transferred := false }) }) := by
  unfold transferIn
  split
  · split
    · exact Or.inr rfl
    · exact Or.inl rfl
  · exact Or.inl rfl

theorem removeNoCollect_ok {K : Kern} {pool : Pool} {s : State} {lo up : Int} {l : Option Int} {sq : Option Nat} {p : Pos}
    {sqrt : Nat} {g0 g1 bb qb : Rat} (hl : negLiq l = false) (hf : findPos s.positions lo up = some p)
    (htr : p.transferred = false) (hop : s.isOpen = true) (hsq : resolveSqrt K pool s sq = .ok sqrt)
    (hamt : K.amounts pool sqrt lo up (removeDelta l p).1 (removeDelta l p).2 = .ok (g0, g1))
    (hb : balanceOf s.wallet pool.baseTok = .ok bb) (hq : balanceOf s.wallet pool.quoteTok = .ok qb) :
    removeNoCollect K pool s lo up l sq =
      (.ok [(pool.conv g0 g1).1, (pool.conv g0 g1).2],
        record (removeCore K s lo up p (removeDelta l p).1 (removeDelta l p).2 g0 g1)
          (removeAct pool (removePos K.cx p (removeDelta l p).1 (removeDelta l p).2 g0 g1) (removeDelta l p).1 g0 g1 bb qb)) := by
  unfold removeNoCollect isTransferred
  simp only [hl, hf, htr, hop, hsq, hamt, hb, hq, Bool.false_eq_true, if_false, Bool.not_true]

theorem collect_ok {K : Kern} {pool : Pool} {s : State} {lo up : Int} {m0 m1 : Option Rat} {rd tu : Bool} {p : Pos}
    {bb qb : Rat} (h0 : negGiven m0 = false) (h1 : negGiven m1 = false) (hf : findPos s.positions lo up = some p)
    (htr : p.transferred = false) (hop : s.isOpen = true)
    (hb : balanceOf (collectWallet K.cx pool s.wallet tu (capAt m0 p.pending0) (capAt m1 p.pending1)) pool.baseTok = .ok bb)
    (hq : balanceOf (collectWallet K.cx pool s.wallet tu (capAt m0 p.pending0) (capAt m1 p.pending1)) pool.quoteTok = .ok qb) :
    collect K pool s lo up m0 m1 rd tu =
      (.ok [(pool.conv (capAt m0 p.pending0) (capAt m1 p.pending1)).1, (pool.conv (capAt m0 p.pending0) (capAt m1 p.pending1)).2],
        collectFinish K pool s lo up p (capAt m0 p.pending0) (capAt m1 p.pending1) rd tu bb qb) := by
  unfold collect
  simp only [h0, h1, hf, htr, hop, hb, hq, Bool.or_self, Bool.false_eq_true, if_false, Bool.not_true]

theorem addRaw_accepted {K : Kern} {pool : Pool} {s s' : State} {a0 a1 : Rat} {lo up lo' up' : Int} {sq : Option Nat}
    {u0 u1 : Rat} {liq : Int} (h : addRaw K pool s a0 a1 lo up sq = (.ok (lo', up', u0, u1, liq), s')) :
    ∃ sqrt ent w2, AddRawOK K pool s a0 a1 lo up sq sqrt u0 u1 liq ent w2 ∧
      s' = markUpdate { s with wallet := w2, positions := addToPositions s.positions lo up liq ent } := by
  rcases addRaw_cases K pool s a0 a1 lo up sq with ⟨_, h'⟩ | ⟨sqrt, _, _, _, ent, w2, ok⟩
  · rw [h'] at h; cases h
  · rw [ok.result] at h; cases h
    exact ⟨sqrt, ent, w2, ok, rfl⟩

/-- a call that raises returns the state it was given -/
def Atomic {α : Type} (r : Except Err α × State) (s : State) : Prop := r.2 = s ∨ ∃ v, r.1 = .ok v

theorem Atomic.noop {α : Type} {r : Except Err α × State} {s : State} (h : Atomic r s) {e : Err}
    (he : r.1 = .error e) : r.2 = s := by
  rcases h with h | ⟨v, hv⟩
  · exact h
  · rw [hv] at he; cases he

theorem Atomic.of_error {α : Type} {r : Except Err α × State} {s s' : State} {e : Err} (h : Atomic r s)
    (heq : r = (.error e, s')) : s' = s := by
  subst heq; exact h.noop rfl

variable (K : Kern) (pool : Pool)

theorem addRaw_atomic (s : State) (a0 a1 : Rat) (lo up : Int) (sq : Option Nat) :
    Atomic (addRaw K pool s a0 a1 lo up sq) s := by
  rcases addRaw_cases K pool s a0 a1 lo up sq with ⟨_, h⟩ | ⟨_, _, _, _, _, _, A⟩
  · rw [h]; exact Or.inl rfl
  · rw [A.result]; exact Or.inr ⟨_, rfl⟩

theorem swap_atomic (s : State) (a : Rat) (f t : String) (p : Option Rat) (log : Bool) :
    Atomic (swap K pool s a f t p log) s := by
  rcases swap_cases K pool s a f t p log with ⟨_, h⟩ | ⟨_, _, _, _, _, _, _, _, h⟩ <;> rw [h]
  · exact Or.inl rfl
  · exact Or.inr ⟨_, rfl⟩

/-- on `_add_liquidity_by_tick` and `swap`, `step` only renames the returned value -/
theorem step_addRaw_snd (me : Rat) (s : State) (a0 a1 : Rat) (lo up : Int) (sq : Option Nat) :
    (step K pool me s (.addRaw a0 a1 lo up sq)).2 = (addRaw K pool s a0 a1 lo up sq).2 := by
  simp only [step]
  split <;> (rename_i heq; rw [heq])

theorem step_swap_snd (me : Rat) (s : State) (a : Rat) (f t : String) (p : Option Rat) (log : Bool) :
    (step K pool me s (.swap a f t p log)).2 = (swap K pool s a f t p log).2 := by
  simp only [step]
  split <;> (rename_i heq; rw [heq])

end Demeter.Uni
