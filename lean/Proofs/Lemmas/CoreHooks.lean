/-
  The general model (`runG`, Demeter/Actuator/Hooks.lean) is built from hook bodies and a few primitive stretches by `Res.andThen`.  Here:
  one induction over that structure for a relation between the results of two scripts (`HooksRel` relates their hook bodies, `Prim` lists
  the stretches that are not a hook's body), with a property of one script as the diagonal case; and the shape of a whole run (`loopFrom`,
  `finishG`, `runFrom`).
-/
import Proofs.Lemmas.CoreEqns
namespace Demeter.Core

/-- where in a bar a stretch lies: up to and including `after_bar`; the deliveries; the two writes around them (account row, emptying the
    pending list) -/
inductive Part | head | deliver | close

inductive Prim (cfg : Cfg) (ts : Int) : Part → St → Res → Prop
  | stop (tl : Part) (st : St) (e : Option PyErr) : Prim cfg ts tl st ([], st, e)
  | refresh (st : St) (row : Nat) (price : Option Int) :
    Prim cfg ts .head st (Res.ok ((setAllFrom cfg ts 1 0 cfg.markets).1 ++ [.before ts row price]) { st with ms := (setAllFrom cfg ts 1 0 cfg.markets).2 })
  | tick (st : St) (i : Nat) (t : Trig) (h : st.trigs[i]? = some t) :
    Prim cfg ts .head st (Res.ok [] { st with trigs := st.trigs.set i { t with k := (whenT ts t.k).2 } })
  | fire (st : St) (i : Nat) (t : Trig) (h : st.trigs[i]? = some t) :
    Prim cfg ts .head st (Res.ok [.fire ts t.id t.kw] { st with trigs := st.trigs.set i { t with k := (whenT ts t.k).2 } })
  | retire (st : St) : Prim cfg ts .head st (retireG ts st)
  | openCb (st : St) (i : Nat) : Prim cfg ts .head st (Res.ok [.openCb ts i] st)
  | on (st : St) (row : Nat) (price : Option Int) : Prim cfg ts .head st (Res.ok [.on ts row price] st)
  | mid (st : St) (b : BarScript) (row : Nat) (price : Option Int) : Prim cfg ts .head st (midG cfg b row ts price st)
  | row (st : St) (price : Option Int) : Prim cfg ts .close st (Res.ok [.row ts price] { st with rows := st.rows ++ [(ts, price)] })
  | notify (st : St) (i : Nat) (a : Act) (h : st.cur[i]? = some a) : Prim cfg ts .deliver st (Res.ok [.notify ts a.tag a.stamp a.m] st)
  | clear (st : St) : Prim cfg ts .close st (Res.ok [] { st with cur := [] })

structure HooksRel (R : Rel) (ts : Int) (b' b : BarScript) : Prop where
  before : ∀ st, R st (runStmts ts .before b'.before st) (runStmts ts .before b.before st)
  fire : ∀ id st, R st (runStmts ts (.fire id) (b'.fire id) st) (runStmts ts (.fire id) (b.fire id) st)
  openCb : ∀ m st, R st (runStmts ts (.openCb m) (b'.openCb m) st) (runStmts ts (.openCb m) (b.openCb m) st)
  on : ∀ st, R st (runStmts ts .on b'.on st) (runStmts ts .on b.on st)
  after : ∀ st, R st (runStmts ts .after b'.after st) (runStmts ts .after b.after st)
  notify : ∀ tag st, R st (runStmts ts .notify (b'.notify tag) st) (runStmts ts .notify (b.notify tag) st)
  upd : b'.upd = b.upd

theorem HooksRel.diag {P : St → Res → Prop} {ts : Int} (b : BarScript) (h : ∀ hk body st, P st (runStmts ts hk body st)) :
    HooksRel (Rel.diag P) ts b b :=
  ⟨fun _ => h .., fun _ _ => h .., fun _ _ => h .., fun _ => h .., fun _ => h .., fun _ _ => h .., rfl⟩

theorem runStmts_walk {P : St → Res → Prop} (hS : (Rel.diag P).Seq) (ts : Int) (h : Hook) (hnil : ∀ st, P st ([], st, none)) :
    ∀ (body : List HStmt), (∀ s ∈ body, ∀ st, P st (doStmt ts h s st)) → ∀ st, P st (runStmts ts h body st)
  | [], _, st => hnil st
  | s :: ss, hb, st =>
    hS.of_diag (hb s (List.mem_cons_self ..) st) (runStmts_walk hS ts h hnil ss (fun x hx => hb x (List.mem_cons_of_mem _ hx)))

theorem runUpdFromG_congr {b' b : BarScript} (h : b'.upd = b.upd) (ts : Int) : ∀ (i : Nat) (ms : List MarketCfg) (st : St),
    runUpdFromG b' ts i ms st = runUpdFromG b ts i ms st
  | _, [], _ => rfl
  | i, _ :: rest, st => by
    simp only [runUpdFromG, h, runUpdFromG_congr h ts (i + 1) rest]

section
variable {R : Rel} {cfg : Cfg} {ts : Int} {b' b : BarScript} (hS : R.Seq) (hb : HooksRel R ts b' b)
include hS hb

theorem fireLoopG_rel (hP : ∀ st r, Prim cfg ts .head st r → R st r r) : ∀ (fuel i : Nat) (st : St),
    R st (fireLoopG b' ts fuel i st) (fireLoopG b ts fuel i st)
  | 0, _, st => hP _ _ (.stop .head st _)
  | fuel + 1, i, st => by
    unfold fireLoopG
    split
    · exact hP _ _ (.stop .head st none)
    · rename_i t ht
      split
      · exact hP _ _ (.stop .head st _)
      · simp only []
        split
        · exact hS (hS (hP _ _ (.fire st i t ht)) (hb.fire t.id)) (fireLoopG_rel hP fuel (i + 1))
        · -- no call: the trigger's state is written back, the loop goes on
          exact hS (hP _ _ (.tick st i t ht)) (fireLoopG_rel hP fuel (i + 1))

theorem runOpenFromG_rel (hP : ∀ st r, Prim cfg ts .head st r → R st r r) : ∀ (i : Nat) (ms : List MarketCfg) (st : St),
    R st (runOpenFromG b' ts i ms st) (runOpenFromG b ts i ms st)
  | _, [], st => hP _ _ (.stop .head st none)
  | i, mc :: rest, st => by
    unfold runOpenFromG
    split
    · exact hS (hS (hP _ _ (.openCb st i)) (hb.openCb i)) (runOpenFromG_rel hP (i + 1) rest)
    · exact runOpenFromG_rel hP (i + 1) rest st

/-- the deliveries read no `cfg`: their two stretches are hypotheses of their own, not a `Prim cfg` -/
theorem runNotifyG_rel (hstop : ∀ st e, R st ([], st, e) ([], st, e))
    (hnot : ∀ (st : St) (i : Nat) (a : Act), st.cur[i]? = some a → R st (Res.ok [.notify ts a.tag a.stamp a.m] st) (Res.ok [.notify ts a.tag a.stamp a.m] st)) :
    ∀ (fuel i : Nat) (st : St), R st (runNotifyG b' ts fuel i st) (runNotifyG b ts fuel i st)
  | 0, _, st => hstop st _
  | fuel + 1, i, st => by
    unfold runNotifyG
    split
    · exact hstop st none
    · rename_i a ha
      exact hS (hS (hnot st i a ha) (hb.notify a.tag)) (runNotifyG_rel hstop hnot fuel (i + 1))

theorem barHeadG_rel (hP : ∀ st r, Prim cfg ts .head st r → R st r r) (tfuel row : Nat) (price : Option Int) (st : St) :
    R st (barHeadG cfg b' tfuel row ts price st) (barHeadG cfg b tfuel row ts price st) := by
  unfold barHeadG
  have hmid : midG cfg b' row ts price = midG cfg b row ts price := by
    funext st'; simp only [midG, runUpdFromG_congr hb.upd]
  rw [hmid]
  exact hS (hS (hS (hS (hS (hS (hS (hS (hP _ _ (.refresh st row price)) hb.before) (fun _ => fireLoopG_rel hS hb hP _ 0 _))
    (fun st' => hP _ _ (.retire st'))) (runOpenFromG_rel hS hb hP 0 cfg.markets)) (fun st' => hP _ _ (.on st' row price))) hb.on)
    (fun st' => hP _ _ (.mid st' b row price))) hb.after

theorem barTailG_rel (hP : ∀ tl st r, Prim cfg ts tl st r → R st r r) (fuel : Nat) (price : Option Int) (st : St) :
    R st (barTailG b' fuel ts price st) (barTailG b fuel ts price st) := by
  unfold barTailG
  exact hS (hS (hP _ _ _ (.row st price)) (fun _ => runNotifyG_rel hS hb (fun st e => hP _ _ _ (.stop .deliver st e)) (fun st i a h => hP _ _ _ (.notify st i a h)) _ 0 _)) (fun st' => hP _ _ _ (.clear st'))

theorem barStepG_rel (hP : ∀ tl st r, Prim cfg ts tl st r → R st r r) (fuel tfuel row : Nat) (st : St) :
    R st (barStepG cfg b' fuel tfuel row ts st) (barStepG cfg b fuel tfuel row ts st) := by
  unfold barStepG
  split
  · exact hP _ _ _ (.stop .head st _)
  · exact hS (barHeadG_rel hS hb (hP .head) tfuel row _ st) (barTailG_rel hS hb hP fuel _)

end

section
variable {R : Rel} {cfg : Cfg} {g' g : GScript} (hS : R.Seq)
include hS

theorem runBarsG_rel (hnil : ∀ st, R st ([], st, none) ([], st, none))
    (hbar : ∀ row ts st, R st (barStepG cfg (g'.bar row) g'.fuel g'.tfuel row ts st) (barStepG cfg (g.bar row) g.fuel g.tfuel row ts st))
    (bars : List Int) (row : Nat) (st : St) : R st (runBarsG cfg g' row bars st) (runBarsG cfg g row bars st) := by
  rw [runBarsG_eq_barLoop, runBarsG_eq_barLoop]
  exact barLoop_rel hS hnil bars row st (fun ts _ row st => hbar row ts st)

end

theorem runBarsG_walk {P : St → Res → Prop} (hS : (Rel.diag P).Seq) {cfg : Cfg} {g : GScript} (hnil : ∀ st, P st ([], st, none))
    (hbar : ∀ row ts st, P st (barStepG cfg (g.bar row) g.fuel g.tfuel row ts st)) (bars : List Int) (row : Nat) (st : St) :
    P st (runBarsG cfg g row bars st) :=
  runBarsG_rel (g' := g) hS hnil hbar bars row st

theorem initG_walk {P : St → Res → Prop} (hS : (Rel.diag P).Seq) (cfg : Cfg) (trigs : List Trig) (g : GScript) (ts0 : Int) {st : St}
    (h0 : P st (Res.ok ((setAllFrom cfg ts0 0 0 cfg.markets).1 ++ [.initialize ts0]) ⟨(setAllFrom cfg ts0 0 0 cfg.markets).2, trigs, [], [], []⟩))
    (hb : ∀ st', P st' (runStmts ts0 .init g.init st')) : P st (initG cfg trigs g ts0) :=
  hS.of_diag h0 hb

/-- the bar loop behind `initialize()`, whose calls are `i`; the flag says whether the loop was entered -/
def loopFrom (cfg : Cfg) (g : GScript) (bars : List Int) (i : Res) : Res × Bool :=
  match i.2.2 with
  | some _ => (i, false)
  | none => (i.andThen (runBarsG cfg g 0 bars), true)

/-- what `run()` returns, from the calls made (`c.1`), whether the bar loop was entered (`c.2`) and the last bar -/
def finishG (c : Res × Bool) (last : Int) : RunResult :=
  match c.1.2.2 with
  | none => ⟨c.1.1 ++ [Ev.finalize last], c.1.2.1.rows, c.1.2.1.all, c.1.2.1.trigs, none⟩
  | some e =>
    ⟨c.1.1 ++ [.raised (if c.2 then loopExit c.1.2.1.rows e else e)], c.1.2.1.rows, c.1.2.1.all, c.1.2.1.trigs,
     some (if c.2 then loopExit c.1.2.1.rows e else e)⟩

/-- a run whose `initialize()` step (first refresh included) is `init` -/
def runFrom (cfg : Cfg) (trigs : List Trig) (g : GScript) (init : Int → Res) : RunResult :=
  match startOf cfg with
  | .error e => ⟨[.raised e], [], [], trigs, some e⟩
  | .ok (ts0, bars) => finishG (loopFrom cfg g (ts0 :: bars) (init ts0)) ((ts0 :: bars).getLast?.getD ts0)

theorem runG_eq (cfg : Cfg) (trigs : List Trig) (g : GScript) : runG cfg trigs g = runFrom cfg trigs g (initG cfg trigs g) := by
  unfold runG runFrom startOf
  cases checkBacktest cfg with
  | some e => rfl
  | none =>
    cases barIndex cfg with
    | nil => rfl
    | cons ts0 bars =>
      dsimp only
      cases priceAt cfg ts0 <;> rfl

theorem runCore_eq (cfg : Cfg) (trigs : List Trig) (g : GScript) (ts0 : Int) (bars : List Int) :
    runCore cfg trigs g ts0 bars = loopFrom cfg g (ts0 :: bars) (initG cfg trigs g ts0) := rfl

theorem loopFrom_fst {cfg : Cfg} {g : GScript} {bars : List Int} {i : Res} : (loopFrom cfg g bars i).1 = i.andThen (runBarsG cfg g 0 bars) := by
  unfold loopFrom
  split
  · exact (andThen_err ‹_›).symm
  · rfl

theorem loopFrom_err {cfg : Cfg} {g : GScript} {bars : List Int} {i : Res} {e : PyErr} (h : i.2.2 = some e) :
    loopFrom cfg g bars i = (i, false) := by
  unfold loopFrom; simp only [h]

theorem loopFrom_ok {cfg : Cfg} {g : GScript} {bars : List Int} {i : Res} (h : i.2.2 = none) :
    loopFrom cfg g bars i = (i.andThen (runBarsG cfg g 0 bars), true) := by
  unfold loopFrom; simp only [h]

theorem finishG_trigsLeft (c : Res × Bool) (last : Int) : (finishG c last).trigsLeft = c.1.2.1.trigs := by
  unfold finishG; split <;> rfl

theorem finishG_rows (c : Res × Bool) (last : Int) : (finishG c last).rows = c.1.2.1.rows := by
  unfold finishG; split <;> rfl

theorem finishG_err_none {c : Res × Bool} {last : Int} : (finishG c last).err = none ↔ c.1.2.2 = none := by
  unfold finishG
  split <;> simp [*]

theorem loopFrom_walk {P : St → Res → Prop} (hS : (Rel.diag P).Seq) {cfg : Cfg} {g : GScript} (hnil : ∀ st, P st ([], st, none))
    (hbar : ∀ row ts st, P st (barStepG cfg (g.bar row) g.fuel g.tfuel row ts st)) (bars : List Int) {st : St} {i : Res} (hi : P st i) :
    P st (loopFrom cfg g bars i).1 := by
  rw [loopFrom_fst]
  exact hS.of_diag hi (runBarsG_walk hS hnil hbar bars 0)

theorem barStepG_shape (cfg : Cfg) (b : BarScript) (fuel tfuel row : Nat) (ts : Int) (st : St) :
    (barStepG cfg b fuel tfuel row ts st).1 = [] ∨
    ∃ price rest, (barStepG cfg b fuel tfuel row ts st).1 = (setAllFrom cfg ts 1 0 cfg.markets).1 ++ Ev.before ts row price :: rest := by
  unfold barStepG
  split
  · exact Or.inl rfl
  · rename_i price _
    refine Or.inr ⟨price, ?_⟩
    unfold barHeadG
    simp only [andThen_assoc]
    rw [andThen_okRes]
    apply Exists.intro
    rw [List.append_assoc]
    rfl

end Demeter.Core
