/-
  `Actuator.run` in the order the code has (`runG2`, Demeter/Actuator/Rerun.lean: `initialize()` first, then `reset()` of whatever is installed):
  a run depends on the trigger objects only up to `reset` — `ResR` relates two results that differ in the state of the trigger objects only, it is
  kept by hook bodies that install the same objects and carries over to whole runs; `runG2` is `runFrom` at `initG2` and keeps the identity
  of the strategy's own objects.
-/
import Demeter.Actuator.Rerun
import Proofs.Lemmas.CoreHooksTrigs
namespace Demeter.Core

theorem resetTrigs_eq_iff (a b : St) : resetTrigs a = resetTrigs b ↔
    a.ms = b.ms ∧ a.cur = b.cur ∧ a.all = b.all ∧ a.rows = b.rows ∧ a.trigs.map Trig.reset = b.trigs.map Trig.reset := by
  cases a; cases b
  simp only [resetTrigs, St.mk.injEq]
  constructor
  · rintro ⟨h1, h2, h3, h4, h5⟩; exact ⟨h1, h3, h4, h5, h2⟩
  · rintro ⟨h1, h2, h3, h4, h5⟩; exact ⟨h1, h5, h2, h3, h4⟩

theorem doOp_resetTrigs (ts : Int) (h : Hook) (o : OpSpec) (st : St) :
    doOp ts h o (resetTrigs st) = ((doOp ts h o st).1, resetTrigs (doOp ts h o st).2) :=
  doOp_map (fun l => l.map Trig.reset) id ts h o st

theorem eraseId_map_reset (id : Nat) : ∀ l : List Trig, (eraseId id l).map Trig.reset = eraseId id (l.map Trig.reset)
  | [] => rfl
  | t :: l => by
    have ht : t.reset.id = t.id := rfl
    simp only [eraseId, List.map_cons, ht]
    split
    · rfl
    · simp only [List.map_cons, eraseId_map_reset id l]

def ResR (r' r : Res) : Prop := r'.1 = r.1 ∧ resetTrigs r'.2.1 = resetTrigs r.2.1 ∧ r'.2.2 = r.2.2

theorem doStmt_same (ts : Int) (h : Hook) (s' s : HStmt) (hs : SameStmt s' s) (st' st : St) (hst : resetTrigs st' = resetTrigs st) :
    ResR (doStmt ts h s' st') (doStmt ts h s st) := by
  cases s' <;> cases s <;> simp only [SameStmt] at hs
  case op.op o' o =>
    subst hs
    have e1 := doOp_resetTrigs ts h o' st'
    have e2 := doOp_resetTrigs ts h o' st
    rw [hst] at e1
    rw [e1] at e2
    refine ⟨?_, ?_, rfl⟩
    · exact (Prod.mk.inj e2).1
    · exact (Prod.mk.inj e2).2
  case tadd.tadd t' t =>
    refine ⟨rfl, ?_, rfl⟩
    rw [resetTrigs_eq_iff] at hst ⊢
    obtain ⟨h1, h2, h3, h4, h5⟩ := hst
    refine ⟨h1, h2, h3, h4, ?_⟩
    show (st'.trigs ++ [t']).map Trig.reset = (st.trigs ++ [t]).map Trig.reset
    rw [List.map_append, List.map_append, h5]
    simp only [List.map_cons, List.map_nil, hs]
  case tdel.tdel i' i =>
    subst hs
    refine ⟨rfl, ?_, rfl⟩
    rw [resetTrigs_eq_iff] at hst ⊢
    obtain ⟨h1, h2, h3, h4, h5⟩ := hst
    refine ⟨h1, h2, h3, h4, ?_⟩
    show (eraseId i' st'.trigs).map Trig.reset = (eraseId i' st.trigs).map Trig.reset
    rw [eraseId_map_reset, eraseId_map_reset, h5]
  case boom.boom e' e =>
    subst hs
    exact ⟨rfl, hst, rfl⟩

theorem ResR.andThen {r' r : Res} {k' k : St → Res} (h : ResR r' r)
    (hk : ∀ st' st, resetTrigs st' = resetTrigs st → ResR (k' st') (k st)) : ResR (r'.andThen k') (r.andThen k) := by
  obtain ⟨h1, h2, h3⟩ := h
  cases hr : r.2.2 with
  | some e =>
    have hr' : r'.2.2 = some e := h3.trans hr
    rw [andThen_err hr, andThen_err hr']
    exact ⟨h1, h2, h3⟩
  | none =>
    have hr' : r'.2.2 = none := h3.trans hr
    rw [andThen_ok hr, andThen_ok hr']
    obtain ⟨q1, q2, q3⟩ := hk _ _ h2
    exact ⟨by rw [h1, q1], q2, q3⟩

theorem runStmts_same (ts : Int) (h : Hook) : ∀ (b' b : List HStmt), SameBody b' b → ∀ st' st, resetTrigs st' = resetTrigs st →
    ResR (runStmts ts h b' st') (runStmts ts h b st)
  | [], [], _, st', st, hst => ⟨rfl, hst, rfl⟩
  | [], _ :: _, hb, _, _, _ => by simp [SameBody] at hb
  | _ :: _, [], hb, _, _, _ => by simp [SameBody] at hb
  | s' :: b', s :: b, hb, st', st, hst => by
    simp only [SameBody] at hb
    simp only [runStmts]
    exact ResR.andThen (doStmt_same ts h s' s hb.1 st' st hst) (runStmts_same ts h b' b hb.2)

theorem initG_same (cfg : Cfg) (T' T : List Trig) (g' g : GScript) (ts0 : Int) (hT : T'.map Trig.reset = T.map Trig.reset)
    (hg : SameBody g'.init g.init) : ResR (initG cfg T' g' ts0) (initG cfg T g ts0) := by
  unfold initG
  apply ResR.andThen
  · refine ⟨rfl, ?_, rfl⟩
    rw [resetTrigs_eq_iff]
    exact ⟨rfl, rfl, rfl, rfl, hT⟩
  · exact runStmts_same ts0 .init _ _ hg

theorem runBarsG_congr (cfg : Cfg) (g' g : GScript) (hb : g'.bar = g.bar) (hf : g'.fuel = g.fuel) (ht : g'.tfuel = g.tfuel) :
    ∀ (bars : List Int) (row : Nat), runBarsG cfg g' row bars = runBarsG cfg g row bars := fun bars row =>
  funext fun st => by rw [runBarsG_eq_barLoop, runBarsG_eq_barLoop, hb, hf, ht]

/-- `hok`: when `initialize()` returns, the reset has been done and the two states are the same outright -/
theorem runFrom_resR {cfg : Cfg} {T' T : List Trig} {g' g : GScript} {init' init : Int → Res} (hb : g'.bar = g.bar) (hf : g'.fuel = g.fuel)
    (ht : g'.tfuel = g.tfuel) (hT : T'.map Trig.reset = T.map Trig.reset) (hi : ∀ ts0, ResR (init' ts0) (init ts0))
    (hok : ∀ ts0, (init ts0).2.2 = none → init' ts0 = init ts0) :
    (runFrom cfg T' g' init').obs = (runFrom cfg T g init).obs ∧
    (runFrom cfg T' g' init').trigsLeft.map Trig.reset = (runFrom cfg T g init).trigsLeft.map Trig.reset := by
  unfold runFrom RunResult.obs
  cases startOf cfg with
  | error e => exact ⟨rfl, hT⟩
  | ok p =>
    obtain ⟨ts0, bars⟩ := p
    obtain ⟨e1, e3, e2⟩ := hi ts0
    unfold finishG loopFrom
    simp only [runBarsG_congr cfg g' g hb hf ht]
    cases hr : (init ts0).2.2 with
    | some e =>
      have hr' : (init' ts0).2.2 = some e := e2.trans hr
      obtain ⟨q1, q2, q3, q4, q5⟩ := (resetTrigs_eq_iff _ _).mp e3
      simp only [hr, hr', e1, q3, q4, Bool.false_eq_true, if_false]
      exact ⟨trivial, q5⟩
    | none =>
      rw [hok ts0 hr]
      constructor <;> simp only [hr]

theorem runG2_eq (cfg : Cfg) (trigs : List Trig) (g : GScript) : runG2 cfg trigs g = runFrom cfg trigs g (initG2 cfg trigs g) := by
  unfold runG2 runFrom startOf
  cases checkBacktest cfg with
  | some e => rfl
  | none =>
    cases barIndex cfg with
    | nil => rfl
    | cons ts0 bars =>
      dsimp only
      cases priceAt cfg ts0 <;> rfl

theorem initG2_err {cfg : Cfg} {T : List Trig} {g : GScript} {ts0 : Int} {e : PyErr} (h : (initG cfg T g ts0).2.2 = some e) :
    initG2 cfg T g ts0 = initG cfg T g ts0 := by
  unfold initG2
  simp only [run2_flags.2.2, Bool.false_eq_true, if_false, h]

theorem initG2_ok {cfg : Cfg} {T : List Trig} {g : GScript} {ts0 : Int} (h : (initG cfg T g ts0).2.2 = none) :
    initG2 cfg T g ts0 = ((initG cfg T g ts0).1, resetTrigs (initG cfg T g ts0).2.1, none) := by
  unfold initG2
  simp only [run2_flags.2.1, run2_flags.2.2, Bool.false_eq_true, if_false, if_true, h]

theorem initG2_same (cfg : Cfg) (T' T : List Trig) (g' g : GScript) (ts0 : Int) (hT : T'.map Trig.reset = T.map Trig.reset)
    (hg : SameBody g'.init g.init) :
    ResR (initG2 cfg T' g' ts0) (initG2 cfg T g ts0) ∧ ((initG2 cfg T g ts0).2.2 = none → initG2 cfg T' g' ts0 = initG2 cfg T g ts0) := by
  obtain ⟨h1, h2, h3⟩ := initG_same cfg T' T g' g ts0 hT hg
  cases hr : (initG cfg T g ts0).2.2 with
  | some e =>
    have hr' : (initG cfg T' g' ts0).2.2 = some e := h3.trans hr
    rw [initG2_err hr, initG2_err hr']
    exact ⟨⟨h1, h2, h3⟩, fun h => by rw [hr] at h; cases h⟩
  | none =>
    have hr' : (initG cfg T' g' ts0).2.2 = none := h3.trans hr
    rw [initG2_ok hr, initG2_ok hr']
    exact ⟨⟨h1, by show resetTrigs (resetTrigs _) = resetTrigs (resetTrigs _); rw [h2], rfl⟩, fun _ => by rw [h1, h2]⟩

theorem initG2_tinv (T : List Trig) (cfg : Cfg) (trigs : List Trig) (g : GScript) (ts0 : Int) (h0 : TInv T trigs)
    (hinit : ∀ t, .tadd t ∈ g.init → TInv T [t]) : TInv T (initG2 cfg trigs g ts0).2.1.trigs := by
  unfold initG2
  simp only [run2_flags.2.1, run2_flags.2.2, if_true, Bool.false_eq_true, if_false]
  split
  · exact initG_tinv T cfg trigs g ts0 h0 hinit
  · exact tinv_map_reset T _ (initG_tinv T cfg trigs g ts0 h0 hinit)

theorem runG2_tinv (T : List Trig) (cfg : Cfg) (trigs : List Trig) (g : GScript) (h0 : TInv T trigs)
    (hinit : ∀ t, .tadd t ∈ g.init → TInv T [t]) (hbar : ∀ row, (g.bar row).Fresh (T.map (·.id))) :
    TInv T (runG2 cfg trigs g).trigsLeft := by
  rw [runG2_eq]
  exact runFrom_tinv T cfg trigs g _ h0 (fun ts0 => initG2_tinv T cfg trigs g ts0 h0 hinit) hbar

theorem trigsAfterRun2_reset {cfg : Cfg} {trigs : List Trig} {g : GScript} (h : TInv trigs (runG2 cfg trigs g).trigsLeft) :
    (trigsAfterRun2 cfg trigs g).map Trig.reset = trigs.map Trig.reset := by
  unfold trigsAfterRun2 trigsAfterRun2Copy handBack2
  simp only [run2_flags.1, run2_flags.2.1, if_true, Bool.true_or]
  rw [handBack_reset_of_tinv _ _ (tinv_of_reset _ _ h), map_reset_map_reset]

end Demeter.Core
