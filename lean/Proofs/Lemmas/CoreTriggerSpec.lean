/-
  Triggers as the strategy constructs them: which parameter lists make a well-formed trigger; the refinement `Rep` between a specification and
  its object in the bar loop — one evaluation answers `denotes` and keeps it (`rep_step`), a retired object denotes nothing later (`rep_out`) —
  and with it what a single trigger fires; which trigger lists make the loop raise, and with which exception classes.
-/
import Proofs.Lemmas.CoreTrigger
namespace Demeter.Core

/-- the parameter lists the code cannot cope with (it raises on the first bar) are excluded -/
def SpecOK : TrigSpec → Prop
  | .atTimes ss => ss ≠ []
  | .ranges rs => rs ≠ []
  | .periods δs _ _ => δs ≠ []
  | _ => True

theorem badDelta_iff {δ : Int} : badDelta δ = false ↔ 0 < δ ∧ δ % 60 = 0 := by
  unfold badDelta
  simp only [Bool.or_eq_false_iff, bne_eq_false_iff_eq, Gen.coreTrigDeltaMod, Gen.coreTrigDeltaLow]
  constructor
  · rintro ⟨h1, h2⟩; exact ⟨by have := of_decide_eq_false h2; omega, h1⟩
  · rintro ⟨h1, h2⟩; exact ⟨h2, decide_eq_false (by omega)⟩

theorem make_period_iff {δ pend : Int} {imm : Bool} {k : TrigKind} :
    (TrigSpec.period δ imm pend).make = .ok k ↔ (0 < δ ∧ δ % 60 = 0) ∧ k = .period δ imm pend none := by
  rw [← badDelta_iff, TrigSpec.make]
  cases badDelta δ <;> simp [eq_comm]

theorem make_periods_iff {δs : List Int} {pend : Int} {imm : Bool} {k : TrigKind} :
    (TrigSpec.periods δs imm pend).make = .ok k ↔ (∀ δ ∈ δs, 0 < δ ∧ δ % 60 = 0) ∧ k = .periods δs imm pend none := by
  have : (∀ δ ∈ δs, 0 < δ ∧ δ % 60 = 0) ↔ δs.any badDelta = false := by
    simp only [List.any_eq_false, Bool.not_eq_true, badDelta_iff]
  rw [this, TrigSpec.make]
  cases δs.any badDelta <;> simp [eq_comm]

theorem WF_of_make {sp : TrigSpec} {k : TrigKind} (hm : sp.make = .ok k) (hok : SpecOK sp) : WF k := by
  cases sp with
  | atTimes ss =>
    cases hm
    cases ss with
    | nil => exact absurd rfl hok
    | cons a l => exact ⟨rfl, rfl⟩
  | ranges rs =>
    cases hm
    cases rs with
    | nil => exact absurd rfl hok
    | cons a l => exact ⟨rfl, rfl⟩
  | period δ imm pend => obtain ⟨_, rfl⟩ := make_period_iff.mp hm; exact ⟨rfl, rfl⟩
  | periods δs imm pend =>
    obtain ⟨_, rfl⟩ := make_periods_iff.mp hm
    cases δs with
    | nil => exact absurd rfl hok
    | cons a l => exact ⟨rfl, rfl⟩
  | _ => cases hm; exact ⟨rfl, rfl⟩

theorem forall₂_latInv_init (t0 pend : Int) : ∀ δs : List Int, (∀ δ ∈ δs, 0 < δ) →
    List.Forall₂ (LatInv (t0 + pend) t0) δs (δs.map fun d => t0 + d + pend)
  | [], _ => List.Forall₂.nil
  | δ :: δs, h =>
    List.Forall₂.cons (latInv_init (h δ (List.mem_cons_self ..)))
      (forall₂_latInv_init t0 pend δs (fun x hx => h x (List.mem_cons_of_mem _ hx)))

/-- `last = none`: as constructed; `last = some t`: after the evaluation at bar `t` of a run whose first bar was `t0`.  The stateless classes
    stay as constructed; a period trigger holds due times that obey `LatInv`. -/
def Rep (t0 : Int) (sp : TrigSpec) : Option Int → TrigKind → Prop
  | none, k => sp.make = .ok k
  | some t, k =>
    match sp with
    | .period δ imm pend => ∃ n, k = .period δ imm pend (some n) ∧ LatInv (t0 + pend) t δ n
    | .periods δs imm pend => ∃ ns, k = .periods δs imm pend (some ns) ∧ List.Forall₂ (LatInv (t0 + pend) t) δs ns
    | sp => sp.make = .ok k

def Next (t0 now : Int) : Option Int → Prop
  | none => now = t0
  | some t => t0 ≤ t ∧ t < now

theorem forall₂_latInv_pos {base t : Int} : ∀ {δs ns : List Int}, List.Forall₂ (LatInv base t) δs ns → ∀ δ ∈ δs, 0 < δ
  | _, _, .nil, _, h => nomatch h
  | _, _, .cons h1 h2, δ, h => by
    rcases List.mem_cons.mp h with rfl | h'
    · exact h1.1
    · exact forall₂_latInv_pos h2 δ h'

theorem denotes_period_later {t0 δ pend now : Int} {imm : Bool} (h : t0 < now) :
    denotes t0 (.period δ imm pend) now = onLat δ (t0 + pend) now := by
  have hne : (now == t0) = false := by simp; omega
  have hlt : decide (t0 < now) = true := by simp; omega
  simp only [denotes, hne, hlt, Bool.and_false, Bool.false_or, Bool.true_and]

theorem denotes_periods_later {t0 pend now : Int} {δs : List Int} {imm : Bool} (h : t0 < now) :
    denotes t0 (.periods δs imm pend) now = δs.any fun δ => onLat δ (t0 + pend) now := by
  have hne : (now == t0) = false := by simp; omega
  have hlt : decide (t0 < now) = true := by simp; omega
  simp only [denotes, hne, hlt, Bool.and_false, Bool.false_or, Bool.true_and]

/-- the constructor maps `to_minute` over the ranges, the specification applies it when it is read -/
theorem denotes_ranges (t0 : Int) (rs : List (Int × Int)) (t : Int) :
    denotes t0 (.ranges rs) t = (whenT t (.ranges (rs.map fun r => (toMinute r.1, toMinute r.2)))).1 := by
  simp only [whenT, denotes, List.any_map]; rfl

theorem rep_step {t0 now : Int} {sp : TrigSpec} {last : Option Int} {k : TrigKind} (h : Rep t0 sp last k) (hn : Next t0 now last) :
    (whenT now k).1 = denotes t0 sp now ∧ Rep t0 sp (some now) (whenT now k).2 := by
  cases sp with
  | period δ imm pend =>
    cases last with
    | none =>
      obtain ⟨⟨hδ, _⟩, rfl⟩ := make_period_iff.mp h
      cases hn
      exact ⟨by simp [whenT, denotes], _, rfl, latInv_init hδ⟩
    | some t =>
      obtain ⟨n, rfl, hinv⟩ := h
      obtain ⟨a1, a2⟩ := stepOne_spec hinv hn.2
      refine ⟨?_, _, rfl, a2⟩
      rw [denotes_period_later (lt_of_le_of_lt hn.1 hn.2)]
      exact Bool.eq_iff_iff.mpr (a1.trans (onLat_iff hinv.1).symm)
  | periods δs imm pend =>
    cases last with
    | none =>
      obtain ⟨hpos, rfl⟩ := make_periods_iff.mp h
      cases hn
      exact ⟨by simp [whenT, denotes], _, rfl, forall₂_latInv_init _ pend δs fun δ hδ => (hpos δ hδ).1⟩
    | some t =>
      obtain ⟨ns, rfl, hinv⟩ := h
      obtain ⟨a1, a2⟩ := stepAll_spec hn.2 hinv
      refine ⟨?_, _, rfl, a2⟩
      rw [denotes_periods_later (lt_of_le_of_lt hn.1 hn.2)]
      refine Bool.eq_iff_iff.mpr (a1.trans ?_)
      rw [List.any_eq_true]
      exact exists_congr fun δ => and_congr_right fun hδ => (onLat_iff (forall₂_latInv_pos hinv δ hδ)).symm
  | ranges rs => cases last <;> cases h <;> exact ⟨(denotes_ranges ..).symm, rfl⟩
  | _ => cases last <;> cases h <;> exact ⟨rfl, rfl⟩

theorem rep_out {t0 now t' : Int} {sp : TrigSpec} {last : Option Int} {k : TrigKind} (h : Rep t0 sp last k)
    (hout : outOfDate now k = true) (hlt : now < t') : denotes t0 sp t' = false := by
  cases sp with
  | base => rfl
  | period δ imm pend =>
    cases last with
    | none => obtain ⟨_, rfl⟩ := make_period_iff.mp h; cases hout
    | some t => obtain ⟨n, rfl, _⟩ := h; cases hout
  | periods δs imm pend =>
    cases last with
    | none => obtain ⟨_, rfl⟩ := make_periods_iff.mp h; cases hout
    | some t => obtain ⟨n, rfl, _⟩ := h; cases hout
  | ranges rs => cases last <;> cases h <;> exact (denotes_ranges ..).trans (out_sound hout hlt)
  | _ => cases last <;> cases h <;> exact out_sound hout hlt

theorem solo_rep {t0 : Int} {sp : TrigSpec} : ∀ (bars : List Int) {last : Option Int} {k : TrigKind}, Rep t0 sp last k →
    bars.Pairwise (· < ·) → (∀ t ∈ bars.head?, Next t0 t last) → soloFires bars k = bars.filter (denotes t0 sp)
  | [], _, _, _, _, _ => rfl
  | t :: bars, last, k, h, hp, hn => by
    have hnt : Next t0 t last := hn t rfl
    have ht0 : t0 ≤ t := by cases last <;> [exact le_of_eq hnt.symm; exact le_of_lt (lt_of_le_of_lt hnt.1 hnt.2)]
    obtain ⟨a1, a2⟩ := rep_step h hnt
    obtain ⟨hp1, hp2⟩ := List.pairwise_cons.mp hp
    have tail : (if outOfDate t (whenT t k).2 then [] else soloFires bars (whenT t k).2) = bars.filter (denotes t0 sp) := by
      split
      · rename_i ho
        exact (List.filter_eq_nil_iff.mpr fun x hx => by rw [rep_out a2 ho (hp1 x hx)]; simp).symm
      · exact solo_rep bars a2 hp2 fun x hx => ⟨ht0, hp1 x (List.mem_of_mem_head? hx)⟩
    simp only [soloFires, List.filter_cons, a1, tail]
    cases denotes t0 sp t <;> rfl

theorem solo_eq_denotes {sp : TrigSpec} {k : TrigKind} (hm : sp.make = .ok k) (bars : List Int)
    (hp : bars.Pairwise (· < ·)) : soloFires bars k = bars.filter (denotes (bars.headD 0) sp) :=
  solo_rep bars (last := none) hm hp fun t ht => by cases bars <;> cases ht; rfl

theorem installFrom_ids (n : Nat) : ∀ l : List (String × TrigKind),
    (installFrom n l).map (·.id) = (List.range' n l.length)
  | [] => rfl
  | (kw, k) :: rest => by
    simp only [installFrom, List.map_cons, List.length_cons, List.range'_succ]
    rw [installFrom_ids (n + 1) rest]

theorem install_nodup (l : List (String × TrigKind)) : ((install l).map (·.id)).Nodup := by
  rw [install, installFrom_ids]; exact List.nodup_range'

theorem installFrom_mem (n : Nat) : ∀ (l : List (String × TrigKind)) (t : Trig), t ∈ installFrom n l →
    ∃ p ∈ l, t.kw = p.1 ∧ t.k = p.2
  | [], _, h => by cases h
  | (kw, k) :: rest, t, h => by
    simp only [installFrom, List.mem_cons] at h
    rcases h with rfl | h
    · exact ⟨(kw, k), List.mem_cons_self .., rfl, rfl⟩
    · obtain ⟨p, hp, h1⟩ := installFrom_mem (n + 1) rest t h
      exact ⟨p, List.mem_cons_of_mem _ hp, h1⟩

theorem findTrig_installFrom (n : Nat) : ∀ (l : List (String × TrigKind)) (i : Nat) (h : i < l.length),
    findTrig (n + i) (installFrom n l) = some ⟨n + i, l[i].1, l[i].2⟩
  | [], i, h => by cases h
  | (kw, k) :: rest, 0, _ => by simp [findTrig, installFrom]
  | (kw, k) :: rest, i + 1, h => by
    have ih := findTrig_installFrom (n + 1) rest i (by simpa using h)
    have e : n + 1 + i = n + (i + 1) := by omega
    rw [e] at ih
    simp only [findTrig, installFrom, List.find?_cons] at ih ⊢
    have : (n == n + (i + 1)) = false := by simp
    simp only [this]
    simpa using ih

theorem fireLoop_err_eq (now : Int) : ∀ trigs : List Trig, (fireLoop now trigs).2.2 = trigs.findSome? (fun t => whenErr t.k)
  | [] => rfl
  | t :: rest => by
    unfold fireLoop
    rw [List.findSome?_cons]
    cases whenErr t.k with
    | some e => rfl
    | none => exact fireLoop_err_eq now rest

theorem retire_err_eq (now : Int) : ∀ trigs : List Trig, (retire now trigs).2 = trigs.findSome? (fun t => outErr t.k)
  | [] => rfl
  | t :: rest => by
    unfold retire
    rw [List.findSome?_cons]
    cases outErr t.k with
    | some e => rfl
    | none => exact retire_err_eq now rest

theorem trigPhase_eq (now : Int) (l : List Trig) :
    trigPhase now l = match (fireLoop now l).2.2 with
      | some e => ((fireLoop now l).1, (fireLoop now l).2.1, some e)
      | none => ((fireLoop now l).1, (retire now (fireLoop now l).2.1).1, (retire now (fireLoop now l).2.1).2) := by
  unfold trigPhase
  split <;> simp_all

theorem trigPhase_fst (now : Int) (l : List Trig) : (trigPhase now l).1 = (fireLoop now l).1 := by
  rw [trigPhase_eq]; split <;> rfl

theorem trigPhase_err (now : Int) (trigs : List Trig) (h : ∃ t ∈ trigs, ¬ WF t.k) : (trigPhase now trigs).2.2 ≠ none := by
  obtain ⟨x, hx, hnwf⟩ := h
  rw [trigPhase_eq]
  cases hf : (fireLoop now trigs).2.2 with
  | some e => simp
  | none =>
    have hw := List.findSome?_eq_none_iff.mp ((fireLoop_err_eq now trigs).symm.trans hf)
    rw [fireLoop_ok now trigs hw, retire_err_eq]
    intro hr
    have := List.findSome?_eq_none_iff.mp hr (stepTrig now x) (List.mem_map_of_mem hx)
    exact hnwf ⟨hw x hx, (outErr_step now x.k).symm.trans this⟩

theorem whenErr_kind {k : TrigKind} {e : PyErr} (h : whenErr k = some e) : e = .indexError := by
  unfold whenErr at h
  split at h
  · cases h; rfl
  · cases h

theorem outErr_kind {k : TrigKind} {e : PyErr} (h : outErr k = some e) : e = .valueError := by
  unfold outErr at h
  split at h
  · cases h; rfl
  · cases h; rfl
  · cases h

theorem trigPhase_err_kind (now : Int) (l : List Trig) (e : PyErr) (h : (trigPhase now l).2.2 = some e) :
    e = .indexError ∨ e = .valueError := by
  rw [trigPhase_eq] at h
  cases hf : (fireLoop now l).2.2 with
  | some e' =>
    rw [hf] at h; cases h
    obtain ⟨t, _, ht⟩ := List.exists_of_findSome?_eq_some ((fireLoop_err_eq now l).symm.trans hf)
    exact Or.inl (whenErr_kind ht)
  | none =>
    rw [hf, retire_err_eq] at h
    obtain ⟨t, _, ht⟩ := List.exists_of_findSome?_eq_some h
    exact Or.inr (outErr_kind ht)

theorem raises_iff_malformed (t : Int) (bars : List Int) (trigs : List Trig) (hn : (trigs.map (·.id)).Nodup) :
    (trigRun (t :: bars) trigs).2.2 ≠ none ↔ ∃ x ∈ trigs, ¬ WF x.k := by
  constructor
  · intro h
    by_contra hc
    have hwf : ∀ x ∈ trigs, WF x.k := by
      intro x hx
      by_contra hne
      exact hc ⟨x, hx, hne⟩
    exact h (trigRun_solo (t :: bars) trigs hwf hn).1
  · intro h
    have he := trigPhase_err t trigs h
    simp only [trigRun]
    cases hq : (trigPhase t trigs).2.2 with
    | none => exact absurd hq he
    | some e => simp

end Demeter.Core
