/-
  The broker's wallet (Demeter/Wallet.lean) as a dict: `subtract_from_balance` inverted, and with `add_to_balance` as one
  equation each, a missing token counting as balance 0 (`Wallet.bal`).  The overdraft branch of `Asset.sub` (no inequality
  in it) stands here because `debit_eq` needs it; the other branch is arithmetic (Lemmas/AssetSub).  Free of Mathlib, so
  that modules that do not load Mathlib can use it.
-/
import Proofs.Lemmas.AList
import Proofs.Lemmas.Exact
namespace Demeter

theorem Wallet.debit_ok {cx : NumCtx} {w w' : Wallet} {k : String} {a : Rat} {neg : Bool}
    (h : Wallet.debit cx w k a neg = .ok w') :
    (∃ b b', AList.get? w k = some b ∧ assetSub cx b a neg = some b' ∧ w' = AList.set w k b') ∨
    (AList.get? w k = none ∧ neg = true ∧ w' = AList.set w k (0 - a)) := by
  unfold Wallet.debit at h
  split at h
  · rename_i b hg
    split at h
    · rename_i b' hs; injection h with h; exact Or.inl ⟨b, b', hg, hs, h.symm⟩
    · cases h
  · rename_i hg
    split at h
    · rename_i hn; injection h with h; exact Or.inr ⟨hg, hn, h.symm⟩
    · cases h

theorem Wallet.debit_false_ok {cx : NumCtx} {w w' : Wallet} {k : String} {a : Rat}
    (h : Wallet.debit cx w k a false = .ok w') :
    ∃ b b', AList.get? w k = some b ∧ assetSub cx b a false = some b' ∧ w' = AList.set w k b' := by
  rcases Wallet.debit_ok h with h | ⟨_, hn, _⟩
  · exact h
  · cases hn

theorem Wallet.debit_error {cx : NumCtx} {w : Wallet} {k : String} {a : Rat} {neg : Bool} {e : WalletErr}
    (h : Wallet.debit cx w k a neg = .error e) :
    (e = .insufficient ∧ ∃ b, AList.get? w k = some b ∧ assetSub cx b a neg = none) ∨
    (e = .unknownToken ∧ AList.get? w k = none ∧ neg = false) := by
  unfold Wallet.debit at h
  split at h
  · rename_i b hg
    split at h
    · cases h
    · rename_i hs; injection h with h; exact Or.inl ⟨h.symm, b, hg, hs⟩
  · rename_i hg
    split at h
    · cases h
    · rename_i hn; injection h with h; exact Or.inr ⟨h.symm, hg, Bool.eq_false_iff.mpr hn⟩

theorem assetSub_true (cx : NumCtx) (b a : Rat) : assetSub cx b a true =
    some (if (if b ≠ 0 then b else a) = 0 then b else cx.sub b a) := by
  unfold assetSub
  simp only [if_true]
  exact (apply_ite some _ _ _).symm

/-- with overdraft allowed `Asset.sub` always answers and an unknown token is opened at `0 − amount` -/
theorem Wallet.debit_true_ne_error (cx : NumCtx) (w : Wallet) (tok : String) (a : Rat) (e' : WalletErr) :
    Wallet.debit cx w tok a true ≠ .error e' := fun he => by
  rcases Wallet.debit_error he with ⟨_, b, _, hs⟩ | ⟨_, _, hn⟩
  · rw [assetSub_true] at hs; cases hs
  · cases hn

/-- the balance it hands back when balance and amount are both 0 is the difference too -/
theorem assetSub_true_exact (b a : Rat) : assetSub NumCtx.exact b a true = some (b - a) := by
  rw [assetSub_true]
  by_cases hb : b ≠ 0
  · rw [if_pos hb, if_neg hb]; rfl
  · rw [if_neg hb, Classical.not_not.mp hb]
    by_cases ha : a = 0
    · rw [if_pos ha, ha, Rat.sub_eq_add_neg, Rat.neg_zero, Rat.add_zero]
    · rw [if_neg ha]; rfl

def Wallet.bal (w : Wallet) (k : String) : Rat := (AList.get? w k).getD 0

theorem Wallet.bal_of_get? {w : Wallet} {k : String} {b : Rat} (h : AList.get? w k = some b) : Wallet.bal w k = b := by
  unfold Wallet.bal; rw [h]; rfl

theorem Wallet.bal_set (w : Wallet) (k k' : String) (v : Rat) : Wallet.bal (AList.set w k v) k' = if k = k' then v else Wallet.bal w k' := by
  unfold Wallet.bal
  rw [AList.get?_set]
  split <;> rfl

theorem Wallet.credit_eq (cx : NumCtx) (w : Wallet) (k : String) (a : Rat) :
    Wallet.credit cx w k a = AList.set w k (cx.add (Wallet.bal w k) a) := by
  unfold Wallet.credit Wallet.bal assetAdd
  cases AList.get? w k <;> rfl

/-- an absent token counts as balance 0: the code writes `0 − amount` there, which is what `Asset.sub` answers on 0 -/
theorem Wallet.debit_eq {w w' : Wallet} {k : String} {a : Rat} {neg : Bool} (h : Wallet.debit NumCtx.exact w k a neg = .ok w') :
    ∃ b', assetSub NumCtx.exact (Wallet.bal w k) a neg = some b' ∧ w' = AList.set w k b' := by
  rcases Wallet.debit_ok h with ⟨b, b', hg, hs, rfl⟩ | ⟨hg, rfl, rfl⟩
  · exact ⟨b', by rwa [Wallet.bal_of_get? hg], rfl⟩
  · exact ⟨0 - a, by rw [Wallet.bal, hg, assetSub_true_exact]; rfl, rfl⟩

theorem Wallet.get?_credit (cx : NumCtx) (w : Wallet) (k k' : String) (a : Rat) :
    AList.get? (Wallet.credit cx w k a) k' = if k = k' then some (cx.add (Wallet.bal w k) a) else AList.get? w k' := by
  rw [Wallet.credit_eq, AList.get?_set]

theorem Wallet.bal_credit (cx : NumCtx) (w : Wallet) (k k' : String) (a : Rat) :
    Wallet.bal (Wallet.credit cx w k a) k' = if k = k' then cx.add (Wallet.bal w k) a else Wallet.bal w k' := by
  rw [Wallet.credit_eq, Wallet.bal_set]

theorem Wallet.get?_credit_self (cx : NumCtx) (w : Wallet) (tok : String) (a : Rat) :
    AList.get? (Wallet.credit cx w tok a) tok = some (cx.add ((AList.get? w tok).getD 0) a) := by
  rw [Wallet.get?_credit, if_pos rfl]; rfl

theorem Wallet.get?_credit_ne (cx : NumCtx) (w : Wallet) {tok k : String} (hk : k ≠ tok) (a : Rat) :
    AList.get? (Wallet.credit cx w tok a) k = AList.get? w k := by
  rw [Wallet.get?_credit, if_neg (Ne.symm hk)]

theorem Wallet.get?_credit_some (cx : NumCtx) (w : Wallet) (k k' : String) (a : Rat) (h : (∃ b, AList.get? w k' = some b) ∨ k' = k) :
    ∃ b, AList.get? (Wallet.credit cx w k a) k' = some b := by
  rw [Wallet.get?_credit]
  split
  · exact ⟨_, rfl⟩
  · rename_i e; exact h.resolve_right fun e' => e e'.symm

end Demeter
