/-
  The integer closeness inequalities of C06 (c) read in an ordered field `K` (ℚ for the relative form, ℝ for the
  form with `Real.sqrt`): with `P/Q` for `1.0001^|tick|` (`ratio_pow`, `ratio_zpow_neg`), the denominators are divided out
  again and the natural subtractions undone, once for both.
-/
import Mathlib.Algebra.Order.Field.Basic
import Mathlib.Tactic.Ring
import Mathlib.Tactic.Positivity
import Mathlib.Tactic.NormNum
namespace Demeter.TickClose
variable {K : Type} [Field K] [LinearOrder K] [IsStrictOrderedRing K]

omit [LinearOrder K] [IsStrictOrderedRing K] in
theorem ratio_pow (a : Nat) : ((10001 : K) / 10000) ^ a = ((10001 ^ a : Nat) : K) / ((10000 ^ a : Nat) : K) := by
  rw [div_pow, Nat.cast_pow, Nat.cast_pow, Nat.cast_ofNat, Nat.cast_ofNat]

omit [LinearOrder K] [IsStrictOrderedRing K] in
theorem ratio_zpow_neg (a : Nat) :
    ((10001 : K) / 10000) ^ (-(a : Int)) = ((10000 ^ a : Nat) : K) / ((10001 ^ a : Nat) : K) := by
  rw [zpow_neg, zpow_natCast, ratio_pow, inv_div]

theorem close_nonpos_field (s pa qa : Nat) (hpa : 0 < pa) (c0 : 1 ≤ s) (c1 : (s - 1) ^ 2 * pa < 2 ^ 192 * qa)
    (c2 : 2 ^ 192 * qa < (s + 1) ^ 2 * pa) :
    ((s : K) - 1) ^ 2 < 2 ^ 192 * ((qa : K) / pa) ∧ 2 ^ 192 * ((qa : K) / pa) < ((s : K) + 1) ^ 2 := by
  have hp : (0 : K) < pa := by exact_mod_cast hpa
  have c1K : (((s - 1 : Nat) : K)) ^ 2 * pa < 2 ^ 192 * qa := by exact_mod_cast c1
  have c2K : (2 : K) ^ 192 * qa < ((s : K) + 1) ^ 2 * pa := by exact_mod_cast c2
  rw [Nat.cast_sub c0, Nat.cast_one] at c1K
  rw [mul_div_assoc']
  exact ⟨(lt_div_iff₀ hp).2 c1K, (div_lt_iff₀ hp).2 c2K⟩

/-- tick > 0 with the scales as variables (`c = 2^29`, `W = 2^192`, `H = 2^250`, of which only `W·c² = H` is used):
    with `R = P/Q` and `β = R/c` the hypotheses are the conclusions multiplied by `c·Q`, `(c·Q)²`, `(c·Q)²` -/
theorem pos_field_div {x P Q c W H : K} (hQ : 0 < Q) (hc : 0 < c) (hrel : W * c ^ 2 = H)
    (g0 : P + c * Q ≤ x * c * Q) (g1 : (x * c * Q - c * Q - P) ^ 2 < H * P * Q)
    (g2 : H * P * Q < (x * c * Q + c * Q + P) ^ 2) :
    P / Q / c ≤ x - 1 ∧ (x - 1 - P / Q / c) ^ 2 < W * (P / Q) ∧ W * (P / Q) < (x + 1 + P / Q / c) ^ 2 := by
  have hD : 0 < c * Q := mul_pos hc hQ
  have hD2 : 0 < (c * Q) ^ 2 := pow_pos hD 2
  obtain ⟨R, rfl⟩ : ∃ R, P = R * Q := ⟨P / Q, (div_mul_cancel₀ _ (ne_of_gt hQ)).symm⟩
  obtain ⟨β, rfl⟩ : ∃ β, R = β * c := ⟨R / c, (div_mul_cancel₀ _ (ne_of_gt hc)).symm⟩
  rw [mul_div_cancel_right₀ _ (ne_of_gt hQ), mul_div_cancel_right₀ _ (ne_of_gt hc)]
  have e0 : β * c * Q + c * Q = (β + 1) * (c * Q) := by ring
  have e1 : x * c * Q - c * Q - β * c * Q = (x - 1 - β) * (c * Q) := by ring
  have e2 : x * c * Q + c * Q + β * c * Q = (x + 1 + β) * (c * Q) := by ring
  have eI : H * (β * c * Q) * Q = W * (β * c) * (c * Q) ^ 2 := by rw [← hrel]; ring
  rw [e0, mul_assoc x] at g0
  rw [e1, eI, mul_pow] at g1
  rw [e2, eI, mul_pow (x + 1 + β)] at g2
  exact ⟨le_sub_iff_add_le.2 (le_of_mul_le_mul_right g0 hD), lt_of_mul_lt_mul_right g1 (le_of_lt hD2),
    lt_of_mul_lt_mul_right g2 (le_of_lt hD2)⟩

theorem close_pos_field (s pa qa : Nat) (hqa : 0 < qa)
    (g0 : pa + 2 ^ 29 * qa ≤ s * 2 ^ 29 * qa)
    (g1 : (s * 2 ^ 29 * qa - 2 ^ 29 * qa - pa) ^ 2 < 2 ^ 250 * pa * qa)
    (g2 : 2 ^ 250 * pa * qa < (s * 2 ^ 29 * qa + 2 ^ 29 * qa + pa) ^ 2) :
    (pa : K) / qa / 2 ^ 29 ≤ s - 1 ∧
    ((s : K) - 1 - (pa : K) / qa / 2 ^ 29) ^ 2 < 2 ^ 192 * ((pa : K) / qa) ∧
    2 ^ 192 * ((pa : K) / qa) < ((s : K) + 1 + (pa : K) / qa / 2 ^ 29) ^ 2 := by
  have i1 : 2 ^ 29 * qa ≤ s * 2 ^ 29 * qa := Nat.le_trans (Nat.le_add_left _ _) g0
  have i2 : pa ≤ s * 2 ^ 29 * qa - 2 ^ 29 * qa := Nat.le_sub_of_add_le g0
  have c0 := (Nat.cast_le (α := K)).2 g0
  have c1 := (Nat.cast_lt (α := K)).2 g1
  have c2 := (Nat.cast_lt (α := K)).2 g2
  simp only [Nat.cast_pow, Nat.cast_mul, Nat.cast_add, Nat.cast_sub i2, Nat.cast_sub i1, Nat.cast_ofNat] at c0 c1 c2
  exact pos_field_div (Nat.cast_pos.2 hqa) (by positivity) (by norm_num) c0 c1 c2

end Demeter.TickClose
