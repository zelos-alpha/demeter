/-
  Inversion of accepted calls: what must have been true, and what positions, wallet and log are afterwards, when
  supply / borrow / withdraw / repay return normally — the accepted exit of the effect triples (AaveEffect), with the end state
  read field by field.  Any state, any arithmetic context.
-/
import Proofs.Lemmas.AaveEffect
namespace Demeter.Aave
open Demeter M

variable {cx : ACtx} {env : Env}

theorem supply_accepted {s s' : St} {tok : String} {amount : Rat} {coll : Bool}
    (h : supply cx env tok amount coll s = (.ok (), s')) :
    ∃ st w', env.isOpen = true ∧ amount > 0 ∧ env.statusOf tok = .ok st ∧ st.liqIdx ≠ 0 ∧
      (∀ info, AList.get? s.supplies tok = some info → info.coll = coll) ∧
      Wallet.debit cx.toNumCtx s.wallet tok amount false = .ok w' ∧
      s'.supplies = AList.set s.supplies tok
        (supplyEntry cx (AList.get? s.supplies tok) (cx.div amount st.liqIdx) coll st.liqIdx) ∧
      s'.borrows = s.borrows ∧ s'.wallet = w' ∧
      s'.actions = s.actions ++ [.supply tok amount coll
        (cx.mul (supplyEntry cx (AList.get? s.supplies tok) (cx.div amount st.liqIdx) coll st.liqIdx).base st.liqIdx)] := by
  obtain ⟨s1, st, w', hmv, h1, h2, h3, h4, _, h5, h6, e⟩ := (supply_eff s tok amount coll).ok (Moved.refl s) h
  refine ⟨st, w', h1, h2, h3, h4, h5, h6, ?_, ?_, ?_, ?_⟩ <;> rw [e]
  · exact congrArg (AList.set · tok _) hmv.sup
  · exact hmv.bor
  · rfl
  · exact congrArg (· ++ _) hmv.actions

theorem borrow_accepted {s s' : St} {tok : String} {amount? : Option Rat}
    (h : borrow cx env tok amount? s = (.ok (), s')) :
    ∃ amount st, env.isOpen = true ∧ amount > 0 ∧ (∀ a, amount? = some a → amount = a) ∧
      env.statusOf tok = .ok st ∧ st.varIdx ≠ 0 ∧
      s'.supplies = s.supplies ∧
      s'.borrows = AList.set s.borrows tok
        (borrowEntry cx (AList.get? s.borrows tok) (cx.div amount st.varIdx) st.varIdx) ∧
      s'.wallet = Wallet.credit cx.toNumCtx s.wallet tok amount ∧
      s'.actions = s.actions ++ [.borrow tok amount
        (cx.mul (borrowEntry cx (AList.get? s.borrows tok) (cx.div amount st.varIdx) st.varIdx).base st.varIdx)] := by
  obtain ⟨s1, amount, st, hmv, h1, h2, h3, h4, h5, _, e⟩ := (borrow_eff s tok amount?).ok (Moved.refl s) h
  refine ⟨amount, st, h1, h2, h3, h4, h5, ?_, ?_, ?_, ?_⟩ <;> rw [e]
  · exact hmv.sup
  · exact congrArg (AList.set · tok _) hmv.bor
  · exact congrArg (Wallet.credit cx.toNumCtx · tok amount) hmv.wallet
  · exact congrArg (· ++ _) hmv.actions

theorem withdraw_accepted {s s' : St} {tok : String} {amount? : Option Rat}
    (h : withdraw cx env tok amount? s = (.ok (), s')) :
    ∃ st info amount nb, env.isOpen = true ∧ env.statusOf tok = .ok st ∧ st.liqIdx ≠ 0 ∧
      AList.get? s.supplies tok = some info ∧
      amount = amount?.getD (cx.mul info.base st.liqIdx) ∧ amount > 0 ∧ amount ≤ cx.mul info.base st.liqIdx ∧
      nb = subBase cx info.base (cx.div amount st.liqIdx) ∧
      s'.supplies = supAfterSub s.supplies tok info nb ∧ s'.borrows = s.borrows ∧
      s'.wallet = Wallet.credit cx.toNumCtx s.wallet tok amount ∧
      s'.actions = s.actions ++ [.withdraw tok amount (cx.mul nb st.liqIdx)] := by
  obtain ⟨s1, st, info, amount, hmv, h1, h2, h3, hg, h4, h5, h6, e⟩ := (withdraw_eff s tok amount?).ok (Moved.refl s) h
  refine ⟨st, info, amount, _, h1, h2, h3, hg, h4, h5, h6, rfl, ?_, ?_, ?_, ?_⟩ <;> rw [e]
  · exact congrArg (supAfterSub · tok info _) hmv.sup
  · exact hmv.bor
  · exact congrArg (Wallet.credit cx.toNumCtx · tok amount) hmv.wallet
  · exact congrArg (· ++ _) hmv.actions

theorem repay_cash_accepted {s s' : St} {tok : String} {amount? : Option Rat} {collTok? : Option String}
    (h : repay cx env tok amount? false collTok? s = (.ok (), s')) :
    ∃ st info payback w', env.isOpen = true ∧ env.statusOf tok = .ok st ∧ st.varIdx ≠ 0 ∧
      AList.get? s.borrows tok = some info ∧ payback = amount?.getD (cx.mul info.base st.varIdx) ∧
      cx.div payback st.varIdx > 0 ∧
      (∃ rr, quantE Gen.aaveRepayRoundDigits (cx.sub info.base (cx.div payback st.varIdx)) = .ok rr ∧ rr ≥ 0) ∧
      Wallet.debit cx.toNumCtx s.wallet tok payback false = .ok w' ∧
      s'.supplies = s.supplies ∧
      s'.borrows = borAfterSub s.borrows tok info (subBase cx info.base (cx.div payback st.varIdx)) ∧ s'.wallet = w' ∧
      s'.actions = s.actions ++
        [.repay tok payback (cx.mul (subBase cx info.base (cx.div payback st.varIdx)) st.varIdx)] := by
  obtain ⟨s1, st, info, payback, hmv, h1, h2, h3, hg, h4, h5, ⟨_, hp, w', hw, e⟩ | ⟨hc, _⟩⟩ :=
    (repay_eff s tok amount? false collTok?).ok (Moved.refl s) h
  · refine ⟨st, info, payback, w', h1, h2, h3, hg, hp, h4, h5, hw, ?_, ?_, ?_, ?_⟩ <;> rw [e]
    · exact hmv.sup
    · exact congrArg (borAfterSub · tok info _) hmv.bor
    · rfl
    · exact congrArg (· ++ _) hmv.actions
  · cases hc

/-- the amount paid back is capped by the counter-value of the whole collateral supply ("contract will change payback amount
    instead of raise an error"); the wallet is not touched -/
theorem repay_coll_accepted {s s' : St} {tok : String} {amount? : Option Rat}
    {collTok? : Option String} (h : repay cx env tok amount? true collTok? s = (.ok (), s')) :
    ∃ st info cinfo cst payback inColl, env.isOpen = true ∧ env.statusOf tok = .ok st ∧ st.varIdx ≠ 0 ∧
      AList.get? s.borrows tok = some info ∧
      AList.get? s.supplies (collTok?.getD tok) = some cinfo ∧ env.statusOf (collTok?.getD tok) = .ok cst ∧ cst.liqIdx ≠ 0 ∧
      CappedPayback cx env tok (collTok?.getD tok) (amount?.getD (cx.mul info.base st.varIdx)) cinfo cst payback ∧
      cx.div payback st.varIdx > 0 ∧
      (∃ rr, quantE Gen.aaveRepayRoundDigits (cx.sub info.base (cx.div payback st.varIdx)) = .ok rr ∧ rr ≥ 0) ∧
      swapAmount cx env tok (collTok?.getD tok) payback = .ok inColl ∧
      s'.supplies = supAfterSub s.supplies (collTok?.getD tok) cinfo (subBase cx cinfo.base (cx.div inColl cst.liqIdx)) ∧
      s'.borrows = borAfterSub s.borrows tok info (subBase cx info.base (cx.div payback st.varIdx)) ∧ s'.wallet = s.wallet ∧
      s'.actions = s.actions ++
        [.repay tok payback (cx.mul (subBase cx info.base (cx.div payback st.varIdx)) st.varIdx)] := by
  obtain ⟨s1, st, info, payback, hmv, h1, h2, h3, hg, h4, h5, ⟨hc, _⟩ | ⟨_, cinfo, cst, inColl, hci, hcst, hcz, hcap, hsw, e⟩⟩ :=
    (repay_eff s tok amount? true collTok?).ok (Moved.refl s) h
  · cases hc
  · refine ⟨st, info, cinfo, cst, payback, inColl, h1, h2, h3, hg, hci, hcst, hcz, hcap, h4, h5, hsw, ?_, ?_, ?_, ?_⟩ <;> rw [e]
    · exact congrArg (supAfterSub · _ cinfo _) hmv.sup
    · exact congrArg (borAfterSub · tok info _) hmv.bor
    · exact hmv.wallet
    · exact congrArg (· ++ _) hmv.actions

end Demeter.Aave
