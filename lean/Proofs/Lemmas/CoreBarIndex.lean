/-
  Which timestamps are the bars of a run: the arithmetic grid of bin labels that `resample(Δ).first()` leaves (`resampleIdx_spec`), the
  distinct timestamps of a frame (`distinctTimes`), the market with the most of them (`longestIdx`).
-/
import Demeter.Actuator
import Mathlib.Tactic.Ring
namespace Demeter.Core

theorem grid_pairwise (start Δ : Int) (hΔ : 0 < Δ) (n : Nat) : (grid start Δ n).Pairwise (· < ·) := by
  unfold grid
  rw [List.pairwise_map]
  apply List.Pairwise.imp _ (List.pairwise_lt_range)
  intro a b hab
  have : (a : Int) * Δ < (b : Int) * Δ := Int.mul_lt_mul_of_pos_right (by exact_mod_cast hab) hΔ
  omega

theorem distinctTimes_sorted : ∀ l : List Int, l.Pairwise (· < ·) → distinctTimes l = l
  | [], _ => rfl
  | [_], _ => rfl
  | a :: b :: l, h => by
    have hab : a < b := (List.pairwise_cons.mp h).1 b (List.mem_cons_self ..)
    rw [distinctTimes, if_neg (by omega), distinctTimes_sorted (b :: l) (List.pairwise_cons.mp h).2]

theorem distinctTimes_mem_iff : ∀ (l : List Int) (x : Int), x ∈ distinctTimes l ↔ x ∈ l
  | [], _ => Iff.rfl
  | [_], _ => Iff.rfl
  | a :: b :: l, x => by
    have ih := distinctTimes_mem_iff (b :: l) x
    unfold distinctTimes
    split
    · rename_i hab
      rw [ih]
      constructor
      · exact List.mem_cons_of_mem _
      · intro h
        rcases List.mem_cons.mp h with rfl | h'
        · rw [hab]; exact List.mem_cons_self ..
        · exact h'
    · rw [List.mem_cons, ih, List.mem_cons (a := x) (b := a)]

theorem distinctTimes_ends : ∀ l : List Int, (distinctTimes l).head? = l.head? ∧ (distinctTimes l).getLast? = l.getLast?
  | [] => ⟨rfl, rfl⟩
  | [_] => ⟨rfl, rfl⟩
  | x :: y :: r => by
    have ih := distinctTimes_ends (y :: r)
    unfold distinctTimes
    split
    · rename_i hxy
      exact ⟨by rw [ih.1, hxy]; rfl, by rw [ih.2, List.getLast?_cons_cons]⟩
    · refine ⟨rfl, ?_⟩
      have hne : distinctTimes (y :: r) ≠ [] := by
        intro h0
        have := ih.1; rw [h0] at this; simp at this
      obtain ⟨z, zs, hz⟩ := List.exists_cons_of_ne_nil hne
      rw [hz, List.getLast?_cons_cons, ← hz, ih.2, List.getLast?_cons_cons]

theorem distinctTimes_pairwise : ∀ l : List Int, l.Pairwise (· ≤ ·) → (distinctTimes l).Pairwise (· < ·)
  | [], _ => List.Pairwise.nil
  | [_], _ => List.pairwise_singleton _ _
  | a :: b :: l, h => by
    have h' := List.pairwise_cons.mp h
    unfold distinctTimes
    split
    · exact distinctTimes_pairwise (b :: l) h'.2
    · rename_i hne
      refine List.pairwise_cons.mpr ⟨?_, distinctTimes_pairwise (b :: l) h'.2⟩
      intro x hx
      have hxm := (distinctTimes_mem_iff (b :: l) x).mp hx
      have hab : a ≤ b := h'.1 b (List.mem_cons_self ..)
      have hbx : b ≤ x := by
        rcases List.mem_cons.mp hxm with rfl | hx'
        · exact le_refl _
        · exact (List.pairwise_cons.mp h'.2).1 x hx'
      omega

theorem longestIdx_mem : ∀ ms : List MarketCfg, ms ≠ [] → ∃ mc ∈ ms, longestIdx ms = distinctTimes mc.idx
  | [], h => absurd rfl h
  | [mc], _ => ⟨mc, List.mem_cons_self .., by simp [longestIdx]⟩
  | mc :: m' :: rest, _ => by
    unfold longestIdx
    split
    · obtain ⟨m, hm, he⟩ := longestIdx_mem (m' :: rest) (by simp)
      exact ⟨m, List.mem_cons_of_mem _ hm, he⟩
    · exact ⟨mc, List.mem_cons_self .., rfl⟩

theorem longestIdx_le (b : Nat) : ∀ ms : List MarketCfg, (∀ m ∈ ms, (distinctTimes m.idx).length ≤ b) → (longestIdx ms).length ≤ b
  | [], _ => by simp [longestIdx]
  | m :: ms, h => by
    obtain ⟨mc, hmc, he⟩ := longestIdx_mem (m :: ms) (List.cons_ne_nil _ _)
    rw [he]; exact h mc hmc

theorem binLabel_floor (Δ o t : Int) (hΔ : 0 < Δ) : binLabel Δ o t ≤ t ∧ t < binLabel Δ o t + Δ := by
  unfold binLabel
  have h1 := Int.ediv_mul_le (t - o) (ne_of_gt hΔ)
  have h2 := Int.lt_ediv_add_one_mul_self (t - o) hΔ
  constructor
  · omega
  · have : ((t - o) / Δ + 1) * Δ = (t - o) / Δ * Δ + Δ := by ring
    omega

theorem mem_grid (start Δ : Int) (n : Nat) (x : Int) : x ∈ grid start Δ n ↔ ∃ i : Nat, i < n ∧ x = start + (i : Int) * Δ := by
  simp only [grid, List.mem_map, List.mem_range]
  constructor
  · rintro ⟨i, hi, rfl⟩; exact ⟨i, hi, rfl⟩
  · rintro ⟨i, hi, rfl⟩; exact ⟨i, hi, rfl⟩

/-- the resampled index of any frame with first row `a` and last row `b`: `resample(Δ).first()` looks at those two rows only -/
theorem resampleIdx_spec (Δ : Int) (hΔ : 0 < Δ) (idx : List Int) (a b : Int) (hh : idx.head? = some a) (hl : idx.getLast? = some b)
    (hab : a ≤ b) :
    let o := dayStart a
    (resampleIdx Δ idx).Pairwise (· < ·) ∧
    (resampleIdx Δ idx).head? = some (binLabel Δ o a) ∧
    (∀ t, a ≤ t → t ≤ b → binLabel Δ o t ∈ resampleIdx Δ idx ∧ binLabel Δ o t ≤ t ∧ t < binLabel Δ o t + Δ) ∧
    (∀ x ∈ resampleIdx Δ idx, ∃ i : Nat, x = binLabel Δ o a + (i : Int) * Δ ∧ x ≤ b) := by
  intro o
  have hidx : resampleIdx Δ idx = grid (binLabel Δ o a) Δ (((binLabel Δ o b - binLabel Δ o a) / Δ).toNat + 1) := by
    simp only [resampleIdx, hh, hl, o]
  rw [hidx]
  have mono : ∀ t, a ≤ t → (a - o) / Δ ≤ (t - o) / Δ := fun t ht => Int.ediv_le_ediv hΔ (by omega)
  have diff : ∀ t, binLabel Δ o t - binLabel Δ o a = ((t - o) / Δ - (a - o) / Δ) * Δ := by
    intro t; unfold binLabel; ring
  have quot : ∀ t, (binLabel Δ o t - binLabel Δ o a) / Δ = (t - o) / Δ - (a - o) / Δ := by
    intro t; rw [diff]; exact Int.mul_ediv_cancel _ (ne_of_gt hΔ)
  have hb' : 0 ≤ (b - o) / Δ - (a - o) / Δ := by have := mono b hab; omega
  refine ⟨grid_pairwise _ _ hΔ _, ?_, ?_, ?_⟩
  · simp [grid, List.range_succ_eq_map]
  · intro t h1 h2
    refine ⟨?_, binLabel_floor Δ o t hΔ⟩
    rw [mem_grid]
    have hk : 0 ≤ (t - o) / Δ - (a - o) / Δ := by have := mono t h1; omega
    have hk2 : (t - o) / Δ ≤ (b - o) / Δ := Int.ediv_le_ediv hΔ (by omega)
    refine ⟨((t - o) / Δ - (a - o) / Δ).toNat, ?_, ?_⟩
    · rw [quot b]
      omega
    · rw [Int.toNat_of_nonneg hk]
      have := diff t
      omega
  · intro x hx
    obtain ⟨i, hi, rfl⟩ := (mem_grid _ _ _ _).mp hx
    refine ⟨i, rfl, ?_⟩
    rw [quot b] at hi
    have hi' : (i : Int) ≤ (b - o) / Δ - (a - o) / Δ := by omega
    have hmul : (i : Int) * Δ ≤ ((b - o) / Δ - (a - o) / Δ) * Δ := Int.mul_le_mul_of_nonneg_right hi' (le_of_lt hΔ)
    have := diff b
    have := (binLabel_floor Δ o b hΔ).1
    omega

end Demeter.Core
