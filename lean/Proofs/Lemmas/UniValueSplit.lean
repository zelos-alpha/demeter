/-
  Field arithmetic of the value split `v1 = value / (r + 1)`, `v0 = value − v1` of `estimate_amount` and of the in-range branch of
  `add_liquidity_by_value`, on the token-order mirror (ratio `1 / r`).
-/
import Mathlib.Tactic.FieldSimp
import Mathlib.Tactic.Ring
namespace Demeter.Uni

/-- the token ratio in value terms (`ratio / price` or `ratio · price`, by orientation): on the mirror, where the
    oracle's ratio is `1 / ratio`, it is the reciprocal -/
theorem valueRatio_mirror (q0 : Bool) (ratio price : Rat) :
    (if (!q0) = true then 1 / ratio / price else 1 / ratio * price) =
      1 / (if q0 = true then ratio / price else ratio * price) := by
  cases q0
  · exact div_div 1 ratio price
  · show 1 / ratio * price = 1 / (ratio / price)
    rw [one_div_div, div_mul_eq_mul_div, one_mul]

theorem valueRatio_ne_zero (q0 : Bool) {ratio price : Rat} (hr : ratio ≠ 0) (hp : price ≠ 0) :
    (if q0 = true then ratio / price else ratio * price) ≠ 0 := by
  cases q0
  · exact mul_ne_zero hr hp
  · exact div_ne_zero hr hp

theorem split_recip (value : Rat) {r : Rat} (hr : r ≠ 0) (hz : r + 1 ≠ 0) :
    value / (1 / r + 1) = value - value / (r + 1) := by
  have hz' : 1 + r ≠ 0 := by rwa [add_comm]
  field_simp
  ring

theorem one_div_add_one_eq_zero {r : Rat} (hr : r ≠ 0) : 1 / r + 1 = 0 ↔ r + 1 = 0 := by
  rw [div_add' _ _ _ hr, div_eq_zero_iff, or_iff_left hr, one_mul, add_comm]

end Demeter.Uni
