/-
  Non-vacuity of the hypotheses of C06 (e): a concrete arithmetic (`demoTn`) that satisfies `Exact`, `Approx _ 10⁻⁹`
  and `LgSound _ 10⁻⁹` simultaneously: no rounding of `+ − × ÷`, exact `** 2`, exact powers of ten, a square root
  computed with `Nat.sqrt` on a 10-digit scaling (exact on perfect squares, relative error ≤ 10⁻¹⁰ otherwise) and the
  true floor logarithm (which exists by the Archimedean property).
-/
import Proofs.Lemmas.TickInv
import Proofs.Lemmas.NatSqrtQuot
import Mathlib.Algebra.Order.Archimedean.Basic
import Mathlib.Data.Nat.Sqrt
import Mathlib.Tactic.FieldSimp
namespace Demeter.TickInv
open Demeter Gen

def demoK : Nat := 10000000000

/-- `√(n/d) ≈ ⌊√(n·d·K²)⌋ / (d·K)` -/
def demoSqrt (y : Rat) : Rat :=
  ((Nat.sqrt (y.num.natAbs * y.den * (demoK * demoK)) : Nat) : Rat) / ((y.den * demoK : Nat) : Rat)

theorem exists_floor_log (y : Rat) (hy : 0 < y) : ∃ e : Int, rho ^ e ≤ y ^ 2 ∧ y ^ 2 < rho ^ (e + 1) := by
  obtain ⟨n, hn⟩ := exists_mem_Ico_zpow (x := y ^ 2) (y := rho) (by positivity) one_lt_rho
  exact ⟨n, hn.1, hn.2⟩

open Classical in
noncomputable def demoLg (y : Rat) : Int := if h : 0 < y then Classical.choose (exists_floor_log y h) else 0

noncomputable def demoTn : TickNum :=
  { cx := { rnd := id, dsqrt := demoSqrt }, sq := fun x => x * x, fac := fun e => (10 : Rat) ^ e, lg := demoLg }

theorem natAbs_num_div_den {y : Rat} (hy : 0 ≤ y) : ((y.num.natAbs : Nat) : Rat) / (y.den : Rat) = y := by
  rw [Nat.cast_natAbs, abs_of_nonneg (Rat.num_nonneg.2 hy)]
  exact Rat.num_div_den y

theorem demoSqrt_facts (y : Rat) (hy : 0 ≤ y) :
    0 ≤ demoSqrt y ∧ demoSqrt y ^ 2 ≤ y ∧ y * (1 - 1 / 1000000000) ^ 2 ≤ demoSqrt y ^ 2 := by
  obtain ⟨a, b, c⟩ := natSqrt_quot_spec y.num.natAbs y.den demoK y.den_pos (by decide)
  rw [natAbs_num_div_den hy] at b c
  have ev : demoSqrt y = ((Nat.sqrt (y.num.natAbs * y.den * (demoK * demoK)) : Nat) : Rat) / ((y.den : Rat) * demoK) := by
    unfold demoSqrt; push_cast; rfl
  rw [ev]
  refine ⟨a, b, le_trans (mul_le_mul_of_nonneg_left ?_ hy) c⟩
  unfold demoK; norm_num

theorem demoSqrt_sq (y : Rat) (hy : 0 ≤ y) : demoSqrt (y * y) = y := by
  have e1 : (y * y).num = y.num * y.num := Rat.mul_self_num y
  have e2 : (y * y).den = y.den * y.den := Rat.mul_self_den y
  have hd : 0 < y.den := y.den_pos
  unfold demoSqrt
  rw [e1, e2, Int.natAbs_mul]
  have : y.num.natAbs * y.num.natAbs * (y.den * y.den) * (demoK * demoK)
      = (y.num.natAbs * y.den * demoK) * (y.num.natAbs * y.den * demoK) := by ring
  rw [this, Nat.sqrt_eq]
  have hK : (0 : Rat) < (demoK : Rat) := by exact_mod_cast (by decide : 0 < demoK)
  have hdq : (0 : Rat) < (y.den : Rat) := by exact_mod_cast hd
  have hyv : (y.num.natAbs : Rat) = y * (y.den : Rat) := (div_eq_iff hdq.ne').1 (natAbs_num_div_den hy)
  push_cast
  rw [hyv]
  field_simp

theorem demo_fac_pos (e : Int) : 0 < demoTn.fac e := by
  show (0 : Rat) < (10 : Rat) ^ e
  exact zpow_pos (by norm_num) e

theorem demo_exact : Exact demoTn :=
  { rnd := fun _ => rfl, sq := fun _ => rfl, sqrt := demoSqrt_sq, fac_pos := demo_fac_pos }

theorem demo_approx : Approx demoTn (1 / 1000000000) :=
  { eps_nonneg := by norm_num
    eps_small := le_refl _
    rnd := fun x hx => by
      show x * (1 - 1 / 1000000000) ≤ x ∧ x ≤ x * (1 + 1 / 1000000000)
      exact ⟨mul_le_of_le_one_right hx (by norm_num), le_mul_of_one_le_right hx (by norm_num)⟩
    sq := fun x => by
      show x * x * (1 - 1 / 1000000000) ^ 2 ≤ x * x ∧ x * x ≤ x * x * (1 + 1 / 1000000000) ^ 2
      have : 0 ≤ x * x := mul_self_nonneg x
      exact ⟨mul_le_of_le_one_right this (by norm_num), le_mul_of_one_le_right this (by norm_num)⟩
    sqrt := fun y hy => by
      obtain ⟨a, b, c⟩ := demoSqrt_facts y hy
      exact ⟨a, c, le_trans b (le_mul_of_one_le_right hy (by norm_num))⟩
    fac_pos := demo_fac_pos }

theorem demo_lg : LgSound demoTn (1 / 1000000000) := by
  intro y hy
  show rho ^ demoLg y ≤ _ ∧ _ < rho ^ (demoLg y + 1)
  unfold demoLg
  rw [dif_pos hy]
  obtain ⟨a, b⟩ := Classical.choose_spec (exists_floor_log y hy)
  constructor
  · refine le_trans a ?_
    exact pow_le_pow_left₀ (le_of_lt hy) (le_mul_of_one_le_right (le_of_lt hy) (by norm_num)) 2
  · refine lt_of_le_of_lt ?_ b
    exact pow_le_pow_left₀ (mul_nonneg (le_of_lt hy) (by norm_num)) (mul_le_of_le_one_right (le_of_lt hy) (by norm_num)) 2

end Demeter.TickInv
