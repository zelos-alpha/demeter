/-
  the magnitude hypothesis cannot be dropped.

  `x = 1/(124·10^59998)`: the denominator has 60 001 digits but `Num.ilog10` reports 59 999 (+1 = 60 000 digits) because
  its bit-length estimate is short by two there.  `sigExp` then chooses an exponent one too large, the mantissa keeps 34
  digits instead of 35, and the relative error of the model's `round35` is `6.0·10⁻³⁵ > 5·10⁻³⁵`.
  Everything is derived symbolically for an abstract denominator so that neither the elaborator nor the kernel is ever
  asked to evaluate `Nat.log2` of a 200 000-bit literal by unfolding.
-/
import Proofs.Lemmas.Round35Ctx
namespace Demeter.Numerics
open Demeter
set_option exponentiation.threshold 200000
local notation "T" => (10 : ℚ)

theorem one_div_natCast_den {D : ℕ} (h : D ≠ 0) : ((1:ℚ) / (D:ℚ)).den = D := by
  rw [one_div, Rat.inv_natCast_den, if_neg h]

theorem rel_err_fails_aux (D M : ℕ) (hM : 0 < M) (hD : D = 124 * M) (hlog : D.log2 = 199315)
    (h3 : 10 ^ (199315 * 1233 / 4096 + 1) ≤ D) (hlt : ¬ (D * 10 ^ 35 ≤ 1 * 10 ^ 60034))
    (hMq : T ^ (60034:ℕ) = T ^ (36:ℕ) * (M:ℚ)) :
    ¬ |round35 (1 / (D : ℚ)) - 1 / (D : ℚ)| ≤ EPS35 * |1 / (D : ℚ)| := by
  have hD0 : D ≠ 0 := by omega
  have hDq : (0:ℚ) < (D:ℚ) := by exact_mod_cast Nat.pos_of_ne_zero hD0
  have hMq0 : (0:ℚ) < (M:ℚ) := by exact_mod_cast hM
  have hx : (0:ℚ) < 1 / (D:ℚ) := by positivity
  have hnum : ((1:ℚ) / (D:ℚ)).num.natAbs = 1 := by
    rw [one_div, Rat.inv_natCast_num_of_pos (Nat.pos_of_ne_zero hD0)]; rfl
  have hdig : ndigits D = 59999 + 1 := by
    unfold ndigits
    rw [ilog10_eval _ _ hD0 hlog, if_pos h3]
  have h1 : ndigits 1 = 1 := by decide
  have hsexp : sexp 35 (1 / (D : ℚ)) = -((60034:ℕ):ℤ) := by
    unfold sexp
    rw [one_div_natCast_den hD0, hnum, sigExp_eval 35 1 D 1 (59999 + 1) h1 hdig]
    have e0 : ((1:ℕ):ℤ) - ((59999 + 1:ℕ):ℤ) - ((35:ℕ):ℤ) = -((60034:ℕ):ℤ) := by norm_num
    rw [e0, scale10_neg 1 D 60034 (by decide)]
    have hlt' : ¬ ((1 * 10 ^ 60034, D).1 ≥ (1 * 10 ^ 60034, D).2 * pow10 35) := hlt
    rw [if_neg hlt']
  have hTe : T ^ (-((60034:ℕ):ℤ)) = (T ^ (36:ℕ) * (M:ℚ))⁻¹ := by
    rw [zpow_neg, zpow_natCast, hMq]
  have hv : 1 / (D:ℚ) / T ^ (-((60034:ℕ):ℤ)) = ((10 ^ 36 : ℕ) : ℚ) / ((124 : ℕ) : ℚ) := by
    rw [hTe, hD]; push_cast; field_simp; norm_num
  have hq : rheQ (((10 ^ 36 : ℕ) : ℚ) / ((124 : ℕ) : ℚ)) = 8064516129032258064516129032258065 := by
    rw [← rhe_eq _ _ (by decide)]; decide
  have hr : round35 (1 / (D:ℚ)) = (8064516129032258064516129032258065 : ℚ) * (T ^ (36:ℕ) * (M:ℚ))⁻¹ := by
    unfold round35
    rw [roundSig_of_pos 35 hx]
    unfold rpos
    rw [hsexp, hv, hq, hTe]; ring
  have hxv : 1 / (D:ℚ) = (10 ^ 36 / 124 : ℚ) * (T ^ (36:ℕ) * (M:ℚ))⁻¹ := by
    rw [hD]; push_cast; field_simp
  rw [hr, hxv]
  have hpos : (0:ℚ) < (T ^ (36:ℕ) * (M:ℚ))⁻¹ := by positivity
  generalize (T ^ (36:ℕ) * (M:ℚ))⁻¹ = u at *
  rw [← sub_mul, abs_mul, abs_mul, abs_of_pos hpos, ← mul_assoc]
  intro h
  have := le_of_mul_le_mul_right h hpos
  unfold EPS35 at this
  norm_num [abs_le] at this

def bigD : ℕ := 124 * 10 ^ 59998

theorem bigD_ne_zero : bigD ≠ 0 := Nat.pos_iff_ne_zero.1 (Nat.mul_pos (by decide) (Nat.pow_pos (by decide)))

theorem bigD_log2 : bigD.log2 = 199315 := by
  have h1 : 2 ^ 199315 ≤ bigD := by decide +kernel
  have h2 : bigD < 2 ^ (199315 + 1) := by decide +kernel
  exact (Nat.log2_eq_iff bigD_ne_zero).2 ⟨h1, h2⟩

theorem bigD_not_InRange : ¬ InRange (1 / (bigD : ℚ)) := by
  intro h
  have := h.2
  rw [one_div_natCast_den bigD_ne_zero, bigD_log2] at this
  exact absurd this (by decide)

/-- **outside the magnitude range the model's `round35` loses a digit**: for `x = 1/(1.24·10^60000)` the relative
    error is `6.0·10⁻³⁵ > 5·10⁻³⁵` (CPython itself rounds this number correctly) -/
theorem round35_rel_err_fails_beyond :
    ¬ |round35 (1 / (bigD : ℚ)) - 1 / (bigD : ℚ)| ≤ EPS35 * |1 / (bigD : ℚ)| := by
  have h3 : 10 ^ (199315 * 1233 / 4096 + 1) ≤ bigD := by decide +kernel
  have hlt : ¬ (bigD * 10 ^ 35 ≤ 1 * 10 ^ 60034) := by decide +kernel
  have hMq : (10:ℚ) ^ (60034:ℕ) = (10:ℚ) ^ (36:ℕ) * ((10 ^ 59998 : ℕ) : ℚ) := by
    rw [Nat.cast_pow, Nat.cast_ofNat, ← pow_add]
  exact rel_err_fails_aux bigD (10 ^ 59998) (Nat.pow_pos (by decide)) rfl bigD_log2 h3 hlt hMq

end Demeter.Numerics
