/-
  The selection loops and the `while` loop of `_liquidate` (model: `pickDebt`, `pickColl`, `liqLoop`).  In the exact context a
  well-formed portfolio never makes a step raise.  In a context whose rounding only shrinks halves (`RndShrink`, implied by
  `RndMono`) no step raises `DemeterError`.
-/
import Proofs.Lemmas.AaveRiskOps
namespace Demeter.AaveRisk
open Demeter

/-- the loop condition `0 < health_factor < HEALTH_FACTOR_LIQUIDATION_THRESHOLD` -/
def liqCond (cx : NumCtx) (p : Portfolio) : Bool :=
  (healthFactor cx p).gtB 0 && (healthFactor cx p).ltB Gen.arHfLiqThreshold

theorem liqLoop_eq (cx : NumCtx) (fuel : Nat) (p : Portfolio) (vis : List String) (acts : List LiqAction) :
    liqLoop cx fuel p vis acts =
      if !liqCond cx p then ⟨p, acts, vis, none, false⟩ else
      match pickDebt cx p.debts vis with
      | none => ⟨p, acts, vis, none, false⟩
      | some (d, v) =>
        match fuel with
        | 0 => ⟨p, acts, vis, none, true⟩
        | fuel + 1 =>
          match (pickColl cx p.supplies).1 with
          | none => ⟨p, acts, vis ++ [d.tok], some .attribute, false⟩
          | some c =>
            match doLiquidate cx p c d v with
            | .done p' a => liqLoop cx fuel p' (vis ++ [d.tok]) (acts ++ [a])
            | .rejected => liqLoop cx fuel p (vis ++ [d.tok]) acts
            | .raised e p' => ⟨p', acts, vis ++ [d.tok], some e, false⟩ := by
  rw [liqLoop]
  rfl

/-- A selection loop `for x in l: if take acc x: acc = mk x`, where `take` lets through the eligible elements that are
    within the accumulator's bound (`fits`) and the bound of `mk y` admits exactly what is at least as good as `y`
    (`le x y`, a total preorder): either nothing is taken, or the loop ends on the *last* best eligible element. -/
theorem foldl_last_best {α β : Type} (take : β → α → Bool) (mk : α → β) (ok : α → Prop) (le : α → α → Prop)
    (fits : β → α → Prop) (htot : ∀ x y, le x y ∨ le y x) (htake : ∀ b x, take b x = true ↔ ok x ∧ fits b x)
    (hmk : ∀ y x, fits (mk y) x ↔ le x y) (hdown : ∀ b x y, fits b x → le y x → fits b y) (l : List α) (acc : β) :
    (l.foldl (fun b x => if take b x then mk x else b) acc = acc ∧ ∀ x ∈ l, ok x → ¬ fits acc x)
    ∨ ∃ d l1 l2, l.foldl (fun b x => if take b x then mk x else b) acc = mk d ∧ ok d ∧ l = l1 ++ d :: l2
        ∧ (∀ x ∈ l1, ok x → le d x) ∧ (∀ x ∈ l2, ok x → ¬ le x d) ∧ fits acc d := by
  induction l generalizing acc with
  | nil => exact .inl ⟨rfl, by simp⟩
  | cons x r ih =>
    rw [List.foldl_cons]
    by_cases ht : take acc x = true
    · rw [if_pos ht]
      obtain ⟨hok, hfit⟩ := (htake acc x).mp ht
      right
      rcases ih (mk x) with ⟨h1, h2⟩ | ⟨d, l1, l2, h1, h2, h3, h4, h5, h6⟩
      · exact ⟨x, [], r, h1, hok, rfl, by simp, fun y hy hoky h => h2 y hy hoky ((hmk x y).mpr h), hfit⟩
      · have hdx : le d x := (hmk x d).mp h6
        exact ⟨d, x :: l1, l2, h1, h2, by rw [h3]; rfl, List.forall_mem_cons.mpr ⟨fun _ => hdx, h4⟩, h5, hdown acc x d hfit hdx⟩
    · rw [if_neg ht]
      have hx : ok x → ¬ fits acc x := fun hok hfit => ht ((htake acc x).mpr ⟨hok, hfit⟩)
      rcases ih acc with ⟨h1, h2⟩ | ⟨d, l1, l2, h1, h2, h3, h4, h5, h6⟩
      · exact .inl ⟨h1, List.forall_mem_cons.mpr ⟨hx, h2⟩⟩
      · -- `x` was eligible and not taken although `d` is within the bound: `x` is strictly worse than `d`
        have hxd : ok x → le d x := fun hok => (htot d x).resolve_right (fun h => hx hok (hdown acc d x h6 h))
        exact .inr ⟨d, x :: l1, l2, h1, h2, by rw [h3]; rfl, List.forall_mem_cons.mpr ⟨hxd, h4⟩, h5, h6⟩

theorem pickDebt_cases (cx : NumCtx) (ds : List Debt) (vis : List String) :
    (pickDebt cx ds vis = none → ∀ d ∈ ds, d.tok ∈ vis)
    ∧ ∀ d v, pickDebt cx ds vis = some (d, v) → v = d.value cx ∧ d.tok ∉ vis ∧ ∃ l1 l2, ds = l1 ++ d :: l2
        ∧ (∀ x ∈ l1, x.tok ∉ vis → d.value cx ≤ x.value cx) ∧ (∀ x ∈ l2, x.tok ∉ vis → d.value cx < x.value cx) := by
  have h := foldl_last_best
    (take := fun (acc : Option (Debt × Rat)) (d : Debt) =>
      (match acc with
        | none => true
        | some (_, m) => decide (d.value cx ≤ m)) && !vis.contains d.tok)
    (mk := fun d => some (d, d.value cx)) (ok := fun d => d.tok ∉ vis) (le := fun x y => x.value cx ≤ y.value cx)
    (fits := fun acc d => ∀ e m, acc = some (e, m) → d.value cx ≤ m)
    (fun x y => le_total _ _) (by rintro (_ | ⟨e, m⟩) x <;> simp [and_comm]) (by simp)
    (fun b x y h hle e m he => le_trans hle (h e m he)) ds none
  rcases h with ⟨h1, h2⟩ | ⟨d, l1, l2, h1, h2, h3, h4, h5, _⟩
  · exact ⟨fun _ d hd => by_contra fun hv => h2 d hd hv (by simp), fun d v h => (nomatch h1.symm.trans h)⟩
  · refine ⟨fun h => (nomatch h1.symm.trans h), fun d' v h => ?_⟩
    cases h1.symm.trans h
    exact ⟨rfl, h2, l1, l2, h3, h4, fun x hx hv => not_le.mp (h5 x hx hv)⟩

theorem pickDebt_some {cx : NumCtx} {ds : List Debt} {vis : List String} {d : Debt} {v : Rat}
    (h : pickDebt cx ds vis = some (d, v)) : d ∈ ds ∧ d.tok ∉ vis ∧ v = d.value cx := by
  obtain ⟨hv, hvis, l1, l2, rfl, _⟩ := (pickDebt_cases cx ds vis).2 d v h
  exact ⟨by simp, hvis, hv⟩

/-- `none` only if every collateral has a negative value: the running maximum starts at 0 -/
theorem pickColl_cases (cx : NumCtx) (ss : List Supply) :
    ((pickColl cx ss).1 = none → ∀ s ∈ ss, s.coll = true → s.value cx < 0)
    ∧ ∀ c, (pickColl cx ss).1 = some c → c.coll = true ∧ 0 ≤ c.value cx ∧ (pickColl cx ss).2 = c.value cx ∧ ∃ l1 l2, ss = l1 ++ c :: l2
        ∧ (∀ x ∈ l1, x.coll = true → x.value cx ≤ c.value cx) ∧ (∀ x ∈ l2, x.coll = true → x.value cx < c.value cx) := by
  have h := foldl_last_best
    (take := fun (acc : Option Supply × Rat) (s : Supply) => s.coll && decide (acc.2 ≤ s.value cx))
    (mk := fun s => (some s, s.value cx)) (ok := fun s => s.coll = true) (le := fun x y => y.value cx ≤ x.value cx)
    (fits := fun acc s => acc.2 ≤ s.value cx)
    (fun x y => le_total _ _) (by simp) (fun y x => Iff.rfl) (fun b x y h hle => le_trans h hle)
    ss (none, Gen.arLiqCollStart)
  rcases h with ⟨h1, h2⟩ | ⟨c, l1, l2, h1, h2, h3, h4, h5, h6⟩
  · exact ⟨fun _ s hs hc => by simpa [Gen.arLiqCollStart] using h2 s hs hc,
      fun c h => (nomatch (congrArg Prod.fst h1).symm.trans h)⟩
  · refine ⟨fun h => (nomatch (congrArg Prod.fst h1).symm.trans h), fun c' h => ?_⟩
    cases (congrArg Prod.fst h1).symm.trans h
    exact ⟨h2, by simpa [Gen.arLiqCollStart] using h6, congrArg Prod.snd h1, l1, l2, h3, h4,
      fun x hx hc => not_le.mp (h5 x hx hc)⟩

theorem pickColl_some {cx : NumCtx} {ss : List Supply} {c : Supply} (h : (pickColl cx ss).1 = some c) :
    c ∈ ss ∧ c.coll = true := by
  obtain ⟨hc, _, _, l1, l2, rfl, _⟩ := (pickColl_cases cx ss).2 c h
  exact ⟨by simp, hc⟩

/-- number of keys not yet in `has_liquidated` -/
def unv (ks : List String) (vis : List String) : Nat := (ks.filter (fun k => !vis.contains k)).length

theorem unv_nil (ks : List String) : unv ks [] = ks.length := by
  unfold unv; simp

theorem unv_sublist {ks' ks : List String} (h : ks'.Sublist ks) (vis : List String) : unv ks' vis ≤ unv ks vis :=
  (h.filter _).length_le

theorem unv_visit {ks : List String} {vis : List String} {t : String} (ht : t ∈ ks) (hv : t ∉ vis) :
    unv ks (vis ++ [t]) + 1 ≤ unv ks vis := by
  unfold unv
  have h : ks.filter (fun k => !(vis ++ [t]).contains k)
      = (ks.filter (fun k => !vis.contains k)).filter (fun k => decide (k ≠ t)) := by
    rw [List.filter_filter]
    congr 1
    funext k
    simp only [List.contains_eq_mem, List.mem_append, List.mem_singleton, Bool.decide_or, Bool.not_or, ne_eq,
      decide_not, Bool.and_comm]
  rw [h]
  exact Nat.succ_le_of_lt (List.length_filter_lt_length_iff_exists.mpr
    ⟨t, List.mem_filter.mpr ⟨ht, by simpa using hv⟩, by simp⟩)
section loop
variable {cx : NumCtx} {p : Portfolio} {vis : List String} {acts : List LiqAction}

theorem liqLoop_stop (fuel : Nat) (vis : List String) (acts : List LiqAction) (hc : liqCond cx p = false) :
    liqLoop cx fuel p vis acts = ⟨p, acts, vis, none, false⟩ := by
  rw [liqLoop_eq, hc]; rfl

theorem liqLoop_allVisited (fuel : Nat) (acts : List LiqAction) (hc : liqCond cx p = true)
    (hpd : pickDebt cx p.debts vis = none) : liqLoop cx fuel p vis acts = ⟨p, acts, vis, none, false⟩ := by
  rw [liqLoop_eq]; simp only [hc, hpd, Bool.not_true, Bool.false_eq_true, if_false]

theorem liqLoop_outOfFuel (acts : List LiqAction) {d : Debt} {v : Rat} (hc : liqCond cx p = true)
    (hpd : pickDebt cx p.debts vis = some (d, v)) : liqLoop cx 0 p vis acts = ⟨p, acts, vis, none, true⟩ := by
  rw [liqLoop_eq]; simp only [hc, hpd, Bool.not_true, Bool.false_eq_true, if_false]

theorem liqLoop_noColl (fuel : Nat) (acts : List LiqAction) {d : Debt} {v : Rat} (hc : liqCond cx p = true)
    (hpd : pickDebt cx p.debts vis = some (d, v)) (hpc : (pickColl cx p.supplies).1 = none) :
    liqLoop cx (fuel + 1) p vis acts = ⟨p, acts, vis ++ [d.tok], some .attribute, false⟩ := by
  rw [liqLoop_eq]; simp only [hc, hpd, hpc, Bool.not_true, Bool.false_eq_true, if_false]

theorem liqLoop_done (fuel : Nat) (acts : List LiqAction) {d : Debt} {v : Rat} {c : Supply} {p' : Portfolio}
    {a : LiqAction} (hc : liqCond cx p = true) (hpd : pickDebt cx p.debts vis = some (d, v))
    (hpc : (pickColl cx p.supplies).1 = some c) (hdo : doLiquidate cx p c d v = .done p' a) :
    liqLoop cx (fuel + 1) p vis acts = liqLoop cx fuel p' (vis ++ [d.tok]) (acts ++ [a]) := by
  rw [liqLoop_eq]; simp only [hc, hpd, hpc, hdo, Bool.not_true, Bool.false_eq_true, if_false]

theorem liqLoop_rejected (fuel : Nat) (acts : List LiqAction) {d : Debt} {v : Rat} {c : Supply}
    (hc : liqCond cx p = true) (hpd : pickDebt cx p.debts vis = some (d, v))
    (hpc : (pickColl cx p.supplies).1 = some c) (hdo : doLiquidate cx p c d v = .rejected) :
    liqLoop cx (fuel + 1) p vis acts = liqLoop cx fuel p (vis ++ [d.tok]) acts := by
  rw [liqLoop_eq]; simp only [hc, hpd, hpc, hdo, Bool.not_true, Bool.false_eq_true, if_false]

theorem liqLoop_raised (fuel : Nat) (acts : List LiqAction) {d : Debt} {v : Rat} {c : Supply} {e : Exc}
    {q : Portfolio} (hc : liqCond cx p = true) (hpd : pickDebt cx p.debts vis = some (d, v))
    (hpc : (pickColl cx p.supplies).1 = some c) (hdo : doLiquidate cx p c d v = .raised e q) :
    liqLoop cx (fuel + 1) p vis acts = ⟨q, acts, vis ++ [d.tok], some e, false⟩ := by
  rw [liqLoop_eq]; simp only [hc, hpd, hpc, hdo, Bool.not_true, Bool.false_eq_true, if_false]

end loop

theorem liqLoop_induct (cx : NumCtx) {motive : Nat → Portfolio → List String → List LiqAction → LiqResult → Prop}
    (stop : ∀ fuel p vis acts, liqCond cx p = false → motive fuel p vis acts ⟨p, acts, vis, none, false⟩)
    (allVisited : ∀ fuel p vis acts, liqCond cx p = true → pickDebt cx p.debts vis = none →
      motive fuel p vis acts ⟨p, acts, vis, none, false⟩)
    (outOfFuel : ∀ p vis acts d v, liqCond cx p = true → pickDebt cx p.debts vis = some (d, v) →
      motive 0 p vis acts ⟨p, acts, vis, none, true⟩)
    (noColl : ∀ fuel p vis acts d v, liqCond cx p = true → pickDebt cx p.debts vis = some (d, v) →
      (pickColl cx p.supplies).1 = none → motive (fuel + 1) p vis acts ⟨p, acts, vis ++ [d.tok], some .attribute, false⟩)
    (done : ∀ fuel p vis acts d v c p' a r, liqCond cx p = true → pickDebt cx p.debts vis = some (d, v) →
      (pickColl cx p.supplies).1 = some c → doLiquidate cx p c d v = .done p' a →
      motive fuel p' (vis ++ [d.tok]) (acts ++ [a]) r → motive (fuel + 1) p vis acts r)
    (rejected : ∀ fuel p vis acts d v c r, liqCond cx p = true → pickDebt cx p.debts vis = some (d, v) →
      (pickColl cx p.supplies).1 = some c → doLiquidate cx p c d v = .rejected →
      motive fuel p (vis ++ [d.tok]) acts r → motive (fuel + 1) p vis acts r)
    (raised : ∀ fuel p vis acts d v c e q, liqCond cx p = true → pickDebt cx p.debts vis = some (d, v) →
      (pickColl cx p.supplies).1 = some c → doLiquidate cx p c d v = .raised e q →
      motive (fuel + 1) p vis acts ⟨q, acts, vis ++ [d.tok], some e, false⟩) :
    ∀ fuel p vis acts, motive fuel p vis acts (liqLoop cx fuel p vis acts) := by
  -- the induction principle Lean derives from the definition of `liqLoop`, its loop condition folded into `liqCond`
  have hstop : ∀ p, (!liqCond cx p) = true → liqCond cx p = false := fun _ h => by simpa using h
  have hgo : ∀ p, ¬ (!liqCond cx p) = true → liqCond cx p = true := fun _ h => by simpa using h
  refine liqLoop.induct_unfolding cx motive ?_ ?_ ?_ ?_ ?_ ?_ ?_
  · exact fun fuel p vis acts h => stop fuel p vis acts (hstop p h)
  · exact fun fuel p vis acts h hpd => allVisited fuel p vis acts (hgo p h) hpd
  · exact fun p vis acts h d v hpd => outOfFuel p vis acts d v (hgo p h) hpd
  · exact fun p vis acts h d v hpd fuel hpc => noColl fuel p vis acts d v (hgo p h) hpd hpc
  · exact fun p vis acts h d v hpd fuel c hpc p' a hdo ih => done fuel p vis acts d v c p' a _ (hgo p h) hpd hpc hdo ih
  · exact fun p vis acts h d v hpd fuel c hpc hdo ih => rejected fuel p vis acts d v c _ (hgo p h) hpd hpc hdo ih
  · exact fun p vis acts h d v hpd fuel c hpc e q hdo => raised fuel p vis acts d v c e q (hgo p h) hpd hpc hdo

theorem liqLoop_baseOnly (cx : NumCtx) {p0 : Portfolio} (fuel : Nat) (p : Portfolio) (vis : List String)
    (acts : List LiqAction) : BaseOnly p0 p → BaseOnly p0 (liqLoop cx fuel p vis acts).p := by
  refine liqLoop_induct cx (motive := fun _ p _ _ r => BaseOnly p0 p → BaseOnly p0 r.p) ?_ ?_ ?_ ?_ ?_ ?_ ?_ fuel p vis acts
  · intro _ _ _ _ _ h; exact h
  · intro _ _ _ _ _ _ h; exact h
  · intro _ _ _ _ _ _ _ h; exact h
  · intro _ _ _ _ _ _ _ _ _ h; exact h
  · intro _ _ _ _ _ _ _ _ _ _ _ _ _ hdo ih h; exact ih ((doLiquidate_baseOnly h).1 _ _ hdo)
  · intro _ _ _ _ _ _ _ _ _ _ _ _ ih h; exact ih h
  · intro _ _ _ _ _ _ _ _ _ _ _ _ hdo h; exact (doLiquidate_baseOnly h).2 _ _ hdo

theorem pickDebt_visit {cx : NumCtx} {p : Portfolio} {vis : List String} {d : Debt} {v : Rat}
    (hpd : pickDebt cx p.debts vis = some (d, v)) (hn : vis.Nodup) :
    (vis ++ [d.tok]).Nodup ∧ unv (p.debts.map (·.tok)) (vis ++ [d.tok]) + 1 ≤ unv (p.debts.map (·.tok)) vis := by
  obtain ⟨hd, hv, _⟩ := pickDebt_some hpd
  exact ⟨List.concat_eq_append ▸ hn.concat hv, unv_visit (List.mem_map_of_mem (f := (·.tok)) hd) hv⟩

def LoopInv (cx : NumCtx) (fuel : Nat) (p : Portfolio) (vis : List String) (acts : List LiqAction) (r : LiqResult) : Prop :=
  unv (p.debts.map (·.tok)) vis ≤ fuel → vis.Nodup → ((acts.map (·.debtTok)).Sublist vis) →
    r.outOfFuel = false ∧ r.visited.Nodup ∧ ((r.actions.map (·.debtTok)).Sublist r.visited)
    ∧ r.visited.length ≤ vis.length + unv (p.debts.map (·.tok)) vis
    ∧ (r.err = none → liqCond cx r.p = false ∨ ∀ d ∈ r.p.debts, d.tok ∈ r.visited)

theorem liqLoop_inv (cx : NumCtx) : ∀ (fuel : Nat) (p : Portfolio) (vis : List String) (acts : List LiqAction),
    LoopInv cx fuel p vis acts (liqLoop cx fuel p vis acts) := by
  refine liqLoop_induct cx (motive := LoopInv cx) ?_ ?_ ?_ ?_ ?_ ?_ ?_
  · intro fuel p vis acts hc _ hn hs
    exact ⟨rfl, hn, hs, Nat.le_add_right _ _, fun _ => Or.inl hc⟩
  · intro fuel p vis acts _ hpd _ hn hs
    exact ⟨rfl, hn, hs, Nat.le_add_right _ _, fun _ => Or.inr ((pickDebt_cases _ _ _).1 hpd)⟩
  · intro p vis acts d v _ hpd hf hn _
    have := (pickDebt_visit hpd hn).2
    omega
  · intro fuel p vis acts d v _ hpd _ _ hn hs
    obtain ⟨hn', hv⟩ := pickDebt_visit hpd hn
    refine ⟨rfl, hn', hs.trans (List.sublist_append_left _ _), ?_, fun h => by cases h⟩
    rw [List.length_append, List.length_singleton]; omega
  · intro fuel p vis acts d v c p' a r _ hpd _ hdo ih hf hn hs
    obtain ⟨hn', hv⟩ := pickDebt_visit hpd hn
    obtain ⟨_, hp', ha⟩ := doLiquidate_done_iff.mp hdo
    have hk : unv (p'.debts.map (·.tok)) (vis ++ [d.tok]) ≤ unv (p.debts.map (·.tok)) (vis ++ [d.tok]) := by
      rw [hp']; exact unv_sublist (keys_putDebtBase_sublist _ _ _) _
    have hs' : (((acts ++ [a]).map (·.debtTok)).Sublist (vis ++ [d.tok])) := by
      rw [List.map_append, ha]; exact hs.append (List.Sublist.refl _)
    obtain ⟨h1, h2, h3, h4, h5⟩ := ih (by omega) hn' hs'
    refine ⟨h1, h2, h3, ?_, h5⟩
    rw [List.length_append, List.length_singleton] at h4; omega
  · intro fuel p vis acts d v c r _ hpd _ _ ih hf hn hs
    obtain ⟨hn', hv⟩ := pickDebt_visit hpd hn
    obtain ⟨h1, h2, h3, h4, h5⟩ := ih (by omega) hn' (hs.trans (List.sublist_append_left _ _))
    refine ⟨h1, h2, h3, ?_, h5⟩
    rw [List.length_append, List.length_singleton] at h4; omega
  · intro fuel p vis acts d v c e q _ hpd _ _ _ hn hs
    obtain ⟨hn', hv⟩ := pickDebt_visit hpd hn
    refine ⟨rfl, hn', hs.trans (List.sublist_append_left _ _), ?_, fun h => by cases h⟩
    rw [List.length_append, List.length_singleton]; omega

theorem liqCond_iff {cx : NumCtx} {p : Portfolio} :
    liqCond cx p = true ↔ ∃ x, healthFactor cx p = some x ∧ 0 < x ∧ x < 1 := by
  unfold liqCond
  rw [hfLiqThreshold_eq_one]
  cases healthFactor cx p with
  | none => simp [XRat.ltB]
  | some x => simp [XRat.gtB, XRat.ltB]

theorem liqCond_exact_iff {p : Portfolio} (hnn : 0 ≤ totalDebt NumCtx.exact p) :
    liqCond NumCtx.exact p = true ↔ 0 < weightedLt NumCtx.exact p ∧ weightedLt NumCtx.exact p < totalDebt NumCtx.exact p := by
  rw [liqCond_iff, healthFactor_exact]
  by_cases h0 : totalDebt NumCtx.exact p = 0
  · rw [if_pos h0, h0]
    exact ⟨fun ⟨_, h, _⟩ => (nomatch h), fun h => absurd (h.1.trans h.2) (lt_irrefl _)⟩
  · have hpos : 0 < totalDebt NumCtx.exact p := lt_of_le_of_ne hnn (Ne.symm h0)
    rw [if_neg h0]
    simp only [Option.some.injEq, exists_eq_left', div_pos_iff_of_pos_right hpos, div_lt_one hpos]

theorem pickColl_ne_none {p : Portfolio} (hwf : p.WF) (h : liqCond NumCtx.exact p = true) :
    (pickColl NumCtx.exact p.supplies).1 ≠ none := by
  intro hn
  have hpos := ((liqCond_exact_iff hwf.totalDebt_nonneg).mp h).1
  rw [weightedLt_sum] at hpos
  -- no supply contributes: a flagged one would have a negative value
  refine absurd hpos (not_lt.mpr (le_of_eq (List.sum_eq_zero ?_)))
  intro x hx
  obtain ⟨s, hs, rfl⟩ := List.mem_map.mp hx
  unfold gLt
  split
  · rename_i hc
    have := (pickColl_cases _ _).1 hn s hs hc
    have := hwf.supply_value_nonneg hs
    linarith
  · rfl

theorem doLiquidate_not_rejected {p : Portfolio} {c : Supply} {d : Debt} {cover : Rat} (hwf : p.WF)
    (hc : c ∈ p.supplies) (hcc : c.coll = true) (hd : d ∈ p.debts) (hpos : 0 < d.base) :
    doLiquidate NumCtx.exact p c d cover ≠ .rejected := by
  intro h
  rcases doLiquidate_rejected_iff.mp h with h0 | h0 | h0
  · exact absurd h0 (ne_of_gt ((hwf.sup c hc).2.2 hcc))
  · rw [hcc] at h0; cases h0
  · exact absurd h0 (ne_of_gt (mul_pos hpos (hwf.deb d hd).2.bi_pos))

theorem no_collateral_of_weightedLt_nonpos {p : Portfolio} (hwf : p.WF) (hw : weightedLt NumCtx.exact p ≤ 0) :
    ∀ s ∈ collaterals p, s.base = 0 := by
  intro s hs
  obtain ⟨hsm, hcoll⟩ := List.mem_filter.mp hs
  obtain ⟨_, hr, hlt⟩ := hwf.sup s hsm
  have hz : gLt s = 0 := le_antisymm ((hwf.gLt_le_weightedLt hsm).trans hw) (hwf.gLt_nonneg hsm)
  rw [gLt, if_pos hcoll, Supply.value_exact] at hz
  have hli := hr.li_pos; have hpr := hr.price_pos; have hltpos := hlt hcoll
  have : s.base * (s.row.liqIndex * s.row.price * s.row.lt) = 0 := by rw [← hz]; ring
  exact (mul_eq_zero.mp this).resolve_right (ne_of_gt (by positivity))

theorem liquidate_inv (cx : NumCtx) (p : Portfolio) :
    (liquidate cx p).outOfFuel = false ∧ (liquidate cx p).visited.Nodup
    ∧ ((liquidate cx p).actions.map (·.debtTok)).Sublist (liquidate cx p).visited
    ∧ (liquidate cx p).visited.length ≤ p.debts.length
    ∧ ((liquidate cx p).err = none →
        liqCond cx (liquidate cx p).p = false ∨ ∀ d ∈ (liquidate cx p).p.debts, d.tok ∈ (liquidate cx p).visited) := by
  have h := liqLoop_inv cx (p.debts.length + 1) p [] [] (by rw [unv_nil, List.length_map]; omega) List.nodup_nil
    (List.nil_sublist _)
  rwa [unv_nil, List.length_map, List.length_nil, Nat.zero_add] at h

end Demeter.AaveRisk

namespace Demeter
open AaveRisk

structure AaveRisk.RndMono (cx : NumCtx) : Prop where
  mono : ∀ x y : Rat, x ≤ y → cx.rnd x ≤ cx.rnd y
  idem : ∀ x : Rat, cx.rnd (cx.rnd x) = cx.rnd x
  zero : cx.rnd 0 = 0

theorem AaveRisk.rndMono_exact : RndMono NumCtx.exact :=
  ⟨fun _ _ h => h, fun _ => rfl, rfl⟩

/-- what `liquidate_no_demeter` needs of the rounding — weaker than `RndMono` (`RndMono.shrink`) -/
structure AaveRisk.RndShrink (cx : NumCtx) : Prop where
  nonneg : ∀ x : Rat, 0 ≤ x → 0 ≤ cx.rnd x
  idem : ∀ x : Rat, cx.rnd (cx.rnd x) = cx.rnd x
  /-- `1 / 2` is `DEFAULT_LIQUIDATION_CLOSE_FACTOR` -/
  half : ∀ x : Rat, 0 ≤ x → cx.rnd (cx.rnd x * (1 / 2)) ≤ cx.rnd x

namespace AaveRisk

theorem RndMono.shrink {cx : NumCtx} (h : RndMono cx) : RndShrink cx := by
  have hn : ∀ x : Rat, 0 ≤ x → 0 ≤ cx.rnd x := fun x hx => by
    have := h.mono 0 x hx; rwa [h.zero] at this
  refine ⟨hn, h.idem, fun x hx => ?_⟩
  calc cx.rnd (cx.rnd x * (1 / 2)) ≤ cx.rnd (cx.rnd x) := h.mono _ _ (by linarith [hn x hx])
    _ = cx.rnd x := h.idem x

def DebtsNonneg (p : Portfolio) : Prop := ∀ d ∈ p.debts, 0 ≤ d.base ∧ 0 ≤ d.row.borIndex

theorem doLiquidate_no_demeter {cx : NumCtx} (h : RndShrink cx) (p : Portfolio) (c : Supply) (d : Debt) (cover : Rat)
    (hb : 0 ≤ d.base) (hi : 0 ≤ d.row.borIndex) (q : Portfolio) :
    doLiquidate cx p c d cover ≠ .raised .demeter q := by
  intro hr
  rcases doLiquidate_raised hr with ⟨_, _, hlt⟩ | ⟨he, _⟩ | ⟨he, _⟩
  · have hmax : cx.mul (d.amount cx) (stepCf cx p) ≤ d.amount cx := by
      rcases stepCf_cases cx p with ⟨_, hcf⟩ | ⟨_, hcf⟩
      · rw [hcf]
        exact h.half _ (mul_nonneg hb hi)
      · rw [hcf]
        show cx.rnd (cx.rnd (d.base * d.row.borIndex) * 1) ≤ cx.rnd (d.base * d.row.borIndex)
        rw [mul_one, h.idem]
    exact absurd hlt (not_lt.mpr ((stepRepaid_le_max cx p c d cover).trans hmax))
  · cases he
  · cases he

theorem doLiquidate_not_raised {p : Portfolio} {c : Supply} {d : Debt} {cover : Rat} (hwf : p.WF)
    (hc : c ∈ p.supplies) (hd : d ∈ p.debts) (e : Exc) (q : Portfolio) :
    doLiquidate NumCtx.exact p c d cover ≠ .raised e q := by
  obtain ⟨_, hcr, _⟩ := hwf.sup c hc
  obtain ⟨hdb, hdr⟩ := hwf.deb d hd
  have hb : 0 < 1 + c.row.bonus := by linarith [hcr.bonus_nonneg]
  intro h
  rcases doLiquidate_raised h with ⟨rfl, _, _⟩ | ⟨_, _, h0 | h0 | h0⟩ | ⟨_, _, h0⟩
  · exact doLiquidate_no_demeter rndMono_exact.shrink p c d cover hdb (le_of_lt hdr.bi_pos) q h
  · exact absurd h0 (ne_of_gt hcr.price_pos)
  · exact absurd h0 (ne_of_gt (mul_pos hdr.price_pos hb))
  · exact absurd h0 (ne_of_gt hcr.li_pos)
  · exact absurd h0 (ne_of_gt hdr.bi_pos)

theorem BaseOnly.debtsNonneg {p q : Portfolio} (h : BaseOnly p q) (hp : DebtsNonneg p) : DebtsNonneg q := by
  induction h with
  | refl => exact hp
  | supply _ _ _ ih => exact ih
  | debt t hb _ ih =>
    intro x hx
    rcases mem_putDebtBase hx with hm | ⟨y, hy, _, rfl⟩
    · exact ih x hm
    · exact ⟨hb, (ih y hy).2⟩

theorem liqLoop_no_demeter {cx : NumCtx} (h : RndShrink cx) : ∀ (fuel : Nat) (p : Portfolio) (vis : List String)
    (acts : List LiqAction), DebtsNonneg p → (liqLoop cx fuel p vis acts).err ≠ some .demeter := by
  refine liqLoop_induct cx (motive := fun _ p _ _ r => DebtsNonneg p → r.err ≠ some .demeter) ?_ ?_ ?_ ?_ ?_ ?_ ?_
  · intro _ _ _ _ _ _ hcon
    cases hcon
  · intro _ _ _ _ _ _ _ hcon
    cases hcon
  · intro _ _ _ _ _ _ _ _ hcon
    cases hcon
  · intro _ _ _ _ _ _ _ _ _ _ hcon
    cases hcon
  · intro _ _ _ _ _ _ _ _ _ _ _ _ _ hdo ih hp
    exact ih (((doLiquidate_baseOnly .refl).1 _ _ hdo).debtsNonneg hp)
  · intro _ _ _ _ _ _ _ _ _ _ _ _ ih hp
    exact ih hp
  · intro _ p _ _ d v c e q _ hpd _ hdo hp hcon
    obtain ⟨hdm, _, _⟩ := pickDebt_some hpd
    rw [Option.some.injEq] at hcon
    subst hcon
    exact doLiquidate_no_demeter h p c d v (hp d hdm).1 (hp d hdm).2 q hdo

theorem liquidate_no_demeter {cx : NumCtx} (h : RndShrink cx) (p : Portfolio) (hp : DebtsNonneg p) :
    (liquidate cx p).err ≠ some .demeter :=
  liqLoop_no_demeter h _ p [] [] hp

end AaveRisk

end Demeter
