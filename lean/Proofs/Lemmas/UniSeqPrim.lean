/-
  C03 on the Uniswap market, the primitive cases: what each primitive transaction (`_add_liquidity_by_tick`, collect,
  remove, swap, the transfers) does to the soundness invariant and to the value of the holdings, at the market price
  (`NoGain.ofEff`: every step the effect calculus of Lemmas/UniEff admits under `Allow.market`).
-/
import Proofs.Lemmas.UniSeq
import Proofs.Lemmas.UniEff
namespace Demeter.Uni
open Demeter

variable {K : Kern} {pool : Pool} {row : Row} {sqrt : Nat} {A : Int → Int → Int → Rat × Rat}

theorem baseTok_ne_quoteTok (h : pool.tok0 ≠ pool.tok1) : pool.baseTok ≠ pool.quoteTok := by
  unfold Pool.baseTok Pool.quoteTok; cases pool.q0 <;> simp [h, h.symm]

theorem addToPositions_nonneg {s : State} (hs : Sound row s) {lo up liq : Int} (hL : 0 ≤ liq) {ent : Option Pos}
    (hent : newEntity K pool s lo up liq sqrt = .ok ent) :
    ∀ p ∈ addToPositions s.positions lo up liq ent, 0 ≤ p.liq ∧ 0 ≤ p.pending0 ∧ 0 ≤ p.pending1 := by
  rcases newEntity_cases hent with ⟨_, _, rfl⟩ | ⟨_, _, _, _, rfl⟩ <;> intro x hx
  · obtain ⟨q, hq, hx⟩ := mem_mapPos hx
    have hqn := hs.pos_nonneg q hq
    rcases hx with hx | hx <;> rw [hx]
    · exact hqn
    · exact ⟨add_nonneg hqn.1 hL, hqn.2⟩
  · rcases List.mem_append.mp hx with hx | hx
    · exact hs.pos_nonneg x hx
    · rw [List.mem_singleton.mp hx]; exact ⟨hL, le_refl _, le_refl _⟩

theorem collect_sound_val (F : FrozenPos K pool row sqrt A) {s s' : State} (hs : Sound row s) {lo up : Int} {p : Pos}
    (hf : findPos s.positions lo up = some p) {f0 f1 : Rat} (h0 : 0 ≤ f0 ∧ f0 ≤ p.pending0) (h1 : 0 ≤ f1 ∧ f1 ≤ p.pending1)
    {tu rd : Bool} (hrow : s'.row = s.row) (hneg : s'.allowNeg = s.allowNeg)
    (hw : s'.wallet = collectWallet K.cx pool s.wallet tu f0 f1)
    (hp : s'.positions = mapPos s.positions lo up (fun _ => collectPos K.cx p f0 f1) ∨
      (isDry (collectPos K.cx p f0 f1) rd = true ∧
        s'.positions = erasePos (mapPos s.positions lo up (fun _ => collectPos K.cx p f0 f1)) lo up)) :
    Sound row s' ∧ allVal pool row A s' ≤ allVal pool row A s := by
  have hu := uniqueKey_of_nodup hs.keys hf
  have hpn := hs.pos_nonneg p (List.mem_of_find?_eq_some hf)
  have hwal : ∀ k, 0 ≤ bal s'.wallet k := by
    intro k
    rw [hw, collectWallet, F.base.cx]
    split
    · exact bal_credit_nonneg (bal_credit_nonneg hs.wallet_nonneg h0.1) h1.1 k
    · exact hs.wallet_nonneg k
  have hwv : walletVal pool row.price s'.wallet ≤ walletVal pool row.price s.wallet + tokVal pool row.price f0 f1 := by
    rw [hw, collectWallet, F.base.cx]
    split
    · rw [walletVal_credit2 _ _ _ _ _ F.base.tokens]
    · linarith [tokVal_nonneg pool F.price_pos.le h0.1 h1.1]
  have hq : 0 ≤ (collectPos K.cx p f0 f1).liq ∧ 0 ≤ (collectPos K.cx p f0 f1).pending0 ∧
      0 ≤ (collectPos K.cx p f0 f1).pending1 := by
    simp only [collectPos, F.base.cx, NumCtx.exact_sub]
    exact ⟨hpn.1, by linarith [h0.2], by linarith [h1.2]⟩
  have hval := posValue_collectPos F.base p f0 f1
  unfold allVal
  rcases hp with hp | ⟨hdry, hp⟩
  · refine ⟨hs.mapPos hf hq rfl hrow hneg (hp ▸ List.Sublist.refl _) hwal, ?_⟩
    rw [hp, sumAll_mapPos _ hu, hval]
    linarith
  · refine ⟨hs.mapPos hf hq rfl hrow hneg (hp ▸ List.filter_sublist) hwal, ?_⟩
    have hz := posValue_of_isDry F.base hdry
    rw [hval] at hz
    rw [hp, sumAll_erasePos_mapPos _ hu _ hu.hasKey]
    linarith

theorem removeCore_sound_val (F : FrozenPos K pool row sqrt A) {s : State} (hs : Sound row s) {lo up : Int} {p : Pos}
    (hf : findPos s.positions lo up = some p) {delta : Int} (dd : Bool) {g0 g1 : Rat} (hg : (g0, g1) = A lo up delta)
    (hd : 0 ≤ delta ∧ delta ≤ p.liq) :
    Sound row (removeCore K s lo up p delta dd g0 g1) ∧
    allVal pool row A (removeCore K s lo up p delta dd g0 g1) = allVal pool row A s := by
  obtain ⟨rfl, rfl⟩ : g0 = (A lo up delta).1 ∧ g1 = (A lo up delta).2 := ⟨congrArg Prod.fst hg, congrArg Prod.snd hg⟩
  have hu := uniqueKey_of_nodup hs.keys hf
  have hpn := hs.pos_nonneg p (List.mem_of_find?_eq_some hf)
  have hAn := F.A_nonneg lo up delta hd.1
  have hq : 0 ≤ (removePos K.cx p delta dd (A lo up delta).1 (A lo up delta).2).liq ∧
      0 ≤ (removePos K.cx p delta dd (A lo up delta).1 (A lo up delta).2).pending0 ∧
      0 ≤ (removePos K.cx p delta dd (A lo up delta).1 (A lo up delta).2).pending1 := by
    simp only [removePos, F.base.cx, NumCtx.exact_add]
    exact ⟨by linarith [hd.2], add_nonneg hpn.2.1 hAn.1, add_nonneg hpn.2.2 hAn.2⟩
  refine ⟨hs.mapPos hf hq rfl rfl rfl (List.Sublist.refl _) hs.wallet_nonneg, ?_⟩
  unfold allVal
  show walletVal pool row.price s.wallet + sumAll _ (mapPos s.positions lo up _) = _
  rw [sumAll_mapPos _ hu, posValue_removePos F.base hu.hasKey, sub_add_cancel]

/-- the execution price of the swap is the market's: no price given, or the given one is what the market gives -/
def FairSwap (K : Kern) (pool : Pool) (s : State) (f : String) (p : Option Rat) : Prop :=
  swapPrice K pool s f (givenPrice p) = swapPrice K pool s f none

theorem swapWallet_le {w w1 : Wallet} (hw : ∀ k, 0 ≤ bal w k) {f t : String} (hne : f ≠ t) {a x pf pt : Rat}
    (hpf : 0 ≤ pf) (hpt : 0 ≤ pt) (hx : 0 ≤ x) (hxa : x * pt ≤ a * pf)
    (hd : debit NumCtx.exact w f a false = .ok w1) :
    (∀ k, 0 ≤ bal (Wallet.credit NumCtx.exact w1 t x) k) ∧
    bal (Wallet.credit NumCtx.exact w1 t x) f * pf + bal (Wallet.credit NumCtx.exact w1 t x) t * pt ≤
      (bal w f * pf + bal w t * pt) + assetDust * (bal w f * pf + bal w t * pt) := by
  obtain ⟨b', hb, hbn, hbu⟩ := debit_nonneg_le hd (hw _)
  have hw1 : ∀ k, 0 ≤ bal w1 k := by
    intro k; rw [hb]; split
    · exact hbn
    · exact hw k
  refine ⟨fun k => bal_credit_nonneg hw1 hx k, ?_⟩
  rw [bal_credit, bal_credit, if_neg hne, if_pos rfl, hb f, if_pos rfl, hb t, if_neg hne.symm]
  have h1 : b' * pf ≤ (bal w f - a + assetDust * bal w f) * pf := mul_le_mul_of_nonneg_right hbu hpf
  have h3 : 0 ≤ assetDust * (bal w t * pt) := mul_nonneg assetDust_pos.le (mul_nonneg (hw _) hpt)
  linarith

def Allow.market (K : Kern) (pool : Pool) : Allow :=
  { addSqrt := fun x => x = none, remSqrt := fun x => x = none, swapPx := FairSwap K pool, transfer := True }

/-- the prices `buy` and `sell` pass to the swap are the market's own: `1 / price` for the quote token, `price` for the base token -/
theorem Allow.market_admits (F : Frozen K pool row sqrt A) : Allow.Market K pool (Allow.market K pool) := by
  refine ⟨fun _ _ => rfl, ?_, ?_⟩
  · intro s price hp hne
    show swapPrice K pool s pool.quoteTok (givenPrice (some (K.cx.div 1 price))) = swapPrice K pool s pool.quoteTok none
    have hbq : (pool.quoteTok == pool.baseTok) = false := by
      simpa using (baseTok_ne_quoteTok F.tokens).symm
    have hinv : (1 : Rat) / price ≠ 0 := one_div_ne_zero hne
    simp only [swapPrice, givenPrice, hp, hbq, F.cx, NumCtx.exact_div, bne_iff_ne, ne_eq, hinv, not_false_eq_true,
      if_true, hne, if_false, Bool.false_eq_true]
  · intro s price hp
    show swapPrice K pool s pool.baseTok (givenPrice (some price)) = swapPrice K pool s pool.baseTok none
    by_cases h0 : price = 0
    · simp [swapPrice, givenPrice, hp, h0]
    · simp [swapPrice, givenPrice, hp, h0]

/-- the two debiting transactions (`add`, `swap`) may gain one dust factor, the others nothing -/
theorem NoGain.ofEff (F : FrozenPos K pool row sqrt A) {n : Nat} {s s' : State}
    (h : Eff K pool (Allow.market K pool) n s s') : NoGain pool row A n s s' := by
  intro hs
  cases h with
  | record => exact NoGain.of_same rfl rfl rfl rfl hs
  | @add _ a0 a1 lo up _ sq u0 u1 liq ent w2 hnone ok =>
    obtain rfl : _ = none := hnone
    have hsq := ok.resolved
    rw [resolveSqrt_frozen F.base hs.row_eq] at hsq
    injection hsq with hsq; subst hsq
    have hd := ok.debit
    rw [F.base.cx, hs.noNeg] at hd
    have hent := ok.entity
    have hA := F.base.newPos lo up a0 a1 u0 u1 liq ok.newPos
    obtain ⟨hwn, hwv⟩ := debit2_bound row.price F.price_pos.le s.wallet w2 u0 u1 F.base.tokens hs.wallet_nonneg hd
    have hpv := sumAll_addToPositions (posValue pool row.price (fun p => A p.lower p.upper p.liq)) _ hent
      (fun p0 hf => ⟨uniqueKey_of_nodup hs.keys hf, posValue_addLiq F.base (findPos_some_key hf) liq⟩)
      (fun _ _ _ => posValue_mkPos _ _ _ _ _ _ _)
    refine ⟨⟨hs.row_eq, hs.noNeg, addToPositions_keys hent hs.keys, hwn,
      addToPositions_nonneg hs (F.newPos_nonneg lo up a0 a1 u0 u1 liq ok.nonneg0 ok.nonneg1 ok.newPos) hent⟩, allVal_le_one_dust F hs ?_⟩
    unfold allVal
    simp only [markUpdate, hpv, hA]
    linarith
  | collectCore tu hf _ hn0 hn1 =>
    rw [pow_zero, one_mul]
    have hpn := hs.pos_nonneg _ (List.mem_of_find?_eq_some hf)
    exact collect_sound_val F hs hf (capAt_bounds hn0 hpn.2.1) (capAt_bounds hn1 hpn.2.2) (rd := true) rfl rfl rfl (Or.inl rfl)
  | collect rd tu bb qb hf _ hn0 hn1 =>
    rw [pow_zero, one_mul]
    have hpn := hs.pos_nonneg _ (List.mem_of_find?_eq_some hf)
    refine collect_sound_val F hs hf (capAt_bounds hn0 hpn.2.1) (capAt_bounds hn1 hpn.2.2) (rd := rd)
      (collectFinish_frame ..).1 (collectFinish_frame ..).2 (collectFinish_wallet ..) ?_
    simp only [collectFinish_positions]
    split
    · rename_i hdry; exact Or.inr ⟨hdry, rfl⟩
    · exact Or.inl rfl
  | @remove _ lo up l _ p sq g0 g1 hnone hf hnl hsq hamt =>
    obtain rfl : _ = none := hnone
    rw [pow_zero, one_mul]
    rw [resolveSqrt_frozen F.base hs.row_eq] at hsq
    injection hsq with hsq; subst hsq
    have core := removeCore_sound_val F hs hf (removeDelta l p).2 (F.base.amounts _ _ _ _ _ hamt)
      (removeDelta_bounds hnl (hs.pos_nonneg p (List.mem_of_find?_eq_some hf)).1)
    exact ⟨core.1, le_of_eq core.2⟩
  | @swap _ a f t p price w1 hfair hd hp hft hf ht ha =>
    -- of the end state only the wallet matters: positions, row and overdraft setting are those of `s`
    generalize hW : Wallet.credit K.cx w1 t (K.cx.mul (K.cx.sub a (K.cx.mul a pool.feeRate)) price) = W
    suffices key : (∀ k, 0 ≤ bal W k) ∧ bal W pool.baseTok * row.price + bal W pool.quoteTok ≤
        (bal s.wallet pool.baseTok * row.price + bal s.wallet pool.quoteTok) +
          assetDust * (bal s.wallet pool.baseTok * row.price + bal s.wallet pool.quoteTok) by
      refine ⟨⟨hs.row_eq, hs.noNeg, hs.keys, key.1, hs.pos_nonneg⟩, allVal_le_one_dust F hs ?_⟩
      unfold allVal
      rw [walletVal_bq, walletVal_bq]
      linarith [key.2]
    have hbq := baseTok_ne_quoteTok F.base.tokens
    have hP := F.price_pos
    have hfee : 0 ≤ a - a * pool.feeRate := by
      have := mul_le_mul_of_nonneg_left F.fee_le_one ha
      linarith
    have hfee' : 0 ≤ a * pool.feeRate := mul_nonneg ha F.fee_nonneg
    have hfair : FairSwap K pool s f p := hfair
    unfold FairSwap at hfair
    rw [hfair] at hp
    obtain ⟨row', hrow', hpr⟩ := swapPrice_market hp
    obtain rfl : row = row' := Option.some.inj (hs.row_eq.symm.trans hrow')
    rw [F.base.cx, NumCtx.exact_div] at hpr
    rw [F.base.cx, hs.noNeg] at hd
    rw [← hW, F.base.cx]
    simp only [NumCtx.exact_mul, NumCtx.exact_sub]
    rcases hf with rfl | rfl <;> rcases ht with rfl | rfl
    · exact absurd rfl hft
    · obtain ⟨_, _, rfl⟩ := hpr.resolve_left (fun h => hbq h.1.symm)
      have key := swapWallet_le hs.wallet_nonneg hbq.symm (x := (a - a * pool.feeRate) * (1 / row.price)) (pf := 1)
        (pt := row.price) zero_le_one hP.le
        (mul_nonneg hfee (by positivity))
        (by rw [mul_assoc, one_div_mul_cancel (ne_of_gt hP), mul_one, mul_one]; linarith) hd
      exact ⟨key.1, by linarith [key.2]⟩
    · obtain ⟨_, rfl⟩ := hpr.resolve_right (fun h => h.1 rfl)
      have key := swapWallet_le hs.wallet_nonneg hbq (x := (a - a * pool.feeRate) * row.price) (pf := row.price)
        (pt := 1) hP.le zero_le_one
        (mul_nonneg hfee hP.le) (by rw [mul_one]; exact mul_le_mul_of_nonneg_right (by linarith) hP.le) hd
      exact ⟨key.1, by linarith [key.2]⟩
    · exact absurd rfl hft
  | flag _ lo up b =>
    constructor
    · refine ⟨hs.row_eq, hs.noNeg, mapPos_keys_nodup _ _ _ _ (fun _ _ => rfl) hs.keys, hs.wallet_nonneg, ?_⟩
      intro x hx
      obtain ⟨q, hq, hx⟩ := mem_mapPos hx
      rcases hx with hx | hx <;> rw [hx] <;> exact hs.pos_nonneg q hq
    · unfold allVal
      rw [sumAll_mapPos_of_inv (posValue pool row.price (fun p => A p.lower p.upper p.liq)) s.positions lo up
        (fun p => { p with transferred := b }) (fun q => rfl)]
      simp

end Demeter.Uni
