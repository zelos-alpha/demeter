/-
  The bar loop consults the configuration only through the data of the bars it visits, and what it has done by some bar does not depend
  on the bars that follow.
-/
import Proofs.Lemmas.CoreLoop
import Mathlib.Data.List.Forall2
namespace Demeter.Core

def MEq (c₁ c₂ : Cfg) (ts : Int) (m₁ m₂ : MarketCfg) : Prop :=
  m₁.openCb = m₂.openCb ∧ marketOpen c₁ m₁ ts = marketOpen c₂ m₂ ts ∧
  frameSrc c₁.resample c₁.Δ m₁.idx ts = frameSrc c₂.resample c₂.Δ m₂.idx ts

def AgreeAt (c₁ c₂ : Cfg) (ts : Int) : Prop :=
  priceAt c₁ ts = priceAt c₂ ts ∧ List.Forall₂ (MEq c₁ c₂ ts) c₁.markets c₂.markets

instance instDecidableMEq (c₁ c₂ : Cfg) (ts : Int) (m₁ m₂ : MarketCfg) : Decidable (MEq c₁ c₂ ts m₁ m₂) := by
  unfold MEq; exact inferInstance

instance (c₁ c₂ : Cfg) (ts : Int) : Decidable (AgreeAt c₁ c₂ ts) := by unfold AgreeAt; infer_instance

theorem setAllFrom_agree (c₁ c₂ : Cfg) (ts : Int) (stage : Nat) : ∀ (i : Nat) (l₁ l₂ : List MarketCfg),
    List.Forall₂ (MEq c₁ c₂ ts) l₁ l₂ → setAllFrom c₁ ts stage i l₁ = setAllFrom c₂ ts stage i l₂
  | _, [], [], _ => rfl
  | i, a :: l₁, b :: l₂, h => by
    cases h with
    | cons hab hl =>
      simp only [setAllFrom, setEv, hab.2.1, hab.2.2, setAllFrom_agree c₁ c₂ ts stage (i + 1) l₁ l₂ hl]

theorem setUpdatedFrom_agree (c₁ c₂ : Cfg) (ts : Int) : ∀ (i : Nat) (l₁ l₂ : List MarketCfg) (ss : List MSt),
    List.Forall₂ (MEq c₁ c₂ ts) l₁ l₂ → setUpdatedFrom c₁ ts i l₁ ss = setUpdatedFrom c₂ ts i l₂ ss
  | _, [], [], ss, _ => by unfold setUpdatedFrom; rfl
  | _, a :: l₁, b :: l₂, [], _ => by unfold setUpdatedFrom; rfl
  | i, a :: l₁, b :: l₂, s :: ss, h => by
    cases h with
    | cons hab hl =>
      unfold setUpdatedFrom
      simp only [setEv, hab.2.1, hab.2.2, setUpdatedFrom_agree c₁ c₂ ts (i + 1) l₁ l₂ ss hl]

theorem runOpenFrom_agree (c₁ c₂ : Cfg) (sc : Script) (ts : Int) (row : Nat) : ∀ (i : Nat) (l₁ l₂ : List MarketCfg) (st : St),
    List.Forall₂ (MEq c₁ c₂ ts) l₁ l₂ → runOpenFrom sc ts row i l₁ st = runOpenFrom sc ts row i l₂ st
  | _, [], [], _, _ => rfl
  | i, a :: l₁, b :: l₂, st, h => by
    cases h with
    | cons hab hl =>
      simp only [runOpenFrom, hab.1]
      split
      · rw [runOpenFrom_agree c₁ c₂ sc ts row (i + 1) l₁ l₂ _ hl]
      · exact runOpenFrom_agree c₁ c₂ sc ts row (i + 1) l₁ l₂ st hl

theorem runUpdFrom_agree (sc : Script) (ts : Int) (row : Nat) : ∀ (i : Nat) (l₁ l₂ : List MarketCfg) (st : St),
    l₁.length = l₂.length → runUpdFrom sc ts row i l₁ st = runUpdFrom sc ts row i l₂ st
  | _, [], [], _, _ => rfl
  | _, [], _ :: _, _, h => by simp at h
  | _, _ :: _, [], _, h => by simp at h
  | i, _ :: l₁, _ :: l₂, st, h => by
    simp only [runUpdFrom]
    rw [runUpdFrom_agree sc ts row (i + 1) l₁ l₂ _ (by simpa using h)]

theorem barStep_agree (c₁ c₂ : Cfg) (sc : Script) (row : Nat) (ts : Int) (st : St) (h : AgreeAt c₁ c₂ ts) :
    barStep c₁ sc row ts st = barStep c₂ sc row ts st := by
  obtain ⟨hp, hm⟩ := h
  have hlen : c₁.markets.length = c₂.markets.length := hm.length_eq
  have hparts : ∀ price, barParts c₁ sc row ts st price = barParts c₂ sc row ts st price := by
    intro price
    simp only [barParts, setAllFrom_agree c₁ c₂ ts 1 0 _ _ hm, runOpenFrom_agree c₁ c₂ sc ts row 0 _ _ _ hm,
      setUpdatedFrom_agree c₁ c₂ ts 0 _ _ _ hm, runUpdFrom_agree sc ts row 0 _ _ _ hlen]
  unfold barStep
  simp only [hp, hparts]

theorem runBars_agree (c₁ c₂ : Cfg) (sc : Script) (bars : List Int) (row : Nat) (st : St) (h : ∀ t ∈ bars, AgreeAt c₁ c₂ t) :
    runBars c₁ sc row bars st = runBars c₂ sc row bars st := by
  rw [runBars_eq_barLoop, runBars_eq_barLoop]
  exact barLoop_congr bars row st (fun ts ht row st => barStep_agree c₁ c₂ sc row ts st (h ts ht))

theorem runBars_append (cfg : Cfg) (sc : Script) (pre suf : List Int) (row : Nat) (st : St) :
    runBars cfg sc row (pre ++ suf) st = Res.andThen (runBars cfg sc row pre st) (runBars cfg sc (row + pre.length) suf) := by
  rw [runBars_eq_barLoop, barLoop_append]

end Demeter.Core
