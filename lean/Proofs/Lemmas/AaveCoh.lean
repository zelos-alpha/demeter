/-
  Cache coherence of the Aave model: the state predicate `Good` (dict representation invariant, the bar's data
  covers every held token, each of the five caches is cold or holds the from-scratch recomputation) and what
  the cache-filling reads do to a coherent state.
-/
import Proofs.Lemmas.AaveScratch
import Proofs.Lemmas.Except
namespace Demeter.Aave
open Demeter M

def HasData (env : Env) (k : String) : Prop :=
  (∃ st, env.statusOf k = .ok st) ∧ (∃ p, env.priceOf k = .ok p) ∧ (∃ r, env.riskOf k = .ok r)

def EnvOK (env : Env) : Prop := ∀ k st, env.statusOf k = .ok st → HasData env k

def Covers {ν : Type} (env : Env) (m : AList String ν) : Prop := ∀ k ∈ keys m, HasData env k

variable (cx : ACtx) (env : Env)

structure GoodS (s : St) : Prop where
  nd : (keys s.supplies).Nodup
  cv : Covers env s.supplies
  sa : CohC s.supAmtC (specSupAmt cx env s.supplies)
  co : CohC s.collC (specColl cx env s.supplies)
  su : CohC s.supC (specSupplies cx env s.supplies)

structure GoodB (s : St) : Prop where
  nd : (keys s.borrows).Nodup
  cv : Covers env s.borrows
  ba : CohC s.borAmtC (specBorAmt cx env s.borrows)
  bo : CohC s.borC (specBorrows cx env s.borrows)

def Good (s : St) : Prop := GoodS cx env s ∧ GoodB cx env s

variable {cx env}

theorem good_init_wallet (w : Wallet) : Good cx env { St.init with wallet := w } :=
  ⟨⟨List.nodup_nil, fun _ h => absurd h List.not_mem_nil, CohC.fresh _, CohC.fresh _, CohC.fresh _⟩,
   ⟨List.nodup_nil, fun _ h => absurd h List.not_mem_nil, CohC.fresh _, CohC.fresh _⟩⟩

theorem supValOf_ok {k : String} (h : HasData env k) (v : SupplyInfo) : ∃ x, supValOf cx env k v = .ok x := by
  obtain ⟨⟨st, h1⟩, ⟨p, h2⟩, _⟩ := h
  exact ⟨_, by unfold supValOf; rw [h1, h2]; rfl⟩

theorem borValOf_ok {k : String} (h : HasData env k) (v : BorrowInfo) : ∃ x, borValOf cx env k v = .ok x := by
  obtain ⟨⟨st, h1⟩, ⟨p, h2⟩, _⟩ := h
  exact ⟨_, by unfold borValOf; rw [h1, h2]; rfl⟩

/-- what an accepted `supValOf` / `borValOf` (a `statusOf`-then-`priceOf` read) looked up -/
theorem valOf_eq_of_ok {k : String} {g : TokStatus → Rat → Rat} {x : Rat}
    (h : (env.statusOf k >>= fun st => env.priceOf k >>= fun p => pure (g st p)) = .ok x) :
    ∃ st p, env.statusOf k = .ok st ∧ env.priceOf k = .ok p ∧ x = g st p := by
  obtain ⟨st, hst, h⟩ := Exc.bind_ok.mp h
  obtain ⟨p, hp, h⟩ := Exc.bind_ok.mp h
  cases h
  exact ⟨st, p, hst, hp, rfl⟩

theorem specSupplyOf_ok {k : String} (h : HasData env k) (v : SupplyInfo) : ∃ x, specSupplyOf cx env k v = .ok x := by
  obtain ⟨x, hx⟩ := supValOf_ok (cx := cx) h v
  obtain ⟨⟨st, h1⟩, _, _⟩ := h
  exact ⟨_, by unfold specSupplyOf; rw [h1, hx]; rfl⟩

theorem specBorrowOf_ok {k : String} (h : HasData env k) (v : BorrowInfo) : ∃ x, specBorrowOf cx env k v = .ok x := by
  obtain ⟨x, hx⟩ := borValOf_ok (cx := cx) h v
  obtain ⟨⟨st, h1⟩, _, _⟩ := h
  exact ⟨_, by unfold specBorrowOf; rw [h1, hx]; rfl⟩

theorem specSupAmt_ok {sup : AList String SupplyInfo} (h : Covers env sup) : ∃ vs, specSupAmt cx env sup = .ok vs :=
  scratchMap_exists (fun p hp => supValOf_ok (h p.1 (AList.mem_keys_of_mem hp)) p.2)

theorem specBorAmt_ok {bor : AList String BorrowInfo} (h : Covers env bor) : ∃ vs, specBorAmt cx env bor = .ok vs :=
  scratchMap_exists (fun p hp => borValOf_ok (h p.1 (AList.mem_keys_of_mem hp)) p.2)

theorem collEntries_sub {sup : AList String SupplyInfo} {p : String × SupplyInfo} (h : p ∈ collEntries sup) : p ∈ sup := by
  unfold collEntries at h; exact (List.mem_filter.mp h).1

theorem specColl_ok {sup : AList String SupplyInfo} (h : Covers env sup) : ∃ vs, specColl cx env sup = .ok vs :=
  scratchMap_exists (fun p hp => supValOf_ok (h p.1 (AList.mem_keys_of_mem (collEntries_sub hp))) p.2)

theorem specSupplies_ok {sup : AList String SupplyInfo} (h : Covers env sup) : ∃ vs, specSupplies cx env sup = .ok vs :=
  scratchMap_exists (fun p hp => specSupplyOf_ok (h p.1 (AList.mem_keys_of_mem hp)) p.2)

theorem specBorrows_ok {bor : AList String BorrowInfo} (h : Covers env bor) : ∃ vs, specBorrows cx env bor = .ok vs :=
  scratchMap_exists (fun p hp => specBorrowOf_ok (h p.1 (AList.mem_keys_of_mem hp)) p.2)

theorem suppliesValue_run {s : St} (nd : (keys s.supplies).Nodup) (cv : Covers env s.supplies)
    (sa : CohC s.supAmtC (specSupAmt cx env s.supplies)) :
    ∃ vs, specSupAmt cx env s.supplies = .ok vs ∧
      suppliesValue cx env s = (.ok vs, { s with supAmtC := cacheOf vs }) := by
  obtain ⟨vs, hvs⟩ := specSupAmt_ok (cx := cx) cv
  refine ⟨vs, hvs, ?_⟩
  rcases sa.cases hvs with h | ⟨h, he⟩
  · unfold suppliesValue
    have he : s.supAmtC.empty = true := by rw [h]; rfl
    simp only [he, if_true]
    rw [h, fillLoop_fresh hvs nd]
    simp only [cacheOf_val]
  · unfold suppliesValue
    simp only [he, Bool.false_eq_true, if_false]
    rw [h]; simp only [cacheOf_val]
    rw [← h]

theorem borrowsValue_run {s : St} (nd : (keys s.borrows).Nodup) (cv : Covers env s.borrows)
    (ba : CohC s.borAmtC (specBorAmt cx env s.borrows)) :
    ∃ vs, specBorAmt cx env s.borrows = .ok vs ∧
      borrowsValue cx env s = (.ok vs, { s with borAmtC := cacheOf vs }) := by
  obtain ⟨vs, hvs⟩ := specBorAmt_ok (cx := cx) cv
  refine ⟨vs, hvs, ?_⟩
  rcases ba.cases hvs with h | ⟨h, he⟩
  · unfold borrowsValue
    have he : s.borAmtC.empty = true := by rw [h]; rfl
    simp only [he, if_true]
    rw [h, fillLoop_fresh hvs nd]
    simp only [cacheOf_val]
  · unfold borrowsValue
    simp only [he, Bool.false_eq_true, if_false]
    rw [h]; simp only [cacheOf_val]
    rw [← h]

theorem collateralValue_run {s : St} (nd : (keys s.supplies).Nodup) (cv : Covers env s.supplies)
    (sa : CohC s.supAmtC (specSupAmt cx env s.supplies)) (co : CohC s.collC (specColl cx env s.supplies)) :
    ∃ cs c', specColl cx env s.supplies = .ok cs ∧ CohC c' (specSupAmt cx env s.supplies) ∧
      collateralValue cx env s = (.ok cs, { s with supAmtC := c', collC := cacheOf cs }) := by
  obtain ⟨cs, hcs⟩ := specColl_ok (cx := cx) cv
  rcases co.cases hcs with h | ⟨h, he⟩
  · have he : s.collC.empty = true := by rw [h]; rfl
    cases hce : collEntries s.supplies with
    | nil =>
      refine ⟨cs, s.supAmtC, hcs, sa, ?_⟩
      cases (scratchMap_ne_nil hcs).mpr hce
      unfold collateralValue
      simp only [he, if_true, hce]
      rw [h]; simp only [fresh_val, cacheOf_nil]
      rw [← h]
    | cons p rest =>
      obtain ⟨vs, hvs, hrun⟩ := suppliesValue_run nd cv sa
      refine ⟨cs, cacheOf vs, hcs, CohC.of hvs, ?_⟩
      unfold collateralValue
      simp only [he, if_true, hce]
      rw [hrun]
      simp only []
      have hcongr : ∀ q ∈ collEntries s.supplies,
          (fun k (_ : SupplyInfo) => optRes (AList.get? vs k) Err.keyCache) q.1 q.2 = supValOf cx env q.1 q.2 := by
        intro q hq
        obtain ⟨x, hx1, hx2⟩ := scratchMap_get hvs nd (collEntries_sub hq)
        simp only [hx2, hx1, optRes]
      rw [← hce, fillLoop_congr hcongr, h, fillLoop_fresh hcs (AList.nodup_map_filter Prod.fst _ nd)]
      simp only [cacheOf_val]
  · refine ⟨cs, s.supAmtC, hcs, sa, ?_⟩
    unfold collateralValue
    simp only [he, Bool.false_eq_true, if_false]
    rw [h]; simp only [cacheOf_val]
    rw [← h]

theorem getSupply_run {s : St} (nd : (keys s.supplies).Nodup) (cv : Covers env s.supplies)
    (sa : CohC s.supAmtC (specSupAmt cx env s.supplies)) {k : String} {info : SupplyInfo}
    (hk : AList.get? s.supplies k = some info) :
    ∃ sv vs, specSupplyOf cx env k info = .ok sv ∧ specSupAmt cx env s.supplies = .ok vs ∧
      getSupply cx env k s = (.ok sv, { s with supAmtC := cacheOf vs }) := by
  obtain ⟨vs, hvs, hrun⟩ := suppliesValue_run nd cv sa
  obtain ⟨⟨st, hst⟩, _, _⟩ := cv k (aget_mem_keys hk)
  obtain ⟨x, hx1, hx2⟩ := scratchMap_get hvs nd (AList.mem_of_get? hk)
  refine ⟨{ base := info.base, coll := info.coll, amount := cx.mul info.base st.liqIdx,
            apy := rateToApy cx st.liqRate, value := x, beginIdx := info.beginIdx }, vs, ?_, hvs, ?_⟩
  · unfold specSupplyOf; rw [hst, hx1]; rfl
  · unfold getSupply
    rw [run_bind_ok (a := info) (s' := s) (by simp [hk, optRes])]
    rw [run_bind_ok (a := st) (s' := s) (by simp [hst])]
    rw [run_bind_ok hrun]
    unfold supplyOf; rw [hst, hx2]; rfl

theorem fillSupLoop_run : ∀ (entries : AList String SupplyInfo) (s : St) (r : AList String SupplyV),
    (keys s.supplies).Nodup → Covers env s.supplies → CohC s.supAmtC (specSupAmt cx env s.supplies) →
    (∀ p ∈ entries, p ∈ s.supplies) → scratchMap (specSupplyOf cx env) entries = .ok r →
    ∃ c', CohC c' (specSupAmt cx env s.supplies) ∧
      fillSupLoop cx env (keys entries) s =
        (.ok (), { s with supAmtC := c', supC := (fillLoop (specSupplyOf cx env) entries s.supC).2 }) := by
  intro entries
  induction entries with
  | nil =>
    intro s r _ _ sa _ _
    exact ⟨s.supAmtC, sa, rfl⟩
  | cons p rest ih =>
    intro s r nd cv sa hsub hr
    obtain ⟨k, info⟩ := p
    obtain ⟨sv, r', h1, h2, _⟩ := scratchMap_cons_of_ok hr
    have hk : AList.get? s.supplies k = some info := AList.get?_of_mem nd (hsub (k, info) (List.mem_cons_self ..))
    obtain ⟨sv', vs, hsv, hvs, hrun⟩ := getSupply_run nd cv sa hk
    rw [h1] at hsv; cases hsv
    obtain ⟨c', hc', hloop⟩ := ih { s with supAmtC := cacheOf vs, supC := s.supC.set k sv } r' nd cv (CohC.of hvs)
      (fun q hq => hsub q (List.mem_cons_of_mem _ hq)) h2
    refine ⟨c', hc', ?_⟩
    simp only [keys_cons, fillSupLoop]
    rw [run_bind_ok hrun, run_bind, run_modify]
    dsimp only
    rw [hloop]
    simp only [fillLoop, h1]

theorem suppliesView_run {s : St} (nd : (keys s.supplies).Nodup) (cv : Covers env s.supplies)
    (sa : CohC s.supAmtC (specSupAmt cx env s.supplies)) (su : CohC s.supC (specSupplies cx env s.supplies)) :
    ∃ svs c', specSupplies cx env s.supplies = .ok svs ∧ CohC c' (specSupAmt cx env s.supplies) ∧
      suppliesView cx env s = (.ok svs, { s with supAmtC := c', supC := cacheOf svs }) := by
  obtain ⟨svs, hsvs⟩ := specSupplies_ok (cx := cx) cv
  rcases su.cases hsvs with h | ⟨h, he⟩
  · have he : s.supC.empty = true := by rw [h]; rfl
    obtain ⟨c', hc', hloop⟩ := fillSupLoop_run s.supplies s svs nd cv sa (fun _ hp => hp) hsvs
    refine ⟨svs, c', hsvs, hc', ?_⟩
    unfold suppliesView
    simp only [he, if_true]
    rw [hloop, h, fillLoop_fresh hsvs nd]
    dsimp only
    rw [cacheOf_val]
  · refine ⟨svs, s.supAmtC, hsvs, sa, ?_⟩
    unfold suppliesView
    simp only [he, Bool.false_eq_true, if_false]
    rw [h]; simp only [cacheOf_val]
    rw [← h]

theorem getBorrow_run {s : St} (nd : (keys s.borrows).Nodup) (cv : Covers env s.borrows)
    (ba : CohC s.borAmtC (specBorAmt cx env s.borrows)) {k : String} {info : BorrowInfo}
    (hk : AList.get? s.borrows k = some info) :
    ∃ bv vs, specBorrowOf cx env k info = .ok bv ∧ specBorAmt cx env s.borrows = .ok vs ∧
      getBorrow cx env k s = (.ok bv, { s with borAmtC := cacheOf vs }) := by
  obtain ⟨vs, hvs, hrun⟩ := borrowsValue_run nd cv ba
  obtain ⟨⟨st, hst⟩, _, _⟩ := cv k (aget_mem_keys hk)
  obtain ⟨x, hx1, hx2⟩ := scratchMap_get hvs nd (AList.mem_of_get? hk)
  refine ⟨{ base := info.base, amount := cx.mul info.base st.varIdx,
            apy := rateToApy cx st.varRate, value := x, beginIdx := info.beginIdx }, vs, ?_, hvs, ?_⟩
  · unfold specBorrowOf; rw [hst, hx1]; rfl
  · unfold getBorrow
    rw [run_bind_ok (a := info) (s' := s) (by simp [hk, optRes])]
    rw [run_bind_ok (a := st) (s' := s) (by simp [hst])]
    rw [run_bind_ok hrun]
    unfold borrowOf; rw [hst, hx2]; rfl

theorem fillBorLoop_run : ∀ (entries : AList String BorrowInfo) (s : St) (r : AList String BorrowV),
    (keys s.borrows).Nodup → Covers env s.borrows → CohC s.borAmtC (specBorAmt cx env s.borrows) →
    (∀ p ∈ entries, p ∈ s.borrows) → scratchMap (specBorrowOf cx env) entries = .ok r →
    ∃ c', CohC c' (specBorAmt cx env s.borrows) ∧
      fillBorLoop cx env (keys entries) s =
        (.ok (), { s with borAmtC := c', borC := (fillLoop (specBorrowOf cx env) entries s.borC).2 }) := by
  intro entries
  induction entries with
  | nil =>
    intro s r _ _ ba _ _
    exact ⟨s.borAmtC, ba, rfl⟩
  | cons p rest ih =>
    intro s r nd cv ba hsub hr
    obtain ⟨k, info⟩ := p
    obtain ⟨bv, r', h1, h2, _⟩ := scratchMap_cons_of_ok hr
    have hk : AList.get? s.borrows k = some info := AList.get?_of_mem nd (hsub (k, info) (List.mem_cons_self ..))
    obtain ⟨bv', vs, hsv, hvs, hrun⟩ := getBorrow_run nd cv ba hk
    rw [h1] at hsv; cases hsv
    obtain ⟨c', hc', hloop⟩ := ih { s with borAmtC := cacheOf vs, borC := s.borC.set k bv } r' nd cv (CohC.of hvs)
      (fun q hq => hsub q (List.mem_cons_of_mem _ hq)) h2
    refine ⟨c', hc', ?_⟩
    simp only [keys_cons, fillBorLoop]
    rw [run_bind_ok hrun, run_bind, run_modify]
    dsimp only
    rw [hloop]
    simp only [fillLoop, h1]

theorem borrowsView_run {s : St} (nd : (keys s.borrows).Nodup) (cv : Covers env s.borrows)
    (ba : CohC s.borAmtC (specBorAmt cx env s.borrows)) (bo : CohC s.borC (specBorrows cx env s.borrows)) :
    ∃ bvs c', specBorrows cx env s.borrows = .ok bvs ∧ CohC c' (specBorAmt cx env s.borrows) ∧
      borrowsView cx env s = (.ok bvs, { s with borAmtC := c', borC := cacheOf bvs }) := by
  obtain ⟨bvs, hbvs⟩ := specBorrows_ok (cx := cx) cv
  rcases bo.cases hbvs with h | ⟨h, he⟩
  · have he : s.borC.empty = true := by rw [h]; rfl
    obtain ⟨c', hc', hloop⟩ := fillBorLoop_run s.borrows s bvs nd cv ba (fun _ hp => hp) hbvs
    refine ⟨bvs, c', hbvs, hc', ?_⟩
    unfold borrowsView
    simp only [he, if_true]
    rw [hloop, h, fillLoop_fresh hbvs nd]
    dsimp only
    rw [cacheOf_val]
  · refine ⟨bvs, s.borAmtC, hbvs, ba, ?_⟩
    unfold borrowsView
    simp only [he, Bool.false_eq_true, if_false]
    rw [h]; simp only [cacheOf_val]
    rw [← h]

end Demeter.Aave
