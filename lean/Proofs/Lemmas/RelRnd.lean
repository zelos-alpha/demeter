/-
  Rounding with bounded relative error, and the calculus of enclosures it generates.

    `RelRnd cx ε`        every non-negative exact result `x` is rounded into `[x·(1−ε), x·(1+ε)]`
    `Within ε i j a b`   `a·(1−ε)^i ≤ b ≤ a·(1+ε)^j` : `b` is `a` after at most `i` roundings down and `j` up
    `UpTo ε j a b`       `0 ≤ b ≤ a·(1+ε)^j` : the upper half, which survives steps that only lower the value
    `Rounds cx ε`        `RelRnd cx ε` with `ε ≤ 1`: the one hypothesis of the rules (`0 ≤ ε` follows: `Rounds.eps_nonneg`)

  `RelRnd` is a plain `∀`, so the fields `Aave.RndOK.within`, `TickInv.Approx.rnd` and `Gmx.RndErr` ARE proofs of it
  (definitional unfolding), and each of those bundles gives a `Rounds` in one line.  `ε = 0` is exact arithmetic
  (`RelRnd.exact`), the guarded 35-digit context has `ε = 5·10⁻³⁵` (`NumCtx.pyG_rounds`, Round35Ctx).
-/
import Proofs.Lemmas.Exact
import Mathlib.Tactic.Linarith
import Mathlib.Tactic.Positivity
import Mathlib.Tactic.Ring
import Mathlib.Algebra.Order.Field.Rat
import Mathlib.Algebra.Order.Ring.Pow
namespace Demeter

def RelRnd (cx : NumCtx) (ε : Rat) : Prop := ∀ x : Rat, 0 ≤ x → x * (1 - ε) ≤ cx.rnd x ∧ cx.rnd x ≤ x * (1 + ε)

def Within (ε : Rat) (i j : Nat) (a b : Rat) : Prop := a * (1 - ε) ^ i ≤ b ∧ b ≤ a * (1 + ε) ^ j

/-- the one-sided form, for chains in which some steps only lower the value (`quantize(ROUND_DOWN)`, a fee) -/
def UpTo (ε : Rat) (j : Nat) (a b : Rat) : Prop := 0 ≤ b ∧ b ≤ a * (1 + ε) ^ j

theorem RelRnd.exact : RelRnd NumCtx.exact 0 := fun x _ => by simp

theorem one_add_mul_one_sub_le (ε : Rat) : (1 + ε) * (1 - ε) ≤ 1 := by
  rw [← mul_self_sub_mul_self, one_mul]; exact sub_le_self _ (mul_self_nonneg ε)

theorem one_le_one_sub_mul_sq {ε : Rat} (h0 : 0 ≤ ε) (h1 : ε ≤ 1 / 2) : 1 ≤ (1 - ε) * (1 + ε) ^ 2 := by
  rw [show (1 - ε) * (1 + ε) ^ 2 = 1 + ε * (1 - ε - ε * ε) by ring]
  exact le_add_of_nonneg_right
    (mul_nonneg h0 (by linarith only [h1, mul_le_of_le_one_right h0 (h1.trans (by norm_num))]))

/-- `m` roundings up against `n` down, to first order, `N = m + n`:
    `(1−Nε)·(1+ε)ᵐ ≤ (1−ε)ᴺ·(1+ε)ᵐ = ((1+ε)(1−ε))ᵐ·(1−ε)ⁿ ≤ (1−ε)ⁿ` (Bernoulli), and `1 ≤ (1+(N+1)ε)·(1−Nε)` -/
theorem pow_eps_ratio {ε : Rat} (h0 : 0 ≤ ε) (m n : Nat) (hN : (m + n : Rat) * (m + n + 1) * ε ≤ 1) :
    (1 - (m + n) * ε) * (1 + ε) ^ m ≤ (1 - ε) ^ n ∧ (1 + ε) ^ m ≤ (1 + (m + n + 1) * ε) * (1 - ε) ^ n := by
  rcases Nat.eq_zero_or_pos (m + n) with hz | hpos
  · obtain ⟨rfl, rfl⟩ : m = 0 ∧ n = 0 := by omega
    simpa using h0
  have hN1 : (1 : Rat) ≤ m + n := by exact_mod_cast hpos
  have h1 : ε ≤ 1 :=
    le_trans (le_mul_of_one_le_left h0 (one_le_mul_of_one_le_of_one_le hN1 (by linarith only [hN1]))) hN
  have hs : 0 ≤ 1 - ε := sub_nonneg.2 h1
  have lo : (1 - (m + n) * ε) * (1 + ε) ^ m ≤ (1 - ε) ^ n := by
    have bern : 1 - (m + n) * ε ≤ (1 - ε) ^ (m + n) := by
      have := one_add_mul_le_pow (by linarith : (-2 : Rat) ≤ -ε) (m + n)
      rwa [mul_neg, ← sub_eq_add_neg, ← sub_eq_add_neg, Nat.cast_add] at this
    calc (1 - (m + n) * ε) * (1 + ε) ^ m ≤ (1 - ε) ^ (m + n) * (1 + ε) ^ m := mul_le_mul_of_nonneg_right bern (by positivity)
      _ = ((1 + ε) * (1 - ε)) ^ m * (1 - ε) ^ n := by rw [pow_add, mul_pow]; ring
      _ ≤ 1 * (1 - ε) ^ n := mul_le_mul_of_nonneg_right (pow_le_one₀ (mul_nonneg (by linarith) hs)
          (one_add_mul_one_sub_le ε)) (pow_nonneg hs n)
      _ = (1 - ε) ^ n := one_mul _
  refine ⟨lo, ?_⟩
  set N : Rat := m + n
  have e : (1 + (N + 1) * ε) * (1 - N * ε) = 1 + ε * (1 - N * (N + 1) * ε) := by ring
  have hq : 0 ≤ ε * (1 - N * (N + 1) * ε) := mul_nonneg h0 (by linarith)
  have hE : 0 ≤ 1 + (N + 1) * ε := by positivity
  calc (1 + ε) ^ m ≤ (1 + (N + 1) * ε) * (1 - N * ε) * (1 + ε) ^ m :=
        le_mul_of_one_le_left (by positivity) (by rw [e]; linarith)
    _ = (1 + (N + 1) * ε) * ((1 - N * ε) * (1 + ε) ^ m) := mul_assoc _ _ _
    _ ≤ (1 + (N + 1) * ε) * (1 - ε) ^ n := mul_le_mul_of_nonneg_left lo hE

theorem pow_eps_bounds {ε : Rat} (h0 : 0 ≤ ε) (n : Nat) (hn : (n : Rat) * (n + 1) * ε ≤ 1) :
    1 - n * ε ≤ (1 - ε) ^ n ∧ (1 + ε) ^ n ≤ 1 + (n + 1) * ε :=
  ⟨by simpa using (pow_eps_ratio h0 0 n (by simpa using hn)).1, by simpa using (pow_eps_ratio h0 n 0 (by simpa using hn)).2⟩

theorem pow_div_one_sub_le {ε : Rat} (h0 : 0 ≤ ε) (n : Nat) (hn : (n : Rat) * (n + 1) * ε ≤ 1) (h3 : ((n : Rat) + 3) * ε ≤ 1) :
    (1 + ε) ^ n / (1 - ε) ≤ 1 + (n + 3) * ε := by
  have h1 : 0 < 1 - ε := by linarith only [h3, mul_nonneg (Nat.cast_nonneg n : (0 : Rat) ≤ n) h0]
  rw [div_le_iff₀ h1]
  calc (1 + ε) ^ n ≤ 1 + (n + 1) * ε := (pow_eps_bounds h0 n hn).2
    _ ≤ 1 + (n + 1) * ε + ε * (1 - (n + 3) * ε) := le_add_of_nonneg_right (mul_nonneg h0 (sub_nonneg.2 h3))
    _ = (1 + (n + 3) * ε) * (1 - ε) := by ring

namespace Within
variable {ε : Rat} {i j : Nat} {a b : Rat}

theorem refl (a : Rat) : Within ε 0 0 a a := by simp [Within]

theorem zero (ε : Rat) (i j : Nat) : Within ε i j 0 0 := by simp [Within]

theorem of_bounds {c : Rat} (h : b * (1 - ε) ≤ c ∧ c ≤ b * (1 + ε)) : Within ε 1 1 b c := by
  simpa [Within] using h

theorem nonneg (h1 : ε ≤ 1) (ha : 0 ≤ a) (h : Within ε i j a b) : 0 ≤ b :=
  le_trans (mul_nonneg ha (pow_nonneg (sub_nonneg.2 h1) _)) h.1

theorem pos (h1 : ε < 1) (ha : 0 < a) (h : Within ε i j a b) : 0 < b :=
  lt_of_lt_of_le (mul_pos ha (pow_pos (sub_pos.2 h1) _)) h.1

/-- the exponents are read off `h` and `h'`, not off the goal -/
@[elab_without_expected_type]
theorem trans (h0 : 0 ≤ ε) (h1 : ε ≤ 1) {i' j' : Nat} {c : Rat} (h : Within ε i j a b) (h' : Within ε i' j' b c) :
    Within ε (i + i') (j + j') a c := by
  constructor
  · calc a * (1 - ε) ^ (i + i') = a * (1 - ε) ^ i * (1 - ε) ^ i' := by rw [pow_add, mul_assoc]
      _ ≤ b * (1 - ε) ^ i' := mul_le_mul_of_nonneg_right h.1 (pow_nonneg (sub_nonneg.2 h1) _)
      _ ≤ c := h'.1
  · calc c ≤ b * (1 + ε) ^ j' := h'.2
      _ ≤ a * (1 + ε) ^ j * (1 + ε) ^ j' := mul_le_mul_of_nonneg_right h.2 (pow_nonneg (by linarith) _)
      _ = a * (1 + ε) ^ (j + j') := by rw [pow_add, mul_assoc]

theorem weaken (h0 : 0 ≤ ε) (h1 : ε ≤ 1) {i' j' : Nat} (ha : 0 ≤ a) (hi : i ≤ i') (hj : j ≤ j') (h : Within ε i j a b) :
    Within ε i' j' a b :=
  ⟨le_trans (mul_le_mul_of_nonneg_left (pow_le_pow_of_le_one (sub_nonneg.2 h1) (by linarith) hi) ha) h.1,
   le_trans h.2 (mul_le_mul_of_nonneg_left (pow_le_pow_right₀ (by linarith) hj) ha)⟩

theorem mono_eps {η : Rat} (hη : 0 ≤ η) (hηε : η ≤ ε) (h1 : ε ≤ 1) (ha : 0 ≤ a) (h : Within η i j a b) : Within ε i j a b :=
  ⟨le_trans (mul_le_mul_of_nonneg_left (pow_le_pow_left₀ (sub_nonneg.2 h1) (by linarith) i) ha) h.1,
   le_trans h.2 (mul_le_mul_of_nonneg_left (pow_le_pow_left₀ (by linarith) (by linarith) j) ha)⟩

theorem lin (h0 : 0 ≤ ε) (ha : 0 ≤ a) (hi : (i : Rat) * (i + 1) * ε ≤ 1) (hj : (j : Rat) * (j + 1) * ε ≤ 1)
    (h : Within ε i j a b) : a * (1 - i * ε) ≤ b ∧ b ≤ a * (1 + (j + 1) * ε) :=
  ⟨le_trans (mul_le_mul_of_nonneg_left (pow_eps_bounds h0 i hi).1 ha) h.1,
   le_trans h.2 (mul_le_mul_of_nonneg_left (pow_eps_bounds h0 j hj).2 ha)⟩

theorem dist_le (h0 : 0 ≤ ε) {n : Nat} (hn : (n : Rat) * (n + 1) * ε ≤ 1) {B : Rat} (ha : 0 ≤ a) (haB : a ≤ B)
    (h : Within ε n n a b) : |b - a| ≤ B * ((n + 1) * ε) := by
  obtain ⟨l, u⟩ := h.lin h0 ha hn hn
  have hB : a * ((n + 1) * ε) ≤ B * ((n + 1) * ε) := mul_le_mul_of_nonneg_right haB (by positivity)
  exact abs_sub_le_iff.2 ⟨by linarith only [u, hB], by linarith only [l, hB, mul_nonneg ha h0]⟩

theorem loosen {δ : Rat} (ha : 0 ≤ a) (hi : 1 - δ ≤ (1 - ε) ^ i) (hj : (1 + ε) ^ j ≤ 1 + δ) (h : Within ε i j a b) :
    a * (1 - δ) ≤ b ∧ b ≤ a * (1 + δ) :=
  ⟨le_trans (mul_le_mul_of_nonneg_left hi ha) h.1, le_trans h.2 (mul_le_mul_of_nonneg_left hj ha)⟩

theorem upTo (h0 : 0 ≤ ε) (h1 : ε ≤ 1) (ha : 0 ≤ a) {a' : Rat} (haa' : a ≤ a') (h : Within ε i j a b) : UpTo ε j a' b :=
  ⟨h.nonneg h1 ha, le_trans h.2 (mul_le_mul_of_nonneg_right haa' (pow_nonneg (by linarith) _))⟩

theorem mul_le (h0 : 0 ≤ ε) {c x y : Rat} (hc : 0 ≤ c) (h : Within ε i j a b) (k : a * c ≤ x * y) :
    b * c ≤ x * (y * (1 + ε) ^ j) :=
  calc b * c ≤ a * (1 + ε) ^ j * c := mul_le_mul_of_nonneg_right h.2 hc
    _ = a * c * (1 + ε) ^ j := mul_right_comm _ _ _
    _ ≤ x * y * (1 + ε) ^ j := mul_le_mul_of_nonneg_right k (pow_nonneg (by linarith) j)
    _ = x * (y * (1 + ε) ^ j) := mul_assoc _ _ _

theorem le_mul (h1 : ε ≤ 1) {c x y : Rat} (hc : 0 ≤ c) (h : Within ε i j a b) (k : x * y ≤ a * c) :
    x * (y * (1 - ε) ^ i) ≤ b * c :=
  calc x * (y * (1 - ε) ^ i) = x * y * (1 - ε) ^ i := (mul_assoc _ _ _).symm
    _ ≤ a * c * (1 - ε) ^ i := mul_le_mul_of_nonneg_right k (pow_nonneg (sub_nonneg.2 h1) i)
    _ = a * (1 - ε) ^ i * c := mul_right_comm _ _ _
    _ ≤ b * c := mul_le_mul_of_nonneg_right h.1 hc

theorem mul_const (F : Rat) (hF : 0 ≤ F) (h : Within ε i j a b) : Within ε i j (a * F) (b * F) := by
  constructor
  · calc a * F * (1 - ε) ^ i = a * (1 - ε) ^ i * F := by ring
      _ ≤ b * F := mul_le_mul_of_nonneg_right h.1 hF
  · calc b * F ≤ a * (1 + ε) ^ j * F := mul_le_mul_of_nonneg_right h.2 hF
      _ = a * F * (1 + ε) ^ j := by ring

theorem div_const (F : Rat) (hF : 0 ≤ F) (h : Within ε i j a b) : Within ε i j (a / F) (b / F) := by
  simpa [div_eq_mul_inv] using h.mul_const F⁻¹ (inv_nonneg.2 hF)

theorem mul_self (h1 : ε ≤ 1) (ha : 0 ≤ a) (h : Within ε i j a b) : Within ε (2 * i) (2 * j) (a * a) (b * b) := by
  have hl : 0 ≤ a * (1 - ε) ^ i := mul_nonneg ha (pow_nonneg (sub_nonneg.2 h1) _)
  constructor
  · calc a * a * (1 - ε) ^ (2 * i) = a * (1 - ε) ^ i * (a * (1 - ε) ^ i) := by rw [two_mul, pow_add]; ring
      _ ≤ b * b := mul_self_le_mul_self hl h.1
  · calc b * b ≤ a * (1 + ε) ^ j * (a * (1 + ε) ^ j) := mul_self_le_mul_self (le_trans hl h.1) h.2
      _ = a * a * (1 + ε) ^ (2 * j) := by rw [two_mul, pow_add]; ring

/-- `1/(1−ε) ≤ (1+ε)²` and `1/(1+ε) ≥ 1−ε` -/
theorem inv (h0 : 0 ≤ ε) (h1 : ε ≤ 1 / 2) (ha : 0 < a) (h : Within ε i j a b) : Within ε j (2 * i) (1 / a) (1 / b) := by
  have hs : 0 < 1 - ε := by linarith
  have hb := h.pos (by linarith) ha
  constructor
  · rw [div_mul_eq_mul_div, one_mul, div_le_div_iff₀ ha hb, one_mul]
    calc (1 - ε) ^ j * b ≤ (1 - ε) ^ j * (a * (1 + ε) ^ j) := mul_le_mul_of_nonneg_left h.2 (by positivity)
      _ = a * ((1 + ε) * (1 - ε)) ^ j := by rw [mul_pow]; ring
      _ ≤ a * 1 := mul_le_mul_of_nonneg_left (pow_le_one₀ (by positivity) (one_add_mul_one_sub_le ε)) (le_of_lt ha)
      _ = a := mul_one a
  · rw [div_mul_eq_mul_div, one_mul, div_le_div_iff₀ hb ha, one_mul]
    calc a = a * 1 := (mul_one a).symm
      _ ≤ a * ((1 - ε) * (1 + ε) ^ 2) ^ i :=
        mul_le_mul_of_nonneg_left (one_le_pow₀ (one_le_one_sub_mul_sq h0 h1)) (le_of_lt ha)
      _ = (1 + ε) ^ (2 * i) * (a * (1 - ε) ^ i) := by rw [mul_pow, ← pow_mul]; ring
      _ ≤ (1 + ε) ^ (2 * i) * b := mul_le_mul_of_nonneg_left h.1 (by positivity)

theorem sqrt (h0 : 0 ≤ ε) (h1 : ε ≤ 1) {A y : Rat} (hA : 0 ≤ A) (hy : 0 ≤ y) (h : Within ε i j (A * A) (y ^ 2)) :
    Within ε i j A y := by
  have hs : 0 ≤ 1 - ε := sub_nonneg.2 h1
  constructor
  · refine (pow_le_pow_iff_left₀ (mul_nonneg hA (pow_nonneg hs _)) hy two_ne_zero).1 ?_
    calc (A * (1 - ε) ^ i) ^ 2 = A * A * (1 - ε) ^ i * (1 - ε) ^ i := by ring
      _ ≤ A * A * (1 - ε) ^ i := mul_le_of_le_one_right (by positivity) (pow_le_one₀ hs (by linarith))
      _ ≤ y ^ 2 := h.1
  · refine (pow_le_pow_iff_left₀ hy (mul_nonneg hA (pow_nonneg (by linarith) _)) two_ne_zero).1 ?_
    calc y ^ 2 ≤ A * A * (1 + ε) ^ j := h.2
      _ ≤ A * A * (1 + ε) ^ j * (1 + ε) ^ j := le_mul_of_one_le_right (by positivity) (one_le_pow₀ (by linarith))
      _ = (A * (1 + ε) ^ j) ^ 2 := by ring

theorem min (h0 : 0 ≤ ε) (h1 : ε ≤ 1) {T : Rat} (hT : 0 ≤ T) (h : Within ε i j a b) : Within ε i j (min a T) (min b T) := by
  have hl0 : 0 ≤ (1 - ε) ^ i := pow_nonneg (sub_nonneg.2 h1) i
  have hl1 : (1 - ε) ^ i ≤ 1 := pow_le_one₀ (sub_nonneg.2 h1) (by linarith)
  have hu1 : 1 ≤ (1 + ε) ^ j := one_le_pow₀ (by linarith)
  constructor
  · rw [min_mul_of_nonneg _ _ hl0]; exact min_le_min h.1 (mul_le_of_le_one_right hT hl1)
  · rw [min_mul_of_nonneg _ _ (le_trans zero_le_one hu1)]; exact min_le_min h.2 (le_mul_of_one_le_right hT hu1)

end Within

namespace UpTo
variable {ε : Rat} {j : Nat} {a b : Rat}

theorem refl (ha : 0 ≤ a) : UpTo ε 0 a a := ⟨ha, by simp⟩

theorem of_le {c : Rat} (hc : 0 ≤ c) (hcb : c ≤ b) (h : UpTo ε j a b) : UpTo ε j a c := ⟨hc, le_trans hcb h.2⟩

@[elab_without_expected_type]
theorem trans (h0 : 0 ≤ ε) {k : Nat} {c : Rat} (h : UpTo ε j a b) (h' : UpTo ε k b c) : UpTo ε (j + k) a c :=
  ⟨h'.1, by
    rw [pow_add, ← mul_assoc]
    exact le_trans h'.2 (mul_le_mul_of_nonneg_right h.2 (pow_nonneg (by linarith) _))⟩

theorem mul_const (F : Rat) (hF : 0 ≤ F) (h : UpTo ε j a b) : UpTo ε j (a * F) (b * F) :=
  ⟨mul_nonneg h.1 hF, by rw [mul_right_comm]; exact mul_le_mul_of_nonneg_right h.2 hF⟩

theorem div_const (F : Rat) (hF : 0 ≤ F) (h : UpTo ε j a b) : UpTo ε j (a / F) (b / F) := by
  simpa [div_eq_mul_inv] using h.mul_const F⁻¹ (inv_nonneg.2 hF)

theorem div_ge {c d : Rat} (hd : 0 < d) (hdc : d ≤ c) (h : UpTo ε j a b) : UpTo ε j (a / d) (b / c) :=
  ⟨div_nonneg h.1 (le_trans hd.le hdc),
   le_trans (div_le_div_of_nonneg_left h.1 hd hdc) (by rw [div_mul_eq_mul_div]; exact div_le_div_of_nonneg_right h.2 hd.le)⟩

theorem bound_eq {a' : Rat} (e : a = a') (h : UpTo ε j a b) : UpTo ε j a' b := e ▸ h

theorem loosen {δ : Rat} (ha : 0 ≤ a) (hj : (1 + ε) ^ j ≤ 1 + δ) (h : UpTo ε j a b) : b ≤ a * (1 + δ) :=
  le_trans h.2 (mul_le_mul_of_nonneg_left hj ha)

theorem exact (h : UpTo 0 j a b) : 0 ≤ b ∧ b ≤ a := by
  simpa [UpTo] using h

end UpTo

/-- the rules `mul`, `upMul` below take the exact factor on the right; this turns one written on the left -/
theorem NumCtx.mul_comm (cx : NumCtx) (a b : Rat) : cx.mul a b = cx.mul b a := by
  unfold NumCtx.mul; rw [_root_.mul_comm]

structure Rounds (cx : NumCtx) (ε : Rat) : Prop where
  err : RelRnd cx ε
  le_one : ε ≤ 1

namespace Rounds
variable {cx : NumCtx} {ε : Rat} {i j : Nat} {a b : Rat}

theorem eps_nonneg (h : Rounds cx ε) : 0 ≤ ε := by
  obtain ⟨l, u⟩ := h.err 1 zero_le_one
  linarith

theorem sq_le (h : Rounds cx ε) : (1 + ε) ^ 2 ≤ 1 + 3 * ε := by
  linarith only [mul_le_mul_of_nonneg_right h.le_one h.eps_nonneg, add_sq 1 ε]

theorem nonneg (h : Rounds cx ε) {x : Rat} (hx : 0 ≤ x) : 0 ≤ cx.rnd x :=
  le_trans (mul_nonneg hx (sub_nonneg.2 h.le_one)) (h.err x hx).1

theorem between (h : Rounds cx ε) {x lo hi : Rat} (hlo : 0 ≤ lo) (hl : lo ≤ x) (hu : x ≤ hi) :
    lo * (1 - ε) ≤ cx.rnd x ∧ cx.rnd x ≤ hi * (1 + ε) :=
  ⟨le_trans (mul_le_mul_of_nonneg_right hl (sub_nonneg.2 h.le_one)) (h.err x (le_trans hlo hl)).1,
   le_trans (h.err x (le_trans hlo hl)).2 (mul_le_mul_of_nonneg_right hu (by linarith [h.eps_nonneg]))⟩

theorem step (h : Rounds cx ε) (ha : 0 ≤ a) (r : Within ε i j a b) : Within ε (i + 1) (j + 1) a (cx.rnd b) :=
  r.trans h.eps_nonneg h.le_one (.of_bounds (h.err b (r.nonneg h.le_one ha)))

theorem mul (h : Rounds cx ε) (ha : 0 ≤ a) {F : Rat} (hF : 0 ≤ F) (r : Within ε i j a b) :
    Within ε (i + 1) (j + 1) (a * F) (cx.mul b F) :=
  h.step (mul_nonneg ha hF) (r.mul_const F hF)

theorem div (h : Rounds cx ε) (ha : 0 ≤ a) {F : Rat} (hF : 0 ≤ F) (r : Within ε i j a b) :
    Within ε (i + 1) (j + 1) (a / F) (cx.div b F) :=
  h.step (div_nonneg ha hF) (r.div_const F hF)

theorem up (h : Rounds cx ε) (r : UpTo ε j a b) : UpTo ε (j + 1) a (cx.rnd b) :=
  ⟨h.nonneg r.1, by
    rw [pow_succ, ← mul_assoc]
    exact le_trans (h.err b r.1).2 (mul_le_mul_of_nonneg_right r.2 (by linarith [h.eps_nonneg]))⟩

theorem upMul (h : Rounds cx ε) {F : Rat} (hF : 0 ≤ F) (r : UpTo ε j a b) : UpTo ε (j + 1) (a * F) (cx.mul b F) :=
  h.up (r.mul_const F hF)

theorem upDiv (h : Rounds cx ε) {F : Rat} (hF : 0 ≤ F) (r : UpTo ε j a b) : UpTo ε (j + 1) (a / F) (cx.div b F) :=
  h.up (r.div_const F hF)

end Rounds

end Demeter
