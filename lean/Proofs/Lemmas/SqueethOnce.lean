/-
  `Once`: every LP position of the oSQTH/WETH pool is held exactly once — by the pool (free, `transferred = false`,
  referenced by no vault) or by exactly one vault (`transferred = true`).  Read as: the relation "vault `k` holds position `q`" and the
  set of flagged positions match one to one (`Matched`); a vault taking or giving back a position is one update of such a match, everything
  else leaves relation and set alone.  Every operation of Demeter.Squeeth keeps it, in every arithmetic context (`Edit.once`).
-/
import Proofs.Lemmas.SqueethEdit
namespace Demeter
namespace Squeeth
open Gen

/-- **every LP position is held exactly once**: a position referenced by a vault exists in the pool and is flagged
    `transferred` (so the pool skips it); a flagged position is referenced by a vault; no two vaults reference the
    same position; vault keys never exceed the id counter (fresh ids are fresh). -/
structure Once (s : State) : Prop where
  ref_lent : ∀ vk v pos, AList.get? s.vaults vk = some v → v.nft = some pos →
    ∃ p, AList.get? s.positions pos = some p ∧ p.transferred = true
  lent_ref : ∀ pos p, AList.get? s.positions pos = some p → p.transferred = true →
    ∃ vk v, AList.get? s.vaults vk = some v ∧ v.nft = some pos
  inj : ∀ vk vk' v v' pos, AList.get? s.vaults vk = some v → AList.get? s.vaults vk' = some v' →
    v.nft = some pos → v'.nft = some pos → vk = vk'
  kbound : ∀ vk v, AList.get? s.vaults vk = some v → vk ≤ s.maxId

def refsTo (s : State) (k : Nat) (q : PosKey) : Prop := ∃ v, AList.get? s.vaults k = some v ∧ v.nft = some q
def isLent (s : State) (q : PosKey) : Prop := ∃ p, AList.get? s.positions q = some p ∧ p.transferred = true
def Bounded (s : State) : Prop := ∀ k v, AList.get? s.vaults k = some v → k ≤ s.maxId

structure Matched {α β : Type} (R : α → β → Prop) (L : β → Prop) : Prop where
  ref_lent : ∀ k q, R k q → L q
  lent_ref : ∀ q, L q → ∃ k, R k q
  inj : ∀ k k' q, R k q → R k' q → k = k'

theorem once_iff_matched (s : State) : Once s ↔ Matched (refsTo s) (isLent s) ∧ Bounded s :=
  ⟨fun h => ⟨⟨fun k q ⟨v, hv, hn⟩ => h.ref_lent k v q hv hn, fun q ⟨p, hp, ht⟩ => h.lent_ref q p hp ht,
      fun k k' q ⟨v, hv, hn⟩ ⟨v', hv', hn'⟩ => h.inj k k' v v' q hv hv' hn hn'⟩, h.kbound⟩,
   fun h => ⟨fun k v q hv hn => h.1.ref_lent k q ⟨v, hv, hn⟩, fun q p hp ht => h.1.lent_ref q ⟨p, hp, ht⟩,
      fun k k' v v' q hv hv' hn hn' => h.1.inj k k' q ⟨v, hv, hn⟩ ⟨v', hv', hn'⟩, h.2⟩⟩

section
variable {α β : Type} {R R' : α → β → Prop} {L L' : β → Prop}

theorem Matched.congr (h : Matched R L) (hR : ∀ k q, R' k q ↔ R k q) (hL : ∀ q, L' q ↔ L q) : Matched R' L' :=
  ⟨fun k q r => (hL q).mpr (h.ref_lent k q ((hR k q).mp r)),
   fun q l => (h.lent_ref q ((hL q).mp l)).imp fun k r => (hR k q).mpr r,
   fun k k' q r r' => h.inj k k' q ((hR k q).mp r) ((hR k' q).mp r')⟩

theorem Matched.update (h : Matched R L) (vk : α) (pos : β) (hR : ∀ k q, k ≠ vk ∨ q ≠ pos → (R' k q ↔ R k q))
    (hL : ∀ q, q ≠ pos → (L' q ↔ L q)) (hown : ∀ k, R k pos → k = vk) (hiff : L' pos ↔ R' vk pos) : Matched R' L' := by
  have only : ∀ k, R' k pos → k = vk := fun k r => by
    by_contra hk
    exact hk (hown k ((hR k pos (Or.inl hk)).mp r))
  refine ⟨fun k q r => ?_, fun q l => ?_, fun k k' q r r' => ?_⟩
  · by_cases hq : q = pos
    · subst hq; rw [only k r] at r; exact hiff.mpr r
    · exact (hL q hq).mpr (h.ref_lent k q ((hR k q (Or.inr hq)).mp r))
  · by_cases hq : q = pos
    · subst hq; exact ⟨vk, hiff.mp l⟩
    · exact (h.lent_ref q ((hL q hq).mp l)).imp fun k r => (hR k q (Or.inr hq)).mpr r
  · by_cases hq : q = pos
    · subst hq; rw [only k r, only k' r']
    · exact h.inj k k' q ((hR k q (Or.inr hq)).mp r) ((hR k' q (Or.inr hq)).mp r')
end

theorem refsTo_setVault_self (s : State) (k : Nat) (v : Vault) (q : PosKey) : refsTo (s.setVault k v) k q ↔ v.nft = some q := by
  unfold refsTo; rw [setVault_get_self]; exact ⟨fun ⟨_, e, h⟩ => Option.some.inj e ▸ h, fun h => ⟨v, rfl, h⟩⟩

theorem refsTo_setVault_ne (s : State) {k k' : Nat} (v : Vault) (q : PosKey) (h : k' ≠ k) : refsTo (s.setVault k v) k' q ↔ refsTo s k' q := by
  unfold refsTo; rw [setVault_get_other _ _ _ _ h]

theorem isLent_setPos_self (s : State) (q : PosKey) (p : UPos) : isLent (s.setPos q p) q ↔ p.transferred = true := by
  unfold isLent; rw [setPos_get_self]; exact ⟨fun ⟨_, e, h⟩ => Option.some.inj e ▸ h, fun h => ⟨p, rfl, h⟩⟩

theorem isLent_setPos_ne (s : State) {q q' : PosKey} (p : UPos) (h : q' ≠ q) : isLent (s.setPos q p) q' ↔ isLent s q' := by
  unfold isLent; rw [setPos_get_other _ _ _ _ h]

theorem Bounded.setVault {s : State} (h : Bounded s) {k : Nat} {v : Vault} (hv : AList.get? s.vaults k = some v) (v' : Vault) :
    Bounded (s.setVault k v') := fun k' w hw => by
  by_cases hk : k' = k
  · subst hk; exact h k' v hv
  · rw [setVault_get_other _ _ _ _ hk] at hw; exact h k' w hw

theorem Once.relink {s : State} (h : Once s) {k : Nat} {v : Vault} {q : PosKey} {p : UPos} (hv : AList.get? s.vaults k = some v)
    (hold : ∀ q', v.nft = some q' → q' = q) (hown : ∀ k', refsTo s k' q → k' = k) (n : Option PosKey) (b : Bool)
    (hnew : ∀ q', n = some q' → q' = q) (hiff : b = true ↔ n = some q) :
    Once ((s.setVault k { v with nft := n }).setPos q { p with transferred := b }) := by
  rw [once_iff_matched] at h ⊢
  refine ⟨h.1.update k q (fun k' q' hne => ?_) (fun q' hq => isLent_setPos_ne _ _ hq) hown ?_, h.2.setVault hv _⟩
  · show refsTo (s.setVault k _) k' q' ↔ _
    by_cases hk : k' = k
    · subst hk
      have hq : q' ≠ q := hne.resolve_left (fun h => h rfl)
      rw [refsTo_setVault_self]
      exact ⟨fun e => absurd (hnew q' e) hq, fun ⟨w, hw, e⟩ => absurd (hold q' (by rw [hv] at hw; cases hw; exact e)) hq⟩
    · exact refsTo_setVault_ne _ _ _ hk
  · rw [isLent_setPos_self]
    show b = true ↔ refsTo (s.setVault k _) k q
    rw [refsTo_setVault_self]; exact hiff

theorem Once.lend {s : State} (h : Once s) {k : Nat} {v : Vault} {q : PosKey} {p : UPos} (hv : AList.get? s.vaults k = some v)
    (hn : v.nft = none) (hp : AList.get? s.positions q = some p) (ht : p.transferred = false) :
    Once ((s.setVault k { v with nft := some q }).setPos q { p with transferred := true }) :=
  h.relink hv (fun _ e => by rw [hn] at e; cases e)
    (fun k' ⟨w, hw, e⟩ => by obtain ⟨p', hp', ht'⟩ := h.ref_lent k' w q hw e; rw [hp] at hp'; cases hp'; rw [ht] at ht'; cases ht')
    (some q) true (fun _ e => (Option.some.inj e).symm) ⟨fun _ => rfl, fun _ => rfl⟩

theorem Once.release {s : State} (h : Once s) {k : Nat} {v : Vault} {q : PosKey} {p : UPos} (hv : AList.get? s.vaults k = some v)
    (hn : v.nft = some q) :
    Once ((s.setVault k { v with nft := none }).setPos q { p with transferred := false }) :=
  h.relink hv (fun _ e => by rw [hn] at e; exact (Option.some.inj e).symm) (fun k' ⟨w, hw, e⟩ => h.inj k' k w v q hw hv e hn)
    none false (fun _ e => nomatch e) ⟨fun e => (nomatch e), fun e => (nomatch e)⟩

theorem Once.congr {s s' : State} (h : Once s) (hR : ∀ k q, refsTo s' k q ↔ refsTo s k q) (hL : ∀ q, isLent s' q ↔ isLent s q)
    (hb : Bounded s') : Once s' := by
  rw [once_iff_matched] at h ⊢
  exact ⟨h.1.congr hR hL, hb⟩

theorem Once.congr_lent {s s' : State} (h : Once s) (hv : s'.vaults = s.vaults) (hm : s'.maxId = s.maxId)
    (hL : ∀ q, isLent s' q ↔ isLent s q) : Once s' :=
  h.congr (fun k q => by unfold refsTo; rw [hv]) hL (fun k v hg => by rw [hm]; rw [hv] at hg; exact h.kbound k v hg)

theorem Once.openVault {s : State} (h : Once s) : Once (Squeeth.openVault s none).1 := by
  have hfresh : AList.get? s.vaults (s.maxId + 1) = none := by
    cases hg : AList.get? s.vaults (s.maxId + 1) with
    | none => rfl
    | some v => have := h.kbound _ v hg; omega
  refine h.congr (fun k q => ?_) (fun _ => Iff.rfl) (fun k v hv => ?_)
  · show refsTo (s.setVault (s.maxId + 1) ⟨0, 0, none⟩) k q ↔ _
    by_cases hk : k = s.maxId + 1
    · subst hk; rw [refsTo_setVault_self]
      exact ⟨fun e => (nomatch e), fun ⟨w, hw, _⟩ => by rw [hfresh] at hw; cases hw⟩
    · exact refsTo_setVault_ne _ _ _ hk
  · show k ≤ s.maxId + 1
    by_cases hk : k = s.maxId + 1
    · omega
    · have : AList.get? s.vaults k = some v := by rw [← setVault_get_other s _ _ ⟨0, 0, none⟩ hk]; exact hv
      have := h.kbound k v this; omega

theorem Once.amounts {s : State} (h : Once s) {k : Nat} {v : Vault} (hv : AList.get? s.vaults k = some v) (c sh : Rat) :
    Once (s.setVault k ⟨c, sh, v.nft⟩) := by
  refine h.congr (fun k' q => ?_) (fun _ => Iff.rfl) (Bounded.setVault h.kbound hv _)
  by_cases hk : k' = k
  · subst hk; rw [refsTo_setVault_self]; exact ⟨fun e => ⟨v, hv, e⟩, fun ⟨w, hw, e⟩ => by rw [hv] at hw; cases hw; exact e⟩
  · exact refsTo_setVault_ne _ _ _ hk

theorem Once.drop {s : State} (h : Once s) {q : PosKey} {p : UPos} (hp : AList.get? s.positions q = some p) (ht : p.transferred = false) :
    Once { s with positions := AList.erase s.positions q } := by
  refine h.congr_lent rfl rfl (fun q' => ?_)
  unfold isLent
  by_cases hq : q' = q
  · subst hq
    show (∃ p', AList.get? (AList.erase s.positions q') q' = some p' ∧ _) ↔ _
    rw [AList.get?_erase_self, hp]
    exact ⟨fun ⟨_, e, _⟩ => (nomatch e), fun ⟨_, e, t⟩ => by cases e; rw [ht] at t; cases t⟩
  · show (∃ p', AList.get? (AList.erase s.positions q) q' = some p' ∧ _) ↔ _
    rw [AList.get?_erase_ne _ (Ne.symm hq)]

structure SameRefs (s s' : State) : Prop where
  v : ∀ k, (AList.get? s'.vaults k).map (·.nft) = (AList.get? s.vaults k).map (·.nft)
  p : ∀ k, (AList.get? s'.positions k).map (·.transferred) = (AList.get? s.positions k).map (·.transferred)
  m : s'.maxId = s.maxId

theorem sameRefs_setPos (s : State) (k : PosKey) (p p' : UPos) (hp : AList.get? s.positions k = some p)
    (ht : p'.transferred = p.transferred) : SameRefs s (s.setPos k p') := by
  refine ⟨fun _ => rfl, fun k' => ?_, rfl⟩
  unfold State.setPos
  by_cases hk : k' = k
  · subst hk; simp only [AList.get?_set_self, hp, Option.map_some, ht]
  · simp only [AList.get?_set_ne _ (Ne.symm hk) _]

theorem Once.repos {s : State} (h : Once s) {q : PosKey} {p : UPos} (p' : UPos) (hp : AList.get? s.positions q = some p)
    (ht : p'.transferred = p.transferred) : Once (s.setPos q p') := by
  refine h.congr_lent rfl rfl (fun q' => ?_)
  by_cases hq : q' = q
  · subst hq
    rw [isLent_setPos_self, ht]
    exact ⟨fun e => ⟨p, hp, e⟩, fun ⟨_, e, t⟩ => by rw [hp] at e; cases e; exact t⟩
  · exact isLent_setPos_ne _ _ hq

theorem Edit.once {K : Nat → Prop} {Q : PosKey → Prop} {s s' : State} (h : Edit K Q s s') : Once s → Once s' := by
  induction h with
  | refl s => exact id
  | trans _ _ ih1 ih2 => exact ih2 ∘ ih1
  | amounts c sh _ hv => exact fun h => h.amounts hv c sh
  | ledger s w l => exact fun h => h.congr_lent rfl rfl (fun _ => Iff.rfl)
  | fresh s _ => exact fun h => h.openVault
  | repos p' _ hp ht => exact fun h => h.repos p' hp ht
  | drop _ hp ht => exact fun h => h.drop hp ht
  | lend _ _ hv hn hp ht => exact fun h => h.lend hv hn hp ht
  | release _ _ hv hn hp ht => exact fun h => h.release hv hn

theorem Once.effColl_defined {s : State} (h : Once s) (cx : NumCtx) (e : Env) {vk : Nat} {v : Vault}
    (hv : AList.get? s.vaults vk = some v) : ∃ c, effColl cx e s vk = .ok c := by
  rw [effColl_eq hv]
  cases hn : v.nft with
  | none => exact ⟨_, rfl⟩
  | some pos =>
    obtain ⟨p, hp, _⟩ := h.ref_lent vk v pos hv hn
    simp only [hp]; exact ⟨_, rfl⟩

theorem Once.vaultStatus_defined {s : State} (h : Once s) (cx : NumCtx) (e : Env) {vk : Nat} {v : Vault}
    (hv : AList.get? s.vaults vk = some v) : ∃ p, vaultStatus cx e s vk = .ok p := by
  obtain ⟨c, hc⟩ := h.effColl_defined cx e hv
  rw [vaultStatus_eq hv, hc]
  split <;> exact ⟨_, rfl⟩

theorem liquidateOp_once (cx : NumCtx) (e : Env) (s : State) (k : Nat) (h : Once s) : Once (liquidateOp cx e s k).st :=
  (liquidateOp_edit (K := AnyKey) (Q := AnyKey) cx e s k trivial fun _ _ _ _ => trivial).once h

def heldKeys (s : State) : List PosKey := s.vaults.filterMap (·.2.nft)

theorem Once.heldKeys_nodup {s : State} (h : Once s) (hnv : (s.vaults.map (·.1)).Nodup) : (heldKeys s).Nodup :=
  (List.Pairwise.and_mem.mp (List.pairwise_map.mp hnv)).filterMap _ fun a a' ⟨ha, ha', hne⟩ q hq _ hq' e =>
    hne (h.inj a.1 a'.1 a.2 a'.2 q (AList.get?_of_mem hnv ha) (AList.get?_of_mem hnv ha') hq (e ▸ hq'))

theorem Once.mem_heldKeys {s : State} (h : Once s) (hnv : (s.vaults.map (·.1)).Nodup) (q : PosKey) :
    q ∈ heldKeys s ↔ isLent s q := by
  unfold heldKeys
  rw [List.mem_filterMap]
  exact ⟨fun ⟨kv, hkv, hn⟩ => h.ref_lent kv.1 kv.2 q (AList.get?_of_mem hnv hkv) hn,
    fun ⟨p, hp, ht⟩ => (h.lent_ref q p hp ht).elim fun vk ⟨v, hv, hn⟩ => ⟨(vk, v), AList.mem_of_get? hv, hn⟩⟩

end Squeeth
end Demeter
