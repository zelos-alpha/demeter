/-
  `Broker.swap_by_from` / `swap_by_to`: every check precedes the first mutation, and what follows the checks is the same
  in both — debit the paid amount, credit the received amount, report (`settle`).  The two swaps differ only in which of
  the two amounts the caller names and which price must not be zero.
-/
import Demeter.Broker
namespace Demeter

/-- the part of a swap after its checks: `subtract_from_balance`, `add_to_balance`, the action record -/
def settle (cx : NumCtx) (w : Wallet) (allowNeg : Bool) (fromTok toTok : String) (feeRate fromAmt toAmt : Rat) :
    Except (BrokerErr × Wallet) SwapResult :=
  match Wallet.debit cx w fromTok fromAmt allowNeg with
  | .error .insufficient => .error (.insufficient, w)
  | .error .unknownToken => .error (.unknownToken, w)
  | .ok w1 => .ok { wallet := Wallet.credit cx w1 toTok toAmt, fromAmount := fromAmt, toAmount := toAmt,
                    fee := cx.mul fromAmt feeRate }

/-- both swaps: the checks in the code's order (`k₁`, `k₂`: the token whose price is looked up first / second; the second
    price is the divisor), then `settle` at the amounts `quote p₁ p₂` -/
def swapChecked (cx : NumCtx) (w : Wallet) (allowNeg : Bool) (fromTok toTok : String) (amount : Rat) (prices : Prices)
    (feeRate : Rat) (k₁ k₂ : String) (quote : Rat → Rat → Rat × Rat) : Except (BrokerErr × Wallet) SwapResult :=
  if ¬ (0 ≤ feeRate ∧ feeRate < 1) then .error (.assertion, w) else
  if amount < 0 then .error (.negativeAmount, w) else
  match AList.get? prices k₁ with
  | none => .error (.keyError, w)
  | some p₁ =>
    match AList.get? prices k₂ with
    | none => .error (.keyError, w)
    | some p₂ =>
      if p₂ = 0 then .error (.zeroDiv, w) else
      settle cx w allowNeg fromTok toTok feeRate (quote p₁ p₂).1 (quote p₁ p₂).2

theorem swapByFrom_eq (cx : NumCtx) (w : Wallet) (allowNeg : Bool) (f t : String) (amount : Rat) (p : Prices) (feeRate : Rat) :
    swapByFrom cx w allowNeg f t amount p feeRate = swapChecked cx w allowNeg f t amount p feeRate f t
      (fun pf pt => (amount, cx.div (cx.mul (cx.mul amount pf) (cx.sub 1 feeRate)) pt)) := rfl

theorem swapByTo_eq (cx : NumCtx) (w : Wallet) (allowNeg : Bool) (f t : String) (amount : Rat) (p : Prices) (feeRate : Rat) :
    swapByTo cx w allowNeg f t amount p feeRate = swapChecked cx w allowNeg f t amount p feeRate t f
      (fun pt pf => (cx.div (cx.div (cx.mul amount pt) (cx.sub 1 feeRate)) pf, amount)) := rfl

section
variable {cx : NumCtx} {w w' : Wallet} {allowNeg : Bool} {f t k₁ k₂ : String} {amount feeRate : Rat} {p : Prices}
  {quote : Rat → Rat → Rat × Rat}

theorem swapChecked_cases (cx : NumCtx) (w : Wallet) (allowNeg : Bool) (f t : String) (amount : Rat) (p : Prices) (feeRate : Rat)
    (k₁ k₂ : String) (quote : Rat → Rat → Rat × Rat) :
    (∃ e, e ≠ .insufficient ∧ e ≠ .unknownToken ∧
      swapChecked cx w allowNeg f t amount p feeRate k₁ k₂ quote = .error (e, w)) ∨
    (∃ p₁ p₂, (0 ≤ feeRate ∧ feeRate < 1) ∧ 0 ≤ amount ∧ AList.get? p k₁ = some p₁ ∧ AList.get? p k₂ = some p₂ ∧ p₂ ≠ 0 ∧
      swapChecked cx w allowNeg f t amount p feeRate k₁ k₂ quote
        = settle cx w allowNeg f t feeRate (quote p₁ p₂).1 (quote p₁ p₂).2) := by
  unfold swapChecked
  by_cases hfee : 0 ≤ feeRate ∧ feeRate < 1
  · rw [if_neg (not_not_intro hfee)]
    by_cases ha : amount < 0
    · rw [if_pos ha]; exact .inl ⟨_, by decide, by decide, rfl⟩
    · rw [if_neg ha]
      cases AList.get? p k₁ with
      | none => exact .inl ⟨_, by decide, by decide, rfl⟩
      | some p₁ =>
        cases AList.get? p k₂ with
        | none => exact .inl ⟨_, by decide, by decide, rfl⟩
        | some p₂ =>
          by_cases h0 : p₂ = 0
          · simp only [if_pos h0]; exact .inl ⟨_, by decide, by decide, rfl⟩
          · simp only [if_neg h0]
            exact .inr ⟨p₁, p₂, hfee, Rat.not_lt.mp ha, rfl, rfl, h0, rfl⟩
  · rw [if_pos hfee]; exact .inl ⟨_, by decide, by decide, rfl⟩

variable {fa ta : Rat} {r : SwapResult} {e : BrokerErr}

theorem settle_ok (h : settle cx w allowNeg f t feeRate fa ta = .ok r) :
    ∃ w1, Wallet.debit cx w f fa allowNeg = .ok w1 ∧
      r = { wallet := Wallet.credit cx w1 t ta, fromAmount := fa, toAmount := ta, fee := cx.mul fa feeRate } := by
  unfold settle at h
  split at h
  · cases h
  · cases h
  · rename_i w1 hd
    exact ⟨w1, hd, (Except.ok.inj h).symm⟩

theorem settle_error (h : settle cx w allowNeg f t feeRate fa ta = .error (e, w')) :
    w' = w ∧ ∃ e', Wallet.debit cx w f fa allowNeg = .error e' := by
  unfold settle at h
  split at h
  · rename_i hd; cases h; exact ⟨rfl, _, hd⟩
  · rename_i hd; cases h; exact ⟨rfl, _, hd⟩
  · cases h

theorem swapChecked_error (h : swapChecked cx w allowNeg f t amount p feeRate k₁ k₂ quote = .error (e, w')) :
    w' = w ∧ ((e = .insufficient ∨ e = .unknownToken) → ∃ a e', Wallet.debit cx w f a allowNeg = .error e') := by
  rcases swapChecked_cases cx w allowNeg f t amount p feeRate k₁ k₂ quote with ⟨e0, h1, h2, he⟩ | ⟨p₁, p₂, _, _, _, _, _, hs⟩
  · cases he.symm.trans h
    exact ⟨rfl, fun hc => (hc.elim h1 h2).elim⟩
  · obtain ⟨hw, e', hd⟩ := settle_error (hs.symm.trans h)
    exact ⟨hw, fun _ => ⟨_, e', hd⟩⟩

theorem swapChecked_ok (h : swapChecked cx w allowNeg f t amount p feeRate k₁ k₂ quote = .ok r) :
    ∃ p₁ p₂, (0 ≤ feeRate ∧ feeRate < 1) ∧ 0 ≤ amount ∧ AList.get? p k₁ = some p₁ ∧ AList.get? p k₂ = some p₂ ∧ p₂ ≠ 0 ∧
      settle cx w allowNeg f t feeRate (quote p₁ p₂).1 (quote p₁ p₂).2 = .ok r := by
  rcases swapChecked_cases cx w allowNeg f t amount p feeRate k₁ k₂ quote with ⟨e0, _, _, he⟩ | ⟨p₁, p₂, a1, a2, a3, a4, a5, hs⟩
  · cases he.symm.trans h
  · exact ⟨p₁, p₂, a1, a2, a3, a4, a5, hs.symm.trans h⟩

end
end Demeter
