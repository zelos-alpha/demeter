/-
  What each write operation of the Aave state machine does, by ONE walk over its body, as a triple over `Moved s0` (the frame of
  `s0`, caches moved coherently), in any state and any arithmetic context:

    rejected  ⇒  `Moved s0 s'`                                     (positions, wallet, log, `has_update` untouched; coherent if `s0` was)
    accepted  ⇒  `∃ s1, Moved s0 s1 ∧ conditions ∧ s' = (tail … s1).2`   (the commit functions of the operation on a moved state)

  Reject-noop, coherence (`inv_*`), the inversion lemmas (AaveInv) and the frame rule (AaveFrame) are read off these triples.
-/
import Proofs.Lemmas.AaveWrites
namespace Demeter.Aave
open Demeter M

variable {cx : ACtx} {env : Env}

theorem divE_ok_eq {a b x : Rat} (h : divE cx a b = .ok x) : b ≠ 0 ∧ x = cx.div a b := by
  unfold divE at h
  split at h
  next => cases h
  next hb => cases h; exact ⟨hb, rfl⟩

/-- `_supplies` after `__sub_supply_amount` left the scaled balance `nb` -/
def supAfterSub (sup : AList String SupplyInfo) (tok : String) (info : SupplyInfo) (nb : Rat) : AList String SupplyInfo :=
  if nb = 0 then AList.erase sup tok else AList.set sup tok { info with base := nb }

/-- `_borrows` after `__sub_borrow_amount` left the scaled balance `nb` -/
def borAfterSub (bor : AList String BorrowInfo) (tok : String) (info : BorrowInfo) (nb : Rat) : AList String BorrowInfo :=
  if nb = 0 then AList.erase bor tok else AList.set bor tok { info with base := nb }

/-- the pay-back amount `repay` settles on when repaying `a0` of `tok` out of the collateral supply `(cinfo, cst)` of `ctok` -/
def CappedPayback (cx : ACtx) (env : Env) (tok ctok : String) (a0 : Rat) (cinfo : SupplyInfo) (cst : TokStatus) (p : Rat) : Prop :=
  ∃ need, swapAmount cx env tok ctok a0 = .ok need ∧
    ((need > cx.mul cinfo.base cst.liqIdx ∧ swapAmount cx env ctok tok (cx.mul cinfo.base cst.liqIdx) = .ok p) ∨
     (¬ need > cx.mul cinfo.base cst.liqIdx ∧ p = a0))

/-- only `amount` is characterised: no cache enters it -/
theorem getSupply_eff (s0 : St) (tok : String) :
    Tri (Moved cx env s0) (getSupply cx env tok)
      (fun sv s1 => Moved cx env s0 s1 ∧ ∃ info st, AList.get? s0.supplies tok = some info ∧ env.statusOf tok = .ok st ∧
        sv.amount = cx.mul info.base st.liqIdx) (Moved cx env s0) := by
  unfold getSupply
  refine Tri.bind_queryPos (fun _ h => ⟨h.sup, h.bor⟩) (fun info hq => ?_)
  refine Tri.bind_ofRes (fun st hst => ?_)
  refine Tri.bind_inv (reads_suppliesValue.moved s0) (fun vs => ?_)
  intro s hs
  rw [run_ofRes]
  unfold supplyOf
  rw [hst]
  cases AList.get? vs tok with
  | none => exact hs
  | some v => exact ⟨hs, info, st, optRes_eq_ok.mp hq, rfl, rfl⟩

theorem getBorrow_eff (s0 : St) (tok : String) :
    Tri (Moved cx env s0) (getBorrow cx env tok)
      (fun bv s1 => Moved cx env s0 s1 ∧ ∃ info st, AList.get? s0.borrows tok = some info ∧ env.statusOf tok = .ok st ∧
        bv.amount = cx.mul info.base st.varIdx) (Moved cx env s0) := by
  unfold getBorrow
  refine Tri.bind_queryPos (fun _ h => ⟨h.sup, h.bor⟩) (fun info hq => ?_)
  refine Tri.bind_ofRes (fun st hst => ?_)
  refine Tri.bind_inv (reads_borrowsValue.moved s0) (fun vs => ?_)
  intro s hs
  rw [run_ofRes]
  unfold borrowOf
  rw [hst]
  cases AList.get? vs tok with
  | none => exact hs
  | some v => exact ⟨hs, info, st, optRes_eq_ok.mp hq, rfl, rfl⟩

theorem repayCollateralCap_eff (s0 : St) (tok ctok : String) (a0 : Rat) :
    Tri (Moved cx env s0) (repayCollateralCap cx env tok ctok a0)
      (fun p s1 => Moved cx env s0 s1 ∧ ∃ cinfo cst, AList.get? s0.supplies ctok = some cinfo ∧
        env.statusOf ctok = .ok cst ∧ CappedPayback cx env tok ctok a0 cinfo cst p) (Moved cx env s0) := by
  unfold repayCollateralCap
  refine Tri.bind_inv (reads_suppliesView.moved s0) (fun sv => Tri.bind_require (fun _ => ?_))
  refine Tri.bind_inv (reads_suppliesView.moved s0) (fun sv' => Tri.bind_ofRes (fun c _ => Tri.bind_require (fun _ => ?_)))
  refine Tri.bind_ofRes (fun need hneed => ?_)
  refine Tri.bind (getSupply_eff s0 ctok) (fun sup => Tri.of_pure (fun ⟨cinfo, cst, hci, hcst, hamt⟩ => ?_))
  rw [hamt]
  split
  · rename_i hc
    intro s hs
    rw [run_ofRes]
    cases hp : swapAmount cx env ctok tok (cx.mul cinfo.base cst.liqIdx) with
    | error e => exact hs
    | ok p => exact ⟨hs, cinfo, cst, hci, hcst, need, hneed, Or.inl ⟨hc, hp⟩⟩
  · rename_i hc
    exact Tri.pure _ (fun s hs => ⟨hs, cinfo, cst, hci, hcst, need, hneed, Or.inr ⟨hc, rfl⟩⟩)

def supplyTail (cx : ACtx) (tok : String) (amount : Rat) (coll : Bool) (entry : SupplyInfo) (idx : Rat) : M Unit := do
  commitSupply tok entry
  record (.supply tok amount coll (cx.mul entry.base idx))
  setUpdated

theorem supply_eff (s0 : St) (tok : String) (amount : Rat) (coll : Bool) :
    Tri (Moved cx env s0) (supply cx env tok amount coll)
      (fun _ s' => ∃ s1 st w', Moved cx env s0 s1 ∧ env.isOpen = true ∧ amount > 0 ∧ env.statusOf tok = .ok st ∧
        st.liqIdx ≠ 0 ∧ (coll = true → ∃ r, env.riskOf tok = .ok r ∧ r.canColl = true) ∧
        (∀ info, AList.get? s0.supplies tok = some info → info.coll = coll) ∧
        Wallet.debit cx.toNumCtx s0.wallet tok amount false = .ok w' ∧
        s' = (supplyTail cx tok amount coll
                (supplyEntry cx (AList.get? s0.supplies tok) (cx.div amount st.liqIdx) coll st.liqIdx) st.liqIdx
                { s1 with wallet := w' }).2)
      (Moved cx env s0) := by
  unfold supply guardOpen
  refine Tri.bind_require (fun hopen => Tri.bind_require (fun hpos => ?_))
  refine Tri.bind (Tri.checkCanCollateral env tok coll) (fun _ => Tri.of_pure (fun hcan => ?_))
  refine Tri.bind_ofRes (fun st hst => Tri.bind_ofRes (fun pa hpa => ?_))
  obtain ⟨hnz, rfl⟩ := divE_ok_eq hpa
  refine Tri.bind_queryPos (fun _ h => ⟨h.sup, h.bor⟩) (fun old hold => ?_)
  cases hold
  refine Tri.bind (Tri.checkFlag _ coll) (fun _ => Tri.of_pure (fun hflag => ?_))
  intro s hs
  rw [run_bind]
  unfold walletDebit
  cases hw : Wallet.debit cx.toNumCtx s.wallet tok amount false with
  | error e => cases e <;> exact hs
  | ok w' =>
    exact ⟨s, st, w', hs, hopen, by simpa using hpos, hst, hnz, hcan, hflag,
      by rw [← hs.wallet]; exact hw, rfl⟩

def borrowTail (cx : ACtx) (tok : String) (amount : Rat) (entry : BorrowInfo) (idx : Rat) : M Unit := do
  commitBorrow cx tok entry amount
  record (.borrow tok amount (cx.mul entry.base idx))
  setUpdated

theorem borrow_eff (s0 : St) (tok : String) (amount? : Option Rat) :
    Tri (Moved cx env s0) (borrow cx env tok amount?)
      (fun _ s' => ∃ s1 amount st, Moved cx env s0 s1 ∧ env.isOpen = true ∧ amount > 0 ∧
        (∀ a, amount? = some a → amount = a) ∧ env.statusOf tok = .ok st ∧ st.varIdx ≠ 0 ∧
        (∃ r, env.riskOf tok = .ok r ∧ r.canBorrow = true) ∧
        s' = (borrowTail cx tok amount
                (borrowEntry cx (AList.get? s0.borrows tok) (cx.div amount st.varIdx) st.varIdx) st.varIdx s1).2)
      (Moved cx env s0) := by
  have hid : ∀ s, Moved cx env s0 s → Moved cx env s0 s := fun _ h => h
  unfold borrow guardOpen
  refine Tri.bind_require (fun hopen => ?_)
  refine Tri.bind (R := fun amount s1 => Moved cx env s0 s1 ∧ ∀ a, amount? = some a → amount = a) ?_
    (fun amount => Tri.of_pure (fun ha => ?_))
  · unfold borrowAmountOf
    cases amount? with
    | some a => exact Tri.pure _ (fun _ h => ⟨h, fun a' ha' => by cases ha'; rfl⟩)
    | none =>
      exact (Tri.ofInv ((reads_maxBorrowAmount tok).moved s0) hid).weaken hid (fun _ _ h => ⟨h, fun _ ha' => by cases ha'⟩) hid
  refine Tri.bind_require (fun hpos => ?_)
  refine Tri.bind_ofRes (fun st hst => Tri.bind_ofRes (fun r hr => Tri.bind_require (fun hcb => ?_)))
  refine Tri.bind_inv (reads_collateralValue.moved s0) (fun cv => Tri.bind_require (fun _ => ?_))
  refine Tri.bind_inv (reads_maxLtv.moved s0) (fun ml => Tri.bind_require (fun _ => ?_))
  refine Tri.bind_inv (reads_healthFactor.moved s0) (fun hf => Tri.bind_require (fun _ => ?_))
  refine Tri.bind_ofRes (fun p _ => ?_)
  refine Tri.bind_inv (reads_borrowsView.moved s0) (fun bv => Tri.bind_ofRes (fun needed _ => Tri.bind_require (fun _ => ?_)))
  refine Tri.bind_ofRes (fun base hb => ?_)
  obtain ⟨hnz, rfl⟩ := divE_ok_eq hb
  refine Tri.bind_queryPos (fun _ h => ⟨h.sup, h.bor⟩) (fun old hold => ?_)
  cases hold
  exact fun s hs => ⟨s, amount, st, hs, hopen, by simpa using hpos, ha, hst, hnz, ⟨r, hr, hcb⟩, rfl⟩

def withdrawTail (cx : ACtx) (tok : String) (info : SupplyInfo) (amount nb idx : Rat) : M Unit := do
  commitSubSupply tok info nb
  walletCredit cx tok amount
  record (.withdraw tok amount (cx.mul nb idx))
  setUpdated

theorem withdraw_eff (s0 : St) (tok : String) (amount? : Option Rat) :
    Tri (Moved cx env s0) (withdraw cx env tok amount?)
      (fun _ s' => ∃ s1 st info amount, Moved cx env s0 s1 ∧ env.isOpen = true ∧ env.statusOf tok = .ok st ∧
        st.liqIdx ≠ 0 ∧ AList.get? s0.supplies tok = some info ∧ amount = amount?.getD (cx.mul info.base st.liqIdx) ∧
        amount > 0 ∧ amount ≤ cx.mul info.base st.liqIdx ∧
        s' = (withdrawTail cx tok info amount (subBase cx info.base (cx.div amount st.liqIdx)) st.liqIdx s1).2)
      (Moved cx env s0) := by
  unfold withdraw guardOpen lookupSupply
  refine Tri.bind_require (fun hopen => ?_)
  refine Tri.bind_ofRes (fun st hst => ?_)
  refine Tri.bind (getSupply_eff s0 tok) (fun sv => ?_)
  refine Tri.of_pure (fun ⟨info, st', hg, hst', hamt⟩ => ?_)
  rw [hst] at hst'; cases hst'
  rw [hamt]
  refine Tri.bind_require (fun hpos => Tri.bind_require (fun hle => ?_))
  refine Tri.bind_queryPos (fun _ h => ⟨h.sup, h.bor⟩) (fun info2 hq => ?_)
  rw [hg] at hq
  cases hq
  refine Tri.bind_inv (Inv.checkWithdrawHf (fun tb s hs => hs.trans (moved_trial (hs.sup ▸ hg) tb)) _ _) (fun _ => ?_)
  -- `__sub_supply_amount` finds the entry; a zero index is its only way out
  intro s hs
  rw [run_bind, subSupplyAmount_eq, hs.sup, hg]
  rw [hst]
  by_cases hz : st.liqIdx = 0
  · simp only [hz, if_true]; exact hs
  · simp only [hz, if_false]
    exact ⟨s, st, info, _, hs, hopen, rfl, hz, rfl, rfl, by simpa using hpos, by simpa using hle, rfl⟩

def repayTail (cx : ACtx) (tok : String) (info : BorrowInfo) (payback nb idx : Rat) : M Unit := do
  commitSubBorrow tok info nb
  record (.repay tok payback (cx.mul nb idx))
  setUpdated

theorem repay_eff (s0 : St) (tok : String) (amount? : Option Rat) (withColl : Bool) (collTok? : Option String) :
    Tri (Moved cx env s0) (repay cx env tok amount? withColl collTok?)
      (fun _ s' => ∃ s1 st info payback, Moved cx env s0 s1 ∧ env.isOpen = true ∧ env.statusOf tok = .ok st ∧ st.varIdx ≠ 0 ∧
        AList.get? s0.borrows tok = some info ∧ cx.div payback st.varIdx > 0 ∧
        (∃ rr, quantE Gen.aaveRepayRoundDigits (cx.sub info.base (cx.div payback st.varIdx)) = .ok rr ∧ rr ≥ 0) ∧
        ((withColl = false ∧ payback = amount?.getD (cx.mul info.base st.varIdx) ∧
            ∃ w', Wallet.debit cx.toNumCtx s0.wallet tok payback false = .ok w' ∧
              s' = (repayTail cx tok info payback (subBase cx info.base (cx.div payback st.varIdx)) st.varIdx
                      { s1 with wallet := w' }).2) ∨
         (withColl = true ∧ ∃ cinfo cst inColl, AList.get? s0.supplies (collTok?.getD tok) = some cinfo ∧
            env.statusOf (collTok?.getD tok) = .ok cst ∧ cst.liqIdx ≠ 0 ∧
            CappedPayback cx env tok (collTok?.getD tok) (amount?.getD (cx.mul info.base st.varIdx)) cinfo cst payback ∧
            swapAmount cx env tok (collTok?.getD tok) payback = .ok inColl ∧
            s' = (repayTail cx tok info payback (subBase cx info.base (cx.div payback st.varIdx)) st.varIdx
                    (commitSubSupply (collTok?.getD tok) cinfo (subBase cx cinfo.base (cx.div inColl cst.liqIdx)) s1).2).2)))
      (Moved cx env s0) := by
  have hid : ∀ s, Moved cx env s0 s → Moved cx env s0 s := fun _ h => h
  unfold repay guardOpen lookupBorrow
  refine Tri.bind_require (fun hopen => ?_)
  refine Tri.bind_ofRes (fun st hst => ?_)
  refine Tri.bind (getBorrow_eff s0 tok) (fun bv => Tri.of_pure (fun ⟨info, st', hg, hst', hamt⟩ => ?_))
  rw [hst] at hst'; cases hst'
  rw [hamt]
  refine Tri.bind (R := fun payback s1 => Moved cx env s0 s1 ∧
      ((withColl = false → payback = amount?.getD (cx.mul info.base st.varIdx)) ∧
       (withColl = true → ∃ cinfo cst, AList.get? s0.supplies (collTok?.getD tok) = some cinfo ∧
          env.statusOf (collTok?.getD tok) = .ok cst ∧
          CappedPayback cx env tok (collTok?.getD tok) (amount?.getD (cx.mul info.base st.varIdx)) cinfo cst payback)))
    ?_ (fun payback => Tri.of_pure (fun hpay => ?_))
  · unfold repayAmountOf
    cases withColl with
    | true => exact (repayCollateralCap_eff s0 _ _ _).weaken hid (fun _ _ h => ⟨h.1, fun hc => (by cases hc), fun _ => h.2⟩) hid
    | false => exact Tri.pure _ (fun _ h => ⟨h, fun _ => rfl, fun hc => (by cases hc)⟩)
  refine Tri.bind_ofRes (fun pbBase hpb => ?_)
  obtain ⟨hnz, rfl⟩ := divE_ok_eq hpb
  refine Tri.bind_require (fun hpos => ?_)
  refine Tri.bind_queryPos (fun _ h => ⟨h.sup, h.bor⟩) (fun info2 hq => ?_)
  rw [hg] at hq
  cases hq
  refine Tri.bind_require (fun _ => ?_)
  refine Tri.bind_ofRes (fun rr hrr => Tri.bind_require (fun hge => ?_))
  -- from here on the only ways out are the wallet, the swap prices and a zero index of the collateral token;
  -- once the repayment is taken the debt entry is still there and nothing can raise
  intro s hs
  have hgs : AList.get? s.borrows tok = some info := by rw [hs.bor]; exact hg
  unfold takeRepayment
  cases withColl with
  | false =>
    rw [if_neg Bool.false_ne_true, run_bind]
    unfold walletDebit
    cases hw : Wallet.debit cx.toNumCtx s.wallet tok payback false with
    | error e => cases e <;> exact hs
    | ok w' =>
      dsimp only
      rw [run_bind, subBorrowAmount_run (s := { s with wallet := w' }) payback hgs hst hnz]
      refine ⟨s, st, info, payback, hs, hopen, hst, hnz, hg, by simpa using hpos, ⟨rr, hrr, by simpa using hge⟩,
        Or.inl ⟨rfl, hpay.1 rfl, w', ?_, rfl⟩⟩
      rw [← hs.wallet]; exact hw
  | true =>
    obtain ⟨cinfo, cst, hci, hcst, hcap⟩ := hpay.2 rfl
    rw [if_pos rfl, run_bind_assoc, run_bind, run_ofRes]
    cases hsw : swapAmount cx env tok (collTok?.getD tok) payback with
    | error e => exact hs
    | ok inColl =>
      dsimp only
      rw [run_bind_assoc, run_bind, subSupplyAmount_eq, hs.sup, hci]
      rw [hcst]
      dsimp only
      by_cases hz : cst.liqIdx = 0
      · rw [if_pos hz]; exact hs
      · rw [if_neg hz]
        dsimp only
        rw [run_bind_pure, run_bind,
          subBorrowAmount_run (s := (commitSubSupply (collTok?.getD tok) cinfo _ s).2) payback hgs hst hnz]
        exact ⟨s, st, info, payback, hs, hopen, hst, hnz, hg, by simpa using hpos, ⟨rr, hrr, by simpa using hge⟩,
          Or.inr ⟨rfl, cinfo, cst, inColl, rfl, rfl, hz, hcap, hsw, rfl⟩⟩

/-- the state in which `change_collateral` evaluates the health factor: the flag written on a moved state, moved again -/
def Flagged (cx : ACtx) (env : Env) (s0 : St) (tok : String) (info : SupplyInfo) (s : St) : Prop :=
  ∃ s1, Moved cx env s0 s1 ∧ Moved cx env (commitFlag tok info s1).2 s

/-- writing the old entry back (with the two resets) undoes a flag change up to a move -/
theorem Flagged.back {s0 s : St} {tok : String} {info : SupplyInfo} (hg : AList.get? s0.supplies tok = some info) {c : Bool}
    (h : Flagged cx env s0 tok { info with coll := c } s) : Moved cx env s0 (commitFlag tok info s).2 := by
  obtain ⟨s1, h1, h2⟩ := h
  have e1 : s.supplies = AList.set s0.supplies tok { info with coll := c } := by rw [h2.sup, ← h1.sup]; rfl
  constructor
  · show (⟨AList.set s.supplies tok info, s.borrows, s.wallet, s.actions, s.hasUpdate⟩ : Frame) = s0.frame
    rw [e1, AList.set_restore hg, h2.bor, show s.wallet = s1.wallet from h2.wallet,
      show s.actions = s1.actions from h2.actions, show s.hasUpdate = s1.hasUpdate from congrArg Frame.hasUpdate h2.1,
      show (commitFlag tok { info with coll := c } s1).2.borrows = s1.borrows from rfl, ← h1.sup]
    exact h1.1
  · intro h0
    have g := h2.2 (good_commitFlag (h1.2 h0) (h1.sup ▸ hg) c)
    have h := good_commitFlag g (info := { info with coll := c }) (by rw [e1]; exact AList.get?_set_self _ _ _) info.coll
    have e : ({ ({ info with coll := c } : SupplyInfo) with coll := info.coll } : SupplyInfo) = info := by cases info; rfl
    rw [e] at h
    exact h

theorem changeCollateral_eff (s0 : St) (tok : String) (coll : Bool) :
    Tri (Moved cx env s0) (changeCollateral cx env tok coll)
      (fun _ s' => ∃ info, env.isOpen = true ∧ AList.get? s0.supplies tok = some info ∧
        ((info.coll = coll ∧ ∃ s1, Moved cx env s0 s1 ∧ s' = (setUpdated s1).2) ∨
         (info.coll ≠ coll ∧ ∃ s2, Flagged cx env s0 tok { info with coll := coll } s2 ∧ s' = (setUpdated s2).2)))
      (Moved cx env s0) := by
  unfold changeCollateral guardOpen lookupSupply
  refine Tri.bind_require (fun hopen => ?_)
  refine Tri.bind_queryPos (fun _ h => ⟨h.sup, h.bor⟩) (fun info hq => ?_)
  have hg : AList.get? s0.supplies tok = some info := optRes_eq_ok.mp hq
  split
  · rename_i hc
    exact fun s hs => ⟨info, hopen, hg, Or.inl ⟨by simpa using hc, s, hs, rfl⟩⟩
  · rename_i hc
    have hne : info.coll ≠ coll := by simpa using hc
    refine Tri.bind (Tri.checkCanCollateral env tok coll) (fun _ => Tri.of_pure (fun _ => ?_))
    refine Tri.bind (R := fun _ => Flagged cx env s0 tok { info with coll := coll })
      (Tri.modify _ (fun s hs => ⟨s, hs, Moved.refl _⟩)) (fun _ => ?_)
    split
    · have hhf : Inv (Flagged cx env s0 tok { info with coll := coll }) (healthFactor cx env) :=
        fun s ⟨s1, h1, h2⟩ => ⟨s1, h1, h2.trans (reads_healthFactor (cx := cx) (env := env) s).1⟩
      refine Tri.bind (Tri.onError (Tri.ofInv hhf (fun _ h => h)) (fun _ h => h.back hg)) (fun hf => ?_)
      split
      · exact Tri.bind (R := fun _ => Moved cx env s0) (Tri.modify _ (fun _ h => h.back hg))
          (fun _ => Tri.bind (R := fun _ _ => False) (Tri.throw _ (fun _ h => h)) (fun _ _ h => h.elim))
      · exact fun s hs => ⟨info, hopen, hg, Or.inr ⟨hne, s, hs, rfl⟩⟩
    · exact fun s hs => ⟨info, hopen, hg, Or.inr ⟨hne, s, hs, rfl⟩⟩

theorem inv_supply (hE : EnvOK env) (tok : String) (amount : Rat) (coll : Bool) :
    Inv (Good cx env) (supply cx env tok amount coll) := by
  intro s hs
  refine (supply_eff s tok amount coll).snd ?_ (fun _ hmv => hmv.2 hs) (Moved.refl s)
  rintro _ _ ⟨s1, st, w', hmv, _, _, hst, _, _, _, _, rfl⟩
  exact inv_setUpdated _ (inv_record _ _ (good_commitSupply ((hmv.2 hs).withWallet w') (hE tok st hst) _))

theorem inv_borrow (hE : EnvOK env) (tok : String) (amount? : Option Rat) :
    Inv (Good cx env) (borrow cx env tok amount?) := by
  intro s hs
  refine (borrow_eff s tok amount?).snd ?_ (fun _ hmv => hmv.2 hs) (Moved.refl s)
  rintro _ _ ⟨s1, amount, st, hmv, _, _, _, hst, _, _, rfl⟩
  exact inv_setUpdated _ (inv_record _ _ (good_commitBorrow (hmv.2 hs) (hE tok st hst) _ _))

theorem inv_withdraw (tok : String) (amount? : Option Rat) : Inv (Good cx env) (withdraw cx env tok amount?) := by
  intro s hs
  refine (withdraw_eff s tok amount?).snd ?_ (fun _ hmv => hmv.2 hs) (Moved.refl s)
  rintro _ _ ⟨s1, st, info, amount, hmv, _, _, _, hg, _, _, _, rfl⟩
  exact inv_setUpdated _ (inv_record _ _ (inv_walletCredit tok amount _
    (good_commitSubSupply (hmv.2 hs) (by rw [hmv.sup]; exact hg) _)))

theorem good_repayTail {tok : String} {info : BorrowInfo} {s1 : St} (hs : Good cx env s1)
    (hg : AList.get? s1.borrows tok = some info) (payback nb idx : Rat) :
    Good cx env (repayTail cx tok info payback nb idx s1).2 :=
  inv_setUpdated _ (inv_record _ _ (good_commitSubBorrow hs hg nb))

theorem inv_repay (tok : String) (amount? : Option Rat) (withColl : Bool) (collTok? : Option String) :
    Inv (Good cx env) (repay cx env tok amount? withColl collTok?) := by
  intro s hs
  refine (repay_eff s tok amount? withColl collTok?).snd ?_ (fun _ hmv => hmv.2 hs) (Moved.refl s)
  rintro _ _ ⟨s1, st, info, payback, hmv, _, _, _, hg, _, _, ⟨_, _, w', _, rfl⟩ | ⟨_, cinfo, cst, inColl, hci, _, _, _, _, rfl⟩⟩
  · exact good_repayTail (s1 := { s1 with wallet := w' }) ((hmv.2 hs).withWallet w')
      (by show AList.get? s1.borrows tok = _; rw [hmv.bor]; exact hg) _ _ _
  · exact good_repayTail (good_commitSubSupply (hmv.2 hs) (by rw [hmv.sup]; exact hci) _)
      (by show AList.get? s1.borrows tok = _; rw [hmv.bor]; exact hg) _ _ _

theorem inv_changeCollateral (tok : String) (coll : Bool) : Inv (Good cx env) (changeCollateral cx env tok coll) := by
  intro s hs
  refine (changeCollateral_eff s tok coll).snd ?_ (fun _ hmv => hmv.2 hs) (Moved.refl s)
  rintro _ _ ⟨info, _, hg, ⟨_, s1, h1, rfl⟩ | ⟨_, s2, ⟨s1, h1, h2⟩, rfl⟩⟩
  · exact inv_setUpdated _ (h1.2 hs)
  · exact inv_setUpdated _ (h2.2 (good_commitFlag (h1.2 hs) (h1.sup ▸ hg) coll))

theorem step_rejected_moved (s : St) {op : Op} {e : Err} (h : (step cx env s op).1 = .error e) (hu : op ≠ .update) :
    Moved cx env s (step cx env s op).2 := by
  have key : ∀ {m : M Unit} {R : Unit → St → Prop}, Tri (Moved cx env s) m R (Moved cx env s) →
      (unitM m s).1 = .error e → Moved cx env s (unitM m s).2 := by
    intro m R hm he
    rw [aave_unitM_snd]
    exact hm.err (Moved.refl s) (aave_unitM_fst he)
  cases op with
  | supply t a c => exact key (supply_eff s t a c) h
  | withdraw t a => exact key (withdraw_eff s t a) h
  | borrow t a => exact key (borrow_eff s t a) h
  | repay t a w c => exact key (repay_eff s t a w c) h
  | changeCollateral t c => exact key (changeCollateral_eff s t c) h
  | update => exact absurd rfl hu
  | read v => exact (reads_readView v s).1
  | newBar => cases h

end Demeter.Aave
