/-
  The model's Q128.128 ratio by the sign of the tick, and its positivity: the fold is bounded below by the product with every step
  taken, so ratio and sqrt price are positive at every tick.
  Also what the generated, unrolled raw-`Nat` form `tickStepU … sqrtPosU` (Demeter/Gen/TickTable.lean) is in terms of the model's
  list fold; no proof goes through that form.
-/
import Demeter.TickMath
namespace Demeter
open Gen

/-- the generated code tests `x = 0` with `Nat.beq` and `cond`, the model with `x != 0` and `if` -/
theorem cond_beq_zero {α : Type} (x : Nat) (a b : α) : cond (Nat.beq x 0) a b = if x != 0 then b else a := by
  cases x <;> rfl

theorem tickStepU_eq (a mask c r : Nat) :
    tickStepU a mask c r = (if a &&& mask != 0 then (r * c) >>> tickShift else r) :=
  cond_beq_zero ..

theorem tickRatioAbsU_eq (a : Nat) :
    tickRatioAbsU a = tickFold a tickTable (if a &&& 1 != 0 then tickStartOdd else tickStartEven) := by
  simp only [tickTable, tickFold, ← tickStepU_eq]
  rw [← cond_beq_zero]
  rfl

theorem tickRoundU_eq (r : Nat) :
    tickRoundU r = (r >>> tickFinalShift) + (if r % tickFinalMod = 0 then 0 else 1) := by
  unfold tickRoundU
  rw [cond_beq_zero]
  show r >>> 32 + _ = r >>> 32 + _
  by_cases h : r % 4294967296 = 0
  · have h2 : Nat.mod r 4294967296 = 0 := h
    simp [tickFinalMod, h, h2]
  · have h2 : Nat.mod r 4294967296 ≠ 0 := h
    simp [tickFinalMod, h, h2]

theorem tickRatio_of_nonpos (a : Nat) :
    tickRatio (-(a : Int)) = tickFold a tickTable (if a &&& 1 != 0 then tickStartOdd else tickStartEven) := by
  unfold tickRatio
  have h1 : (-(a : Int)).natAbs = a := by simp
  have h2 : ¬ (-(a : Int) > 0) := by omega
  simp only [h1, h2, if_false]

theorem tickRatio_of_pos (a : Nat) (h : 0 < a) : tickRatio (a : Int) = tickUintMax / tickRatio (-(a : Int)) := by
  rw [tickRatio_of_nonpos]
  unfold tickRatio
  have h1 : ((a : Int)).natAbs = a := by simp
  have h2 : ((a : Int) > 0) := by omega
  simp only [h1, h2, if_true]

theorem tick_cases {t : Int} (h1 : minTick ≤ t) (h2 : t ≤ maxTick) :
    (∃ a : Nat, a ≤ 887272 ∧ t = -(a : Int)) ∨ ∃ a : Nat, 0 < a ∧ a ≤ 887272 ∧ t = (a : Int) := by
  unfold minTick tickBound at h1
  unfold maxTick tickBound at h2
  by_cases hneg : t ≤ 0
  · exact .inl ⟨(-t).toNat, by omega, by omega⟩
  · exact .inr ⟨t.toNat, by omega, by omega, by omega⟩

theorem sqrtAt_neg (a : Nat) : sqrtAt (-(a : Int)) = sqrtNegU a := by
  unfold sqrtAt sqrtNegU
  simp only [tickRatio_of_nonpos, tickRoundU_eq, tickRatioAbsU_eq]

theorem sqrtAt_pos (a : Nat) (h : 0 < a) : sqrtAt (a : Int) = sqrtPosU a := by
  unfold sqrtAt sqrtPosU
  simp only [tickRatio_of_pos a h, tickRatio_of_nonpos, tickRoundU_eq, tickRatioAbsU_eq]
  rfl

/-- every step taken: a lower bound of the fold whatever the tick -/
def foldAll : List (Nat × Nat) → Nat → Nat
  | [], r => r
  | (_, c) :: rest, r => foldAll rest ((r * c) >>> tickShift)

theorem mul_shift_le {r r' c : Nat} (h : r ≤ r') (hc : c ≤ 2 ^ tickShift) : (r * c) >>> tickShift ≤ r' := by
  rw [Nat.shiftRight_eq_div_pow]
  apply Nat.div_le_of_le_mul
  calc r * c ≤ r' * 2 ^ tickShift := Nat.mul_le_mul h hc
    _ = 2 ^ tickShift * r' := Nat.mul_comm _ _

theorem foldAll_le (a : Nat) (tbl : List (Nat × Nat)) (hc : ∀ p ∈ tbl, p.2 ≤ 2 ^ tickShift) (r r' : Nat) (h : r ≤ r') :
    foldAll tbl r ≤ tickFold a tbl r' := by
  induction tbl generalizing r r' with
  | nil => exact h
  | cons p rest ih =>
    obtain ⟨m, c⟩ := p
    unfold foldAll tickFold
    apply ih (fun q hq => hc q (List.mem_cons_of_mem _ hq))
    split
    · rw [Nat.shiftRight_eq_div_pow, Nat.shiftRight_eq_div_pow]
      exact Nat.div_le_div_right (Nat.mul_le_mul_right c h)
    · exact mul_shift_le h (hc (m, c) List.mem_cons_self)

theorem tickTable_le : ∀ p ∈ tickTable, p.2 ≤ 2 ^ tickShift := by decide

theorem tickFold_pos (a : Nat) : 0 < tickFold a tickTable (if a &&& 1 != 0 then tickStartOdd else tickStartEven) := by
  apply Nat.lt_of_lt_of_le (by decide : 0 < foldAll tickTable (min tickStartOdd tickStartEven))
  apply foldAll_le a tickTable tickTable_le
  split
  · exact Nat.min_le_left _ _
  · exact Nat.min_le_right _ _

theorem tickFold_le (a : Nat) (tbl : List (Nat × Nat)) (hc : ∀ p ∈ tbl, p.2 ≤ 2 ^ Gen.tickShift) (r : Nat) :
    tickFold a tbl r ≤ r := by
  induction tbl generalizing r with
  | nil => exact Nat.le_refl _
  | cons p rest ih =>
    obtain ⟨m, c⟩ := p
    unfold tickFold
    refine Nat.le_trans (ih (fun q hq => hc q (List.mem_cons_of_mem _ hq)) _) ?_
    split
    · exact mul_shift_le (Nat.le_refl r) (hc (m, c) List.mem_cons_self)
    · exact Nat.le_refl _

theorem tickRatio_pos (t : Int) : 0 < tickRatio t := by
  have hpos := tickFold_pos t.natAbs
  have hle := tickFold_le t.natAbs Gen.tickTable tickTable_le
    (if t.natAbs &&& 1 != 0 then Gen.tickStartOdd else Gen.tickStartEven)
  have hstart : (if t.natAbs &&& 1 != 0 then Gen.tickStartOdd else Gen.tickStartEven) ≤ Gen.tickUintMax := by
    split <;> decide
  show 0 < (if t > 0 then Gen.tickUintMax / (tickFold t.natAbs Gen.tickTable
      (if t.natAbs &&& 1 != 0 then Gen.tickStartOdd else Gen.tickStartEven)) else _)
  split
  · exact Nat.div_pos (Nat.le_trans hle hstart) hpos
  · exact hpos

theorem sqrtAt_pos_all (t : Int) : 0 < sqrtAt t := by
  have hq := tickRatio_pos t
  show 0 < tickRatio t >>> 32 + (if tickRatio t % 4294967296 = 0 then 0 else 1)
  split <;> omega

end Demeter
