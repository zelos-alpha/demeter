/-
  The strategy's own trigger objects along a run of the general model: whatever the hooks install and remove and however the run ends, an object
  of the list the run started with is still itself (same position id, keyword arguments, constructor parameters) — so handing the list back and
  resetting gives the triggers the run started with.
-/
import Proofs.Lemmas.CoreHooksPlain
import Proofs.Lemmas.AList
namespace Demeter.Core

/-- the three generated source flags that the runs and `trigsAfterRun*` read: the list is saved by copy, the reset comes after `initialize()`
    and covers everything installed -/
theorem run2_flags :
    Gen.coreRunSavesTriggerListByCopy = true ∧ Gen.coreRunResetsTriggers = true ∧ Gen.coreRunResetsGivenTriggersOnly = false := ⟨rfl, rfl, rfl⟩

theorem startTrigs_eq (T : List Trig) : startTrigs T = T.map Trig.reset := if_pos run2_flags.2.1

theorem TrigKind.reset_reset (k : TrigKind) : k.reset.reset = k.reset := by cases k <;> rfl

theorem retire_subset (now : Int) : ∀ trigs : List Trig, ∀ t' ∈ (retire now trigs).1, t' ∈ trigs
  | [], t', h => by simp [retire] at h
  | t :: rest, t', h => by
    unfold retire at h
    cases he : outErr t.k with
    | some e => rw [he] at h; exact h
    | none =>
      rw [he] at h
      simp only [] at h
      split at h
      · exact List.mem_cons_of_mem _ (retire_subset now rest t' h)
      · rcases List.mem_cons.mp h with rfl | h
        · exact List.mem_cons_self ..
        · exact List.mem_cons_of_mem _ (retire_subset now rest t' h)

theorem map_reset_ids (trigs : List Trig) : (trigs.map Trig.reset).map (·.id) = trigs.map (·.id) := by
  rw [List.map_map]; rfl

theorem map_reset_map_reset (trigs : List Trig) : (trigs.map Trig.reset).map Trig.reset = trigs.map Trig.reset := by
  rw [List.map_map]
  apply List.map_congr_left
  simp [Trig.reset, TrigKind.reset_reset]

theorem eraseId_sub (id : Nat) : ∀ (l : List Trig), ∀ t ∈ eraseId id l, t ∈ l
  | [], _, h => h
  | a :: l, t, h => by
    unfold eraseId at h
    split at h
    · exact List.mem_cons_of_mem _ h
    · rcases List.mem_cons.mp h with rfl | h'
      · exact List.mem_cons_self ..
      · exact List.mem_cons_of_mem _ (eraseId_sub id l t h')

/-- every installed trigger that carries the id of one of `T0` is that object, in some state: identity, keyword arguments and constructor
    parameters are what `reset()` leaves -/
def TInv (T0 l : List Trig) : Prop := ∀ t' ∈ l, ∀ t ∈ T0, t'.id = t.id → t'.reset = t.reset

theorem TInv.sub {T0 l l' : List Trig} (h : TInv T0 l) (hs : ∀ t ∈ l', t ∈ l) : TInv T0 l' := fun t' ht' => h t' (hs t' ht')

theorem TInv.append {T0 l l' : List Trig} (h : TInv T0 l) (h' : TInv T0 l') : TInv T0 (l ++ l') := by
  intro t' ht'
  rcases List.mem_append.mp ht' with h1 | h1
  · exact h t' h1
  · exact h' t' h1

/-- the object that `handBack` and `leftoverStmt` look up under the id of one of `T0` -/
theorem TInv.found {T0 live : List Trig} (h : TInv T0 live) {t : Trig} (ht : t ∈ T0) :
    ((live.find? (fun t' => t'.id == t.id)).getD t).reset = t.reset := by
  cases hf : live.find? (fun t' => t'.id == t.id) with
  | none => rfl
  | some t' => exact h t' (List.mem_of_find?_eq_some hf) t ht (by simpa using List.find?_some hf)

theorem tinv_of_subset (T l : List Trig) (hn : (T.map (·.id)).Nodup) (hsub : ∀ t ∈ l, t ∈ T) : TInv T l := by
  intro t' ht' t ht hid
  rw [AList.eq_of_nodup_map (·.id) hn (hsub t' ht') ht hid]

theorem tinv_fresh {T0 : List Trig} {t : Trig} (h : t.id ∉ T0.map (·.id)) : TInv T0 [t] := by
  intro t' ht' t0 ht0 hid
  rw [List.mem_singleton.mp ht'] at hid
  exact absurd (List.mem_map.mpr ⟨t0, ht0, hid.symm⟩) h

theorem tinv_set (T0 l : List Trig) (i : Nat) (t : Trig) (now : Int) (hi : l[i]? = some t) (h : TInv T0 l) :
    TInv T0 (l.set i { t with k := (whenT now t.k).2 }) := by
  intro t' ht' t0 ht0 hid
  rcases List.mem_or_eq_of_mem_set ht' with h1 | h1
  · exact h t' h1 t0 ht0 hid
  · rw [h1] at hid ⊢
    rw [← h t (List.mem_of_getElem? hi) t0 ht0 hid]
    show Trig.mk t.id t.kw (whenT now t.k).2.reset = _
    rw [whenT_reset]
    rfl

theorem tinv_map_reset (T0 l : List Trig) (h : TInv T0 l) : TInv T0 (l.map Trig.reset) := by
  intro t' ht' t ht hid
  obtain ⟨x, hx, rfl⟩ := List.mem_map.mp ht'
  rw [← h x hx t ht hid]
  simp [Trig.reset, TrigKind.reset_reset]

theorem tinv_of_reset (T0 l : List Trig) (h : TInv T0 l) : TInv (T0.map Trig.reset) l := by
  intro t' ht' t ht hid
  obtain ⟨x, hx, rfl⟩ := List.mem_map.mp ht
  rw [h t' ht' x hx hid]
  simp [Trig.reset, TrigKind.reset_reset]

def HStmt.fresh (ids : List Nat) : HStmt → Prop
  | .tadd t => t.id ∉ ids
  | _ => True

def BarScript.Fresh (b : BarScript) (ids : List Nat) : Prop :=
  (∀ s ∈ b.before, s.fresh ids) ∧ (∀ i, ∀ s ∈ b.fire i, s.fresh ids) ∧ (∀ m, ∀ s ∈ b.openCb m, s.fresh ids) ∧
  (∀ s ∈ b.on, s.fresh ids) ∧ (∀ s ∈ b.after, s.fresh ids) ∧ (∀ t, ∀ s ∈ b.notify t, s.fresh ids)

def GScript.Fresh (g : GScript) (ids : List Nat) : Prop := (∀ s ∈ g.init, s.fresh ids) ∧ ∀ row, (g.bar row).Fresh ids

theorem ofScript_fresh (sc : Script) (ids : List Nat) : (ofScript sc).Fresh ids := by
  have h : ∀ (ops : List OpSpec), ∀ s ∈ ops.map HStmt.op, s.fresh ids := by
    intro ops s hs
    obtain ⟨o, _, rfl⟩ := List.mem_map.mp hs
    trivial
  exact ⟨h _, fun row => ⟨h _, fun _ => h _, fun _ => h _, h _, h _, fun _ => h _⟩⟩

def Keeps (Q : St → Prop) : St → Res → Prop := fun st r => Q st → Q r.2.1

theorem Keeps.seq (Q : St → Prop) : (Rel.diag (Keeps Q)).Seq :=
  Rel.seq_of_append (R := fun st _ st' => Q st → Q st') fun h1 h2 hq => h2 (h1 hq)

theorem runStmts_tinv (T0 : List Trig) (ts : Int) (h : Hook) (body : List HStmt) (hb : ∀ t, .tadd t ∈ body → TInv T0 [t]) (st : St) :
    Keeps (fun st => TInv T0 st.trigs) st (runStmts ts h body st) := by
  refine runStmts_walk (Keeps.seq _) ts h (fun _ hq => hq) body (fun s hs st hq => ?_) st
  cases s with
  | op o => show TInv T0 (doOp ts h o st).2.trigs; rw [(doOp_frame ts h o st).2.1]; exact hq
  | tadd t => exact hq.append (hb t hs)
  | tdel id => exact hq.sub (eraseId_sub id _)
  | boom e => exact hq

theorem runStmts_tinv_fresh (T0 : List Trig) (ts : Int) (h : Hook) (body : List HStmt) (hb : ∀ s ∈ body, s.fresh (T0.map (·.id))) (st : St) :
    Keeps (fun st => TInv T0 st.trigs) st (runStmts ts h body st) :=
  runStmts_tinv T0 ts h body (fun _ ht => tinv_fresh (hb _ ht)) st

theorem Prim.tinv {cfg : Cfg} {ts : Int} {tl : Part} {st : St} {r : Res} (h : Prim cfg ts tl st r) (T0 : List Trig) :
    Keeps (fun st => TInv T0 st.trigs) st r := by
  intro hq
  cases h with
  | tick _ i t ht | fire _ i t ht => exact tinv_set T0 st.trigs i t ts ht hq
  | retire => exact hq.sub (retire_subset ts st.trigs)
  | mid _ b row price =>
    show TInv T0 (midG cfg b row ts price st).2.1.trigs
    unfold midG
    rw [(runUpdFromG_frame b ts 0 cfg.markets _).2.1]
    exact hq
  | _ => exact hq

theorem barStepG_tinv (T0 : List Trig) (cfg : Cfg) (b : BarScript) (hb : b.Fresh (T0.map (·.id))) (fuel tfuel row : Nat) (ts : Int) (st : St) :
    Keeps (fun st => TInv T0 st.trigs) st (barStepG cfg b fuel tfuel row ts st) :=
  barStepG_rel (b' := b) (Keeps.seq _)
    ⟨runStmts_tinv_fresh T0 ts _ _ hb.1, fun i => runStmts_tinv_fresh T0 ts _ _ (hb.2.1 i), fun m => runStmts_tinv_fresh T0 ts _ _ (hb.2.2.1 m),
     runStmts_tinv_fresh T0 ts _ _ hb.2.2.2.1, runStmts_tinv_fresh T0 ts _ _ hb.2.2.2.2.1,
     fun t => runStmts_tinv_fresh T0 ts _ _ (hb.2.2.2.2.2 t), rfl⟩
    (fun _ _ _ h => h.tinv T0) fuel tfuel row st

theorem runFrom_tinv (T : List Trig) (cfg : Cfg) (trigs : List Trig) (g : GScript) (init : Int → Res) (h0 : TInv T trigs)
    (hi : ∀ ts0, TInv T (init ts0).2.1.trigs) (hbar : ∀ row, (g.bar row).Fresh (T.map (·.id))) :
    TInv T (runFrom cfg trigs g init).trigsLeft := by
  unfold runFrom
  cases startOf cfg with
  | error e => exact h0
  | ok p =>
    rw [finishG_trigsLeft]
    exact loopFrom_walk (P := Keeps (fun st => TInv T st.trigs)) (st := ⟨[], trigs, [], [], []⟩) (Keeps.seq _) (fun _ hq => hq)
      (fun row ts st => barStepG_tinv T cfg _ (hbar row) _ _ row ts st) _ (fun _ => hi p.1) h0

theorem initG_tinv (T : List Trig) (cfg : Cfg) (trigs : List Trig) (g : GScript) (ts0 : Int) (h0 : TInv T trigs)
    (hinit : ∀ t, .tadd t ∈ g.init → TInv T [t]) : TInv T (initG cfg trigs g ts0).2.1.trigs :=
  initG_walk (Keeps.seq (fun st => TInv T st.trigs)) cfg trigs g ts0 (st := ⟨[], trigs, [], [], []⟩) (fun _ => h0)
    (runStmts_tinv T ts0 .init g.init hinit) h0

theorem tinv_self (T0 : List Trig) (hn : (T0.map (·.id)).Nodup) : TInv T0 T0 := tinv_of_subset T0 T0 hn (fun _ h => h)

theorem runG_tinv (cfg : Cfg) (T0 : List Trig) (g : GScript) (hn : (T0.map (·.id)).Nodup) (hg : g.Fresh (T0.map (·.id))) :
    TInv T0 (runG cfg T0 g).trigsLeft := by
  rw [runG_eq]
  exact runFrom_tinv T0 cfg T0 g _ (tinv_self T0 hn)
    (fun ts0 => initG_tinv T0 cfg T0 g ts0 (tinv_self T0 hn) (fun t ht => tinv_fresh (hg.1 _ ht))) hg.2

theorem handBack_reset_of_tinv (before live : List Trig) (hl : TInv before live) :
    (handBack before live).map Trig.reset = before.map Trig.reset := by
  unfold handBack
  rw [List.map_map]
  exact List.map_congr_left fun t ht => hl.found ht

/-- `hg`: the hooks install no object under an id of the list; the objects still installed are then found again under their ids (`runG_tinv`) -/
theorem trigsAfterRunG_reset (cfg : Cfg) (trigs : List Trig) (g : GScript) (hn : (trigs.map (·.id)).Nodup)
    (hg : g.Fresh (trigs.map (·.id))) : (trigsAfterRunG cfg trigs g).map Trig.reset = trigs.map Trig.reset := by
  unfold trigsAfterRunG actuatorRunG
  rw [if_pos run2_flags.2.1, startTrigs_eq,
    handBack_reset_of_tinv _ _ (runG_tinv cfg _ g (by rw [map_reset_ids]; exact hn) (by rw [map_reset_ids]; exact hg)), map_reset_map_reset]

theorem rerun_after_reset (cfg : Cfg) (sc : Script) (trigs : List Trig) (hn : (trigs.map (·.id)).Nodup) :
    (trigsAfterRun cfg trigs sc).map Trig.reset = trigs.map Trig.reset := by
  have h : trigsAfterRun cfg trigs sc = trigsAfterRunG cfg trigs (ofScript sc) := by
    unfold trigsAfterRun trigsAfterRunG actuatorRun actuatorRunG; rw [runG_plain]
  rw [h, trigsAfterRunG_reset cfg trigs _ hn (ofScript_fresh sc _)]

end Demeter.Core
