/-
  Inversion lemmas for the GMX v1 model: what an `ok` result of each pricing function says in closed form, for every arithmetic
  context (`usdgC`, `aumC` are the code's own expressions; under the exact context they are `usdgOf`, `aumU`), and the fee range
  under any context with a relative rounding error of at most 1/200.  The exact statements are the case `ε = 0`.
-/
import Proofs.Lemmas.GmxRnd
import Mathlib.Tactic.FieldSimp
import Mathlib.Tactic.LinearCombination
namespace Demeter.Gmx
open Demeter Demeter.GmxV1

structure EnvNonneg (env : Env) : Prop where
  weight : ∀ r ∈ env.rows, 0 ≤ r.weight
  usdgSupply : 0 ≤ env.usdgSupply

structure EnvPos (env : Env) : Prop extends EnvNonneg env where
  price : ∀ r ∈ env.rows, 0 < r.price
  glpSupply : 0 < env.glpSupply
  aum : 0 ≤ env.aum

theorem row_mem {env : Env} {tok : String} {r : TokenRow} (h : env.row? tok = some r) : r ∈ env.rows := by
  unfold Env.row? at h
  exact List.mem_of_find?_eq_some h

theorem row_name {env : Env} {tok : String} {r : TokenRow} (h : env.row? tok = some r) : r.name = tok := by
  unfold Env.row? at h
  have := List.find?_some h
  simpa using this

theorem qdown_ok {x q : Rat} (h : qdown x = .ok q) : q = quantDown 0 x := by
  unfold qdown at h
  simp only [] at h
  split at h
  · cases h
  · cases h; rfl

theorem ddiv_ok {cx : NumCtx} {a b q : Rat} (h : ddiv cx a b = .ok q) : b ≠ 0 ∧ q = cx.rnd (a / b) := by
  unfold ddiv at h
  split at h
  · split at h <;> cases h
  · cases h; exact ⟨by assumption, rfl⟩

variable {cx : NumCtx} {ε : Rat}

theorem absDiff_nonneg (H : Rnd cx ε) (a b : Rat) : 0 ≤ absDiff cx a b := by
  unfold absDiff
  split
  · exact H.nonneg (by linarith)
  · rename_i h; exact H.nonneg (by linarith [not_lt.mp h])

theorem total_nonneg (env : Env) (hw : ∀ r ∈ env.rows, 0 ≤ r.weight) :
    ∀ (l : List String) (acc total : Rat), 0 ≤ acc →
      l.foldlM (fun acc t => match env.row? t with
        | some r => (.ok (acc + r.weight) : Except Err Rat)
        | none => .error Err.key) acc = .ok total → 0 ≤ total := by
  intro l
  induction l with
  | nil => intro acc total h0 h; simp [List.foldlM, pure, Except.pure] at h; linarith
  | cons t l ih =>
    intro acc total h0 h
    rw [List.foldlM_cons, Exc.bind_ok] at h
    obtain ⟨a, ha, hrest⟩ := h
    cases hr : env.row? t with
    | none => simp [hr] at ha
    | some r =>
      simp only [hr] at ha
      cases ha
      exact ih _ _ (by have := hw r (row_mem hr); linarith) hrest

theorem target_nonneg (H : Rnd cx ε) {env : Env} (he : EnvNonneg env) {tok : String} {t : Rat}
    (h : targetAmount cx env tok = .ok t) : 0 ≤ t := by
  unfold targetAmount at h
  rw [Exc.bind_ok] at h
  obtain ⟨total, htot, h⟩ := h
  have ht := total_nonneg env he.weight _ _ _ (le_refl 0) htot
  cases hrow : env.row? tok with
  | none => simp [hrow] at h
  | some r =>
    simp only [hrow] at h
    obtain ⟨_, rfl⟩ := ddiv_ok h
    have hw := he.weight r (row_mem hrow)
    exact H.nonneg (div_nonneg (H.nonneg (mul_nonneg hw he.usdgSupply)) ht)

theorem Rnd.fee (H : Rnd cx ε) {env : Env} (he : EnvNonneg env) {tok : String}
    {u f : Rat} {inc : Bool} {br : FeeBranch} (h : feeBps cx env tok u inc = .ok (f, br)) : 0 ≤ f ∧ f ≤ 85 := by
  unfold feeBps at h
  cases hrow : env.row? tok with
  | none => simp [hrow] at h
  | some r =>
    simp only [hrow, Exc.bind_ok] at h
    obtain ⟨t, ht, hp⟩ := h
    simp only [pure, Except.pure, Except.ok.injEq] at hp
    have ht0 := target_nonneg H he ht
    have hf : (feeBpsCore cx r.usdg u t inc).1 = f := by rw [hp]
    rw [← hf]
    unfold feeBpsCore
    split
    · rw [bps25]; norm_num
    · rename_i h0
      exact feeFromDiffs_range H (absDiff_nonneg H _ _) (absDiff_nonneg H _ _) (lt_of_le_of_ne ht0 (Ne.symm h0))

theorem absDiff_eq_abs (a b : Rat) : absDiff NumCtx.exact a b = |a - b| := by
  unfold absDiff; simp only [NumCtx.exact_sub]
  split
  · rw [abs_of_pos (by linarith)]
  · rw [abs_of_nonpos (by linarith)]; ring

/-- `amount * 10**decimal * price / 10**30` rounded down, adjusted from the token's decimals to USDG's 18, rounded down -/
def usdgOf (a : Rat) (dec : Nat) (P : Rat) : Rat :=
  quantDown 0 (quantDown 0 (a * 10 ^ dec * P / 10 ^ 30) * 10 ^ 18 / 10 ^ dec)

theorem afterFee_eq (a f : Rat) : afterFee NumCtx.exact a f = a - a * f / 10000 := by
  unfold afterFee
  simp only [NumCtx.exact_mul, NumCtx.exact_div, NumCtx.exact_sub, Gen.gmxBpsDivisor]
  norm_num

theorem afterFee_bounds {a f : Rat} (ha : 0 ≤ a) (h0 : 0 ≤ f) (h1 : f ≤ 85) :
    0 ≤ afterFee NumCtx.exact a f ∧ afterFee NumCtx.exact a f ≤ a :=
  (afterFee_upTo rnd_exact h0 h1 (.refl ha)).exact

def aumU (env : Env) : Rat := quantDown 0 (env.aum / 10 ^ 12)

def usdgC (cx : NumCtx) (a : Rat) (dec : Nat) (P : Rat) : Rat :=
  quantDown 0 (cx.div (cx.mul (quantDown 0 (cx.div (cx.mul (cx.mul a ((10 : Rat) ^ dec)) P) (Gen.gmxBuyUsdgDivisor : Rat)))
    ((10 : Rat) ^ Gen.gmxUsdgDecimals)) ((10 : Rat) ^ dec))

theorem toUsdg_ok {a P q : Rat} {dec : Nat} (h : toUsdg cx a dec P = .ok q) : q = usdgC cx a dec P := by
  unfold toUsdg at h
  rw [Exc.bind_ok] at h
  obtain ⟨u, hu, hq⟩ := h
  rw [qdown_ok hq, qdown_ok hu]; rfl

theorem usdgC_exact (a P : Rat) (dec : Nat) : usdgC NumCtx.exact a dec P = usdgOf a dec P := by
  unfold usdgC usdgOf
  simp only [NumCtx.exact_mul, NumCtx.exact_div, Gen.gmxBuyUsdgDivisor, Gen.gmxUsdgDecimals]
  norm_num

/-- five roundings on the way; both round-downs only lower the result -/
theorem usdgC_upTo (H : Rnd cx ε) {j : Nat} {x B P : Rat} (dec : Nat) (hP : 0 ≤ P) (r : UpTo ε j B x) :
    UpTo ε (j + 5) (B * (P / 10 ^ 30) * 10 ^ 18) (usdgC cx x dec P) := by
  have hd : (0 : Rat) < 10 ^ dec := by positivity
  refine (r |> H.upMul hd.le |> H.upMul hP |> H.upDiv (Nat.cast_nonneg _) |> UpTo.floor |> H.upMul (by positivity) |> H.upDiv hd.le
    |> UpTo.floor).bound_eq ?_
  simp only [Gen.gmxBuyUsdgDivisor, Gen.gmxUsdgDecimals]
  field_simp
  norm_num

theorem usdgOf_bounds {a P : Rat} {dec : Nat} (ha : 0 ≤ a) (hP : 0 ≤ P) :
    0 ≤ usdgOf a dec P ∧ usdgOf a dec P ≤ a * (P / 10 ^ 30) * 10 ^ 18 :=
  usdgC_exact a P dec ▸ (usdgC_upTo rnd_exact dec hP (.refl ha)).exact

/-- the pool value in USDG wei as the code holds it: `(aum / 10¹²)` rounded, then rounded down -/
def aumC (cx : NumCtx) (env : Env) : Rat := quantDown 0 (cx.div env.aum ((Gen.gmxAumDivisorAdd : Nat) : Rat))

theorem aumC_exact (env : Env) : aumC NumCtx.exact env = aumU env := by
  unfold aumC aumU; simp only [NumCtx.exact_div, Gen.gmxAumDivisorAdd]; norm_num

theorem addLiquidity_ok {env : Env} {tok : String} {dec : Nat} {a mint fee : Rat} {br : FeeBranch}
    (h : addLiquidity cx env tok dec a = .ok (mint, fee, br)) :
    ∃ r, env.row? tok = some r ∧ feeBps cx env tok (usdgC cx a dec r.price) true = .ok (fee, br) ∧ aumC cx env ≠ 0 ∧
      mint = quantDown 0 (cx.div (cx.mul (usdgC cx (afterFee cx a fee) dec r.price) env.glpSupply) (aumC cx env)) := by
  unfold addLiquidity at h
  simp only [Exc.bind_ok] at h
  obtain ⟨au, hau, ⟨u, f, b⟩, hb, m0, hm0, m, hm, hp⟩ := h
  obtain ⟨rfl, rfl, rfl⟩ := hp
  obtain rfl : au = aumC cx env := qdown_ok hau
  obtain ⟨hne, rfl⟩ := ddiv_ok hm0
  unfold buyUsdg at hb
  cases hr : env.row? tok with
  | none => simp [hr] at hb
  | some r =>
    simp only [hr, Exc.bind_ok] at hb
    obtain ⟨u0, hu0, ⟨f', b'⟩, hf, m', hm', hp⟩ := hb
    obtain ⟨rfl, rfl, rfl⟩ := hp
    rw [toUsdg_ok hu0] at hf
    exact ⟨r, rfl, hf, hne, by rw [qdown_ok hm, toUsdg_ok hm']; rfl⟩

theorem removeLiquidity_ok {env : Env} {tok : String} {dec : Nat} {g out fee : Rat} {br : FeeBranch}
    (h : removeLiquidity cx env tok dec g = .ok (out, fee, br)) :
    ∃ r, env.row? tok = some r ∧ env.glpSupply ≠ 0 ∧ cx.div r.price (Gen.gmxPricePrecision : Rat) ≠ 0 ∧
      let U := quantDown 0 (cx.mul (cx.div (cx.mul g ((10 : Rat) ^ Gen.gmxGlpDecimals)) env.glpSupply) (aumC cx env))
      feeBps cx env tok U false = .ok (fee, br) ∧
      out = cx.div (afterFee cx (adjustDecimals cx (cx.div U (cx.div r.price (Gen.gmxPricePrecision : Rat))) Gen.gmxUsdgDecimals dec) fee)
              ((10 : Rat) ^ dec) := by
  unfold removeLiquidity at h
  simp only [Exc.bind_ok] at h
  obtain ⟨au, hau, ps, hps, u, hu, ⟨o, f, b⟩, hs, hp⟩ := h
  obtain ⟨rfl, rfl, rfl⟩ := hp
  obtain rfl : au = aumC cx env := qdown_ok hau
  obtain ⟨hsup, rfl⟩ := ddiv_ok hps
  obtain rfl := qdown_ok hu
  unfold sellUsdg at hs
  cases hr : env.row? tok with
  | none => simp [hr] at hs
  | some r =>
    simp only [hr, Exc.bind_ok] at hs
    obtain ⟨red, hred, ⟨f', b'⟩, hf, hp⟩ := hs
    obtain ⟨rfl, rfl, rfl⟩ := hp
    obtain ⟨hpne, rfl⟩ := ddiv_ok hred
    exact ⟨r, rfl, hsup, hpne, hf, rfl⟩

theorem addLiquidity_exact {env : Env} {tok : String} {dec : Nat} {a mint fee : Rat} {br : FeeBranch}
    (h : addLiquidity NumCtx.exact env tok dec a = .ok (mint, fee, br)) :
    ∃ r, env.row? tok = some r ∧ feeBps NumCtx.exact env tok (usdgOf a dec r.price) true = .ok (fee, br) ∧
      aumU env ≠ 0 ∧
      mint = quantDown 0 (usdgOf (afterFee NumCtx.exact a fee) dec r.price * env.glpSupply / aumU env) := by
  simpa only [usdgC_exact, aumC_exact, NumCtx.exact_mul, NumCtx.exact_div] using addLiquidity_ok h

theorem removeLiquidity_exact {env : Env} {tok : String} {dec : Nat} {g out fee : Rat} {br : FeeBranch}
    (h : removeLiquidity NumCtx.exact env tok dec g = .ok (out, fee, br)) :
    ∃ r, env.row? tok = some r ∧ env.glpSupply ≠ 0 ∧ r.price / 10 ^ 30 ≠ 0 ∧
      feeBps NumCtx.exact env tok (quantDown 0 (g * 10 ^ 18 / env.glpSupply * aumU env)) false = .ok (fee, br) ∧
      out = afterFee NumCtx.exact
              (quantDown 0 (g * 10 ^ 18 / env.glpSupply * aumU env) / (r.price / 10 ^ 30) * 10 ^ dec / 10 ^ 18) fee / 10 ^ dec := by
  simpa only [aumC_exact, adjustDecimals, NumCtx.exact_mul, NumCtx.exact_div, pricePrecision_cast, Gen.gmxUsdgDecimals,
    Gen.gmxGlpDecimals] using removeLiquidity_ok h

theorem aumU_nonneg {env : Env} (he : EnvPos env) : 0 ≤ aumU env :=
  quantDown0_nonneg (div_nonneg he.aum (by positivity))

theorem usdgOf_gt {a P : Rat} {dec : Nat} (ha : 0 ≤ a) (hP : 0 ≤ P) :
    a * (P / 10 ^ 30) * 10 ^ 18 < usdgOf a dec P + 10 ^ 18 / 10 ^ dec + 1 := by
  have h := quantDown0_scaled_gt (x := a * 10 ^ dec * P / 10 ^ 30) (k := 10 ^ 18 / 10 ^ dec) (by positivity) (by positivity)
  have e : a * 10 ^ dec * P / 10 ^ 30 * (10 ^ 18 / 10 ^ dec) = a * (P / 10 ^ 30) * 10 ^ 18 := by field_simp
  rwa [e, ← mul_div_assoc (quantDown 0 _)] at h

theorem buyGlp_ok {cx : NumCtx} {env : Env} {s s' : State} {tok : String} {dec : Nat} {a g : Rat} {an : Bool}
    (h : buyGlp cx env s tok dec a an = (.ok g, s')) :
    0 ≤ a ∧ ∃ mint fee br w, addLiquidity cx env tok dec a = .ok (mint, fee, br) ∧
      Wallet.debit cx s.wallet (walletKey tok) a an = .ok w ∧
      g = cx.div mint (10 ^ 18) ∧
      s' = { s with wallet := w, glp := cx.add s.glp g, actions := s.actions ++ [.buy (walletKey tok) a mint] } := by
  unfold buyGlp at h
  split at h
  · cases h
  rename_i hneg
  split at h
  · cases h
  rename_i mint fee br hadd
  split at h
  · cases h
  · cases h
  rename_i w hw
  obtain ⟨rfl, rfl⟩ := h
  exact ⟨not_lt.mp hneg, mint, fee, br, w, hadd, hw, rfl, rfl⟩

/-- `glp_amount = 0` sells the whole holding -/
theorem sellGlp_ok {cx : NumCtx} {env : Env} {s s' : State} {tok : String} {dec : Nat} {ga out g : Rat}
    (hg : g = if ga = 0 then s.glp else ga)
    (h : sellGlp cx env s tok dec ga = (.ok out, s')) :
    0 ≤ g ∧ g ≤ s.glp ∧ ∃ fee br, removeLiquidity cx env tok dec g = .ok (out, fee, br) ∧
      s' = { s with glp := cx.sub s.glp g, wallet := Wallet.credit cx s.wallet (walletKey tok) out,
                    actions := s.actions ++ [.sell (walletKey tok) g out] } := by
  unfold sellGlp at h
  simp only [] at h
  rw [← hg] at h
  split at h
  · cases h
  rename_i h1
  split at h
  · cases h
  rename_i h2
  split at h
  · cases h
  rename_i o fee br hrem
  obtain ⟨rfl, rfl⟩ := h
  exact ⟨not_lt.mp h1, not_lt.mp h2, fee, br, hrem, rfl⟩

theorem update_cases (cx : NumCtx) (env : Env) (s : State) :
    (env.glpSupply = 0 ∧ ∃ e, update cx env s = (.error e, s)) ∨
    (env.glpSupply ≠ 0 ∧
      update cx env s =
        (.ok (cx.div (cx.mul (cx.mul env.interval (Gen.gmxRewardSeconds : Rat)) s.glp) env.glpSupply),
         { s with reward := cx.add s.reward (cx.div (cx.mul (cx.mul env.interval (Gen.gmxRewardSeconds : Rat)) s.glp) env.glpSupply) })) := by
  unfold update ddiv
  by_cases h0 : env.glpSupply = 0
  · left
    refine ⟨h0, ?_⟩
    simp only [h0, if_true]
    split_ifs
    · exact ⟨_, rfl⟩
    · exact ⟨_, rfl⟩
  · right
    exact ⟨h0, by simp only [h0, if_false]⟩

theorem update_exact {env : Env} (h0 : env.glpSupply ≠ 0) (s : State) :
    update NumCtx.exact env s = (.ok (env.interval * 60 * (s.glp / env.glpSupply)),
      { s with reward := s.reward + env.interval * 60 * (s.glp / env.glpSupply) }) := by
  have e : env.interval * (Gen.gmxRewardSeconds : Rat) * s.glp / env.glpSupply = env.interval * 60 * (s.glp / env.glpSupply) := by
    simp only [Gen.gmxRewardSeconds]; push_cast; ring
  rcases update_cases NumCtx.exact env s with ⟨h, _⟩ | ⟨_, hu⟩
  · exact absurd h h0
  · rw [hu]; simp only [NumCtx.exact_add, NumCtx.exact_mul, NumCtx.exact_div, e]

theorem update_glp (cx : NumCtx) (env : Env) (s : State) : (update cx env s).2.glp = s.glp := by
  rcases update_cases cx env s with ⟨_, e, hu⟩ | ⟨_, hu⟩ <;> rw [hu]

theorem buyGlp_spec {env : Env} (he : EnvPos env) {s s' : State} {tok : String} {dec : Nat} {a g : Rat} {an : Bool}
    (h : buyGlp NumCtx.exact env s tok dec a an = (.ok g, s')) :
    ∃ r fee br w, env.row? tok = some r ∧ 0 < r.price ∧ 0 ≤ a ∧
      feeBps NumCtx.exact env tok (usdgOf a dec r.price) true = .ok (fee, br) ∧ 0 ≤ fee ∧ fee ≤ 85 ∧
      0 ≤ a - a * fee / 10000 ∧ a - a * fee / 10000 ≤ a ∧ 0 < aumU env ∧
      0 ≤ usdgOf (a - a * fee / 10000) dec r.price * env.glpSupply / aumU env ∧
      g * 10 ^ 18 = quantDown 0 (usdgOf (a - a * fee / 10000) dec r.price * env.glpSupply / aumU env) ∧
      Wallet.debit NumCtx.exact s.wallet (walletKey tok) a an = .ok w ∧
      s' = { s with wallet := w, glp := s.glp + g, actions := s.actions ++ [.buy (walletKey tok) a (g * 10 ^ 18)] } := by
  obtain ⟨ha, mint, fee, br, w, hadd, hw, hg, hs⟩ := buyGlp_ok h
  obtain ⟨r, hr, hfee, haum, hmint⟩ := addLiquidity_exact hadd
  have hP : 0 < r.price := he.price r (row_mem hr)
  obtain ⟨hf0, hf1⟩ := rnd_exact.fee he.toEnvNonneg hfee
  obtain ⟨haf0, haf1⟩ := afterFee_bounds ha hf0 hf1
  rw [afterFee_eq] at haf0 haf1 hmint
  have hA : 0 < aumU env := lt_of_le_of_ne (aumU_nonneg he) (Ne.symm haum)
  have hU := (usdgOf_bounds (dec := dec) haf0 hP.le).1
  have hS := he.glpSupply
  have hgm : g * 10 ^ 18 = mint := by
    rw [hg, NumCtx.exact_div]; exact div_mul_cancel₀ _ (by positivity)
  refine ⟨r, fee, br, w, hr, hP, ha, hfee, hf0, hf1, haf0, haf1, hA, by positivity, by rw [hgm, hmint], hw, ?_⟩
  rw [hs, hgm]; rfl


theorem sellGlp_spec {env : Env} (he : EnvPos env) {s s' : State} {tok : String} {dec : Nat} {ga out g : Rat}
    (hg : g = if ga = 0 then s.glp else ga)
    (h : sellGlp NumCtx.exact env s tok dec ga = (.ok out, s')) :
    ∃ r fee br, env.row? tok = some r ∧ 0 < r.price ∧ 0 ≤ g ∧ g ≤ s.glp ∧
      feeBps NumCtx.exact env tok (quantDown 0 (g * 10 ^ 18 / env.glpSupply * aumU env)) false = .ok (fee, br) ∧
      0 ≤ fee ∧ fee ≤ 85 ∧ 0 ≤ g * 10 ^ 18 / env.glpSupply * aumU env ∧
      out = quantDown 0 (g * 10 ^ 18 / env.glpSupply * aumU env) / 10 ^ 18 / (r.price / 10 ^ 30) * (1 - fee / 10000) ∧
      s' = { s with glp := s.glp - g, wallet := Wallet.credit NumCtx.exact s.wallet (walletKey tok) out,
                    actions := s.actions ++ [.sell (walletKey tok) g out] } := by
  obtain ⟨hg0, hgle, fee, br, hrem, hs⟩ := sellGlp_ok hg h
  obtain ⟨r, hr, _, _, hfee, hout⟩ := removeLiquidity_exact hrem
  have hP : 0 < r.price := he.price r (row_mem hr)
  obtain ⟨hf0, hf1⟩ := rnd_exact.fee he.toEnvNonneg hfee
  have hA := aumU_nonneg he
  have hS := he.glpSupply
  refine ⟨r, fee, br, hr, hP, hg0, hgle, hfee, hf0, hf1, by positivity, ?_, hs⟩
  rw [hout, afterFee_eq]
  have hd : (10 : Rat) ^ dec ≠ 0 := by positivity
  linear_combination (quantDown 0 (g * 10 ^ 18 / env.glpSupply * aumU env) / 10 ^ 18 / (r.price / 10 ^ 30) * (1 - fee / 10000))
    * mul_inv_cancel₀ hd

end Demeter.Gmx
