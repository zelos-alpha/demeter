import Demeter.Squeeth
import Proofs.Lemmas.Exact
import Proofs.Lemmas.Wallet
import Proofs.Lemmas.Run
namespace Demeter.Squeeth
open Demeter

section
variable {κ ν : Type} [DecidableEq κ]

theorem get?_nil (k : κ) : AList.get? ([] : AList κ ν) k = none := rfl

theorem keys_set_of_mem (m : AList κ ν) (k : κ) (v v' : ν) (h : AList.get? m k = some v') :
    (AList.set m k v).map (·.1) = m.map (·.1) := AList.keys_set_of_get? h v

def AllVals (P : ν → Prop) (m : AList κ ν) : Prop := ∀ a ∈ m, P a.2

end

@[simp] theorem setVault_get_self (s : State) (k : Nat) (v : Vault) : AList.get? (s.setVault k v).vaults k = some v :=
  AList.get?_set_self _ _ _
theorem setVault_get_other (s : State) (k k' : Nat) (v : Vault) (h : k' ≠ k) :
    AList.get? (s.setVault k v).vaults k' = AList.get? s.vaults k' := AList.get?_set_ne _ h.symm _
@[simp] theorem setVault_positions (s : State) (k : Nat) (v : Vault) : (s.setVault k v).positions = s.positions := rfl
@[simp] theorem setVault_wallet (s : State) (k : Nat) (v : Vault) : (s.setVault k v).wallet = s.wallet := rfl
@[simp] theorem setVault_maxId (s : State) (k : Nat) (v : Vault) : (s.setVault k v).maxId = s.maxId := rfl
@[simp] theorem setPos_get_self (s : State) (k : PosKey) (p : UPos) : AList.get? (s.setPos k p).positions k = some p :=
  AList.get?_set_self _ _ _
theorem setPos_get_other (s : State) (k k' : PosKey) (p : UPos) (h : k' ≠ k) :
    AList.get? (s.setPos k p).positions k' = AList.get? s.positions k' := AList.get?_set_ne _ h.symm _
@[simp] theorem setPos_vaults (s : State) (k : PosKey) (p : UPos) : (s.setPos k p).vaults = s.vaults := rfl
@[simp] theorem setPos_wallet (s : State) (k : PosKey) (p : UPos) : (s.setPos k p).wallet = s.wallet := rfl
@[simp] theorem setPos_maxId (s : State) (k : PosKey) (p : UPos) : (s.setPos k p).maxId = s.maxId := rfl
@[simp] theorem record_vaults (s : State) (a : Action) : (s.record a).vaults = s.vaults := rfl
@[simp] theorem record_positions (s : State) (a : Action) : (s.record a).positions = s.positions := rfl
@[simp] theorem record_wallet (s : State) (a : Action) : (s.record a).wallet = s.wallet := rfl
@[simp] theorem record_maxId (s : State) (a : Action) : (s.record a).maxId = s.maxId := rfl
@[simp] theorem creditW_vaults (cx : NumCtx) (s : State) (t : String) (x : Rat) : (creditW cx s t x).vaults = s.vaults := rfl
@[simp] theorem creditW_positions (cx : NumCtx) (s : State) (t : String) (x : Rat) : (creditW cx s t x).positions = s.positions := rfl
@[simp] theorem creditW_maxId (cx : NumCtx) (s : State) (t : String) (x : Rat) : (creditW cx s t x).maxId = s.maxId := rfl
@[simp] theorem creditW_wallet (cx : NumCtx) (s : State) (t : String) (x : Rat) :
    (creditW cx s t x).wallet = Wallet.credit cx s.wallet t x := rfl

theorem debitW_ok {cx : NumCtx} {s s' : State} {tok : String} {amt : Rat} (h : debitW cx s tok amt = .ok s') :
    ∃ w, Wallet.debit cx s.wallet tok amt false = .ok w ∧ s' = { s with wallet := w } := by
  unfold debitW at h
  cases hw : Wallet.debit cx s.wallet tok amt false with
  | error er => cases er <;> simp [hw] at h
  | ok w =>
    simp only [hw, Except.ok.injEq] at h
    exact ⟨w, rfl, h.symm⟩

@[simp] theorem Res.ok_err (s : State) (o : List Rat) : (Res.ok s o).err = none := rfl
@[simp] theorem Res.ok_st (s : State) (o : List Rat) : (Res.ok s o).st = s := rfl
@[simp] theorem Res.fail_err (e : Err) (s : State) : (Res.fail e s).err = some e := rfl
@[simp] theorem Res.fail_st (e : Err) (s : State) : (Res.fail e s).st = s := rfl

theorem Res.andThen_ok {r : Res} {f : State → Res} (h : (r.andThen f).err = none) :
    r.err = none ∧ (f r.st).err = none ∧ r.andThen f = f r.st := by
  unfold Res.andThen at h ⊢
  cases hr : r.err with
  | some e => simp [hr] at h
  | none => simp [hr] at h ⊢; exact h

theorem Res.andThen_of_ok {r : Res} (f : State → Res) (h : r.err = none) : r.andThen f = f r.st := by
  unfold Res.andThen; simp [h]

theorem Res.andThen_of_err {r : Res} (f : State → Res) {e : Err} (h : r.err = some e) : r.andThen f = r := by
  unfold Res.andThen; simp [h]

theorem atomic_fail {s : State} {r : Res} (h : (atomic s r).err ≠ none) : ∃ er, atomic s r = .fail er s := by
  unfold atomic at h ⊢
  cases hr : r.err with
  | some er => exact ⟨er, rfl⟩
  | none => simp [hr] at h

theorem atomic_ok {s : State} {r : Res} (h : (atomic s r).err = none) : r.err = none ∧ atomic s r = r := by
  unfold atomic at h ⊢
  cases hr : r.err with
  | some e => simp [hr] at h
  | none => simp

theorem atomic_err (s : State) (r : Res) : (atomic s r).err = r.err := by
  unfold atomic
  cases hr : r.err <;> simp [hr]

theorem checked_st (cx : NumCtx) (e : Env) (s : State) (vk : Nat) (o : List Rat) : (checked cx e s vk o).st = s := by
  unfold checked
  cases checkVault cx e s vk <;> rfl

theorem checked_ok {cx : NumCtx} {e : Env} {s : State} {vk : Nat} {o : List Rat}
    (h : (checked cx e s vk o).err = none) :
    vaultStatus cx e s vk = .ok (true, false) ∧ (checked cx e s vk o).st = s := by
  refine ⟨?_, checked_st ..⟩
  unfold checked checkVault at h
  cases hv : vaultStatus cx e s vk with
  | error er => simp [hv] at h
  | ok p =>
    obtain ⟨safe, dust⟩ := p
    cases safe <;> cases dust <;> simp [hv] at h ⊢

/- A property `P` of states (an invariant, or "related to a fixed start state") is carried through a sequence, a transaction and the
   `update` loop as soon as the parts carry it.  Only accepted parts count: a rejected part ends the operation, and the transaction
   wrapper then restores the state the operation started from. -/

theorem Res.andThen_pres {P : State → Prop} {r : Res} {f : State → Res} (hok : (r.andThen f).err = none)
    (hr : r.err = none → P r.st) (hf : P r.st → (f r.st).err = none → P (f r.st).st) : P (r.andThen f).st := by
  obtain ⟨h1, h2, e⟩ := Res.andThen_ok hok
  rw [e]
  exact hf (hr h1) h2

theorem atomic_pres {P : State → Prop} {s : State} {r : Res} (h : P s) (hr : r.err = none → P r.st) : P (atomic s r).st := by
  unfold atomic
  cases he : r.err with
  | some er => exact h
  | none => exact hr he

/-- an operation as called: the body has to carry `P` only when it is accepted, or when it runs outside a transaction -/
theorem step_pres {P : State → Prop} {cx : NumCtx} {e : Env} {s : State} {op : Op} (h : P s)
    (hb : (op.isAtomic = true → (stepBody cx e s op).err = none) → P (stepBody cx e s op).st) : P (step cx e s op).st := by
  unfold step
  split
  · exact atomic_pres h fun hok => hb fun _ => hok
  · rename_i hna
    exact hb fun ha => absurd ha hna

theorem step_ok {cx : NumCtx} {e : Env} {s : State} {op : Op} (h : (step cx e s op).err = none) :
    (stepBody cx e s op).err = none ∧ step cx e s op = stepBody cx e s op := by
  unfold step at h ⊢
  by_cases ha : op.isAtomic = true
  · rw [if_pos ha] at h ⊢; exact atomic_ok h
  · rw [if_neg ha] at h ⊢; exact ⟨h, rfl⟩

theorem step_liquidate_eq (cx : NumCtx) (e : Env) (s : State) (vk : Nat) : step cx e s (.liquidate vk) = liquidateOp cx e s vk := by
  unfold step stepBody liquidateOp
  simp only [Op.isAtomic, if_true]

/-- the `update` loop, however it ends: `liq` is only ever called on a vault of the list that is below water in the state reached -/
theorem updateGo_pres {P : State → Prop} (liq : State → Nat → Res) (cx : NumCtx) (e : Env) (ks : List Nat)
    (hl : ∀ t k d, k ∈ ks → vaultStatus cx e t k = .ok (false, d) → P t → P (liq t k).st) (s : State) (h : P s) :
    P (updateGo liq cx e ks s).st := by
  induction ks generalizing s with
  | nil => exact h
  | cons k rest ih =>
    have ih' := ih (fun t k' d hk' => hl t k' d (List.mem_cons_of_mem _ hk'))
    rw [updateGo]
    cases hk : vaultStatus cx e s k with
    | error er => exact h
    | ok p =>
      obtain ⟨safe, d⟩ := p
      cases safe with
      | true => exact ih' s h
      | false =>
        have h1 := hl s k d List.mem_cons_self hk h
        show P (Res.andThen _ _).st
        unfold Res.andThen
        cases (liq s k).err with
        | some er => exact h1
        | none => exact ih' _ h1

theorem updateGo_append (liq : State → Nat → Res) (cx : NumCtx) (e : Env) (l1 l2 : List Nat) (s : State) :
    updateGo liq cx e (l1 ++ l2) s = (updateGo liq cx e l1 s).andThen (updateGo liq cx e l2) := by
  induction l1 generalizing s with
  | nil => rfl
  | cons k rest ih =>
    rw [List.cons_append, updateGo, updateGo]
    cases vaultStatus cx e s k with
    | error er => rfl
    | ok p =>
      obtain ⟨safe, d⟩ := p
      cases safe with
      | true => exact ih s
      | false =>
        cases h : (liq s k).err with
        | some er => simp only [Bool.false_eq_true, if_false, Res.andThen_of_err _ h]
        | none => simp only [Bool.false_eq_true, if_false, Res.andThen_of_ok _ h]; exact ih _

def runOps (cx : NumCtx) : State → List (Env × Op) → State
  | s, [] => s
  | s, (e, op) :: rest => runOps cx (step cx e s op).st rest

theorem runOps_append (cx : NumCtx) (s : State) (h1 h2 : List (Env × Op)) :
    runOps cx s (h1 ++ h2) = runOps cx (runOps cx s h1) h2 :=
  run_append (run := runOps cx) (step := fun s eo => (step cx eo.1 s eo.2).st) (fun _ => rfl) (fun _ ⟨_, _⟩ _ => rfl) h1 h2 s

theorem runOps_keeps {P : State → Prop} {cx : NumCtx} (hist : List (Env × Op))
    (hstep : ∀ eo ∈ hist, ∀ s, P s → P (step cx eo.1 s eo.2).st) (s : State) (h : P s) : P (runOps cx s hist) :=
  run_keeps (run := runOps cx) (step := fun s eo => (step cx eo.1 s eo.2).st) (fun _ => rfl) (fun _ ⟨_, _⟩ _ => rfl) hist hstep s h

def bal (s : State) (tok : String) : Rat := (AList.get? s.wallet tok).getD 0

theorem bal_of_get? {s : State} {tok : String} {b : Rat} (h : AList.get? s.wallet tok = some b) : bal s tok = b :=
  Wallet.bal_of_get? h

theorem bal_congr {s s' : State} {tok : String} (h : AList.get? s'.wallet tok = AList.get? s.wallet tok) : bal s' tok = bal s tok := by
  unfold bal; rw [h]

theorem bal_creditW (s : State) (tok : String) (x : Rat) : bal (creditW NumCtx.exact s tok x) tok = bal s tok + x :=
  (Wallet.bal_credit NumCtx.exact s.wallet tok tok x).trans (if_pos rfl)

theorem debit_ok {cx : NumCtx} {w w' : Wallet} {tok : String} {amt : Rat} (h : Wallet.debit cx w tok amt false = .ok w') :
    ∃ b b', AList.get? w tok = some b ∧ assetSub cx b amt false = some b' ∧ AList.get? w' tok = some b' ∧
      ∀ t, t ≠ tok → AList.get? w' t = AList.get? w t := by
  obtain ⟨b, b', hg, ha, rfl⟩ := Wallet.debit_false_ok h
  exact ⟨b, b', hg, ha, AList.get?_set_self _ _ _, fun t ht => AList.get?_set_ne _ (Ne.symm ht) _⟩

theorem bal_swap {w w1 : Wallet} {f t : String} {amt got : Rat} (hft : t ≠ f)
    (hd : Wallet.debit NumCtx.exact w f amt false = .ok w1) :
    ∃ b b', AList.get? w f = some b ∧ assetSub NumCtx.exact b amt false = some b' ∧
      AList.get? (Wallet.credit NumCtx.exact w1 t got) f = some b' ∧
      (AList.get? (Wallet.credit NumCtx.exact w1 t got) t).getD 0 = (AList.get? w t).getD 0 + got ∧
      ∀ k, k ≠ f → k ≠ t → AList.get? (Wallet.credit NumCtx.exact w1 t got) k = AList.get? w k := by
  obtain ⟨b, b', hb, hsub, hb', hoth⟩ := debit_ok hd
  exact ⟨b, b', hb, hsub, by rw [Wallet.get?_credit_ne _ _ hft.symm]; exact hb', by rw [Wallet.get?_credit_self, hoth t hft]; rfl,
    fun k hf ht => by rw [Wallet.get?_credit_ne _ _ ht]; exact hoth k hf⟩

theorem sqMinDeposit_eq : Gen.sqMinDeposit = 1 / 2 := by decide +kernel
theorem sqCrNum_eq : Gen.sqCrNum = 3 := by decide +kernel
theorem sqCrDen_eq : Gen.sqCrDen = 2 := by decide +kernel
theorem sqReduceDebtBounty_eq : Gen.sqReduceDebtBounty = 2 / 100 := by decide +kernel
theorem sqIndexScale_eq : Gen.sqIndexScale = 10000 := by decide +kernel

theorem weth_ne_osqth : Gen.sqWethName ≠ Gen.sqOsqthName := by decide
theorem osqth_ne_weth : Gen.sqOsqthName ≠ Gen.sqWethName := by decide

/- `vaults` and `positions` are association lists, the model of a Python dict in insertion order; a dict has no key twice. -/
def Dict (s : State) : Prop := (s.vaults.map (·.1)).Nodup ∧ (s.positions.map (·.1)).Nodup

def Keeps (s s' : State) : Prop := Dict s → Dict s'

theorem keeps_of_fields {s s' : State} (hv : s'.vaults = s.vaults) (hp : s'.positions = s.positions) : Keeps s s' := by
  unfold Keeps Dict; rw [hv, hp]; exact id

theorem Dict.setVault {s : State} (h : Dict s) (k : Nat) (v : Vault) : Dict (s.setVault k v) :=
  ⟨(AList.nodup_keys_set _ _ _).mpr h.1, h.2⟩

theorem Dict.setPos {s : State} (h : Dict s) (k : PosKey) (p : UPos) : Dict (s.setPos k p) :=
  ⟨h.1, (AList.nodup_keys_set _ _ _).mpr h.2⟩

end Demeter.Squeeth
