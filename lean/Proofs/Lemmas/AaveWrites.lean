/-
  The writes of the Aave model keep cache coherence (`Good`): one lemma per commit function (`good_commit*`), listing exactly the
  caches the code resets and why the ones it does not reset stay valid.  `withdraw`'s trial deduction leaves `_supplies_cache`
  stale *during* the health-factor evaluation, but positions and caches are back in a coherent state when it ends (`moved_trial`).
-/
import Proofs.Lemmas.AaveReadSpec
namespace Demeter.Aave
open Demeter M

variable {cx : ACtx} {env : Env}

section
variable {P Q : St → Prop} {α : Type}

theorem InvTo.throw (e : Err) (h : ∀ s, P s → Q s) : InvTo P Q (M.throw e : M α) := fun s hs => h s hs

end

theorem covers_set {ν : Type} {m : AList String ν} (h : Covers env m) {k : String} (hk : HasData env k) (v : ν) :
    Covers env (AList.set m k v) := by
  intro k' hk'
  rcases AList.mem_keys_set.mp hk' with e | h'
  · subst e; exact hk
  · exact h k' h'

theorem covers_erase {ν : Type} {m : AList String ν} (h : Covers env m) (k : String) : Covers env (AList.erase m k) :=
  fun k' hk' => h k' ((AList.keys_erase_sublist _ _).subset hk')

/-- `sub_base_amount`: delete the entry (`c`) or overwrite it -/
theorem covers_eraseOrSet {ν : Type} {m : AList String ν} (h : Covers env m) {k : String} (hk : HasData env k) (v : ν)
    (c : Prop) [Decidable c] : Covers env (if c then AList.erase m k else AList.set m k v) := by
  split
  · exact covers_erase h _
  · exact covers_set h hk _

theorem scratchMap_set_congr {ν μ : Type} {f : String → ν → Res μ} {m : AList String ν} {k : String} {v v' : ν}
    (hg : AList.get? m k = some v) (hf : f k v' = f k v) : scratchMap f (AList.set m k v') = scratchMap f m := by
  induction m with
  | nil => simp at hg
  | cons p m ih =>
    obtain ⟨k0, v0⟩ := p
    rw [AList.set_cons]
    rw [AList.get?_cons] at hg
    by_cases hk : k0 = k
    · simp only [hk, if_true, Option.some.injEq] at hg ⊢
      subst hg
      rw [scratchMap_cons, scratchMap_cons, hf]
    · simp only [hk, if_false] at hg ⊢
      rw [scratchMap_cons, scratchMap_cons, ih hg]

/-- the collateral flag does not enter the supply values -/
theorem specSupAmt_set_flag {sup : AList String SupplyInfo} {k : String} {info : SupplyInfo} (c : Bool)
    (hg : AList.get? sup k = some info) :
    specSupAmt cx env (AList.set sup k { info with coll := c }) = specSupAmt cx env sup :=
  scratchMap_set_congr hg rfl

theorem collEntries_cons (k : String) (v : SupplyInfo) (m : AList String SupplyInfo) :
    collEntries ((k, v) :: m) = if v.coll then (k, v) :: collEntries m else collEntries m := by
  unfold collEntries
  cases h : v.coll <;> simp [List.filter, h]

theorem collEntries_set_noncoll {sup : AList String SupplyInfo} {k : String} {info info' : SupplyInfo}
    (hg : AList.get? sup k = some info) (h1 : info.coll = false) (h2 : info'.coll = false) :
    collEntries (AList.set sup k info') = collEntries sup := by
  induction sup with
  | nil => simp at hg
  | cons p m ih =>
    obtain ⟨k0, v0⟩ := p
    rw [AList.set_cons]
    rw [AList.get?_cons] at hg
    by_cases hk : k0 = k
    · simp only [hk, if_true, Option.some.injEq] at hg ⊢
      subst hg
      rw [collEntries_cons, collEntries_cons, h1, h2]
      simp
    · simp only [hk, if_false] at hg ⊢
      rw [collEntries_cons, collEntries_cons, ih hg]

theorem collEntries_erase_noncoll {sup : AList String SupplyInfo} {k : String} {info : SupplyInfo}
    (hnd : (keys sup).Nodup) (hg : AList.get? sup k = some info) (h1 : info.coll = false) :
    collEntries (AList.erase sup k) = collEntries sup := by
  induction sup with
  | nil => simp at hg
  | cons p m ih =>
    obtain ⟨k0, v0⟩ := p
    simp only [keys_cons, List.nodup_cons] at hnd
    rw [AList.erase_cons]
    rw [AList.get?_cons] at hg
    by_cases hk : k0 = k
    · simp only [hk, if_true, Option.some.injEq] at hg ⊢
      subst hg; subst hk
      rw [collEntries_cons, h1, AList.erase_of_not_mem_keys hnd.1]
      simp
    · simp only [hk, if_false] at hg ⊢
      rw [collEntries_cons, collEntries_cons, ih hnd.2 hg]

theorem inv_setUpdated : Inv (Good cx env) setUpdated :=
  Inv.modify _ (fun _ ⟨gs, gb⟩ => ⟨gs.congr rfl rfl rfl rfl, gb.congr rfl rfl rfl⟩)

theorem inv_record (a : Action) : Inv (Good cx env) (record a) :=
  Inv.modify _ (fun _ ⟨gs, gb⟩ => ⟨gs.congr rfl rfl rfl rfl, gb.congr rfl rfl rfl⟩)

theorem Good.withWallet {s : St} (hs : Good cx env s) (w : Wallet) : Good cx env { s with wallet := w } :=
  ⟨hs.1.congr rfl rfl rfl rfl, hs.2.congr rfl rfl rfl⟩

theorem inv_walletCredit (tok : String) (amt : Rat) : Inv (Good cx env) (walletCredit cx tok amt) :=
  Inv.modify _ (fun _ hs => hs.withWallet _)

theorem inv_guardOpen : Inv (Good cx env) (guardOpen env) := Inv.require _ _

theorem good_newBar {env' : Env} {s : St} (nd1 : (keys s.supplies).Nodup) (nd2 : (keys s.borrows).Nodup)
    (c1 : Covers env' s.supplies) (c2 : Covers env' s.borrows) : Good cx env' (newBar s).2 :=
  ⟨⟨nd1, c1, CohC.fresh _, CohC.fresh _, CohC.fresh _⟩, ⟨nd2, c2, CohC.fresh _, CohC.fresh _⟩⟩

theorem good_commitSubSupply {s : St} (hs : Good cx env s) {tok : String} {info : SupplyInfo}
    (hg : AList.get? s.supplies tok = some info) (nb : Rat) :
    Good cx env (commitSubSupply tok info nb s).2 := by
  obtain ⟨gs, gb⟩ := hs
  have hd : HasData env tok := gs.cv tok (aget_mem_keys hg)
  refine ⟨⟨?_, ?_, CohC.fresh _, ?_, CohC.fresh _⟩, gb.congr rfl rfl rfl⟩
  · exact AList.nodup_keys_eraseOrSet gs.nd _ _ _
  · exact covers_eraseOrSet gs.cv hd _ _
  · show CohC (if info.coll then Cache.fresh else s.collC) (specColl cx env (if nb = 0 then _ else _))
    rcases Bool.eq_false_or_eq_true info.coll with hc | hc
    · simp only [hc, if_true]; exact CohC.fresh _
    · have : specColl cx env (if nb = 0 then AList.erase s.supplies tok
          else AList.set s.supplies tok { info with base := nb }) = specColl cx env s.supplies := by
        unfold specColl
        split
        · rw [collEntries_erase_noncoll gs.nd hg hc]
        · rw [collEntries_set_noncoll (info' := { info with base := nb }) hg hc hc]
      rw [this]
      simp only [hc, Bool.false_eq_true, if_false]; exact gs.co

theorem good_commitSubBorrow {s : St} (hs : Good cx env s) {tok : String} {info : BorrowInfo}
    (hg : AList.get? s.borrows tok = some info) (nb : Rat) :
    Good cx env (commitSubBorrow tok info nb s).2 := by
  obtain ⟨gs, gb⟩ := hs
  have hd : HasData env tok := gb.cv tok (aget_mem_keys hg)
  refine ⟨gs.congr rfl rfl rfl rfl, ⟨?_, ?_, CohC.fresh _, CohC.fresh _⟩⟩
  · exact AList.nodup_keys_eraseOrSet gb.nd _ _ _
  · exact covers_eraseOrSet gb.cv hd _ _

def Pin (cx : ACtx) (env : Env) (sup0 : AList String SupplyInfo) (bor0 : AList String BorrowInfo) (s : St) : Prop :=
  Good cx env s ∧ s.supplies = sup0 ∧ s.borrows = bor0

theorem Pin.good {sup0 : AList String SupplyInfo} {bor0 : AList String BorrowInfo} (s : St) (h : Pin cx env sup0 bor0 s) :
    Good cx env s := h.1

theorem good_commitSupply {s : St} (hs : Good cx env s) {tok : String} (hd : HasData env tok) (info : SupplyInfo) :
    Good cx env (commitSupply tok info s).2 :=
  ⟨⟨(AList.nodup_keys_set _ _ _).mpr hs.1.nd, covers_set hs.1.cv hd _, CohC.fresh _, CohC.fresh _, CohC.fresh _⟩,
   hs.2.congr rfl rfl rfl⟩

theorem good_commitBorrow {s : St} (hs : Good cx env s) {tok : String} (hd : HasData env tok) (info : BorrowInfo)
    (amount : Rat) : Good cx env (commitBorrow cx tok info amount s).2 :=
  ⟨hs.1.congr rfl rfl rfl rfl, ⟨(AList.nodup_keys_set _ _ _).mpr hs.2.nd, covers_set hs.2.cv hd _, CohC.fresh _, CohC.fresh _⟩⟩

theorem good_commitFlag {s : St} (hs : Good cx env s) {tok : String} {info : SupplyInfo}
    (hg : AList.get? s.supplies tok = some info) (c : Bool) : Good cx env (commitFlag tok { info with coll := c } s).2 := by
  obtain ⟨gs, gb⟩ := hs
  have hd : HasData env tok := gs.cv tok (aget_mem_keys hg)
  refine ⟨⟨(AList.nodup_keys_set _ _ _).mpr gs.nd, covers_set gs.cv hd _, ?_, CohC.fresh _, CohC.fresh _⟩, gb.congr rfl rfl rfl⟩
  show CohC s.supAmtC (specSupAmt cx env (AList.set s.supplies tok { info with coll := c }))
  rw [specSupAmt_set_flag c hg]; exact gs.sa

theorem finally'_snd {α : Type} (m : M α) (fin : St → St) (s : St) : (finally' m fin s).2 = fin (m s).2 := by
  unfold finally'
  rcases m s with ⟨r, s1⟩
  rfl

/-- the trial deduction of `withdraw` is a move: the supply side is not coherent while `health_factor` runs (`_supplies_cache` is
    stale), but that read touches the amount caches only, which the `finally` resets, and the deduction is written back -/
theorem moved_trial {s : St} {tok : String} {info : SupplyInfo} (hg : AList.get? s.supplies tok = some info) (tb : Rat) :
    Moved cx env s (trialHealthFactor cx env tok info tb s).2 := by
  unfold trialHealthFactor
  rw [run_bind]
  simp only [run_modify]
  rw [finally'_snd]
  obtain ⟨c1, c2, c3, hsh, hc3⟩ := healthFactor_shape (cx := cx) (env := env) (trialSet tok { info with base := tb } s)
  rw [hsh]
  have hfin : AList.set (AList.set s.supplies tok { info with base := tb }) tok info = s.supplies := AList.set_restore hg _
  refine ⟨?_, fun ⟨gs, gb⟩ => ⟨⟨?_, ?_, CohC.fresh _, CohC.fresh _, ?_⟩, ⟨gb.nd, gb.cv, hc3 (gb.congr rfl rfl rfl), gb.bo⟩⟩⟩
  · show (⟨AList.set (AList.set s.supplies tok _) tok info, s.borrows, s.wallet, s.actions, s.hasUpdate⟩ : Frame) = s.frame
    rw [hfin]; rfl
  · show (keys (AList.set (AList.set s.supplies tok _) tok info)).Nodup
    rw [hfin]; exact gs.nd
  · show Covers env (AList.set (AList.set s.supplies tok _) tok info)
    rw [hfin]; exact gs.cv
  · show CohC s.supC (specSupplies cx env (AList.set (AList.set s.supplies tok _) tok info))
    rw [hfin]; exact gs.su

end Demeter.Aave
