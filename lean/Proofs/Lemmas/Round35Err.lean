/-
  Structure of `roundSig` and its relative error.  `roundSig p` is odd, sends `0` to `0`, and on a positive `y` it is
  `rpos p y = rheQ (y / 10^e) · 10^e`, the round-half-even (`rheQ`, stated with `⌊·⌋₊`) of the mantissa normalised by
  `e = sexp p y`.  On the magnitude range `InRange x` (numerator and denominator below `2^150000`) the exponent is the right
  one, hence `|roundSig p x − x| ≤ epsP p·|x|` with `epsP p = (1/2)·10^(1−p)`.
-/
import Proofs.Lemmas.Round35Sig
import Mathlib.Data.Rat.Floor
import Mathlib.Algebra.Order.Floor.Semiring
import Mathlib.Algebra.Order.Floor.Semifield
import Mathlib.Tactic.Linarith
import Mathlib.Tactic.GCongr
namespace Demeter.Numerics
open Demeter

local notation "T" => (10 : ℚ)

/-- the magnitude range on which `round35` is proved correct: numerator and denominator `< 2^150000 ≈ 10^45154` -/
def InRange (x : ℚ) : Prop := x.num.natAbs.log2 < LOG2_BOUND ∧ x.den.log2 < LOG2_BOUND

instance (x : ℚ) : Decidable (InRange x) := by unfold InRange; infer_instance

theorem InRange_neg {x : ℚ} (h : InRange x) : InRange (-x) := by
  unfold InRange at *; simpa using h

theorem InRange_zero : InRange 0 := by decide

theorem InRange_of_lt {x : ℚ} (h1 : x.num.natAbs < 10 ^ 45000) (h2 : x.den < 10 ^ 45000) : InRange x :=
  ⟨log2_lt_of_lt_ten_pow _ h1, log2_lt_of_lt_ten_pow _ h2⟩

def rheQ (v : ℚ) : ℕ :=
  if v - (⌊v⌋₊ : ℚ) < 1 / 2 then ⌊v⌋₊
  else if 1 / 2 < v - (⌊v⌋₊ : ℚ) then ⌊v⌋₊ + 1
  else if ⌊v⌋₊ % 2 = 0 then ⌊v⌋₊ else ⌊v⌋₊ + 1

theorem rhe_eq (n d : ℕ) (hd : 0 < d) : roundHalfEvenNat n d = rheQ ((n : ℚ) / d) := by
  have hdq : (0:ℚ) < d := by exact_mod_cast hd
  have hfl : ⌊(n:ℚ) / d⌋₊ = n / d := Nat.floor_div_eq_div n d
  have hf : (n:ℚ) / d - ((n / d : ℕ) : ℚ) = ((n % d : ℕ) : ℚ) / d := by
    have h2 : (d:ℚ) * ((n / d : ℕ) : ℚ) + ((n % d : ℕ) : ℚ) = n := by exact_mod_cast Nat.div_add_mod n d
    rw [← h2, add_div, mul_div_cancel_left₀ _ (ne_of_gt hdq), add_sub_cancel_left]
  have c1 : (2 * (n % d) < d) ↔ (((n % d : ℕ) : ℚ) / d < 1 / 2) := by
    rw [div_lt_iff₀ hdq, ← Nat.cast_lt (α := ℚ), Nat.cast_mul, Nat.cast_ofNat]
    constructor <;> intro h <;> linarith only [h]
  have c2 : (2 * (n % d) > d) ↔ (1 / 2 < ((n % d : ℕ) : ℚ) / d) := by
    rw [lt_div_iff₀ hdq, gt_iff_lt, ← Nat.cast_lt (α := ℚ), Nat.cast_mul, Nat.cast_ofNat]
    constructor <;> intro h <;> linarith only [h]
  unfold roundHalfEvenNat rheQ
  simp only [hfl, hf, c1, c2]

theorem rheQ_err (v : ℚ) (hv : 0 ≤ v) : |(rheQ v : ℚ) - v| ≤ 1 / 2 := by
  have h1 : (⌊v⌋₊ : ℚ) ≤ v := Nat.floor_le hv
  have h2 : v < (⌊v⌋₊ : ℚ) + 1 := Nat.lt_floor_add_one v
  unfold rheQ
  rw [abs_le]
  split_ifs with a b c
  · exact ⟨by linarith only [a], by linarith only [h1]⟩
  · push_cast; exact ⟨by linarith only [h2], by linarith only [b]⟩
  · exact ⟨by linarith only [b], by linarith only [h1]⟩
  · push_cast; exact ⟨by linarith only [h2], by linarith only [a]⟩

theorem rheQ_natCast (k : ℕ) : rheQ (k : ℚ) = k := by
  unfold rheQ
  rw [Nat.floor_natCast]
  simp

/-- were `rheQ w < rheQ v` for `v ≤ w`, both would be within `1/2` of the midpoint between two integers, so `v = w` -/
theorem rheQ_mono {v w : ℚ} (hv : 0 ≤ v) (h : v ≤ w) : rheQ v ≤ rheQ w := by
  by_contra hc
  have hlt : ((rheQ w : ℕ) : ℚ) + 1 ≤ (rheQ v : ℚ) := by exact_mod_cast Nat.lt_of_not_le hc
  obtain ⟨_, e1⟩ := abs_le.1 (rheQ_err v hv)
  obtain ⟨e2, _⟩ := abs_le.1 (rheQ_err w (le_trans hv h))
  have : v = w := le_antisymm h (by linarith only [hlt, e1, e2])
  subst this
  exact hc (le_refl _)

theorem rheQ_ge {v : ℚ} (a : ℕ) (h : (a:ℚ) ≤ v) : a ≤ rheQ v := by
  have := rheQ_mono (Nat.cast_nonneg a) h
  rwa [rheQ_natCast] at this

theorem rheQ_le {v : ℚ} (hv : 0 ≤ v) (b : ℕ) (h : v ≤ (b:ℚ)) : rheQ v ≤ b := by
  have := rheQ_mono hv h
  rwa [rheQ_natCast] at this

def sexp (p : ℕ) (y : ℚ) : ℤ := sigExp p y.num.natAbs y.den

def rpos (p : ℕ) (y : ℚ) : ℚ := (rheQ (y / T ^ sexp p y) : ℚ) * T ^ sexp p y

theorem natAbs_div_den {y : ℚ} (hy : 0 < y) : ((y.num.natAbs : ℕ) : ℚ) / (y.den : ℚ) = y := by
  have hn : 0 < y.num := Rat.num_pos.2 hy
  have : ((y.num.natAbs : ℕ) : ℚ) = (y.num : ℚ) := by
    rw [← Int.cast_natCast, Int.natAbs_of_nonneg (le_of_lt hn)]
  rw [this]; exact Rat.num_div_den y

/-- the magnitude part of `roundSig`, for any `n/d` -/
theorem roundSig_mag (n d : ℕ) (hd : 0 < d) (e : ℤ) :
    (if e ≥ 0 then (((roundHalfEvenNat (scale10 n d e).1 (scale10 n d e).2) * pow10 e.toNat : ℕ) : ℚ)
      else mkRat (roundHalfEvenNat (scale10 n d e).1 (scale10 n d e).2) (pow10 (-e).toNat))
    = (rheQ ((n:ℚ) / d / T ^ e) : ℚ) * T ^ e := by
  obtain ⟨sd_pos, sval⟩ := scale10_spec n d e hd
  rw [rhe_eq _ _ sd_pos, sval]
  unfold pow10
  split
  · rename_i h
    rw [Tz_of_nonneg h]; push_cast; rfl
  · rename_i h
    rw [Tz_of_neg h, Rat.mkRat_eq_div]; push_cast; rfl

theorem roundSig_zero (p : ℕ) : roundSig p 0 = 0 := by
  unfold roundSig; simp

theorem roundSig_of_pos (p : ℕ) {y : ℚ} (hy : 0 < y) : roundSig p y = rpos p y := by
  have hn : 0 < y.num := Rat.num_pos.2 hy
  have h0 : y.num ≠ 0 := ne_of_gt hn
  have hneg : ¬ y.num < 0 := not_lt.2 (le_of_lt hn)
  have := roundSig_mag y.num.natAbs y.den y.den_pos (sigExp p y.num.natAbs y.den)
  rw [natAbs_div_den hy] at this
  unfold roundSig rpos sexp
  rw [if_neg h0]
  simp only [hneg, if_false]
  exact this

theorem roundSig_neg (p : ℕ) (x : ℚ) : roundSig p (-x) = - roundSig p x := by
  unfold roundSig
  simp only [Rat.neg_num, Rat.neg_den, Int.natAbs_neg]
  rcases lt_trichotomy x.num 0 with h | h | h
  · simp [h, h.ne, not_lt.2 h.le]
  · simp [h]
  · simp [h, h.ne', not_lt.2 h.le]

theorem roundSig_of_neg (p : ℕ) {y : ℚ} (hy : y < 0) : roundSig p y = - rpos p (-y) := by
  rw [← roundSig_of_pos p (neg_pos.2 hy), roundSig_neg, neg_neg]

theorem sexp_spec (p : ℕ) {y : ℚ} (hy : 0 < y) (hr : InRange y) :
    T ^ ((p : ℤ) - 1) ≤ y / T ^ sexp p y ∧ y / T ^ sexp p y < T ^ (p : ℤ) := by
  have hn : 0 < y.num.natAbs := Int.natAbs_pos.2 (ne_of_gt (Rat.num_pos.2 hy))
  have := sigExp_spec_rat p y.num.natAbs y.den hn y.den_pos hr.1 hr.2
  rwa [natAbs_div_den hy] at this

def epsP (p : ℕ) : ℚ := 1 / 2 * T ^ (1 - (p : ℤ))

theorem epsP_pos (p : ℕ) : 0 < epsP p := by
  unfold epsP; have := Tz_pos (1 - (p:ℤ)); positivity

theorem epsP_mul (p : ℕ) : epsP p * T ^ ((p:ℤ) - 1) = 1 / 2 := by
  unfold epsP
  rw [mul_assoc, ← Tz_add]
  have : (1 - (p:ℤ)) + ((p:ℤ) - 1) = 0 := by ring
  rw [this]; ring

theorem epsP_le_half (p : ℕ) (hp : 1 ≤ p) : epsP p ≤ 1 / 2 := by
  unfold epsP
  have : T ^ (1 - (p:ℤ)) ≤ T ^ (0:ℤ) := Tz_mono (by omega)
  linarith

theorem rpos_nonneg (p : ℕ) (y : ℚ) : 0 ≤ rpos p y := by
  unfold rpos
  have := Tz_pos (sexp p y)
  positivity

theorem rpos_abs_err (p : ℕ) {y : ℚ} (hy : 0 < y) :
    |rpos p y - y| ≤ T ^ sexp p y / 2 := by
  have hT := Tz_pos (sexp p y)
  have hv : 0 ≤ y / T ^ sexp p y := by positivity
  have := rheQ_err _ hv
  have e : rpos p y - y = ((rheQ (y / T ^ sexp p y) : ℚ) - y / T ^ sexp p y) * T ^ sexp p y := by
    unfold rpos; rw [sub_mul, div_mul_cancel₀ _ (ne_of_gt hT)]
  rw [e, abs_mul, abs_of_pos hT]
  calc |(rheQ (y / T ^ sexp p y) : ℚ) - y / T ^ sexp p y| * T ^ sexp p y
      ≤ 1 / 2 * T ^ sexp p y := by gcongr
    _ = T ^ sexp p y / 2 := by ring

theorem rpos_rel_err (p : ℕ) {y : ℚ} (hy : 0 < y) (hr : InRange y) :
    |rpos p y - y| ≤ epsP p * y := by
  obtain ⟨h1, _⟩ := sexp_spec p hy hr
  rw [le_div_iff₀ (Tz_pos _)] at h1
  refine le_trans (rpos_abs_err p hy) ?_
  calc T ^ sexp p y / 2 = epsP p * (T ^ ((p:ℤ) - 1) * T ^ sexp p y) := by rw [← mul_assoc, epsP_mul]; ring
    _ ≤ epsP p * y := mul_le_mul_of_nonneg_left h1 (epsP_pos p).le

theorem roundSig_rel_err (p : ℕ) (x : ℚ) (hr : InRange x) :
    |roundSig p x - x| ≤ epsP p * |x| := by
  rcases lt_trichotomy x 0 with h | h | h
  · rw [roundSig_of_neg p h, abs_of_neg h]
    have := rpos_rel_err p (neg_pos.2 h) (InRange_neg hr)
    rw [← abs_neg]
    have e : -(-rpos p (-x) - x) = rpos p (-x) - -x := by ring
    rw [e]; exact this
  · subst h; simp [roundSig_zero]
  · rw [roundSig_of_pos p h, abs_of_pos h]
    exact rpos_rel_err p h hr

end Demeter.Numerics
