/-
  What each operation body of Demeter.Squeeth leaves behind, in every arithmetic context: an accepted body as an explicit chain of
  `setVault` / `setPos` / `creditW` / `debitW` / `record` on the state it started from, together with what the checks on the way
  established.  (A rejected vault operation is undone by the transaction wrapper, so only `uniRedeem` — which the pool also runs outside
  a transaction — is described for every outcome.)  From these: how a property travels through the composed bodies (`*_pres`).
-/
import Proofs.Lemmas.Squeeth
import Mathlib.Tactic.SplitIfs
import Mathlib.Algebra.Order.Field.Rat
namespace Demeter
open Squeeth

/-- the arithmetic of `_get_reduce_debt_bounty` and `_get_reduce_debt_result_in_vault` on a vault whose redeemed LP position gave
    `wEth` WETH and `wOsqth` oSQTH: (burned, excess, bounty) and the vault afterwards -/
def Tie.reduceDebtVault (cx : NumCtx) (e : Env) (v : Vault) (wEth wOsqth : Rat) (payBounty : Bool) : (Rat × Rat × Rat) × Vault :=
  let bounty0 := if payBounty then cx.mul (cx.add (cx.mul wOsqth (twap e .osqth)) wEth) Gen.sqReduceDebtBounty else 0
  let excess := if wOsqth > v.short then cx.sub wOsqth v.short else 0
  let burn := if wOsqth > v.short then v.short else wOsqth
  let c1 := cx.add v.coll wEth
  let bounty := if bounty0 > c1 then c1 else bounty0
  ((burn, excess, bounty), { coll := cx.sub c1 bounty, short := cx.sub v.short burn, nft := none })

namespace Squeeth
open Gen

theorem ite_ge_sub_eq (s b : Rat) : (if s ≥ b then s - b else 0) = s - min b s := by
  rw [min_def]
  split_ifs
  · rfl
  · exact (sub_self s).symm

theorem effColl_eq {cx : NumCtx} {e : Env} {s : State} {vk : Nat} {v : Vault} (hv : AList.get? s.vaults vk = some v) :
    effColl cx e s vk =
      match v.nft with
      | none => .ok v.coll
      | some pos =>
        match AList.get? s.positions pos with
        | none => .error (.key "position")
        | some p => .ok (cx.add (lpCollateral cx e p (posAmount cx e s pos)) v.coll) := by
  unfold effColl; rw [hv]; rfl

theorem effColl_nft_none {cx : NumCtx} {e : Env} {s : State} {vk : Nat} {v : Vault} (hv : AList.get? s.vaults vk = some v)
    (hn : v.nft = none) : effColl cx e s vk = .ok v.coll := by
  rw [effColl_eq hv, hn]

theorem vaultStatus_eq {cx : NumCtx} {e : Env} {s : State} {vk : Nat} {v : Vault} (hv : AList.get? s.vaults vk = some v) :
    vaultStatus cx e s vk =
      if v.short = 0 then .ok (true, false)
      else
        match effColl cx e s vk with
        | .error er => .error er
        | .ok total => .ok (decide (cx.mul total sqCrDen ≥ cx.mul (debtEth cx e v.short) sqCrNum), decide (total < sqMinDeposit)) := by
  unfold vaultStatus; rw [hv]; rfl

theorem vaultStatus_vault {cx : NumCtx} {e : Env} {s : State} {vk : Nat} {p : Bool × Bool} (h : vaultStatus cx e s vk = .ok p) :
    ∃ v, AList.get? s.vaults vk = some v := by
  unfold vaultStatus at h
  cases hv : AList.get? s.vaults vk with
  | none => rw [hv] at h; cases h
  | some v => exact ⟨v, rfl⟩

theorem effColl_congr (cx : NumCtx) (e : Env) (s s' : State) (k : Nat)
    (hv : AList.get? s'.vaults k = AList.get? s.vaults k)
    (hp : ∀ w q, AList.get? s.vaults k = some w → w.nft = some q → AList.get? s'.positions q = AList.get? s.positions q) :
    effColl cx e s' k = effColl cx e s k := by
  unfold effColl posAmount
  rw [hv]
  cases hg : AList.get? s.vaults k with
  | none => rfl
  | some w =>
    dsimp only
    cases hn : w.nft with
    | none => rfl
    | some q => dsimp only; rw [hp w q hg hn]

theorem effColl_of_frame (cx : NumCtx) (e : Env) {s s' : State} (hv : s'.vaults = s.vaults) (hp : s'.positions = s.positions)
    (vk : Nat) : effColl cx e s' vk = effColl cx e s vk :=
  effColl_congr cx e s s' vk (by rw [hv]) (fun _ _ _ _ => by rw [hp])

theorem vaultStatus_congr (cx : NumCtx) (e : Env) (s s' : State) (k : Nat)
    (hv : AList.get? s'.vaults k = AList.get? s.vaults k)
    (hp : ∀ w q, AList.get? s.vaults k = some w → w.nft = some q → AList.get? s'.positions q = AList.get? s.positions q) :
    vaultStatus cx e s' k = vaultStatus cx e s k := by
  unfold vaultStatus
  rw [hv, effColl_congr cx e s s' k hv hp]

theorem mintBody_ok {cx : NumCtx} {s : State} {vk : Nat} {m : Rat} (h : (mintBody cx s vk m).err = none) :
    (¬ 0 < m ∧ mintBody cx s vk m = .ok s) ∨
    ∃ v, 0 < m ∧ AList.get? s.vaults vk = some v ∧
      mintBody cx s vk m = .ok ((creditW cx (s.setVault vk { v with short := cx.add v.short m }) sqOsqthName m).record
        (.updShort vk m (cx.add v.short m))) := by
  unfold mintBody at h ⊢
  by_cases hm : m > 0
  · rw [if_pos hm] at h ⊢
    cases hv : AList.get? s.vaults vk with
    | none => rw [hv] at h; cases h
    | some v => exact Or.inr ⟨v, hm, rfl, rfl⟩
  · rw [if_neg hm]; exact Or.inl ⟨hm, rfl⟩

theorem depositBody_ok {cx : NumCtx} {s : State} {vk : Nat} {eth : Rat} (h : (depositBody cx s vk eth).err = none) :
    ∃ v s2, 0 ≤ eth ∧ AList.get? s.vaults vk = some v ∧
      debitW cx (s.setVault vk { v with coll := cx.add v.coll eth }) sqWethName eth = .ok s2 ∧
      depositBody cx s vk eth = .ok (s2.record (.updColl vk eth (cx.add v.coll eth))) := by
  unfold depositBody at h ⊢
  by_cases he : eth < 0
  · rw [if_pos he] at h; cases h
  · rw [if_neg he] at h ⊢
    cases hv : AList.get? s.vaults vk with
    | none => rw [hv] at h; cases h
    | some v =>
      rw [hv] at h
      dsimp only at h ⊢
      cases hd : debitW cx (s.setVault vk { v with coll := cx.add v.coll eth }) sqWethName eth with
      | error er => rw [hd] at h; cases h
      | ok s2 => exact ⟨v, s2, not_lt.mp he, rfl, hd, rfl⟩

theorem depositUniBody_ok {s : State} {vk : Nat} {pos : PosKey} (h : (depositUniBody s vk pos).err = none) :
    ∃ p v, AList.get? s.positions pos = some p ∧ AList.get? s.vaults vk = some v ∧ v.nft = none ∧ p.transferred = false ∧
      depositUniBody s vk pos =
        .ok (((s.setVault vk { v with nft := some pos }).setPos pos { p with transferred := true }).record (.depositLp vk pos)) := by
  unfold depositUniBody at h ⊢
  cases hp : AList.get? s.positions pos with
  | none => rw [hp] at h; cases h
  | some p =>
    rw [hp] at h
    dsimp only at h ⊢
    by_cases hl : p.liquidity = 0
    · rw [if_pos hl] at h; cases h
    · rw [if_neg hl] at h ⊢
      cases hv : AList.get? s.vaults vk with
      | none => rw [hv] at h; cases h
      | some v =>
        rw [hv] at h
        dsimp only at h ⊢
        cases hn : v.nft with
        | some q => rw [hn] at h; cases h
        | none =>
          rw [hn] at h
          cases ht : p.transferred with
          | true => rw [ht] at h; cases h
          | false => exact ⟨p, v, rfl, rfl, hn, ht, rfl⟩

theorem withdrawCollBody_ok {cx : NumCtx} {e : Env} {s : State} {vk : Nat} {amount : Rat}
    (h : (withdrawCollBody cx e s vk amount).err = none) :
    ∃ v s1, AList.get? s.vaults vk = some v ∧
      s1 = creditW cx (s.setVault vk { v with coll := cx.sub v.coll (min amount v.coll) }) sqWethName (min amount v.coll) ∧
      vaultStatus cx e s1 vk = .ok (true, false) ∧
      withdrawCollBody cx e s vk amount =
        .ok (s1.record (.updColl vk (cx.sub 0 (min amount v.coll)) (cx.sub v.coll (min amount v.coll)))) := by
  unfold withdrawCollBody at h ⊢
  cases hv : AList.get? s.vaults vk with
  | none => rw [hv] at h; cases h
  | some v =>
    rw [hv] at h
    simp only [ite_gt_eq_min] at h ⊢
    obtain ⟨h1, _, e2⟩ := Res.andThen_ok h
    obtain ⟨hs, hst⟩ := checked_ok h1
    rw [e2, hst]
    exact ⟨v, _, rfl, rfl, hs, rfl⟩

theorem withdrawUniBody_ok {cx : NumCtx} {e : Env} {s : State} {vk : Nat} {pos : PosKey}
    (h : (withdrawUniBody cx e s vk pos).err = none) :
    ∃ v p s2, AList.get? s.vaults vk = some v ∧ v.nft = some pos ∧ AList.get? s.positions pos = some p ∧ p.transferred = true ∧
      s2 = (s.setVault vk { v with nft := none }).setPos pos { p with transferred := false } ∧
      vaultStatus cx e s2 vk = .ok (true, false) ∧
      withdrawUniBody cx e s vk pos = .ok (s2.record (.withdrawLp vk pos)) := by
  unfold withdrawUniBody at h ⊢
  cases hv : AList.get? s.vaults vk with
  | none => rw [hv] at h; cases h
  | some v =>
    rw [hv] at h
    dsimp only at h ⊢
    by_cases hn : v.nft = some pos
    · rw [if_neg (not_not.mpr hn)] at h ⊢
      rw [setVault_positions] at h ⊢
      cases hp : AList.get? s.positions pos with
      | none => rw [hp] at h; cases h
      | some p =>
        rw [hp] at h
        dsimp only at h ⊢
        cases ht : p.transferred with
        | false => rw [ht] at h; cases h
        | true =>
          rw [ht] at h
          simp only [Bool.not_true, Bool.false_eq_true, if_false] at h ⊢
          obtain ⟨h1, _, e2⟩ := Res.andThen_ok h
          obtain ⟨hs, hst⟩ := checked_ok h1
          rw [e2, hst]
          exact ⟨v, p, _, rfl, hn, rfl, ht, rfl, hs, rfl⟩
    · rw [if_pos hn] at h; cases h

theorem burnBody_ok {cx : NumCtx} {s : State} {vk : Nat} {burn : Rat} (h : (burnBody cx s vk burn).err = none) :
    (¬ 0 < burn ∧ burnBody cx s vk burn = .ok s) ∨
    ∃ v s2, 0 < burn ∧ AList.get? s.vaults vk = some v ∧
      debitW cx (s.setVault vk { v with short := if v.short ≥ burn then cx.sub v.short burn else 0 }) sqOsqthName (min burn v.short)
        = .ok s2 ∧
      burnBody cx s vk burn =
        .ok (s2.record (.updShort vk (cx.sub 0 (min burn v.short)) (if v.short ≥ burn then cx.sub v.short burn else 0))) := by
  unfold burnBody at h ⊢
  cases hv : AList.get? s.vaults vk with
  | none => rw [hv] at h; cases h
  | some v =>
    rw [hv] at h
    dsimp only at h ⊢
    by_cases hb : burn > 0
    · rw [if_pos hb] at h ⊢
      rw [← min_def] at h ⊢
      cases hd : debitW cx (s.setVault vk { v with short := if v.short ≥ burn then cx.sub v.short burn else 0 }) sqOsqthName
          (min burn v.short) with
      | error er => rw [hd] at h; cases h
      | ok s2 => exact Or.inr ⟨v, s2, hb, rfl, hd, rfl⟩
    · rw [if_neg hb]; exact Or.inl ⟨hb, rfl⟩

theorem liquidateInner_ok {cx : NumCtx} {e : Env} {s : State} {vk : Nat} {maxDebt : Rat}
    (h : (liquidateInner cx e s vk maxDebt).err = none) :
    ∃ v r s1 a, AList.get? s.vaults vk = some v ∧ r = liquidationResult cx e maxDebt v.short v.coll ∧ r.1 ≤ maxDebt ∧
      s1 = s.setVault vk { v with short := cx.sub v.short r.1, coll := cx.sub v.coll r.2 } ∧
      vaultStatus cx e s1 vk = .ok (a, false) ∧
      liquidateInner cx e s vk maxDebt = .ok (s1.record (.liquidation vk r.1 (cx.sub v.short r.1) r.2 (cx.sub v.coll r.2))) [r.1] := by
  unfold liquidateInner at h ⊢
  cases hv : AList.get? s.vaults vk with
  | none => rw [hv] at h; cases h
  | some v =>
    rw [hv] at h
    dsimp only at h ⊢
    generalize hr : liquidationResult cx e maxDebt v.short v.coll = r at h ⊢
    by_cases hlt : maxDebt < r.1
    · rw [if_pos hlt] at h; cases h
    · rw [if_neg hlt] at h ⊢
      cases hst : vaultStatus cx e (s.setVault vk { v with short := cx.sub v.short r.1, coll := cx.sub v.coll r.2 }) vk with
      | error er => rw [hst] at h; cases h
      | ok p =>
        obtain ⟨a, dust⟩ := p
        rw [hst] at h
        cases dust with
        | true => cases h
        | false => exact ⟨v, r, _, a, rfl, hr.symm, not_lt.mp hlt, rfl, hst, rfl⟩

theorem uniRedeem_cases (cx : NumCtx) (e : Env) (s : State) (pos : PosKey) (toUser : Bool) :
    (∃ er, uniRedeem cx e s pos toUser = (.fail er s, 0, 0)) ∨
    ∃ p f0 f1 a b w l, AList.get? s.positions pos = some p ∧
      f0 = cx.add p.pending0 (closePosition cx (uniSqrtP cx e.uniPrice) pos.1 pos.2 p.liquidity sqWethDecimals sqOsqthDecimals).1 ∧
      f1 = cx.add p.pending1 (closePosition cx (uniSqrtP cx e.uniPrice) pos.1 pos.2 p.liquidity sqWethDecimals sqOsqthDecimals).2 ∧
      ((a = f0 ∧ b = f1) ∨ (a = cx.sub f0 f0 ∧ b = cx.sub f1 f1)) ∧
      (w = s.wallet ∨ (toUser = true ∧ w = Wallet.credit cx (Wallet.credit cx s.wallet sqWethName f0) sqOsqthName f1)) ∧
      ((∃ er, uniRedeem cx e s pos toUser =
          (.fail er { s with positions := AList.set s.positions pos ⟨0, a, b, p.transferred⟩, wallet := w, log := l }, 0, 0)) ∨
       uniRedeem cx e s pos toUser =
          (.ok { s with positions := AList.set s.positions pos ⟨0, a, b, p.transferred⟩, wallet := w, log := l }, f0, f1) ∨
       uniRedeem cx e s pos toUser =
          (.ok { s with positions := AList.erase (AList.set s.positions pos ⟨0, a, b, p.transferred⟩) pos, wallet := w, log := l },
            f0, f1)) := by
  generalize hu : uniRedeem cx e s pos toUser = u
  unfold uniRedeem at hu
  by_cases ho : (toUser && !e.uniOpen) = true
  · rw [if_pos ho] at hu
    exact Or.inl ⟨_, hu.symm⟩
  · rw [if_neg ho] at hu
    split at hu
    · exact Or.inl ⟨_, hu.symm⟩
    · rename_i p hp
      dsimp only at hu
      split at hu
      · split at hu
        · cases toUser with
          | false =>
            simp only [Bool.false_eq_true, if_false, State.setPos, State.record, AList.set_set] at hu
            split at hu
            · exact Or.inr ⟨p, _, _, _, _, _, _, hp, rfl, rfl, Or.inr ⟨rfl, rfl⟩, Or.inl rfl, Or.inr (Or.inr hu.symm)⟩
            · exact Or.inr ⟨p, _, _, _, _, _, _, hp, rfl, rfl, Or.inr ⟨rfl, rfl⟩, Or.inl rfl, Or.inr (Or.inl hu.symm)⟩
          | true =>
            simp only [if_true, State.setPos, State.record, creditW, AList.set_set] at hu
            split at hu
            · exact Or.inr ⟨p, _, _, _, _, _, _, hp, rfl, rfl, Or.inr ⟨rfl, rfl⟩, Or.inr ⟨rfl, rfl⟩, Or.inr (Or.inr hu.symm)⟩
            · exact Or.inr ⟨p, _, _, _, _, _, _, hp, rfl, rfl, Or.inr ⟨rfl, rfl⟩, Or.inr ⟨rfl, rfl⟩, Or.inr (Or.inl hu.symm)⟩
        · cases toUser with
          | false =>
            simp only [Bool.false_eq_true, if_false, State.setPos, State.record, AList.set_set] at hu
            exact Or.inr ⟨p, _, _, _, _, _, _, hp, rfl, rfl, Or.inr ⟨rfl, rfl⟩, Or.inl rfl, Or.inl ⟨_, hu.symm⟩⟩
          | true =>
            simp only [if_true, State.setPos, State.record, creditW, AList.set_set] at hu
            exact Or.inr ⟨p, _, _, _, _, _, _, hp, rfl, rfl, Or.inr ⟨rfl, rfl⟩, Or.inr ⟨rfl, rfl⟩, Or.inl ⟨_, hu.symm⟩⟩
      · exact Or.inr ⟨p, _, _, _, _, _, s.log, hp, rfl, rfl, Or.inl ⟨rfl, rfl⟩, Or.inl rfl, Or.inl ⟨_, hu.symm⟩⟩

theorem reduceDebtVault_exact (e : Env) (v : Vault) (f0 f1 : Rat) (pb : Bool) :
    Tie.reduceDebtVault NumCtx.exact e v f0 f1 pb =
      ((min f1 v.short, (if f1 > v.short then f1 - v.short else 0),
        min (if pb then (f1 * twap e .osqth + f0) * sqReduceDebtBounty else 0) (v.coll + f0)),
       { coll := v.coll + f0 - min (if pb then (f1 * twap e .osqth + f0) * sqReduceDebtBounty else 0) (v.coll + f0),
         short := v.short - min f1 v.short, nft := none }) := by
  unfold Tie.reduceDebtVault
  cases pb <;>
    simp only [Bool.false_eq_true, if_false, if_true, ite_gt_eq_min, NumCtx.exact_add, NumCtx.exact_sub, NumCtx.exact_mul]

theorem reduceDebtBody_nft_none {cx : NumCtx} {e : Env} {s : State} {vk : Nat} {pb : Bool} {v : Vault}
    (hv : AList.get? s.vaults vk = some v) (hn : v.nft = none) : reduceDebtBody cx e s vk pb = (.ok s [0, 0, 0, 0], 0) := by
  unfold reduceDebtBody
  rw [hv]
  dsimp only
  rw [hn]

theorem reduceDebtBody_of_redeem {cx : NumCtx} {e : Env} {s s1 : State} {vk : Nat} {pb : Bool} {v : Vault} {pos : PosKey} {p : UPos}
    {out : List Rat} {f0 f1 : Rat}
    (hv : AList.get? s.vaults vk = some v) (hn : v.nft = some pos) (hp : AList.get? s.positions pos = some p) (ht : p.transferred = true)
    (hu : uniRedeem cx e (s.setPos pos { p with transferred := false }) pos false = (⟨none, s1, out⟩, f0, f1)) :
    let r := Tie.reduceDebtVault cx e v f0 f1 pb
    let s2 := s1.setVault vk r.2
    let s3 := if r.1.2.1 > 0 then creditW cx s2 sqOsqthName r.1.2.1 else s2
    reduceDebtBody cx e s vk pb =
      (.ok (s3.record (.reduceDebt vk pos f0 f1 r.1.1 r.1.2.1 r.1.2.2 r.2.short r.2.coll)) [r.1.1, r.1.2.1, r.1.2.2, f0], r.1.2.2) := by
  simp only [reduceDebtBody, hv, hn, hp, ht, hu, Tie.reduceDebtVault, Bool.not_true, Bool.false_eq_true, if_false]
  rfl

theorem reduceDebtBody_ok {cx : NumCtx} {e : Env} {s : State} {vk : Nat} {pb : Bool}
    (h : (reduceDebtBody cx e s vk pb).1.err = none) :
    (∃ v, AList.get? s.vaults vk = some v ∧ v.nft = none ∧ reduceDebtBody cx e s vk pb = (.ok s [0, 0, 0, 0], 0)) ∨
    ∃ v pos p s1 out f0 f1 r,
      AList.get? s.vaults vk = some v ∧ v.nft = some pos ∧ AList.get? s.positions pos = some p ∧ p.transferred = true ∧
      uniRedeem cx e (s.setPos pos { p with transferred := false }) pos false = (⟨none, s1, out⟩, f0, f1) ∧
      r = Tie.reduceDebtVault cx e v f0 f1 pb ∧
      reduceDebtBody cx e s vk pb =
        (.ok ((if r.1.2.1 > 0 then creditW cx (s1.setVault vk r.2) sqOsqthName r.1.2.1 else s1.setVault vk r.2).record
              (.reduceDebt vk pos f0 f1 r.1.1 r.1.2.1 r.1.2.2 r.2.short r.2.coll)) [r.1.1, r.1.2.1, r.1.2.2, f0], r.1.2.2) := by
  have h' := h
  unfold reduceDebtBody at h'
  cases hv : AList.get? s.vaults vk with
  | none => rw [hv] at h'; cases h'
  | some v =>
    rw [hv] at h'
    dsimp only at h'
    cases hn : v.nft with
    | none => exact Or.inl ⟨v, rfl, hn, reduceDebtBody_nft_none hv hn⟩
    | some pos =>
      rw [hn] at h'
      dsimp only at h'
      cases hp : AList.get? s.positions pos with
      | none => rw [hp] at h'; cases h'
      | some p =>
        rw [hp] at h'
        dsimp only at h'
        cases ht : p.transferred with
        | false => rw [ht] at h'; cases h'
        | true =>
          rw [ht] at h'
          simp only [Bool.not_true, Bool.false_eq_true, if_false] at h'
          generalize hu : uniRedeem cx e (s.setPos pos { p with transferred := false }) pos false = u at h'
          obtain ⟨⟨er, s1, out⟩, f0, f1⟩ := u
          cases er with
          | some er => cases h'
          | none =>
            exact Or.inr ⟨v, pos, p, s1, out, f0, f1, _, rfl, hn, hp, ht, hu, rfl,
              reduceDebtBody_of_redeem hv hn hp ht hu⟩

theorem burnWithdrawBody_pres {P : State → Prop} {cx : NumCtx} {e : Env} {s : State} {vk : Nat} {b w : Rat}
    (hok : (burnWithdrawBody cx e s vk b w).err = none)
    (hb : (burnBody cx s vk b).err = none → P (burnBody cx s vk b).st)
    (hw : ∀ t, P t → 0 < w → (withdrawCollBody cx e t vk w).err = none → P (withdrawCollBody cx e t vk w).st) :
    P (burnWithdrawBody cx e s vk b w).st := by
  unfold burnWithdrawBody at hok ⊢
  refine Res.andThen_pres hok hb (fun h1 hok1 => Res.andThen_pres hok1 (fun hok2 => ?_) (fun h2 _ => ?_))
  · by_cases hpos : w > 0
    · rw [if_pos hpos] at hok2 ⊢; exact hw _ h1 hpos hok2
    · rw [if_neg hpos]; exact h1
  · rw [checked_st]; exact h2

theorem openBody_pres {P : State → Prop} {cx : NumCtx} {e : Env} {s : State} {d m : Rat} {vk? : Option Nat} {pos? : Option PosKey}
    (hok : (openBody cx e s d m vk? pos?).err = none) (h0 : P (openVault s vk?).1)
    (hm : ∀ t, P t → (mintBody cx t (openVault s vk?).2 m).err = none → P (mintBody cx t (openVault s vk?).2 m).st)
    (hd : ∀ t, P t → (depositBody cx t (openVault s vk?).2 d).err = none → P (depositBody cx t (openVault s vk?).2 d).st)
    (hu : ∀ t p, P t → (depositUniBody t (openVault s vk?).2 p).err = none → P (depositUniBody t (openVault s vk?).2 p).st) :
    P (openBody cx e s d m vk? pos?).st := by
  unfold openBody at hok ⊢
  dsimp only at hok ⊢
  refine Res.andThen_pres hok (hm _ h0) (fun h1 hok1 => Res.andThen_pres hok1 (fun hok2 => ?_) (fun h2 hok3 =>
    Res.andThen_pres hok3 (fun hok4 => ?_) (fun h3 _ => ?_)))
  · by_cases hpos : d > 0
    · rw [if_pos hpos] at hok2 ⊢; exact hd _ h1 hok2
    · rw [if_neg hpos]; exact h1
  · cases pos? with
    | none => exact h2
    | some p => exact hu _ p h2 hok4
  · rw [checked_st]; exact h3

theorem uniRemoveOp_pres {P : State → Prop} (cx : NumCtx) (e : Env) (s : State) (pos : PosKey) (h : P s)
    (hr : (∀ p, AList.get? s.positions pos = some p → p.transferred = false) → P (uniRedeem cx e s pos true).1.st) :
    P (uniRemoveOp cx e s pos).st := by
  unfold uniRemoveOp
  cases hp : AList.get? s.positions pos with
  | none => exact hr fun p h => by rw [hp] at h; cases h
  | some p =>
    dsimp only
    cases ht : p.transferred with
    | true => exact h
    | false => exact hr fun p' h => by rw [hp] at h; cases h; exact ht

/-- the part of `liquidate` after `_reduce_debt` has taken `bounty` out of the vault -/
def liqRest (cx : NumCtx) (e : Env) (vk : Nat) (bounty : Rat) (s1 : State) : Res :=
  match vaultStatus cx e s1 vk with
  | .error er => .fail er s1
  | .ok (safe1, _) =>
    if safe1 then .ok s1 [0]
    else
      match AList.get? s1.vaults vk with
      | none => .fail (.key "vault") s1
      | some v => liquidateInner cx e (s1.setVault vk { v with coll := cx.add v.coll bounty }) vk v.short

theorem liqRest_eq {cx : NumCtx} {e : Env} {vk : Nat} {b : Rat} {s1 : State} {a d : Bool} {v : Vault}
    (hs : vaultStatus cx e s1 vk = .ok (a, d)) (hv : AList.get? s1.vaults vk = some v) :
    liqRest cx e vk b s1 =
      if a then .ok s1 [0] else liquidateInner cx e (s1.setVault vk { v with coll := cx.add v.coll b }) vk v.short := by
  unfold liqRest
  rw [hs, hv]

theorem liqRest_ok {cx : NumCtx} {e : Env} {vk : Nat} {b : Rat} {s1 : State} (h : (liqRest cx e vk b s1).err = none) :
    ∃ a d v, vaultStatus cx e s1 vk = .ok (a, d) ∧ AList.get? s1.vaults vk = some v := by
  cases hs : vaultStatus cx e s1 vk with
  | error er => unfold liqRest at h; rw [hs] at h; cases h
  | ok p =>
    obtain ⟨v, hv⟩ := vaultStatus_vault hs
    exact ⟨p.1, p.2, v, rfl, hv⟩

theorem liquidateBody_eq {cx : NumCtx} {e : Env} {s : State} {vk : Nat} {d : Bool} (hu : vaultStatus cx e s vk = .ok (false, d)) :
    liquidateBody cx e s vk = (reduceDebtBody cx e s vk true).1.andThen (liqRest cx e vk (reduceDebtBody cx e s vk true).2) := by
  obtain ⟨v, hv⟩ := vaultStatus_vault hu
  unfold liquidateBody
  rw [hv]
  simp only [hu, Bool.false_eq_true, if_false]
  rfl

theorem liquidateBody_ok {cx : NumCtx} {e : Env} {s : State} {vk : Nat} (h : (liquidateBody cx e s vk).err = none) :
    ∃ d, vaultStatus cx e s vk = .ok (false, d) := by
  unfold liquidateBody at h
  cases hv : AList.get? s.vaults vk with
  | none => rw [hv] at h; cases h
  | some v =>
    rw [hv] at h
    cases hs : vaultStatus cx e s vk with
    | error er => rw [hs] at h; cases h
    | ok p =>
      obtain ⟨a, d⟩ := p
      cases a with
      | true => rw [hs] at h; cases h
      | false => exact ⟨d, rfl⟩

theorem liquidateBody_pres {P : State → Prop} {cx : NumCtx} {e : Env} {s : State} {vk : Nat}
    (hok : (liquidateBody cx e s vk).err = none)
    (hrd : (reduceDebtBody cx e s vk true).1.err = none → P (reduceDebtBody cx e s vk true).1.st)
    (hbump : (reduceDebtBody cx e s vk true).1.err = none → ∀ t v, P t → AList.get? t.vaults vk = some v →
      P (t.setVault vk { v with coll := cx.add v.coll (reduceDebtBody cx e s vk true).2 }))
    (hin : ∀ t v, P t → AList.get? t.vaults vk = some v → (liquidateInner cx e t vk v.short).err = none →
      P (liquidateInner cx e t vk v.short).st) :
    P (liquidateBody cx e s vk).st := by
  obtain ⟨d, hu⟩ := liquidateBody_ok hok
  rw [liquidateBody_eq hu] at hok ⊢
  refine Res.andThen_pres hok hrd fun ht hok1 => ?_
  have hbump := hbump (Res.andThen_ok hok).1
  generalize (reduceDebtBody cx e s vk true).1.st = t at ht hok1 ⊢
  obtain ⟨a, d1, v, hs, hv⟩ := liqRest_ok hok1
  rw [liqRest_eq hs hv] at hok1 ⊢
  cases a with
  | true => exact ht
  | false =>
    exact hin _ { v with coll := cx.add v.coll (reduceDebtBody cx e s vk true).2 } (hbump t v ht hv) (setVault_get_self ..) hok1

/-- collateral a liquidator receives for `x` oSQTH at the TWAP price `p`: `x · p · 1.1` -/
def liqPay (p x : Rat) : Rat := x * p * (11 / 10)

/-- the property's liquidation amounts: half the debt — all of it if the vault would be left with under 0.5 ETH —
    against `debt × p × 1.1`, capped at the vault's collateral (then the whole debt is burned) -/
def specLiq (p short coll : Rat) : Rat × Rat :=
  let amt := if coll - liqPay p (short / 2) < 1 / 2 then short else short / 2
  if liqPay p amt > coll then (short, coll) else (amt, liqPay p amt)

theorem specLiq_cases (p short coll : Rat) :
    specLiq p short coll = (short, coll) ∨
    (specLiq p short coll = (short, liqPay p short) ∧ liqPay p short ≤ coll ∧ coll - liqPay p (short / 2) < 1 / 2) ∨
    (specLiq p short coll = (short / 2, liqPay p (short / 2)) ∧ liqPay p (short / 2) ≤ coll ∧ 1 / 2 ≤ coll - liqPay p (short / 2)) := by
  unfold specLiq
  by_cases h1 : coll - liqPay p (short / 2) < 1 / 2
  · rw [if_pos h1]
    by_cases h2 : liqPay p short > coll
    · rw [if_pos h2]; exact Or.inl rfl
    · rw [if_neg h2]; exact Or.inr (Or.inl ⟨rfl, not_lt.mp h2, h1⟩)
  · rw [if_neg h1]
    by_cases h2 : liqPay p (short / 2) > coll
    · rw [if_pos h2]; exact Or.inl rfl
    · rw [if_neg h2]; exact Or.inr (Or.inr ⟨rfl, not_lt.mp h2, not_lt.mp h1⟩)

end Squeeth
end Demeter
