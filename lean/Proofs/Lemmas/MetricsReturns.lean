/-
  Return series of a positive series: the rate series is the multiple series minus one, the multiples' product telescopes to
  last / first, the `dropna` ratio series has no gaps, and the annualised compound return on each input form is
  `compoundOf` at last / first.
-/
import Proofs.Lemmas.Metrics
namespace Demeter.Metrics

theorem daysPerYear_eq : daysPerYear = 365 := by decide +kernel

theorem length_multiplesFrom (prev : Rat) (xs : List Rat) : (multiplesFrom prev xs).length = xs.length := by
  induction xs generalizing prev with
  | nil => rfl
  | cons x r ih => simp [multiplesFrom, ih]

theorem map_sub_add_one (ms : List Rat) : (ms.map (· - 1)).map (· + 1) = ms := by
  rw [List.map_map]
  exact (List.map_congr_left fun a _ => sub_add_cancel a 1).trans (List.map_id ms)

/-- also where pandas fills in: `0 = 1 - 1` -/
theorem ratesFrom_eq (prev : Rat) (xs : List Rat) : ratesFrom prev xs = (multiplesFrom prev xs).map (· - 1) := by
  induction xs generalizing prev with
  | nil => rfl
  | cons x r ih =>
    simp only [ratesFrom, multiplesFrom, List.map_cons, ih]
    congr 1
    split
    · exact (sub_self 1).symm
    · rfl

theorem returnRateSeries_eq (xs : List Rat) : returnRateSeries xs = (returnMultiple xs).map (· - 1) := by
  cases xs with
  | nil => rfl
  | cons x r => simp only [returnRateSeries, returnMultiple, List.map_cons, ratesFrom_eq, sub_self]

theorem nth_multiplesFrom (prev : Rat) (xs : List Rat) (hp : AllPos (prev :: xs)) (k : Nat) (hk : k < xs.length) :
    nth (multiplesFrom prev xs) k = nth (prev :: xs) (k + 1) / nth (prev :: xs) k := by
  induction xs generalizing prev k with
  | nil => simp at hk
  | cons x r ih =>
    have hprev : prev ≠ 0 := ne_of_gt hp.head
    cases k with
    | zero => simp [multiplesFrom, hprev, nth_zero_cons, nth_succ_cons]
    | succ k =>
      simp only [multiplesFrom, nth_succ_cons]
      exact ih x hp.tail k (by simpa using hk)

theorem prod_multiplesFrom (prev : Rat) (xs : List Rat) (hp : AllPos (prev :: xs)) :
    prod (multiplesFrom prev xs) = nth (prev :: xs) xs.length / prev := by
  induction xs generalizing prev with
  | nil => simp [multiplesFrom, prod, nth_zero_cons, div_self (ne_of_gt hp.head)]
  | cons x r ih =>
    have hprev : prev ≠ 0 := ne_of_gt hp.head
    have hx : x ≠ 0 := ne_of_gt hp.tail.head
    simp only [multiplesFrom, hprev, if_false, prod, List.length_cons, nth_succ_cons]
    rw [ih x hp.tail]
    field_simp

theorem compoundOf_ne (o : Orc) {d : Rat} (hd : d ≠ 0) (base : Rat) :
    compoundOf o d base = ofOpt ((o.pow base (365 / d)).map (· - 1)) := by
  unfold compoundOf
  rw [if_neg hd, daysPerYear_eq]
  cases o.pow base (365 / d) <;> rfl

theorem soft_compoundOf (o : Orc) {d : Rat} (hd : d ≠ 0) (base : Rat) :
    soft (compoundOf o d base) = .ok ((o.pow base (365 / d)).map (· - 1)) := by
  rw [compoundOf_ne o hd]
  cases o.pow base (365 / d) <;> rfl

theorem annualized_endpoints (o : Orc) {d i : Rat} (hd : d ≠ 0) (hi : i ≠ 0) (f : Rat) :
    annualizedReturn o .compound d { init := some i, final := some f } = compoundOf o d (f / i) := by
  simp only [annualizedReturn, hd, hi, if_false]

theorem allSome_ratiosFrom (prev : Rat) (xs : List Rat) (hp : AllPos (prev :: xs)) :
    allSome (ratiosFrom prev xs) = some (multiplesFrom prev xs) := by
  induction xs generalizing prev with
  | nil => rfl
  | cons x r ih =>
    have hprev : prev ≠ 0 := ne_of_gt hp.head
    simp only [ratiosFrom, multiplesFrom, hprev, if_false, allSome, ih x hp.tail, Option.map_some]

theorem annualized_of_multiples (o : Orc) (d x : Rat) (r : List Rat) (hp : AllPos (x :: r)) :
    annualizedReturn o .compound d { rates := some ((multiplesFrom x r).map (· - 1)) } =
      compoundOf o d (lastOf (x :: r) / x) := by
  simp only [annualizedReturn, map_sub_add_one, prod_multiplesFrom x r hp, lastOf, List.length_cons, Nat.add_sub_cancel]

theorem ratiosFrom_scale (c : Rat) (hc : c ≠ 0) (prev : Rat) (xs : List Rat) :
    ratiosFrom (c * prev) (xs.map (c * ·)) = ratiosFrom prev xs := by
  induction xs generalizing prev with
  | nil => rfl
  | cons x r ih =>
    simp only [List.map_cons, ratiosFrom, ih, mul_eq_zero, hc, false_or, mul_div_mul_left _ _ hc]

theorem shiftRatios_scale (c : Rat) (hc : c ≠ 0) (xs : List Rat) :
    shiftRatios (xs.map (c * ·)) = shiftRatios xs := by
  cases xs with
  | nil => rfl
  | cons x r => simp only [List.map_cons, shiftRatios, ratiosFrom_scale c hc]

theorem allSome_length (l : List (Option Rat)) (m : List Rat) (h : allSome l = some m) : l.length = m.length := by
  induction l generalizing m with
  | nil => simp [allSome] at h; subst h; rfl
  | cons a l ih =>
    cases a with
    | none => simp [allSome] at h
    | some a =>
      simp only [allSome, Option.map_eq_some_iff] at h
      obtain ⟨m', hm', rfl⟩ := h
      simp [ih m' hm']

end Demeter.Metrics
