/-
  The positions container of the Uniswap market model as a dict: look-up (`findPos`), in-place update (`mapPos`) and
  deletion (`erasePos`) under a key, and what unique keys give — the entry found under a key is the only one with it,
  so an update or a deletion touches exactly that entry (`l ++ p :: r` with no further hit in `l` or `r`).
-/
import Proofs.Lemmas.UniPrims
import Proofs.Lemmas.AList
import Mathlib.Data.List.Nodup
namespace Demeter.Uni
open Demeter

def keyOf (p : Pos) : Int × Int := (p.lower, p.upper)

def KeysNodup (ps : List Pos) : Prop := (ps.map keyOf).Nodup

/-- exactly one entry of the dict has the key (Python dict keys are unique) -/
def UniqueKey (ps : List Pos) (lo up : Int) (p0 : Pos) : Prop :=
  ∃ l r, ps = l ++ p0 :: r ∧ (∀ q ∈ l, q.hasKey lo up = false) ∧ (∀ q ∈ r, q.hasKey lo up = false) ∧ p0.hasKey lo up = true

theorem UniqueKey.hasKey {ps : List Pos} {lo up : Int} {p0 : Pos} (h : UniqueKey ps lo up p0) : p0.hasKey lo up = true := by
  obtain ⟨_, _, _, _, _, hk⟩ := h
  exact hk

theorem hasKey_iff (p : Pos) (lo up : Int) : p.hasKey lo up = true ↔ keyOf p = (lo, up) := by
  unfold Pos.hasKey keyOf; simp [Prod.ext_iff]

theorem hasKey_eq {p : Pos} {lo up : Int} (h : p.hasKey lo up = true) : p.lower = lo ∧ p.upper = up :=
  Prod.ext_iff.mp ((hasKey_iff p lo up).mp h)

theorem hasKey_other {q : Pos} {lo up lo' up' : Int} (h : q.hasKey lo up = true) (hne : ¬ (lo' = lo ∧ up' = up)) :
    q.hasKey lo' up' = false :=
  Bool.eq_false_iff.mpr fun h' =>
    hne (Prod.ext_iff.mp (((hasKey_iff q lo' up').mp h').symm.trans ((hasKey_iff q lo up).mp h)))

theorem findPos_cons (q : Pos) (ps : List Pos) (lo up : Int) :
    findPos (q :: ps) lo up = if q.hasKey lo up then some q else findPos ps lo up := by
  unfold findPos; rw [List.find?_cons]; cases q.hasKey lo up <;> rfl

theorem findPos_some_key {ps : List Pos} {lo up : Int} {p : Pos} (h : findPos ps lo up = some p) : p.hasKey lo up = true := by
  unfold findPos at h
  have := List.find?_some h
  exact this

theorem findPos_some_nonempty {ps : List Pos} {lo up : Int} {p : Pos} (h : findPos ps lo up = some p) : ps ≠ [] := by
  intro e; subst e; cases h

theorem findPos_none_not_mem {ps : List Pos} {lo up : Int} (h : findPos ps lo up = none) : (lo, up) ∉ ps.map keyOf := by
  intro hm
  obtain ⟨q, hq, hk⟩ := List.mem_map.mp hm
  exact List.find?_eq_none.mp h q hq ((hasKey_iff q lo up).mpr hk)

theorem findPos_mapPos (ps : List Pos) (lo up : Int) (f : Pos → Pos)
    (hf : ∀ q, q.hasKey lo up = true → (f q).hasKey lo up = true) (lo' up' : Int) :
    findPos (mapPos ps lo up f) lo' up' = (findPos ps lo' up').map (fun q => if q.hasKey lo up then f q else q) := by
  induction ps with
  | nil => rfl
  | cons q qs ih =>
    have e : mapPos (q :: qs) lo up f = (if q.hasKey lo up then f q else q) :: mapPos qs lo up f := rfl
    have hk : (if q.hasKey lo up then f q else q).hasKey lo' up' = q.hasKey lo' up' := by
      by_cases hq : q.hasKey lo up = true
      · rw [if_pos hq]
        unfold Pos.hasKey
        rw [(hasKey_eq (hf q hq)).1, (hasKey_eq (hf q hq)).2, (hasKey_eq hq).1, (hasKey_eq hq).2]
      · rw [if_neg hq]
    rw [e, findPos_cons, findPos_cons, ih, hk]
    cases q.hasKey lo' up' <;> rfl

theorem findPos_erasePos_other (ps : List Pos) (lo up lo' up' : Int) (hne : ¬ (lo' = lo ∧ up' = up)) :
    findPos (erasePos ps lo up) lo' up' = findPos ps lo' up' := by
  induction ps with
  | nil => rfl
  | cons q qs ih =>
    unfold erasePos at ih ⊢
    rw [List.filter_cons]
    by_cases hq : q.hasKey lo up = true
    · simp only [hq, Bool.not_true, Bool.false_eq_true, if_false, findPos_cons, hasKey_other hq hne, ih]
    · simp only [hq, Bool.not_false, if_true, findPos_cons, ih]

theorem findPos_erasePos_self (ps : List Pos) (lo up : Int) : findPos (erasePos ps lo up) lo up = none := by
  unfold findPos erasePos
  rw [List.find?_eq_none]
  intro q hq
  simpa using (List.mem_filter.mp hq).2

theorem findPos_append_one (ps : List Pos) (p : Pos) (lo up : Int) :
    findPos (ps ++ [p]) lo up = match findPos ps lo up with
      | some q => some q
      | none => if p.hasKey lo up then some p else none := by
  induction ps with
  | nil => simp [findPos]
  | cons q qs ih =>
    rw [List.cons_append, findPos_cons, findPos_cons, ih]
    by_cases hq : q.hasKey lo up = true
    · simp only [hq, if_true]
    · simp only [hq, Bool.false_eq_true, if_false]

theorem mapPos_nil (lo up : Int) (f : Pos → Pos) : mapPos [] lo up f = [] := rfl
theorem erasePos_nil (lo up : Int) : erasePos [] lo up = [] := rfl

theorem mem_mapPos {ps : List Pos} {lo up : Int} {g : Pos → Pos} {x : Pos} (h : x ∈ mapPos ps lo up g) :
    ∃ q ∈ ps, x = q ∨ x = g q := by
  obtain ⟨q, hq, e⟩ := List.mem_map.mp h
  refine ⟨q, hq, ?_⟩
  split at e
  · exact Or.inr e.symm
  · exact Or.inl e.symm

theorem mapPos_of_noKey (ps : List Pos) (lo up : Int) (f : Pos → Pos) (h : ∀ q ∈ ps, q.hasKey lo up = false) :
    mapPos ps lo up f = ps := by
  unfold mapPos
  induction ps with
  | nil => rfl
  | cons q qs ih =>
    simp only [List.map_cons, h q (List.mem_cons_self ..), Bool.false_eq_true, if_false]
    rw [ih (fun x hx => h x (List.mem_cons_of_mem _ hx))]

theorem mapPos_decomp (l r : List Pos) (p0 : Pos) (lo up : Int) (f : Pos → Pos)
    (hl : ∀ q ∈ l, q.hasKey lo up = false) (hr : ∀ q ∈ r, q.hasKey lo up = false) (hk : p0.hasKey lo up = true) :
    mapPos (l ++ p0 :: r) lo up f = l ++ f p0 :: r := by
  have h1 := mapPos_of_noKey l lo up f hl
  have h2 := mapPos_of_noKey r lo up f hr
  unfold mapPos at h1 h2 ⊢
  simp only [List.map_append, List.map_cons, h1, h2, hk, if_true]

theorem erasePos_decomp (l r : List Pos) (q : Pos) (lo up : Int)
    (hl : ∀ x ∈ l, x.hasKey lo up = false) (hr : ∀ x ∈ r, x.hasKey lo up = false) (hk : q.hasKey lo up = true) :
    erasePos (l ++ q :: r) lo up = l ++ r := by
  unfold erasePos
  simp only [List.filter_append, List.filter_cons, hk, Bool.not_true, Bool.false_eq_true, if_false]
  congr 1
  · exact List.filter_eq_self.mpr (fun x hx => by simp [hl x hx])
  · exact List.filter_eq_self.mpr (fun x hx => by simp [hr x hx])

theorem erasePos_unique {ps : List Pos} {lo up : Int} {p0 : Pos} (h : UniqueKey ps lo up p0) :
    ∃ l r, ps = l ++ p0 :: r ∧ erasePos ps lo up = l ++ r := by
  obtain ⟨l, r, e, hl, hr, hk⟩ := h
  exact ⟨l, r, e, e ▸ erasePos_decomp l r p0 lo up hl hr hk⟩

theorem findPos_unique {ps : List Pos} {lo up : Int} {p0 : Pos} (h : UniqueKey ps lo up p0) : findPos ps lo up = some p0 := by
  obtain ⟨l, r, e, hl, _, hk⟩ := h
  subst e
  induction l with
  | nil => rw [List.nil_append, findPos_cons, hk]; rfl
  | cons q qs ih =>
    rw [List.cons_append, findPos_cons, hl q (List.mem_cons_self ..)]
    exact ih (fun x hx => hl x (List.mem_cons_of_mem _ hx))

theorem map_mapPos {β : Type} (g : Pos → β) (ps : List Pos) (lo up : Int) (f : Pos → Pos)
    (hf : ∀ q, q.hasKey lo up = true → g (f q) = g q) : (mapPos ps lo up f).map g = ps.map g := by
  unfold mapPos
  induction ps with
  | nil => rfl
  | cons q qs ih =>
    simp only [List.map_cons, ih]
    by_cases h : q.hasKey lo up = true
    · simp only [h, if_true, hf q h]
    · simp only [h, Bool.false_eq_true, if_false]

theorem mapPos_keys_nodup (ps : List Pos) (lo up : Int) (f : Pos → Pos) (hf : ∀ q, q.hasKey lo up = true → keyOf (f q) = keyOf q)
    (h : KeysNodup ps) : KeysNodup (mapPos ps lo up f) := by
  unfold KeysNodup at *; rw [map_mapPos keyOf _ _ _ _ hf]; exact h

theorem mapPos_const_keys_nodup {ps : List Pos} {lo up : Int} {p p' : Pos} (hf : findPos ps lo up = some p)
    (hp : keyOf p' = keyOf p) (h : KeysNodup ps) : KeysNodup (mapPos ps lo up (fun _ => p')) :=
  mapPos_keys_nodup _ _ _ _
    (fun q hq => by rw [(hasKey_iff q lo up).mp hq, hp, (hasKey_iff p lo up).mp (findPos_some_key hf)]) h

theorem erasePos_keys_nodup (ps : List Pos) (lo up : Int) (h : KeysNodup ps) : KeysNodup (erasePos ps lo up) :=
  AList.nodup_map_filter keyOf _ h

theorem keysNodup_others {l r : List Pos} {p : Pos} {lo up : Int} (hn : KeysNodup (l ++ p :: r)) (hk : p.hasKey lo up = true) :
    (∀ q ∈ l, q.hasKey lo up = false) ∧ (∀ q ∈ r, q.hasKey lo up = false) := by
  unfold KeysNodup at hn
  rw [List.map_append, List.map_cons, List.nodup_middle, List.nodup_cons] at hn
  have hkey : ∀ x, keyOf x ∈ l.map keyOf ++ r.map keyOf → x.hasKey lo up = false := fun x hx =>
    Bool.eq_false_iff.mpr (fun hxk => hn.1 (((hasKey_iff p lo up).mp hk).trans ((hasKey_iff x lo up).mp hxk).symm ▸ hx))
  exact ⟨fun q hq => hkey q (List.mem_append_left _ (List.mem_map_of_mem hq)),
    fun q hq => hkey q (List.mem_append_right _ (List.mem_map_of_mem hq))⟩

theorem uniqueKey_of_mem {ps : List Pos} {lo up : Int} {p : Pos} (hn : KeysNodup ps) (hp : p ∈ ps)
    (hk : p.hasKey lo up = true) : UniqueKey ps lo up p := by
  obtain ⟨l, r, rfl⟩ := List.append_of_mem hp
  exact ⟨l, r, rfl, (keysNodup_others hn hk).1, (keysNodup_others hn hk).2, hk⟩

theorem uniqueKey_of_nodup {ps : List Pos} {lo up : Int} {p0 : Pos} (hn : KeysNodup ps) (hf : findPos ps lo up = some p0) :
    UniqueKey ps lo up p0 :=
  uniqueKey_of_mem hn (List.mem_of_find?_eq_some hf) (findPos_some_key hf)

theorem findPos_of_mem {ps : List Pos} (hn : KeysNodup ps) {p : Pos} (hp : p ∈ ps) : findPos ps p.lower p.upper = some p :=
  findPos_unique (uniqueKey_of_mem hn hp ((hasKey_iff p _ _).mpr rfl))

theorem addToPositions_keys {K : Kern} {pool : Pool} {s : State} {lo up liq : Int} {sqrt : Nat} {ent : Option Pos}
    (hent : newEntity K pool s lo up liq sqrt = .ok ent) (hn : KeysNodup s.positions) :
    KeysNodup (addToPositions s.positions lo up liq ent) := by
  rcases newEntity_cases hent with ⟨_, _, rfl⟩ | ⟨hf, _, _, _, rfl⟩
  · exact mapPos_keys_nodup _ _ _ _ (fun _ _ => rfl) hn
  · unfold KeysNodup addToPositions
    rw [List.map_append, List.nodup_append]
    refine ⟨hn, List.nodup_singleton _, ?_⟩
    intro x hx y hy e
    rw [List.mem_singleton.mp hy] at e
    rw [e] at hx
    exact findPos_none_not_mem hf hx

end Demeter.Uni
