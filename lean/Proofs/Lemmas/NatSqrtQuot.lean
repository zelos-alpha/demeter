/-
  A rational square root from the integer one: `q = ⌊√(n·d·K²)⌋ / (d·K)` satisfies `(n/d)·(1 − 1/K)² ≤ q² ≤ n/d`.
  Both stand-in square roots of the development (`sqrtFallback`, `demoSqrt`) have this shape.
-/
import Mathlib.Data.Nat.Sqrt
import Mathlib.Tactic.Linarith
import Mathlib.Tactic.Positivity
import Mathlib.Tactic.FieldSimp
import Mathlib.Algebra.Order.Field.Rat
import Mathlib.Data.Rat.Cast.Order
namespace Demeter

theorem le_sq_of_root_ge {x hi r ε : ℚ} (hε : ε ≤ 1) (hhi : 0 ≤ hi) (h : x ≤ hi ^ 2) (c : hi * (1 - ε) ≤ r) :
    x * (1 - ε) ^ 2 ≤ r ^ 2 :=
  calc x * (1 - ε) ^ 2 ≤ hi ^ 2 * (1 - ε) ^ 2 := mul_le_mul_of_nonneg_right h (sq_nonneg _)
    _ = (hi * (1 - ε)) ^ 2 := (mul_pow _ _ 2).symm
    _ ≤ r ^ 2 := pow_le_pow_left₀ (mul_nonneg hhi (sub_nonneg.2 hε)) c 2

theorem sq_le_of_root_le {x lo r ε : ℚ} (hr : 0 ≤ r) (h : lo ^ 2 ≤ x) (c : r ≤ lo * (1 + ε)) :
    r ^ 2 ≤ x * (1 + ε) ^ 2 :=
  calc r ^ 2 ≤ (lo * (1 + ε)) ^ 2 := pow_le_pow_left₀ hr c 2
    _ = lo ^ 2 * (1 + ε) ^ 2 := mul_pow _ _ 2
    _ ≤ x * (1 + ε) ^ 2 := mul_le_mul_of_nonneg_right h (sq_nonneg _)

theorem natSqrt_bounds (m : ℕ) : ((Nat.sqrt m : ℕ) : ℚ) ^ 2 ≤ m ∧ (m : ℚ) + 1 ≤ ((Nat.sqrt m : ℕ) + 1 : ℚ) ^ 2 :=
  ⟨by exact_mod_cast Nat.sqrt_le' m, by exact_mod_cast Nat.lt_succ_sqrt' m⟩

theorem natSqrt_quot_spec (n d K : ℕ) (hd : 0 < d) (hK : 0 < K) :
    0 ≤ ((Nat.sqrt (n * d * (K * K)) : ℕ) : ℚ) / ((d : ℚ) * K) ∧
    (((Nat.sqrt (n * d * (K * K)) : ℕ) : ℚ) / ((d : ℚ) * K)) ^ 2 ≤ (n : ℚ) / d ∧
    (n : ℚ) / d * (1 - 1 / K) ^ 2 ≤ (((Nat.sqrt (n * d * (K * K)) : ℕ) : ℚ) / ((d : ℚ) * K)) ^ 2 := by
  rcases Nat.eq_zero_or_pos n with rfl | hn
  · simp
  obtain ⟨s1', s2'⟩ := natSqrt_bounds (n * d * (K * K))
  -- `K ≤ s`, so one unit of `s` is at most the fraction `1/K` of it
  have hKs : K ≤ Nat.sqrt (n * d * (K * K)) := Nat.le_sqrt.2 (Nat.le_mul_of_pos_left _ (Nat.mul_pos hn hd))
  generalize Nat.sqrt (n * d * (K * K)) = s at *
  have hdq : (0 : ℚ) < d := by exact_mod_cast hd
  have hKq : (0 : ℚ) < K := by exact_mod_cast hK
  have hD : (0 : ℚ) < ((d : ℚ) * K) ^ 2 := by positivity
  have hm : (n : ℚ) / d = ((n * d * (K * K) : ℕ) : ℚ) / ((d : ℚ) * K) ^ 2 := by
    push_cast; field_simp
  rw [hm, div_pow]
  generalize ((n * d * (K * K) : ℕ) : ℚ) = m at *
  refine ⟨by positivity, div_le_div_of_nonneg_right s1' (le_of_lt hD), ?_⟩
  rw [div_mul_eq_mul_div]
  refine div_le_div_of_nonneg_right ?_ (le_of_lt hD)
  have hKs' : (K : ℚ) ≤ s := by exact_mod_cast hKs
  have h1 : (1 : ℚ) ≤ ((s : ℚ) + 1) * (1 / K) := by
    rw [mul_one_div, le_div_iff₀ hKq]; linarith only [hKs']
  exact le_sq_of_root_ge ((div_le_one hKq).2 (by exact_mod_cast hK)) (by positivity) (le_trans (le_add_of_nonneg_right zero_le_one) s2') (by linarith only [h1])

end Demeter
