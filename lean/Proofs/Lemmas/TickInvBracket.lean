/-
  Price → tick → price, the part that is the same for every way of finding the tick: `priceToSqrt` puts the Decimal sqrt
  price `sp` within four roundings of the oriented price (`priceToSqrt_bounds`), `tickToPrice` puts the price of a tick within
  five (six and eleven when the orientation inverts it) of its exact pool price (`tickToPrice_rel`), hence
  `prices_of_sqrt_bracket`: a tick whose sqrt prices bracket `sp` up to factors has prices that bracket `p`.
-/
import Proofs.Lemmas.TickInvChain
import Proofs.Lemmas.TickUnroll
namespace Demeter.TickInv
open Demeter Gen

variable {tn : TickNum} {ε : Rat}

theorem inv_bracket_le {p T x y : Rat} (hp : 0 < p) (hT : 0 < T) (k : T * x ≤ 1 / p * y) : p * x ≤ 1 / T * y := by
  rw [one_div_mul_eq_div] at k ⊢
  rw [le_div_iff₀ hp] at k
  rw [le_div_iff₀ hT]
  calc p * x * T = T * x * p := by ring
    _ ≤ y := k

theorem div_mul_mul_swap (a f u v : Rat) : a / f * u * (v * f) = a / f * f * (u * v) := by ring

theorem inv_bracket_ge {p T x y : Rat} (hp : 0 < p) (hT : 0 < T) (k : 1 / p * y ≤ T * x) : 1 / T * y ≤ p * x := by
  rw [one_div_mul_eq_div] at k ⊢
  rw [div_le_iff₀ hp] at k
  rw [div_le_iff₀ hT]
  calc y ≤ T * x * p := k
    _ = p * x * T := by ring

theorem priceToSqrt_bounds (h : Approx tn ε) (p : Rat) (hp : 0 < p) (d0 d1 : Nat) (q0 : Bool) :
    ∃ sp, priceToSqrt tn p d0 d1 q0 = .ok sp ∧ 0 ≤ sp ∧
      Within ε 4 4 ((if q0 then 1 / p else p) / tn.fac ((d0 : Int) - d1)) (sp ^ 2) := by
  obtain ⟨y, e, f, t⟩ := invIf_rel h q0 hp (.refl p)
  cases q0 with
  | false =>
    exact priceToSqrt_rel h e hp ((f rfl).weaken h.eps_nonneg h.eps_le_one hp.le (Nat.zero_le 1) (Nat.zero_le 1))
  | true => exact priceToSqrt_rel h e (one_div_pos.2 hp) (t rfl)

theorem tickToPrice_rel (h : Approx tn ε) (t : Int) (h1 : minTick ≤ t) (h2 : t ≤ maxTick) (d0 d1 : Nat) (q0 : Bool) :
    0 < (sqrtAt t : Rat) / q96Rat * ((sqrtAt t : Rat) / q96Rat) * tn.fac ((d0 : Int) - d1) ∧
    ∃ pr, tickToPrice tn t d0 d1 q0 = .ok pr ∧ 0 < pr ∧
      (q0 = false → Within ε 5 5 ((sqrtAt t : Rat) / q96Rat * ((sqrtAt t : Rat) / q96Rat) * tn.fac ((d0 : Int) - d1)) pr) ∧
      (q0 = true → Within ε 6 11 (1 / ((sqrtAt t : Rat) / q96Rat * ((sqrtAt t : Rat) / q96Rat) * tn.fac ((d0 : Int) - d1))) pr) := by
  have hs := sqrtAt_pos_all t
  have hq := q96Rat_pos
  have hF := h.fac_pos ((d0 : Int) - d1)
  have hT : 0 < (sqrtAt t : Rat) / q96Rat * ((sqrtAt t : Rat) / q96Rat) * tn.fac ((d0 : Int) - d1) := by positivity
  obtain ⟨pr, e, f1, f2⟩ := invIf_rel h q0 hT (pool_rel h (sqrtAt t) ((d0 : Int) - d1))
  refine ⟨hT, pr, by rw [tickToPrice_of_range tn t h1 h2]; exact e, ?_, f1, f2⟩
  cases q0 with
  | false => exact (f1 rfl).pos h.eps_lt_one hT
  | true => exact (f2 rfl).pos h.eps_lt_one (one_div_pos.2 hT)

theorem pool_le_of_sq_le {A F sp S c u k : Rat} (hF : 0 < F) (b : (S * c) ^ 2 ≤ (sp * u) ^ 2) (hsp : sp ^ 2 ≤ A / F * k) :
    S * S * F * c ^ 2 ≤ A * (k * u ^ 2) :=
  calc S * S * F * c ^ 2 = (S * c) ^ 2 * F := by ring
    _ ≤ (sp * u) ^ 2 * F := mul_le_mul_of_nonneg_right b hF.le
    _ = sp ^ 2 * (u ^ 2 * F) := by ring
    _ ≤ A / F * k * (u ^ 2 * F) := mul_le_mul_of_nonneg_right hsp (mul_nonneg (sq_nonneg u) hF.le)
    _ = A * (k * u ^ 2) := by rw [div_mul_mul_swap, div_mul_cancel₀ A hF.ne']

theorem le_pool_of_sq_le {A F sp S C v k : Rat} (hF : 0 < F) (b : (sp * v) ^ 2 ≤ (S * C) ^ 2) (hsp : A / F * k ≤ sp ^ 2) :
    A * (k * v ^ 2) ≤ S * S * F * C ^ 2 :=
  calc A * (k * v ^ 2) = A / F * k * (v ^ 2 * F) := by rw [div_mul_mul_swap, div_mul_cancel₀ A hF.ne']
    _ ≤ sp ^ 2 * (v ^ 2 * F) := mul_le_mul_of_nonneg_right hsp (mul_nonneg (sq_nonneg v) hF.le)
    _ = (sp * v) ^ 2 * F := by ring
    _ ≤ (S * C) ^ 2 * F := mul_le_mul_of_nonneg_right b hF.le
    _ = S * S * F * C ^ 2 := by ring

/-- Any tick whose sqrt prices bracket the Decimal sqrt price of `p` has prices that bracket `p`.  `sp` is what
    `priceToSqrt` computes (four roundings from the oriented price); the bracket is on squares, `(S r·c)² ≤ (sp·u)²` and
    `(sp·v)² ≤ (S (r+1)·C)²` with `S t = sqrtAt t / 2^96`.  The integer-corrected route has `c = C = 1`, `u, v = 1 ± ε`; the
    float-logarithm route `c, C = 1 ∓ 10⁻⁹` (closeness, `2⁻³⁰` rounded up) and `u, v = 1 ± 10⁻⁹` (the logarithm). -/
theorem prices_of_sqrt_bracket (h : Approx tn ε) (p : Rat) (hp : 0 < p) (d0 d1 : Nat) (q0 : Bool) :
    ∃ sp, priceToSqrt tn p d0 d1 q0 = .ok sp ∧ 0 < sp ∧
    ∀ (r : Int) (c C u v : Rat), minTick ≤ r → r < maxTick →
      ((sqrtAt r : Rat) / q96Rat * c) ^ 2 ≤ (sp * u) ^ 2 → (sp * v) ^ 2 ≤ ((sqrtAt (r + 1) : Rat) / q96Rat * C) ^ 2 →
      ∃ pl ph, tickToPrice tn r d0 d1 q0 = .ok pl ∧ tickToPrice tn (r + 1) d0 d1 q0 = .ok ph ∧ 0 < pl ∧ 0 < ph ∧
        (q0 = false → pl * c ^ 2 ≤ p * ((1 + ε) ^ 9 * u ^ 2) ∧ p * ((1 - ε) ^ 9 * v ^ 2) ≤ ph * C ^ 2) ∧
        (q0 = true → p * (c ^ 2 * (1 - ε) ^ 6) ≤ pl * ((1 + ε) ^ 4 * u ^ 2) ∧
                     ph * ((1 - ε) ^ 4 * v ^ 2) ≤ p * (C ^ 2 * (1 + ε) ^ 11)) := by
  have h0 := h.eps_nonneg
  have h1 := h.eps_le_one
  have hs := h.one_sub_pos
  have ha := h.one_add_pos
  have hF : 0 < tn.fac ((d0 : Int) - d1) := h.fac_pos _
  obtain ⟨sp, esp, sp0, ⟨spl, spu⟩⟩ := priceToSqrt_bounds h p hp d0 d1 q0
  have hsp2 : 0 < sp ^ 2 := lt_of_lt_of_le (by positivity) spl
  have hsp : 0 < sp := lt_of_le_of_ne sp0 (sq_pos_iff.1 hsp2).symm
  refine ⟨sp, esp, hsp, fun r c C u v r1 r2 b1 b2 => ?_⟩
  -- the exact pool prices `T r`, `T (r+1)` bracket the oriented price `A = 1/p` or `p` (`T r·c² ≤ A·U`, `A·V ≤ T (r+1)·C²`);
  -- from `T` to the price of the tick it is five roundings, six and eleven when the orientation inverts it
  have kU := pool_le_of_sq_le hF b1 spu
  have kV := le_pool_of_sq_le hF b2 spl
  have hU : 0 ≤ (1 + ε) ^ 4 * u ^ 2 := mul_nonneg (pow_nonneg ha.le 4) (sq_nonneg u)
  have hV : 0 ≤ (1 - ε) ^ 4 * v ^ 2 := mul_nonneg (pow_nonneg hs.le 4) (sq_nonneg v)
  obtain ⟨hT0, pl, epl, hpl, fl1, fl2⟩ := tickToPrice_rel h r r1 (by omega) d0 d1 q0
  obtain ⟨hT1, ph, eph, hph, fh1, fh2⟩ := tickToPrice_rel h (r + 1) (by omega) (by omega) d0 d1 q0
  refine ⟨pl, ph, epl, eph, hpl, hph, ?_, ?_⟩
  · rintro rfl
    rw [if_neg Bool.false_ne_true] at kU kV
    have a := (fl1 rfl).mul_le h0 (sq_nonneg c) kU
    have b := (fh1 rfl).le_mul h1 (sq_nonneg C) kV
    rw [mul_right_comm, ← pow_add] at a b
    exact ⟨a, b⟩
  · rintro rfl
    rw [if_pos rfl] at kU kV
    exact ⟨(fl2 rfl).le_mul h1 hU (inv_bracket_le hp hT0 kU), (fh2 rfl).mul_le h0 hV (inv_bracket_ge hp hT1 kV)⟩

end Demeter.TickInv
