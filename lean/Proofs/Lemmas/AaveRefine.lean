/-
  The projection `proj env s : AaveRisk.Portfolio` of a state of the cache-carrying state machine (`Demeter.Aave`)
  onto the pure risk model (`Demeter.AaveRisk`): every entry with its token's row of the bar.  What the state machine's
  reads return in a coherent state (`Good`) is what the risk model computes on the projected portfolio: the value
  dictionaries, the risk figures and listings (`run_*`, each a `Reads` fact run in a frame by `Reads.runAt`), the pair
  selection of the liquidation loop.  Everything holds for every arithmetic context.
-/
import Proofs.Lemmas.AaveReadSpec
import Demeter.AaveRisk
namespace Demeter.Aave
open Demeter M

def rowOf (env : Env) (k : String) : AaveRisk.Row :=
  match AList.get? env.status k, AList.get? env.price k, AList.get? env.risk k with
  | some st, some p, some r =>
    { liqIndex := st.liqIdx, borIndex := st.varIdx, price := p, ltv := r.ltv, lt := r.lt, bonus := r.bonus,
      canColl := r.canColl, canBorrow := r.canBorrow }
  | _, _, _ => { liqIndex := 0, borIndex := 0, price := 0, ltv := 0, lt := 0, bonus := 0, canColl := false, canBorrow := false }

def projSup (env : Env) (p : String × SupplyInfo) : AaveRisk.Supply :=
  { tok := p.1, base := p.2.base, coll := p.2.coll, row := rowOf env p.1 }
def projBor (env : Env) (p : String × BorrowInfo) : AaveRisk.Debt :=
  { tok := p.1, base := p.2.base, row := rowOf env p.1 }

def projPos (env : Env) (sup : AList String SupplyInfo) (bor : AList String BorrowInfo) : AaveRisk.Portfolio :=
  { supplies := sup.map (projSup env), debts := bor.map (projBor env) }
def proj (env : Env) (s : St) : AaveRisk.Portfolio := projPos env s.supplies s.borrows

def toX : AaveRisk.XRat → XRat
  | some r => .fin r
  | none => .inf

variable {cx : ACtx} {env : Env}

theorem proj_supplies (s : St) : (proj env s).supplies = s.supplies.map (projSup env) := rfl
theorem proj_debts (s : St) : (proj env s).debts = s.borrows.map (projBor env) := rfl
theorem proj_debts_length (s : St) : (proj env s).debts.length = s.borrows.length := List.length_map _
theorem projSup_coll (p : String × SupplyInfo) : (projSup env p).coll = p.2.coll := rfl
theorem projSup_base (p : String × SupplyInfo) : (projSup env p).base = p.2.base := rfl

theorem rowOf_eq {k : String} {st : TokStatus} {p : Rat} {r : Risk}
    (h1 : env.statusOf k = .ok st) (h2 : env.priceOf k = .ok p) (h3 : env.riskOf k = .ok r) :
    rowOf env k = ⟨st.liqIdx, st.varIdx, p, r.ltv, r.lt, r.bonus, r.canColl, r.canBorrow⟩ := by
  unfold rowOf
  simp only [optRes_eq_ok.mp h1, optRes_eq_ok.mp h2, optRes_eq_ok.mp h3]

theorem supValOf_proj {k : String} (hd : HasData env k) (info : SupplyInfo) :
    supValOf cx env k info = .ok ((projSup env (k, info)).value cx.toNumCtx) := by
  obtain ⟨⟨st, h1⟩, ⟨p, h2⟩, ⟨r, h3⟩⟩ := hd
  unfold supValOf projSup AaveRisk.Supply.value AaveRisk.Supply.amount
  rw [h1, h2, rowOf_eq h1 h2 h3]; rfl

theorem borValOf_proj {k : String} (hd : HasData env k) (info : BorrowInfo) :
    borValOf cx env k info = .ok ((projBor env (k, info)).value cx.toNumCtx) := by
  obtain ⟨⟨st, h1⟩, ⟨p, h2⟩, ⟨r, h3⟩⟩ := hd
  unfold borValOf projBor AaveRisk.Debt.value AaveRisk.Debt.amount
  rw [h1, h2, rowOf_eq h1 h2 h3]; rfl

theorem scratchMap_map {ν μ : Type} {f : String → ν → Res μ} {g : String × ν → μ} :
    ∀ (m : AList String ν), (∀ p ∈ m, f p.1 p.2 = .ok (g p)) → scratchMap f m = .ok (m.map (fun p => (p.1, g p)))
  | [], _ => rfl
  | (k, v) :: rest, h => by
    rw [scratchMap_cons_ok (h (k, v) (List.mem_cons_self ..)) (scratchMap_map rest (fun p hp => h p (List.mem_cons_of_mem _ hp)))]
    rfl

def collVals (cx : ACtx) (env : Env) (sup : AList String SupplyInfo) : AList String Rat :=
  (collEntries sup).map (fun p => (p.1, (projSup env p).value cx.toNumCtx))
def supVals (cx : ACtx) (env : Env) (sup : AList String SupplyInfo) : AList String Rat :=
  sup.map (fun p => (p.1, (projSup env p).value cx.toNumCtx))
def borVals (cx : ACtx) (env : Env) (bor : AList String BorrowInfo) : AList String Rat :=
  bor.map (fun p => (p.1, (projBor env p).value cx.toNumCtx))

theorem specSupAmt_proj {sup : AList String SupplyInfo} (cv : Covers env sup) :
    specSupAmt cx env sup = .ok (sup.map (fun p => (p.1, (projSup env p).value cx.toNumCtx))) :=
  scratchMap_map sup (fun p hp => supValOf_proj (cv p.1 (AList.mem_keys_of_mem hp)) p.2)

theorem specBorAmt_proj {bor : AList String BorrowInfo} (cv : Covers env bor) :
    specBorAmt cx env bor = .ok (borVals cx env bor) :=
  scratchMap_map bor (fun p hp => borValOf_proj (cv p.1 (AList.mem_keys_of_mem hp)) p.2)

theorem specColl_proj {sup : AList String SupplyInfo} (cv : Covers env sup) :
    specColl cx env sup = .ok (collVals cx env sup) :=
  scratchMap_map _ (fun p hp => supValOf_proj (cv p.1 (AList.mem_keys_of_mem (collEntries_sub hp))) p.2)

theorem collaterals_proj (sup : AList String SupplyInfo) (bor : AList String BorrowInfo) :
    AaveRisk.collaterals (projPos env sup bor) = (collEntries sup).map (projSup env) := by
  unfold AaveRisk.collaterals projPos collEntries
  simp only [List.filter_map]
  rfl

theorem mapM_eq_map {α β : Type} {f : α → Res β} {g : α → β} :
    ∀ (l : List α), (∀ a ∈ l, f a = .ok (g a)) → l.mapM f = .ok (l.map g)
  | [], _ => rfl
  | a :: rest, h => by
    rw [List.mapM_cons, h a (List.mem_cons_self ..), mapM_eq_map rest (fun b hb => h b (List.mem_cons_of_mem _ hb))]
    rfl

theorem foldlM_eq_foldl {α β : Type} {f : β → α → Res β} {g : β → α → β} :
    ∀ (l : List α) (b : β), (∀ a ∈ l, ∀ b, f b a = .ok (g b a)) → l.foldlM f b = .ok (l.foldl g b)
  | [], _, _ => rfl
  | a :: rest, b, h => by
    rw [List.foldlM_cons, h a (List.mem_cons_self ..) b]
    exact foldlM_eq_foldl rest (g b a) (fun x hx => h x (List.mem_cons_of_mem _ hx))

theorem toX_safeDiv (a b : Rat) : toX (AaveRisk.safeDiv cx.toNumCtx a b) = safeDiv cx a b := by
  unfold AaveRisk.safeDiv safeDiv
  by_cases h : b = 0 <;> simp [h, toX]

theorem dsum_eq (xs : List Rat) : dsum cx xs = AaveRisk.dsum cx.toNumCtx xs := rfl

theorem vals_collVals (sup : AList String SupplyInfo) (bor : AList String BorrowInfo) :
    vals (collVals cx env sup) = (AaveRisk.collaterals (projPos env sup bor)).map (·.value cx.toNumCtx) := by
  rw [collaterals_proj]; unfold vals collVals; simp [List.map_map, Function.comp_def]

theorem vals_borVals (sup : AList String SupplyInfo) (bor : AList String BorrowInfo) :
    vals (borVals cx env bor) = (projPos env sup bor).debts.map (·.value cx.toNumCtx) := by
  unfold vals borVals projPos; simp [List.map_map, Function.comp_def]

theorem vals_supVals (sup : AList String SupplyInfo) (bor : AList String BorrowInfo) :
    vals (supVals cx env sup) = (projPos env sup bor).supplies.map (·.value cx.toNumCtx) := by
  unfold vals supVals projPos; simp [List.map_map, Function.comp_def]

theorem totalColl_proj (sup : AList String SupplyInfo) (bor : AList String BorrowInfo) :
    dsum cx (vals (collVals cx env sup)) = AaveRisk.totalCollateral cx.toNumCtx (projPos env sup bor) := by
  rw [vals_collVals sup bor]; rfl

theorem totalDebt_proj (sup : AList String SupplyInfo) (bor : AList String BorrowInfo) :
    dsum cx (vals (borVals cx env bor)) = AaveRisk.totalDebt cx.toNumCtx (projPos env sup bor) := by
  rw [vals_borVals sup bor]; rfl

theorem hfOf_proj {sup : AList String SupplyInfo} (bor : AList String BorrowInfo) (cv : Covers env sup) :
    hfOf cx env (collVals cx env sup) (borVals cx env bor) =
      .ok (toX (AaveRisk.healthFactor cx.toNumCtx (projPos env sup bor))) := by
  unfold hfOf
  rw [mapM_eq_map (g := fun q => cx.mul q.2 (rowOf env q.1).lt)]
  · show Except.ok _ = _
    congr 1
    unfold AaveRisk.healthFactor
    rw [toX_safeDiv, totalDebt_proj sup bor]
    congr 1
    unfold AaveRisk.weightedLt
    rw [collaterals_proj, dsum_eq]
    congr 1
    unfold collVals; simp [List.map_map, Function.comp_def, projSup]
  · intro q hq
    obtain ⟨p, hp, rfl⟩ := List.mem_map.mp hq
    obtain ⟨⟨st, h1⟩, ⟨pr, h2⟩, ⟨r, h3⟩⟩ := cv p.1 (AList.mem_keys_of_mem (collEntries_sub hp))
    simp only [h3, rowOf_eq h1 h2 h3]; rfl

theorem maxLtvOf_proj {sup : AList String SupplyInfo} (bor : AList String BorrowInfo) (cv : Covers env sup) :
    maxLtvOf cx env (collVals cx env sup) = .ok (toX (AaveRisk.maxLtv cx.toNumCtx (projPos env sup bor))) := by
  unfold maxLtvOf
  rw [foldlM_eq_foldl (g := fun acc q => cx.add acc (cx.mul q.2 (rowOf env q.1).ltv))]
  · show Except.ok _ = _
    congr 1
    unfold AaveRisk.maxLtv
    rw [toX_safeDiv, totalColl_proj sup bor]
    congr 1
    unfold AaveRisk.weightedLtv AaveRisk.dsum
    rw [collaterals_proj]
    unfold collVals
    rw [List.foldl_map, List.foldl_map, List.foldl_map]
    rfl
  · intro q hq b
    obtain ⟨p, hp, rfl⟩ := List.mem_map.mp hq
    obtain ⟨⟨st, h1⟩, ⟨pr, h2⟩, ⟨r, h3⟩⟩ := cv p.1 (AList.mem_keys_of_mem (collEntries_sub hp))
    simp only [h3, rowOf_eq h1 h2 h3]; rfl

theorem Reads.runAt {α : Type} {m : M α} {spec : AList String SupplyInfo → AList String BorrowInfo → Res α}
    (hr : Reads cx env m spec) {x : Frame} {s : St} (h : At cx env x s) {r : Res α}
    (hsp : spec x.supplies x.borrows = r) : ∃ s', m s = (r, s') ∧ At cx env x s' := by
  obtain ⟨h1, h2⟩ := hr s
  have h3 := h2 h.1
  rw [h.sup, h.bor, hsp] at h3
  exact ⟨(m s).2, Prod.ext h3 rfl, h1.at h⟩

theorem specHealthFactor_proj {sup : AList String SupplyInfo} {bor : AList String BorrowInfo}
    (c1 : Covers env sup) (c2 : Covers env bor) :
    specHealthFactor cx env sup bor = .ok (toX (AaveRisk.healthFactor cx.toNumCtx (projPos env sup bor))) := by
  unfold specHealthFactor
  rw [specColl_proj c1, specBorAmt_proj c2]
  exact hfOf_proj bor c1

theorem specMaxLtv_proj {sup : AList String SupplyInfo} (bor : AList String BorrowInfo) (c1 : Covers env sup) :
    specMaxLtv cx env sup = .ok (toX (AaveRisk.maxLtv cx.toNumCtx (projPos env sup bor))) := by
  unfold specMaxLtv
  rw [specColl_proj c1]
  exact maxLtvOf_proj bor c1

theorem At.cvS {x : Frame} {s : St} (h : At cx env x s) : Covers env x.supplies := h.sup ▸ h.1.1.cv
theorem At.cvB {x : Frame} {s : St} (h : At cx env x s) : Covers env x.borrows := h.bor ▸ h.1.2.cv
theorem At.ndS {x : Frame} {s : St} (h : At cx env x s) : (keys x.supplies).Nodup := h.sup ▸ h.1.1.nd
theorem At.ndB {x : Frame} {s : St} (h : At cx env x s) : (keys x.borrows).Nodup := h.bor ▸ h.1.2.nd

theorem Good.at {s : St} (hs : Good cx env s) : At cx env s.frame s := ⟨hs, rfl⟩

theorem run_healthFactor {s0 s : St} (h : At cx env s0.frame s) :
    ∃ s', healthFactor cx env s = (.ok (toX (AaveRisk.healthFactor cx.toNumCtx (proj env s0))), s') ∧
      At cx env s0.frame s' :=
  reads_healthFactor.runAt h (specHealthFactor_proj h.cvS h.cvB)

theorem run_maxLtv {s0 s : St} (h : At cx env s0.frame s) :
    ∃ s', maxLtv cx env s = (.ok (toX (AaveRisk.maxLtv cx.toNumCtx (proj env s0))), s') ∧ At cx env s0.frame s' :=
  reads_maxLtv.runAt h (specMaxLtv_proj s0.borrows h.cvS)

theorem run_collateralValue {s0 s : St} (h : At cx env s0.frame s) :
    ∃ s', collateralValue cx env s = (.ok (collVals cx env s0.supplies), s') ∧ At cx env s0.frame s' :=
  reads_collateralValue.runAt h (specColl_proj h.cvS)

theorem run_borrowsValue {x : Frame} {s : St} (h : At cx env x s) :
    ∃ s', borrowsValue cx env s = (.ok (borVals cx env x.borrows), s') ∧ At cx env x s' :=
  reads_borrowsValue.runAt h (specBorAmt_proj h.cvB)

def stOf (env : Env) (k : String) : TokStatus :=
  match AList.get? env.status k with
  | some st => st
  | none => ⟨0, 0, 0, 0⟩

theorem stOf_eq {k : String} {st : TokStatus} (h : env.statusOf k = .ok st) : stOf env k = st := by
  unfold stOf; rw [optRes_eq_ok.mp h]

def borViewOf (cx : ACtx) (env : Env) (p : String × BorrowInfo) : BorrowV :=
  { base := p.2.base, amount := (projBor env p).amount cx.toNumCtx, apy := rateToApy cx (stOf env p.1).varRate,
    value := (projBor env p).value cx.toNumCtx, beginIdx := p.2.beginIdx }

def supViewOf (cx : ACtx) (env : Env) (p : String × SupplyInfo) : SupplyV :=
  { base := p.2.base, coll := p.2.coll, amount := (projSup env p).amount cx.toNumCtx,
    apy := rateToApy cx (stOf env p.1).liqRate, value := (projSup env p).value cx.toNumCtx, beginIdx := p.2.beginIdx }

theorem totalDebt_views (sup : AList String SupplyInfo) (bor : AList String BorrowInfo) :
    dsum cx ((vals (bor.map (fun p => (p.1, borViewOf cx env p)))).map (·.value)) =
      AaveRisk.totalDebt cx.toNumCtx (projPos env sup bor) := by
  unfold vals AaveRisk.totalDebt projPos
  simp only [List.map_map, Function.comp_def, borViewOf]
  rfl

theorem specBorrowOf_proj {k : String} (hd : HasData env k) (info : BorrowInfo) :
    specBorrowOf cx env k info = .ok (borViewOf cx env (k, info)) := by
  have hv := borValOf_proj (cx := cx) hd info
  obtain ⟨⟨st, h1⟩, ⟨p, h2⟩, ⟨r, h3⟩⟩ := hd
  unfold specBorrowOf borViewOf
  rw [h1, hv]
  simp only [stOf_eq h1, projBor, AaveRisk.Debt.amount, rowOf_eq h1 h2 h3]
  rfl

theorem specSupplyOf_proj {k : String} (hd : HasData env k) (info : SupplyInfo) :
    specSupplyOf cx env k info = .ok (supViewOf cx env (k, info)) := by
  have hv := supValOf_proj (cx := cx) hd info
  obtain ⟨⟨st, h1⟩, ⟨p, h2⟩, ⟨r, h3⟩⟩ := hd
  unfold specSupplyOf supViewOf
  rw [h1, hv]
  simp only [stOf_eq h1, projSup, AaveRisk.Supply.amount, rowOf_eq h1 h2 h3]
  rfl

theorem specBorrows_proj {bor : AList String BorrowInfo} (cv : Covers env bor) :
    specBorrows cx env bor = .ok (bor.map (fun p => (p.1, borViewOf cx env p))) :=
  scratchMap_map bor (fun p hp => specBorrowOf_proj (cv p.1 (AList.mem_keys_of_mem hp)) p.2)

theorem specSupplies_proj {sup : AList String SupplyInfo} (cv : Covers env sup) :
    specSupplies cx env sup = .ok (sup.map (fun p => (p.1, supViewOf cx env p))) :=
  scratchMap_map sup (fun p hp => specSupplyOf_proj (cv p.1 (AList.mem_keys_of_mem hp)) p.2)

theorem run_borrowsView {s0 s : St} (h : At cx env s0.frame s) :
    ∃ s', borrowsView cx env s = (.ok (s0.borrows.map (fun p => (p.1, borViewOf cx env p))), s') ∧
      At cx env s0.frame s' :=
  reads_borrowsView.runAt h (specBorrows_proj h.cvB)

theorem run_suppliesView {s0 s : St} (h : At cx env s0.frame s) :
    ∃ s', suppliesView cx env s = (.ok (s0.supplies.map (fun p => (p.1, supViewOf cx env p))), s') ∧
      At cx env s0.frame s' :=
  reads_suppliesView.runAt h (specSupplies_proj h.cvS)

theorem run_getBorrow {s0 s : St} (h : At cx env s0.frame s) {k : String} {info : BorrowInfo}
    (hk : AList.get? s0.borrows k = some info) :
    ∃ s', getBorrow cx env k s = (.ok (borViewOf cx env (k, info)), s') ∧ At cx env s0.frame s' := by
  refine (reads_getBorrow k).runAt h ?_
  unfold specGetBorrow
  rw [show AList.get? s0.frame.borrows k = some info from hk]
  exact specBorrowOf_proj (h.cvB k (aget_mem_keys hk)) info

theorem run_getSupply {s0 s : St} (h : At cx env s0.frame s) {k : String} {info : SupplyInfo}
    (hk : AList.get? s0.supplies k = some info) :
    ∃ s', getSupply cx env k s = (.ok (supViewOf cx env (k, info)), s') ∧ At cx env s0.frame s' := by
  refine (reads_getSupply k).runAt h ?_
  unfold specGetSupply
  rw [show AList.get? s0.frame.supplies k = some info from hk]
  exact specSupplyOf_proj (h.cvS k (aget_mem_keys hk)) info

/-- how the state machine's accumulator `(key | None, value)` encodes the risk model's `Option (entry × value)` -/
def debtAcc : Option (AaveRisk.Debt × Rat) → Option String × Rat
  | none => (none, Gen.aaveLiqSentinel)
  | some (d, v) => (some d.tok, v)

theorem pickDebt_proj (bor : AList String BorrowInfo) (done : List String) :
    pickDebt (bor.map (fun p => (p.1, borViewOf cx env p))) done =
      debtAcc (AaveRisk.pickDebt cx.toNumCtx (bor.map (projBor env)) done) := by
  unfold pickDebt AaveRisk.pickDebt
  rw [List.foldl_map, List.foldl_map]
  refine List.foldl_hom debtAcc (init := none) ?_
  intro acc p
  cases acc with
  | none =>
    simp only [debtAcc, Option.isNone_none, Bool.true_or, Bool.true_and]
    by_cases hc : p.1 ∈ done <;> simp [hc, projBor, borViewOf]
  | some q =>
    obtain ⟨d, m⟩ := q
    simp only [debtAcc, Option.isNone_some, Bool.false_or]
    by_cases hv : AaveRisk.Debt.value cx.toNumCtx { tok := p.1, base := p.2.base, row := rowOf env p.1 } ≤ m <;> by_cases hc : p.1 ∈ done <;>
      simp [hc, hv, projBor, borViewOf]

def collAcc (a : Option AaveRisk.Supply × Rat) : Option String × Rat := (a.1.map (·.tok), a.2)

theorem pickColl_proj (sup : AList String SupplyInfo) :
    pickColl (sup.map (fun p => (p.1, supViewOf cx env p))) =
      collAcc (AaveRisk.pickColl cx.toNumCtx (sup.map (projSup env))) := by
  unfold pickColl AaveRisk.pickColl
  rw [List.foldl_map, List.foldl_map]
  refine List.foldl_hom collAcc (init := (none, Gen.arLiqCollStart)) ?_
  rintro ⟨a, m⟩ p
  cases hc : p.2.coll
  · simp [hc, collAcc, projSup, supViewOf]
  · simp only [hc, collAcc, projSup, supViewOf, Bool.true_and, decide_eq_true_eq]
    split <;> rfl

end Demeter.Aave
