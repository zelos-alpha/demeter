/-
  Every public read is a move in any state, and in a coherent state returns the value recomputed from scratch (`specView`),
  whatever mixture of cold and filled caches it meets: the five cache-filling reads from `*_shape` / `*_run`, the other views by
  one walk each.
-/
import Proofs.Lemmas.AaveReads
namespace Demeter.Aave
open Demeter M

variable {cx : ACtx} {env : Env}

def Reads (cx : ACtx) (env : Env) {α : Type} (m : M α)
    (spec : AList String SupplyInfo → AList String BorrowInfo → Res α) : Prop :=
  ∀ s, Moved cx env s (m s).2 ∧ (Good cx env s → (m s).1 = spec s.supplies s.borrows)

section
variable {α β : Type}

theorem Reads.bind {m : M α} {f : α → M β} {sm : AList String SupplyInfo → AList String BorrowInfo → Res α}
    {sf : α → AList String SupplyInfo → AList String BorrowInfo → Res β}
    (hm : Reads cx env m sm) (hf : ∀ a, Reads cx env (f a) (sf a)) :
    Reads cx env (m >>= f) (fun sup bor => sm sup bor >>= fun a => sf a sup bor) := by
  intro s
  obtain ⟨h1, h2⟩ := hm s
  rcases hms : m s with ⟨r, s1⟩
  rw [hms] at h1 h2
  cases r with
  | ok a =>
    rw [run_bind_ok hms]
    obtain ⟨g1, g2⟩ := hf a s1
    refine ⟨h1.trans g1, fun hs => ?_⟩
    rw [g2 (h1.2 hs), h1.sup, h1.bor]
    show sf a s.supplies s.borrows = (sm s.supplies s.borrows >>= fun a => sf a s.supplies s.borrows)
    rw [← h2 hs]; rfl
  | error e =>
    rw [run_bind_err hms]
    refine ⟨h1, fun hs => ?_⟩
    show (Except.error e : Res β) = (sm s.supplies s.borrows >>= fun a => sf a s.supplies s.borrows)
    rw [← h2 hs]; rfl

theorem Reads.pure (a : α) : Reads cx env (pure a : M α) (fun _ _ => .ok a) := fun s => ⟨Moved.refl s, fun _ => rfl⟩
theorem Reads.ofRes (r : Res α) : Reads cx env (M.ofRes r) (fun _ _ => r) := fun s => ⟨Moved.refl s, fun _ => rfl⟩
theorem Reads.throw (e : Err) : Reads cx env (M.throw e : M α) (fun _ _ => .error e) := fun s => ⟨Moved.refl s, fun _ => rfl⟩
theorem Reads.queryPos (q : AList String SupplyInfo → AList String BorrowInfo → Res α) : Reads cx env (M.queryPos q) q :=
  fun s => ⟨Moved.refl s, fun _ => rfl⟩

theorem Reads.mapM' (f : α → β) {m : M α} {sm : AList String SupplyInfo → AList String BorrowInfo → Res α}
    (h : Reads cx env m sm) : Reads cx env (mapM' f m) (fun sup bor => f <$> sm sup bor) := by
  intro s
  obtain ⟨h1, h2⟩ := h s
  unfold Aave.mapM'
  rcases hms : m s with ⟨r, s1⟩
  rw [hms] at h1 h2
  dsimp only at h1 h2 ⊢
  cases r <;> exact ⟨h1, fun hs => by rw [← h2 hs]; rfl⟩

variable {m : M α} {spec : AList String SupplyInfo → AList String BorrowInfo → Res α}

theorem Reads.moved (h : Reads cx env m spec) (s0 : St) : Inv (Moved cx env s0) m := fun s hs => hs.trans (h s).1

theorem Reads.at (h : Reads cx env m spec) (x : Frame) : Inv (At cx env x) m := fun s hs => (h s).1.at hs

end

theorem Reads.of_run {α : Type} {m : M α} {spec : AList String SupplyInfo → AList String BorrowInfo → Res α}
    (hframe : ∀ s, (m s).2.frame = s.frame)
    (hrun : ∀ s, Good cx env s → ∃ a s', m s = (.ok a, s') ∧ spec s.supplies s.borrows = .ok a ∧ Good cx env s') :
    Reads cx env m spec := by
  intro s
  refine ⟨⟨hframe s, fun hs => ?_⟩, fun hs => ?_⟩ <;> obtain ⟨a, s', hm, ha, hg⟩ := hrun s hs <;> rw [hm]
  · exact hg
  · exact ha.symm

theorem reads_suppliesValue : Reads cx env (suppliesValue cx env) (fun sup _ => specSupAmt cx env sup) := by
  refine Reads.of_run (fun s => ?_) (fun s hs => ?_)
  · obtain ⟨c, h⟩ := suppliesValue_shape (cx := cx) (env := env) s
    rw [h]; rfl
  · obtain ⟨vs, hvs, hrun⟩ := suppliesValue_run hs.1.nd hs.1.cv hs.1.sa
    exact ⟨vs, _, hrun, hvs, ⟨hs.1.nd, hs.1.cv, CohC.of hvs, hs.1.co, hs.1.su⟩, hs.2.congr rfl rfl rfl⟩

theorem reads_borrowsValue : Reads cx env (borrowsValue cx env) (fun _ bor => specBorAmt cx env bor) := by
  refine Reads.of_run (fun s => ?_) (fun s hs => ?_)
  · obtain ⟨c, h⟩ := borrowsValue_shape (cx := cx) (env := env) s
    rw [h]; rfl
  · obtain ⟨vs, hvs, hrun⟩ := borrowsValue_run hs.2.nd hs.2.cv hs.2.ba
    exact ⟨vs, _, hrun, hvs, hs.1.congr rfl rfl rfl rfl, ⟨hs.2.nd, hs.2.cv, CohC.of hvs, hs.2.bo⟩⟩

theorem reads_collateralValue : Reads cx env (collateralValue cx env) (fun sup _ => specColl cx env sup) := by
  refine Reads.of_run (fun s => ?_) (fun s hs => ?_)
  · obtain ⟨c, c', h⟩ := collateralValue_shape (cx := cx) (env := env) s
    rw [h]; rfl
  · obtain ⟨cs, c', hcs, hc', hrun⟩ := collateralValue_run hs.1.nd hs.1.cv hs.1.sa hs.1.co
    exact ⟨cs, _, hrun, hcs, ⟨hs.1.nd, hs.1.cv, hc', CohC.of hcs, hs.1.su⟩, hs.2.congr rfl rfl rfl⟩

theorem reads_suppliesView : Reads cx env (suppliesView cx env) (fun sup _ => specSupplies cx env sup) := by
  refine Reads.of_run (fun s => ?_) (fun s hs => ?_)
  · obtain ⟨c, c', h⟩ := suppliesView_shape (cx := cx) (env := env) s
    rw [h]; rfl
  · obtain ⟨svs, c', hsvs, hc', hrun⟩ := suppliesView_run hs.1.nd hs.1.cv hs.1.sa hs.1.su
    exact ⟨svs, _, hrun, hsvs, ⟨hs.1.nd, hs.1.cv, hc', hs.1.co, CohC.of hsvs⟩, hs.2.congr rfl rfl rfl⟩

theorem reads_borrowsView : Reads cx env (borrowsView cx env) (fun _ bor => specBorrows cx env bor) := by
  refine Reads.of_run (fun s => ?_) (fun s hs => ?_)
  · obtain ⟨c, c', h⟩ := borrowsView_shape (cx := cx) (env := env) s
    rw [h]; rfl
  · obtain ⟨bvs, c', hbvs, hc', hrun⟩ := borrowsView_run hs.2.nd hs.2.cv hs.2.ba hs.2.bo
    exact ⟨bvs, _, hrun, hbvs, hs.1.congr rfl rfl rfl rfl, ⟨hs.2.nd, hs.2.cv, hc', CohC.of hbvs⟩⟩

theorem reads_getSupply (k : String) : Reads cx env (getSupply cx env k) (fun sup _ => specGetSupply cx env sup k) := by
  intro s
  refine ⟨Inv.getSupply (reads_suppliesValue.moved s) k s (Moved.refl s), fun hs => ?_⟩
  cases hk : AList.get? s.supplies k with
  | none =>
    unfold getSupply specGetSupply
    rw [run_bind_err (e := .keySupply) (s' := s) (by simp [hk, optRes])]
    simp [hk, optRes]
    rfl
  | some info =>
    obtain ⟨sv, vs, h1, _, hrun⟩ := getSupply_run hs.1.nd hs.1.cv hs.1.sa hk
    rw [hrun]
    unfold specGetSupply
    simp only [hk, optRes]
    exact h1.symm

theorem reads_getBorrow (k : String) : Reads cx env (getBorrow cx env k) (fun _ bor => specGetBorrow cx env bor k) := by
  intro s
  refine ⟨Inv.getBorrow (reads_borrowsValue.moved s) k s (Moved.refl s), fun hs => ?_⟩
  cases hk : AList.get? s.borrows k with
  | none =>
    unfold getBorrow specGetBorrow
    rw [run_bind_err (e := .keyBorrow) (s' := s) (by simp [hk, optRes])]
    simp [hk, optRes]
    rfl
  | some info =>
    obtain ⟨bv, vs, h1, _, hrun⟩ := getBorrow_run hs.2.nd hs.2.cv hs.2.ba hk
    rw [hrun]
    unfold specGetBorrow
    simp only [hk, optRes]
    exact h1.symm

theorem reads_totalSupplyValue : Reads cx env (totalSupplyValue cx env) (fun sup _ => specTotalSupply cx env sup) :=
  Reads.bind reads_suppliesValue (fun _ => Reads.pure _)

theorem reads_totalCollateralValue : Reads cx env (totalCollateralValue cx env) (fun sup _ => specTotalColl cx env sup) :=
  Reads.bind reads_collateralValue (fun _ => Reads.pure _)

theorem reads_totalBorrowsValue : Reads cx env (totalBorrowsValue cx env) (fun _ bor => specTotalBorrows cx env bor) :=
  Reads.bind reads_borrowsValue (fun _ => Reads.pure _)

theorem reads_healthFactor : Reads cx env (healthFactor cx env) (fun sup bor => specHealthFactor cx env sup bor) :=
  Reads.bind reads_collateralValue (fun _ => Reads.bind reads_borrowsValue (fun _ => Reads.ofRes _))

theorem reads_maxLtv : Reads cx env (maxLtv cx env) (fun sup _ => specMaxLtv cx env sup) :=
  Reads.bind reads_collateralValue (fun _ => Reads.ofRes _)

theorem reads_liquidationThreshold :
    Reads cx env (liquidationThreshold cx env) (fun sup _ => specLiqThreshold cx env sup) :=
  Reads.bind reads_collateralValue (fun _ => Reads.ofRes _)

theorem reads_ltvView : Reads cx env (ltvView cx env) (fun sup bor => specLtv cx env sup bor) := by
  unfold ltvView specLtv
  refine Reads.bind reads_totalSupplyValue (fun ts => ?_)
  by_cases h : ts = 0
  · simp only [h, if_true]; exact Reads.pure _
  · simp only [h, if_false]
    exact Reads.bind reads_totalBorrowsValue (fun _ => Reads.bind reads_totalSupplyValue (fun _ => Reads.pure _))

theorem reads_supplyApy : Reads cx env (supplyApy cx env) (fun sup _ => specSupplyApy cx env sup) :=
  Reads.bind reads_suppliesView (fun _ => Reads.bind (Reads.ofRes _) (fun _ =>
    Reads.bind reads_suppliesValue (fun _ => Reads.ofRes _)))

theorem reads_borrowApy : Reads cx env (borrowApy cx env) (fun _ bor => specBorrowApy cx env bor) :=
  Reads.bind (Reads.queryPos _) (fun _ => Reads.bind reads_borrowsValue (fun _ => Reads.ofRes _))

theorem reads_totalApy : Reads cx env (totalApy cx env) (fun sup bor => specTotalApy cx env sup bor) :=
  Reads.bind reads_totalSupplyValue (fun _ => Reads.bind reads_totalBorrowsValue (fun _ =>
    Reads.bind reads_supplyApy (fun _ => Reads.bind reads_borrowApy (fun _ => Reads.pure _))))

theorem reads_marketBalance : Reads cx env (marketBalance cx env) (fun sup bor => specBalance cx env sup bor) :=
  Reads.bind reads_totalSupplyValue (fun _ => Reads.bind (Reads.ofRes _) (fun _ =>
  Reads.bind reads_totalBorrowsValue (fun _ => Reads.bind (Reads.ofRes _) (fun _ =>
  Reads.bind reads_supplyApy (fun _ => Reads.bind (Reads.ofRes _) (fun _ =>
  Reads.bind reads_borrowApy (fun _ => Reads.bind (Reads.ofRes _) (fun _ =>
  Reads.bind (Reads.queryPos _) (fun _ =>
  Reads.bind reads_liquidationThreshold (fun _ => Reads.bind (Reads.ofRes _) (fun _ =>
  Reads.bind reads_healthFactor (fun _ => Reads.bind (Reads.ofRes _) (fun _ =>
  Reads.bind reads_totalCollateralValue (fun _ => Reads.bind (Reads.ofRes _) (fun _ =>
  Reads.bind reads_maxLtv (fun _ => Reads.bind (Reads.ofRes _) (fun _ =>
  Reads.bind reads_ltvView (fun _ => Reads.pure _))))))))))))))))))

theorem reads_maxBorrowAmount (k : String) :
    Reads cx env (maxBorrowAmount cx env k) (fun sup bor => specMaxBorrowAmount cx env sup bor k) := by
  unfold maxBorrowAmount specMaxBorrowAmount
  refine Reads.bind reads_collateralValue (fun cv => Reads.bind reads_borrowsValue (fun bv =>
    Reads.bind (Reads.ofRes _) (fun ml => ?_)))
  cases ml with
  | inf => exact Reads.throw _
  | fin l => exact Reads.bind (Reads.ofRes _) (fun _ => Reads.ofRes _)

theorem reads_readView (v : View) : Reads cx env (readView cx env v) (fun sup bor => specView cx env sup bor v) := by
  cases v <;> unfold readView specView
  case suppliesValue => exact Reads.mapM' _ reads_suppliesValue
  case totalSupplyValue => exact Reads.mapM' _ reads_totalSupplyValue
  case collateralValue => exact Reads.mapM' _ reads_collateralValue
  case totalCollateralValue => exact Reads.mapM' _ reads_totalCollateralValue
  case borrowsValue => exact Reads.mapM' _ reads_borrowsValue
  case totalBorrowsValue => exact Reads.mapM' _ reads_totalBorrowsValue
  case supplies => exact Reads.mapM' _ reads_suppliesView
  case borrows => exact Reads.mapM' _ reads_borrowsView
  case liquidationThreshold => exact Reads.mapM' _ reads_liquidationThreshold
  case maxLtv => exact Reads.mapM' _ reads_maxLtv
  case ltv => exact Reads.mapM' _ reads_ltvView
  case healthFactor => exact Reads.mapM' _ reads_healthFactor
  case supplyApy => exact Reads.mapM' _ reads_supplyApy
  case borrowApy => exact Reads.mapM' _ reads_borrowApy
  case totalApy => exact Reads.mapM' _ reads_totalApy
  case marketBalance => exact Reads.mapM' _ reads_marketBalance
  case getSupply k => exact Reads.mapM' _ (reads_getSupply k)
  case getBorrow k => exact Reads.mapM' _ (reads_getBorrow k)
  case maxBorrowAmount k => exact Reads.mapM' _ (reads_maxBorrowAmount k)

theorem mapM_res_ok {α β : Type} {f : α → Res β} : ∀ {l : List α}, (∀ a ∈ l, ∃ b, f a = .ok b) → ∃ bs, l.mapM f = .ok bs := by
  intro l
  induction l with
  | nil => intro _; exact ⟨[], rfl⟩
  | cons a l ih =>
    intro h
    obtain ⟨b, hb⟩ := h a (List.mem_cons_self ..)
    obtain ⟨bs, hbs⟩ := ih (fun x hx => h x (List.mem_cons_of_mem _ hx))
    exact ⟨b :: bs, by rw [List.mapM_cons, hb, hbs]; rfl⟩

theorem hfOf_ok {colls bors : AList String Rat} (h : Covers env colls) : ∃ x, hfOf cx env colls bors = .ok x := by
  unfold hfOf
  obtain ⟨ts, hts⟩ := mapM_res_ok (f := fun (p : String × Rat) => do let r ← env.riskOf p.1; pure (cx.mul p.2 r.lt))
    (l := colls) (by
      intro p hp
      obtain ⟨_, _, ⟨r, hr⟩⟩ := h p.1 (AList.mem_keys_of_mem hp)
      exact ⟨cx.mul p.2 r.lt, by rw [hr]; rfl⟩)
  rw [hts]
  exact ⟨_, rfl⟩

theorem specHealthFactor_ok {sup : AList String SupplyInfo} {bor : AList String BorrowInfo}
    (h1 : Covers env sup) (h2 : Covers env bor) : ∃ x, specHealthFactor cx env sup bor = .ok x := by
  obtain ⟨cs, hcs⟩ := specColl_ok (cx := cx) h1
  obtain ⟨bs, hbs⟩ := specBorAmt_ok (cx := cx) h2
  have hc : Covers env cs := by
    intro k hk
    rw [scratchMap_keys hcs] at hk
    obtain ⟨p, hp, rfl⟩ := List.mem_map.mp hk
    exact h1 p.1 (AList.mem_keys_of_mem (collEntries_sub hp))
  obtain ⟨x, hx⟩ := hfOf_ok (cx := cx) (bors := bs) hc
  exact ⟨x, by unfold specHealthFactor; rw [hcs, hbs]; exact hx⟩

theorem healthFactor_ok {s : St} (hs : Good cx env s) :
    ∃ v s', healthFactor cx env s = (.ok v, s') ∧ Good cx env s' ∧ s'.frame = s.frame := by
  obtain ⟨h1, h2⟩ := reads_healthFactor (cx := cx) (env := env) s
  obtain ⟨v, hv⟩ := specHealthFactor_ok (cx := cx) hs.1.cv hs.2.cv
  have h3 : (healthFactor cx env s).1 = specHealthFactor cx env s.supplies s.borrows := h2 hs
  rw [hv] at h3
  generalize healthFactor cx env s = x at h1 h3
  obtain ⟨r, s'⟩ := x
  exact ⟨v, s', by rw [show r = .ok v from h3], h1.2 hs, h1.1⟩

end Demeter.Aave
