/-
  GMX v1: every rejection path of `buy_glp` / `sell_glp` / `update` returns the state it was given — for every
  arithmetic context.
-/
import Demeter.GmxV1
namespace Demeter.Gmx
open Demeter Demeter.GmxV1

theorem buyGlp_reject {cx : NumCtx} {env : Env} {s s' : State} {tok : String} {dec : Nat} {a : Rat} {e : Err} {an : Bool}
    (h : buyGlp cx env s tok dec a an = (.error e, s')) : s' = s := by
  unfold buyGlp at h
  split at h
  · cases h; rfl
  · split at h
    · cases h; rfl
    · split at h <;> first | (cases h; rfl) | cases h

theorem sellGlp_reject {cx : NumCtx} {env : Env} {s s' : State} {tok : String} {dec : Nat} {ga : Rat} {e : Err}
    (h : sellGlp cx env s tok dec ga = (.error e, s')) : s' = s := by
  unfold sellGlp at h
  simp only [] at h
  generalize (if ga = 0 then s.glp else ga) = g at h
  split at h
  · cases h; rfl
  · split at h
    · cases h; rfl
    · split at h
      · cases h; rfl
      · cases h

theorem update_reject {cx : NumCtx} {env : Env} {s s' : State} {e : Err}
    (h : update cx env s = (.error e, s')) : s' = s := by
  unfold update at h
  simp only [] at h
  split at h
  · cases h; rfl
  · cases h

theorem step_reject {cx : NumCtx} {env : Env} {s s' : State} {op : Op} {e : Err} {an : Bool}
    (h : step cx env s op an = (.error e, s')) : s' = s := by
  cases op with
  | buy t d a => exact buyGlp_reject h
  | sell t d g => exact sellGlp_reject h
  | update => exact update_reject h

end Demeter.Gmx
