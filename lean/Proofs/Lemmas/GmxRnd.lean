/-
  Arithmetic contexts whose rounding has a bounded relative error (`Gmx.Rnd` is a `Rounds` of Lemmas/RelRnd with `ε ≤ 1/200`, so its
  rules apply as `H.step`, `H.upMul`, …; the exact context has error 0, CPython's 35-digit context `5·10⁻³⁵`): the rules for
  `quantize(ROUND_DOWN)` and `_collect_swap_fee`; and the rebate / tax formula of `get_fee_basis_points` under it: its value as
  one equation, and its range.
-/
import Proofs.Lemmas.Gmx
import Proofs.Lemmas.RelRnd
import Mathlib.Tactic.Ring
import Mathlib.Tactic.Positivity
import Mathlib.Tactic.NormNum
namespace Demeter.Gmx
open Demeter Demeter.GmxV1

theorem bps25 : ((Gen.gmxMintBurnFeeBps : Nat) : Rat) = 25 := by norm_num [Gen.gmxMintBurnFeeBps]
theorem bps60 : ((Gen.gmxTaxBps : Nat) : Rat) = 60 := by norm_num [Gen.gmxTaxBps]
theorem pricePrecision_cast : ((Gen.gmxPricePrecision : Nat) : Rat) = 10 ^ 30 := by norm_num [Gen.gmxPricePrecision]

def RndErr (cx : NumCtx) (ε : Rat) : Prop := RelRnd cx ε

variable {cx : NumCtx} {ε : Rat}

/-- a context as the GMX theorems take it: relative rounding error at most `ε ≤ 1/200` (what keeps the fee in range) -/
structure Rnd (cx : NumCtx) (ε : Rat) : Prop extends Rounds cx ε where
  e1 : ε ≤ 1 / 200

theorem rnd_exact : Rnd NumCtx.exact 0 := ⟨⟨RelRnd.exact, zero_le_one⟩, by norm_num⟩

theorem _root_.Demeter.UpTo.floor {j : Nat} {a b : Rat} (h : UpTo ε j a b) : UpTo ε j a (quantDown 0 b) :=
  h.of_le (quantDown0_nonneg h.1) (quantDown0_le h.1)

/-- deducting the fraction `f / D` of an amount, the deduction rounded twice and the difference once: while `2·f ≤ D` the
    deduction, its roundings included, stays below the amount, so the step only lowers it, up to the last rounding -/
theorem Rnd.upFee (H : Rnd cx ε) {j : Nat} {a B f D : Rat} (h0 : 0 ≤ f) (hD : 0 < D) (hfD : 2 * f ≤ D) (r : UpTo ε j B a) :
    UpTo ε (j + 1) B (cx.sub a (cx.div (cx.mul a f) D)) := by
  have ha := r.1
  obtain ⟨t0, t2⟩ : UpTo ε 2 (a * f / D) (cx.div (cx.mul a f) D) := H.upDiv hD.le (H.upMul h0 (.refl ha))
  have hle : cx.div (cx.mul a f) D ≤ a :=
    calc _ ≤ a * f / D * 2 := le_trans t2 (mul_le_mul_of_nonneg_left (by linarith [H.sq_le, H.e1]) (by positivity))
      _ = a * (2 * f / D) := by ring
      _ ≤ a := mul_le_of_le_one_right ha ((div_le_one hD).2 hfD)
  exact H.up (r.of_le (sub_nonneg.2 hle) (sub_le_self _ t0))

theorem afterFee_upTo (H : Rnd cx ε) {j : Nat} {a B f : Rat} (h0 : 0 ≤ f) (h1 : f ≤ 85) (r : UpTo ε j B a) :
    UpTo ε (j + 1) B (afterFee cx a f) :=
  H.upFee h0 (by norm_num [Gen.gmxBpsDivisor]) (by norm_num [Gen.gmxBpsDivisor]; linarith) r

theorem ite_gt_eq_sub_min (c x : Rat) : (if x > c then 0 else c - x) = c - min x c := by
  split
  · rw [min_eq_right (le_of_lt ‹_›), sub_self]
  · rw [min_eq_left (not_lt.mp ‹_›)]

theorem ite_gt_eq_max (c x : Rat) : (if x > c then 0 else c - x) = max 0 (c - x) := by
  rcases le_or_gt x c with h | h
  · rw [if_neg (not_lt.mpr h), max_eq_right (by linarith)]
  · rw [if_pos h, max_eq_left (by linarith)]

theorem _root_.Demeter.Rounds.near (H : Rounds cx ε) {x B : Rat} (hx : 0 ≤ x) (h : x ≤ B) : |cx.rnd x - x| ≤ B * ε := by
  obtain ⟨h1, h2⟩ := H.err x hx
  have := mul_le_mul_of_nonneg_right h H.eps_nonneg
  rw [abs_le]; constructor <;> linarith

theorem feeFromDiffs_fst (cx : NumCtx) (iD nD T : Rat) :
    (feeFromDiffs cx iD nD T).1 =
      if nD < iD then
        (if cx.div (cx.mul 60 iD) T > 25 then 0 else cx.sub 25 (cx.div (cx.mul 60 iD) T))
      else
        25 + (truncInt (cx.div (cx.mul 60 (if cx.div (cx.add iD nD) 2 > T then T else cx.div (cx.add iD nD) 2)) T) : Rat) := by
  unfold feeFromDiffs
  simp only [bps25, bps60]
  split_ifs <;> rfl

theorem feeFromDiffs_exact_fst (iD nD T : Rat) :
    (feeFromDiffs NumCtx.exact iD nD T).1 =
      if nD < iD then (if 60 * iD / T > 25 then 0 else 25 - 60 * iD / T)
      else 25 + (truncInt (60 * (if (iD + nD) / 2 > T then T else (iD + nD) / 2) / T) : Rat) :=
  feeFromDiffs_fst NumCtx.exact iD nD T

theorem Rnd.quot (H : Rnd cx ε) {i j : Nat} {k a b T : Rat} (hk : 0 ≤ k) (ha : 0 ≤ a) (hT : 0 < T) (r : Within ε i j a b) :
    Within ε (i + 1 + 1) (j + 1 + 1) (k * a / T) (cx.div (cx.mul k b) T) := by
  rw [cx.mul_comm, mul_comm k]
  exact H.div (mul_nonneg ha hk) hT.le (H.mul ha hk r)

/-- the rebate is non-negative, and the capped average is in `[0, T]`, so the quotient is at most `60·(1+ε)² < 61` -/
theorem feeFromDiffs_range (H : Rnd cx ε) {iD nD T : Rat} (hi : 0 ≤ iD) (hn : 0 ≤ nD) (hT : 0 < T) :
    0 ≤ (feeFromDiffs cx iD nD T).1 ∧ (feeFromDiffs cx iD nD T).1 ≤ 85 := by
  have hε := H.e1
  rw [feeFromDiffs_fst]
  split
  · split
    · norm_num
    rename_i hreb
    have hq0 : 0 ≤ cx.div (cx.mul 60 iD) T := H.nonneg (div_nonneg (H.nonneg (by positivity)) hT.le)
    obtain ⟨z0, z1⟩ : UpTo ε 1 25 (cx.sub 25 (cx.div (cx.mul 60 iD) T)) :=
      H.up ((UpTo.refl (by norm_num)).of_le (by linarith [not_lt.mp hreb]) (by linarith))
    exact ⟨z0, by linarith⟩
  · rw [ite_gt_eq_min, NumCtx.mul_comm]
    have havg : 0 ≤ cx.div (cx.add iD nD) 2 := H.nonneg (div_nonneg (H.nonneg (by linarith)) (by norm_num))
    obtain ⟨x0, x1⟩ : UpTo ε 2 (T * 60 / T) (cx.div (cx.mul (min (cx.div (cx.add iD nD) 2) T) 60) T) :=
      H.upDiv hT.le (H.upMul (by norm_num) ((UpTo.refl hT.le).of_le (le_min havg hT.le) (min_le_right _ _)))
    rw [mul_div_cancel_left₀ _ hT.ne'] at x1
    obtain ⟨t0, t60⟩ := truncInt_range x0 (show _ < ((60 : Int) : Rat) + 1 by push_cast; linarith [H.sq_le])
    push_cast at t60
    constructor <;> linarith

end Demeter.Gmx
