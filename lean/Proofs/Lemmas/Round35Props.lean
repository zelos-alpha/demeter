/-
  Order properties of `roundSig` on the magnitude range; its fixed points are the `q·10^e` with `0 < q < 10^p`, hence idempotence.
-/
import Proofs.Lemmas.Round35Err
namespace Demeter.Numerics
open Demeter

local notation "T" => (10 : ℚ)

theorem roundSig_nonneg (p : ℕ) {x : ℚ} (hx : 0 ≤ x) : 0 ≤ roundSig p x := by
  rcases eq_or_lt_of_le hx with h | h
  · subst h; rw [roundSig_zero]
  · rw [roundSig_of_pos p h]; exact rpos_nonneg p x

theorem roundSig_nonpos (p : ℕ) {x : ℚ} (hx : x ≤ 0) : roundSig p x ≤ 0 := by
  have := roundSig_nonneg p (neg_nonneg.2 hx)
  rw [roundSig_neg] at this
  linarith

/-- the mantissa is a `p`-digit number (or `10^p` after a carry) -/
theorem rpos_mantissa (p : ℕ) (hp : 1 ≤ p) {y : ℚ} (hy : 0 < y) (hr : InRange y) :
    10 ^ (p - 1) ≤ rheQ (y / T ^ sexp p y) ∧ rheQ (y / T ^ sexp p y) ≤ 10 ^ p := by
  obtain ⟨h1, h2⟩ := sexp_spec p hy hr
  have hv : 0 ≤ y / T ^ sexp p y := le_trans (le_of_lt (Tz_pos _)) h1
  constructor
  · apply rheQ_ge
    rw [Tz_pred hp] at h1
    push_cast; exact h1
  · apply rheQ_le hv
    rw [zpow_natCast] at h2
    push_cast; exact le_of_lt h2

theorem rpos_pos (p : ℕ) (hp : 1 ≤ p) {y : ℚ} (hy : 0 < y) (hr : InRange y) : 0 < rpos p y := by
  obtain ⟨h1, _⟩ := rpos_mantissa p hp hy hr
  have : 0 < rheQ (y / T ^ sexp p y) := Nat.lt_of_lt_of_le (Nat.pow_pos (by decide)) h1
  have hq : (0:ℚ) < (rheQ (y / T ^ sexp p y) : ℚ) := by exact_mod_cast this
  unfold rpos
  exact mul_pos hq (Tz_pos _)

theorem roundSig_bounds (p : ℕ) {x : ℚ} (hx : 0 ≤ x) (hr : InRange x) :
    x * (1 - epsP p) ≤ roundSig p x ∧ roundSig p x ≤ x * (1 + epsP p) := by
  have := roundSig_rel_err p x hr
  rw [abs_of_nonneg hx, abs_le] at this
  exact ⟨by linarith only [this.1], by linarith only [this.2]⟩

theorem sexp_mono (p : ℕ) {x y : ℚ} (hx : 0 < x) (hxy : x ≤ y) (hrx : InRange x) (hry : InRange y) :
    sexp p x ≤ sexp p y :=
  exp_le_of_norm hxy (sexp_spec p hx hrx).1 (sexp_spec p (lt_of_lt_of_le hx hxy) hry).2

theorem rpos_mono (p : ℕ) (hp : 1 ≤ p) {x y : ℚ} (hx : 0 < x) (hxy : x ≤ y)
    (hrx : InRange x) (hry : InRange y) : rpos p x ≤ rpos p y := by
  have hy : 0 < y := lt_of_lt_of_le hx hxy
  rcases lt_or_eq_of_le (sexp_mono p hx hxy hrx hry) with hlt | heq
  · -- different decades: rpos x ≤ 10^(p+ex) ≤ 10^(p-1+ey) ≤ rpos y
    obtain ⟨_, qx⟩ := rpos_mantissa p hp hx hrx
    obtain ⟨qy, _⟩ := rpos_mantissa p hp hy hry
    have qx' : (rheQ (x / T ^ sexp p x) : ℚ) ≤ T ^ (p:ℤ) := by
      rw [zpow_natCast]; exact_mod_cast qx
    have qy' : T ^ ((p:ℤ) - 1) ≤ (rheQ (y / T ^ sexp p y) : ℚ) := by
      rw [Tz_pred hp]; exact_mod_cast qy
    have hTx := Tz_pos (sexp p x)
    have hTy := Tz_pos (sexp p y)
    unfold rpos
    calc (rheQ (x / T ^ sexp p x) : ℚ) * T ^ sexp p x
        ≤ T ^ (p:ℤ) * T ^ sexp p x := by gcongr
      _ = T ^ ((p:ℤ) + sexp p x) := (Tz_add _ _).symm
      _ ≤ T ^ (((p:ℤ) - 1) + sexp p y) := Tz_mono (by omega)
      _ = T ^ ((p:ℤ) - 1) * T ^ sexp p y := Tz_add _ _
      _ ≤ (rheQ (y / T ^ sexp p y) : ℚ) * T ^ sexp p y := by gcongr
  · unfold rpos
    rw [heq]
    have hT := Tz_pos (sexp p y)
    have hv : 0 ≤ x / T ^ sexp p y := by positivity
    have : x / T ^ sexp p y ≤ y / T ^ sexp p y := by gcongr
    have := rheQ_mono hv this
    have : (rheQ (x / T ^ sexp p y) : ℚ) ≤ (rheQ (y / T ^ sexp p y) : ℚ) := by exact_mod_cast this
    gcongr

theorem roundSig_mono (p : ℕ) (hp : 1 ≤ p) {x y : ℚ} (hxy : x ≤ y) (hrx : InRange x) (hry : InRange y) :
    roundSig p x ≤ roundSig p y := by
  rcases lt_trichotomy x 0 with hx | hx | hx
  · rcases lt_or_ge y 0 with hy | hy
    · rw [roundSig_of_neg p hx, roundSig_of_neg p hy]
      have := rpos_mono p hp (neg_pos.2 hy) (neg_le_neg hxy) (InRange_neg hry) (InRange_neg hrx)
      linarith
    · exact le_trans (roundSig_nonpos p (le_of_lt hx)) (roundSig_nonneg p hy)
  · subst hx; rw [roundSig_zero]; exact roundSig_nonneg p hxy
  · rw [roundSig_of_pos p hx, roundSig_of_pos p (lt_of_lt_of_le hx hxy)]
    exact rpos_mono p hp hx hxy hrx hry

/-- the exponent chosen for `q·10^e` is some `e' ≤ e` (`exp_le_of_norm`), so the mantissa `q·10^(e−e')` is an integer -/
theorem rpos_fix (p : ℕ) (q : ℕ) (e : ℤ) (hq : 0 < q) (h2 : q < 10 ^ p)
    (hr : InRange ((q:ℚ) * T ^ e)) : rpos p ((q:ℚ) * T ^ e) = (q:ℚ) * T ^ e := by
  have hy : (0:ℚ) < (q:ℚ) * T ^ e := mul_pos (by exact_mod_cast hq) (Tz_pos e)
  have hle : sexp p ((q:ℚ) * T ^ e) ≤ e := exp_le_of_norm le_rfl (sexp_spec p hy hr).1
    (by rw [mul_div_cancel_right₀ _ (Tz_pos e).ne', zpow_natCast]; exact_mod_cast h2)
  unfold rpos
  generalize sexp p ((q:ℚ) * T ^ e) = e' at hle ⊢
  obtain ⟨m, rfl⟩ : ∃ m : ℕ, e = e' + m := ⟨(e - e').toNat, by omega⟩
  have hv : (q:ℚ) * T ^ (e' + m) / T ^ e' = ((q * 10 ^ m : ℕ) : ℚ) := by
    rw [Tz_add, zpow_natCast, mul_comm (T ^ e'), ← mul_assoc, mul_div_cancel_right₀ _ (Tz_pos e').ne']
    push_cast; rfl
  rw [hv, rheQ_natCast, ← hv, div_mul_cancel₀ _ (Tz_pos e').ne']

theorem roundSig_fix (p : ℕ) (c : ℤ) (e : ℤ) (hc : c.natAbs < 10 ^ p)
    (hr : InRange ((c:ℚ) * T ^ e)) : roundSig p ((c:ℚ) * T ^ e) = (c:ℚ) * T ^ e := by
  have key : ∀ q : ℕ, q < 10 ^ p → InRange ((q:ℚ) * T ^ e) → roundSig p ((q:ℚ) * T ^ e) = (q:ℚ) * T ^ e := by
    intro q hq hr
    rcases Nat.eq_zero_or_pos q with h | h
    · subst h; simp [roundSig_zero]
    · rw [roundSig_of_pos p (mul_pos (by exact_mod_cast h) (Tz_pos e))]
      exact rpos_fix p q e h hq hr
  rcases le_total 0 c with h | h
  · have e1 : (c:ℚ) = ((c.natAbs : ℕ) : ℚ) := by rw [← Int.cast_natCast, Int.natAbs_of_nonneg h]
    rw [e1] at hr ⊢
    exact key _ hc hr
  · have e1 : (c:ℚ) = -((c.natAbs : ℕ) : ℚ) := by
      rw [← Int.cast_natCast, Int.ofNat_natAbs_of_nonpos h]; push_cast; ring
    rw [e1, neg_mul] at hr ⊢
    rw [roundSig_neg, key _ hc (by simpa using InRange_neg hr)]

theorem rpos_idem (p : ℕ) (hp : 1 ≤ p) {y : ℚ} (hy : 0 < y) (hr : InRange y) (hr' : InRange (rpos p y)) :
    rpos p (rpos p y) = rpos p y := by
  obtain ⟨h1, h2⟩ := rpos_mantissa p hp hy hr
  have h0 : 0 < rheQ (y / T ^ sexp p y) := Nat.lt_of_lt_of_le (Nat.pow_pos (by decide)) h1
  rcases Nat.lt_or_eq_of_le h2 with hlt | heq
  · exact rpos_fix p _ _ h0 hlt hr'
  · -- carry: the result is `10^p · 10^e = 1 · 10^(p+e)`
    have e1 : rpos p y = ((1 : ℕ) : ℚ) * T ^ ((p:ℤ) + sexp p y) := by
      unfold rpos; rw [heq, Tz_add, zpow_natCast]; push_cast; ring
    rw [e1] at hr' ⊢
    exact rpos_fix p 1 _ (by decide) (Nat.one_lt_pow (by omega) (by decide)) hr'

theorem roundSig_idem (p : ℕ) (hp : 1 ≤ p) (x : ℚ) (hr : InRange x) (hr' : InRange (roundSig p x)) :
    roundSig p (roundSig p x) = roundSig p x := by
  rcases lt_trichotomy x 0 with h | h | h
  · have hy : 0 < -x := neg_pos.2 h
    rw [roundSig_of_neg p h] at hr' ⊢
    have hr'' : InRange (rpos p (-x)) := by simpa using InRange_neg hr'
    rw [roundSig_neg, roundSig_of_pos p (rpos_pos p hp hy (InRange_neg hr)),
      rpos_idem p hp hy (InRange_neg hr) hr'']
  · subst h; simp [roundSig_zero]
  · rw [roundSig_of_pos p h] at hr' ⊢
    rw [roundSig_of_pos p (rpos_pos p hp h hr), rpos_idem p hp h hr hr']

end Demeter.Numerics
