/-
  `round_decimal` (helper.py; model: `roundDec`, `quantHalfUp`): rounding half up to a power of ten, on non-negative
  numbers.  Everything follows from `quantHalfUp_spec` (the result is the multiple of `10^-k` within half a step) and
  `roundDec_eq` (both branches of `roundDec` are one `quantHalfUp` of a rescaled argument).
-/
import Demeter.Deribit
import Proofs.Lemmas.Num
import Mathlib.Tactic.Linarith
import Mathlib.Tactic.Positivity
import Mathlib.Algebra.Order.Field.Rat
namespace Demeter.Deribit
open Demeter

theorem tenPow_pos (e : Int) : 0 < tenPow e := by
  unfold tenPow pow10
  split <;> positivity

theorem roundHalfUpNat_spec (N d : Nat) (hd : 0 < d) :
    2 * (roundHalfUpNat N d * d) ≤ 2 * N + d ∧ 2 * N < 2 * (roundHalfUpNat N d * d) + d := by
  unfold roundHalfUpNat
  have hN := Nat.div_add_mod' N d
  have hr := Nat.mod_lt N hd
  simp only []
  split
  · omega
  · rw [Nat.add_mul]
    omega

/-- the window of `roundHalfUpNat_spec`, divided by the denominator `D` of `x = A / D` -/
theorem half_window {R A P D x : Rat} (hD : 0 < D) (hx : x * D = A)
    (h1 : 2 * (R * D) ≤ 2 * (A * P) + D) (h2 : 2 * (A * P) < 2 * (R * D) + D) :
    R - 1 / 2 ≤ x * P ∧ x * P < R + 1 / 2 := by
  have hxP : x * P * D = A * P := by rw [mul_right_comm, hx]
  constructor
  · apply le_of_mul_le_mul_right _ hD
    rw [hxP]; linarith
  · apply lt_of_mul_lt_mul_right _ hD.le
    rw [hxP]; linarith

theorem quantHalfUp_spec (k : Nat) {x : Rat} (hx : 0 ≤ x) :
    ∃ R : Nat, quantHalfUp k x = (R : Rat) / ((pow10 k : Nat) : Rat) ∧
      (R : Rat) - 1 / 2 ≤ x * ((pow10 k : Nat) : Rat) ∧ x * ((pow10 k : Nat) : Rat) < (R : Rat) + 1 / 2 := by
  have hnum : 0 ≤ x.num := Rat.num_nonneg.mpr hx
  have hA : x * (x.den : Rat) = ((x.num.natAbs : Nat) : Rat) := by
    rw [Rat.mul_den_eq_num, ← Int.cast_natCast, Int.natAbs_of_nonneg hnum]
  obtain ⟨h1, h2⟩ := roundHalfUpNat_spec (x.num.natAbs * pow10 k) x.den x.den_pos
  refine ⟨roundHalfUpNat (x.num.natAbs * pow10 k) x.den, ?_,
    half_window (by exact_mod_cast x.den_pos) hA (by exact_mod_cast h1) (by exact_mod_cast h2)⟩
  unfold quantHalfUp
  simp only [not_lt.mpr hnum, if_false]
  rw [Rat.mkRat_eq_div]
  push_cast
  rfl

theorem quantHalfUp_nonneg (k : Nat) {x : Rat} (hx : 0 ≤ x) : 0 ≤ quantHalfUp k x := by
  obtain ⟨R, hR, _⟩ := quantHalfUp_spec k hx
  rw [hR]
  exact div_nonneg (Nat.cast_nonneg R) (pow10_cast_pos k).le

theorem quantHalfUp_le_two (k : Nat) {x : Rat} (hx : 0 ≤ x) : quantHalfUp k x ≤ 2 * x := by
  obtain ⟨R, hR, hR1, _⟩ := quantHalfUp_spec k hx
  have hp := pow10_cast_pos k
  rw [hR, div_le_iff₀ hp]
  rcases Nat.eq_zero_or_pos R with h0 | h0
  · subst h0
    have := mul_nonneg hx hp.le
    simp only [Nat.cast_zero]
    linarith
  · have : (1 : Rat) ≤ (R : Rat) := by exact_mod_cast h0
    linarith

theorem quantHalfUp_pos (k : Nat) {x : Rat} (hx : 1 ≤ x * ((pow10 k : Nat) : Rat)) : 0 < quantHalfUp k x := by
  have hp := pow10_cast_pos k
  have hx0 : 0 < x := (mul_pos_iff_of_pos_right hp).mp (lt_of_lt_of_le one_pos hx)
  obtain ⟨R, hR, _, hR2⟩ := quantHalfUp_spec k hx0.le
  rw [hR]
  exact div_pos (by linarith) hp

theorem quantHalfUp_mono (k : Nat) {x y : Rat} (hx : 0 ≤ x) (hxy : x ≤ y) : quantHalfUp k x ≤ quantHalfUp k y := by
  obtain ⟨R, hR, hR1, _⟩ := quantHalfUp_spec k hx
  obtain ⟨S, hS, _, hS2⟩ := quantHalfUp_spec k (le_trans hx hxy)
  have hp := pow10_cast_pos k
  rw [hR, hS]
  apply div_le_div_of_nonneg_right _ hp.le
  have h : (R : Rat) < (S : Rat) + 1 := by
    have := mul_le_mul_of_nonneg_right hxy hp.le
    linarith
  have : R < S + 1 := by exact_mod_cast h
  exact_mod_cast Nat.lt_succ_iff.mp this

/-- `round_decimal(x, e)` quantizes `x / t` to `k` places and scales back, where `t = 1`, `k = -e` for `e ≤ 0` and
    `t = 10^e`, `k = 0` otherwise; in both cases the step `10^e` is `t / 10^k` -/
theorem roundDec_eq (e : Int) :
    ∃ (k : Nat) (t : Rat), 0 < t ∧ tenPow e * ((pow10 k : Nat) : Rat) = t ∧
      ∀ x, roundDec e x = quantHalfUp k (x / t) * t := by
  unfold roundDec
  by_cases he : e ≤ 0
  · refine ⟨(-e).toNat, 1, one_pos, ?_, fun x => by rw [if_pos he, div_one, mul_one]⟩
    unfold tenPow
    by_cases h0 : e ≥ 0
    · have : e = 0 := le_antisymm he h0
      subst this
      simp [pow10]
    · rw [if_neg h0]
      exact one_div_mul_cancel (pow10_cast_pos _).ne'
  · exact ⟨0, tenPow e, tenPow_pos e, by simp [pow10], fun x => by rw [if_neg he]⟩

theorem roundDec_nonneg (e : Int) {x : Rat} (hx : 0 ≤ x) : 0 ≤ roundDec e x := by
  obtain ⟨k, t, ht, _, h⟩ := roundDec_eq e
  rw [h]
  exact mul_nonneg (quantHalfUp_nonneg k (div_nonneg hx ht.le)) ht.le

theorem roundDec_le_two (e : Int) {x : Rat} (hx : 0 ≤ x) : roundDec e x ≤ 2 * x := by
  obtain ⟨k, t, ht, _, h⟩ := roundDec_eq e
  rw [h]
  calc quantHalfUp k (x / t) * t ≤ 2 * (x / t) * t :=
        mul_le_mul_of_nonneg_right (quantHalfUp_le_two k (div_nonneg hx ht.le)) ht.le
    _ = 2 * x := by rw [mul_assoc, div_mul_cancel₀ x ht.ne']

theorem roundDec_pos (e : Int) {x : Rat} (hx : tenPow e ≤ x) : 0 < roundDec e x := by
  obtain ⟨k, t, ht, hk, h⟩ := roundDec_eq e
  rw [h]
  apply mul_pos (quantHalfUp_pos k _) ht
  rw [div_mul_eq_mul_div, le_div_iff₀ ht, one_mul, ← hk]
  exact mul_le_mul_of_nonneg_right hx (pow10_cast_pos k).le

theorem roundDec_mono (e : Int) {x y : Rat} (hx : 0 ≤ x) (hxy : x ≤ y) : roundDec e x ≤ roundDec e y := by
  obtain ⟨k, t, ht, _, h⟩ := roundDec_eq e
  rw [h, h]
  exact mul_le_mul_of_nonneg_right
    (quantHalfUp_mono k (div_nonneg hx ht.le) (div_le_div_of_nonneg_right hxy ht.le)) ht.le

theorem minAmount_pos (c : TokenCfg) : 0 < c.minAmount := tenPow_pos _

end Demeter.Deribit
