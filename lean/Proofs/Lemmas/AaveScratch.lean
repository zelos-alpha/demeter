/-
  `scratchMap` (recomputation of a value dictionary from raw entries) versus `fillLoop` (what a cache fill
  does), `cacheOf` (the cache a complete fill leaves), `CohC` (a cache is cold or holds the recomputation).
-/
import Proofs.Lemmas.AaveM
namespace Demeter.Aave
open Demeter M

section
variable {ν μ : Type}

theorem scratchMap_cons (f : String → ν → Res μ) (k : String) (v : ν) (rest : AList String ν) :
    scratchMap f ((k, v) :: rest) = (do let x ← f k v; let r ← scratchMap f rest; pure ((k, x) :: r)) := rfl

@[simp] theorem scratchMap_nil (f : String → ν → Res μ) : scratchMap f [] = .ok [] := rfl

theorem scratchMap_cons_ok {f : String → ν → Res μ} {k : String} {v : ν} {rest : AList String ν} {x : μ} {r : AList String μ}
    (h1 : f k v = .ok x) (h2 : scratchMap f rest = .ok r) : scratchMap f ((k, v) :: rest) = .ok ((k, x) :: r) := by
  rw [scratchMap_cons, h1, h2]; rfl

theorem scratchMap_cons_of_ok {f : String → ν → Res μ} {k : String} {v : ν} {rest : AList String ν} {vs : AList String μ}
    (h : scratchMap f ((k, v) :: rest) = .ok vs) :
    ∃ x r, f k v = .ok x ∧ scratchMap f rest = .ok r ∧ vs = (k, x) :: r := by
  rw [scratchMap_cons] at h
  cases h1 : f k v with
  | error e => rw [h1] at h; cases h
  | ok x =>
    cases h2 : scratchMap f rest with
    | error e => rw [h1, h2] at h; cases h
    | ok r =>
      rw [h1, h2] at h
      refine ⟨x, r, rfl, rfl, ?_⟩
      cases h; rfl

theorem scratchMap_exists {f : String → ν → Res μ} {m : AList String ν} (h : ∀ p ∈ m, ∃ x, f p.1 p.2 = .ok x) :
    ∃ vs, scratchMap f m = .ok vs := by
  induction m with
  | nil => exact ⟨[], rfl⟩
  | cons p m ih =>
    obtain ⟨k, v⟩ := p
    obtain ⟨x, hx⟩ := h (k, v) (List.mem_cons_self ..)
    obtain ⟨r, hr⟩ := ih (fun q hq => h q (List.mem_cons_of_mem _ hq))
    exact ⟨(k, x) :: r, scratchMap_cons_ok hx hr⟩

theorem scratchMap_keys {f : String → ν → Res μ} {m : AList String ν} {vs : AList String μ}
    (h : scratchMap f m = .ok vs) : keys vs = keys m := by
  induction m generalizing vs with
  | nil => simp at h; cases h; rfl
  | cons p m ih =>
    obtain ⟨k, v⟩ := p
    obtain ⟨x, r, _, h2, h3⟩ := scratchMap_cons_of_ok h
    subst h3; simp [ih h2]

theorem scratchMap_get {f : String → ν → Res μ} {m : AList String ν} {vs : AList String μ}
    (h : scratchMap f m = .ok vs) (hnd : (keys m).Nodup) {k : String} {v : ν} (hm : (k, v) ∈ m) :
    ∃ x, f k v = .ok x ∧ AList.get? vs k = some x := by
  induction m generalizing vs with
  | nil => simp at hm
  | cons p m ih =>
    obtain ⟨k', v'⟩ := p
    obtain ⟨x, r, h1, h2, h3⟩ := scratchMap_cons_of_ok h
    subst h3
    simp only [keys_cons, List.nodup_cons] at hnd
    simp only [List.mem_cons, Prod.mk.injEq] at hm
    rcases hm with ⟨e1, e2⟩ | hm
    · subst e1; subst e2; exact ⟨x, h1, AList.get?_cons_self _ _ _⟩
    · have hk : k' ≠ k := by
        intro e; subst e
        exact hnd.1 (AList.mem_keys_of_mem hm)
      obtain ⟨y, hy1, hy2⟩ := ih h2 hnd.2 hm
      exact ⟨y, hy1, by rw [AList.get?_cons_ne hk]; exact hy2⟩

theorem scratchMap_congr {f g : String → ν → Res μ} {m : AList String ν} (h : ∀ p ∈ m, f p.1 p.2 = g p.1 p.2) :
    scratchMap f m = scratchMap g m := by
  induction m with
  | nil => rfl
  | cons p m ih =>
    obtain ⟨k, v⟩ := p
    rw [scratchMap_cons, scratchMap_cons, h (k, v) (List.mem_cons_self ..), ih (fun q hq => h q (List.mem_cons_of_mem _ hq))]

theorem scratchMap_ne_nil {f : String → ν → Res μ} {m : AList String ν} {vs : AList String μ}
    (h : scratchMap f m = .ok vs) : vs = [] ↔ m = [] := by
  cases m with
  | nil => simp at h; cases h; simp
  | cons p m =>
    obtain ⟨k, v⟩ := p
    obtain ⟨x, r, _, _, h3⟩ := scratchMap_cons_of_ok h
    subst h3; simp

/-- nothing was `set` when the dictionary is empty, so the cache stays cold -/
def cacheOf (vs : AList String μ) : Cache μ :=
  match vs with
  | [] => .fresh
  | _ :: _ => ⟨false, vs⟩

@[simp] theorem fresh_val : (Cache.fresh : Cache μ).val = [] := rfl
@[simp] theorem fresh_empty : (Cache.fresh : Cache μ).empty = true := rfl
@[simp] theorem cacheOf_nil : cacheOf ([] : AList String μ) = .fresh := rfl
@[simp] theorem cacheOf_val (vs : AList String μ) : (cacheOf vs).val = vs := by
  cases vs <;> rfl
theorem cacheOf_empty (vs : AList String μ) : (cacheOf vs).empty = vs.isEmpty := by
  cases vs <;> rfl
theorem cacheOf_cons (p : String × μ) (vs : AList String μ) : cacheOf (p :: vs) = ⟨false, p :: vs⟩ := rfl

theorem fillLoop_ok {f : String → ν → Res μ} : ∀ (m : AList String ν) (c : Cache μ) (vs : AList String μ),
    scratchMap f m = .ok vs → (keys m).Nodup → (∀ k ∈ keys m, k ∉ keys c.val) →
    fillLoop f m c = (none, ⟨c.empty && vs.isEmpty, c.val ++ vs⟩) := by
  intro m
  induction m with
  | nil =>
    intro c vs h _ _
    simp at h; cases h
    simp [fillLoop]
  | cons p m ih =>
    intro c vs h hnd hdis
    obtain ⟨k, v⟩ := p
    obtain ⟨x, r, h1, h2, h3⟩ := scratchMap_cons_of_ok h
    subst h3
    simp only [keys_cons, List.nodup_cons] at hnd
    have hk : k ∉ keys c.val := hdis k (by simp)
    unfold fillLoop
    rw [h1]
    simp only []
    rw [ih (c.set k x) r h2 hnd.2]
    · simp [Cache.set, AList.set_of_not_mem_keys hk]
    · intro k' hk'
      simp only [Cache.set, AList.set_of_not_mem_keys hk, keys_append, keys_cons, keys_nil, List.mem_append, List.mem_singleton, not_or]
      exact ⟨hdis k' (by simp [hk']), fun e => hnd.1 (e ▸ hk')⟩

theorem fillLoop_fresh {f : String → ν → Res μ} {m : AList String ν} {vs : AList String μ}
    (h : scratchMap f m = .ok vs) (hnd : (keys m).Nodup) : fillLoop f m .fresh = (none, cacheOf vs) := by
  rw [fillLoop_ok m .fresh vs h hnd (by simp [Cache.fresh])]
  cases vs <;> simp [Cache.fresh, cacheOf]

theorem fillLoop_congr {f g : String → ν → Res μ} {m : AList String ν} (h : ∀ p ∈ m, f p.1 p.2 = g p.1 p.2) (c : Cache μ) :
    fillLoop f m c = fillLoop g m c := by
  induction m generalizing c with
  | nil => rfl
  | cons p m ih =>
    obtain ⟨k, v⟩ := p
    have hkv : f k v = g k v := h (k, v) (List.mem_cons_self ..)
    show (match f k v with
      | .error e => (some e, c)
      | .ok x => fillLoop f m (c.set k x)) = (match g k v with
      | .error e => (some e, c)
      | .ok x => fillLoop g m (c.set k x))
    rw [hkv]
    cases g k v with
    | error e => rfl
    | ok x => exact ih (fun q hq => h q (List.mem_cons_of_mem _ hq)) _

def CohC (c : Cache μ) (spec : Res (AList String μ)) : Prop :=
  c = .fresh ∨ ∃ vs, spec = .ok vs ∧ c = cacheOf vs

theorem CohC.fresh (spec : Res (AList String μ)) : CohC (.fresh : Cache μ) spec := Or.inl rfl
theorem CohC.of {spec : Res (AList String μ)} {vs : AList String μ} (h : spec = .ok vs) : CohC (cacheOf vs) spec :=
  Or.inr ⟨vs, h, rfl⟩

theorem CohC.cases {c : Cache μ} {spec : Res (AList String μ)} {vs : AList String μ} (h : CohC c spec) (hs : spec = .ok vs) :
    c = .fresh ∨ (c = cacheOf vs ∧ c.empty = false) := by
  rcases h with h | ⟨vs', h1, h2⟩
  · exact Or.inl h
  · rw [hs] at h1; cases h1
    cases vs with
    | nil => exact Or.inl h2
    | cons p vs => exact Or.inr ⟨h2, by rw [h2]; rfl⟩

end
end Demeter.Aave
