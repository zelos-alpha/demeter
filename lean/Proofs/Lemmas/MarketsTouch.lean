/-
  What one call of the bar loop can do to the world of `Demeter/Actuator/Markets.lean`: it runs one transition of ONE market (which may move the
  wallet), or installs one market's status; the account row fills the caches of markets 4 and 5.  `Touch` lists the cases, `marketsEff_touch` is
  the one walk through `marketsEff`; an invariant of one market's block is then kept by every call as soon as that market's own transitions keep it.
-/
import Demeter.Actuator.Markets
namespace Demeter.Core

inductive Touch (S : Setup) (w : World) : World → Prop
  | same : Touch S w w
  | uniStatus (u : Uni.State) (h : u.positions = w.uni.positions) : Touch S w { w with uni := u }
  | uniUpdate : Touch S w { w with uni := (Uni.update S.K.cx S.pool w.uni).1 }
  | uniOp (tag : String) (op : Uni.Op) (h : S.uniOp tag = some op) :
    Touch S w { w with wallet := (Uni.step S.K S.pool S.minError w.uniIn op).2.wallet, uni := (Uni.step S.K S.pool S.minError w.uniIn op).2 }
  | sqOp (op : Squeeth.Op) : Touch S w (sqCall S w op)
  | sqEnv (env : Squeeth.Env) : Touch S w { w with env := env }
  | gmxOp (op : GmxV1.Op) : Touch S w (gmxCall S w op)
  | gmxEnv (genv : GmxV1.Env) : Touch S w { w with genv := genv }
  | der (wallet : Wallet) (der : Deribit.DState) : Touch S w { w with wallet := wallet, der := der }
  | aave (wallet : Wallet) (aenv : Aave.Env) (aave : Aave.St) : Touch S w { w with wallet := wallet, aenv := aenv, aave := aave }
  | caches (der : Deribit.DState) (aave : Aave.St) : Touch S w { w with der := der, aave := aave }

theorem Touch.ite {S : Setup} {w a b : World} {c : Prop} [Decidable c] (ha : Touch S w a) (hb : Touch S w b) :
    Touch S w (if c then a else b) := by
  split <;> assumption

theorem opCall_touch (S : Setup) (w : World) (m : Nat) (tag : String) : Touch S w (opCall S w m tag) := by
  unfold opCall uniCall
  refine .ite ?_ (.ite ?_ (.ite ?_ (.ite ?_ ?_))) <;> split
  · exact .same
  · exact .uniOp tag _ ‹_›
  · exact .same
  · exact .gmxOp _
  · exact .same
  · exact .der _ _
  · exact .same
  · exact .aave _ _ _
  · exact .same
  · exact .sqOp _

theorem marketsEff_touch (S : Setup) (e : Ev) (w : World) : Touch S w (marketsEff S e w) := by
  cases e with
  | set ts m stage o src =>
    show Touch S w (setCall S w ts m o src)
    unfold setCall
    refine .ite ?_ (.ite ?_ (.ite ?_ (.ite (.der w.wallet _) (.ite (.aave w.wallet _ _) ?_)))) <;> split
    · exact .uniStatus _ rfl
    · exact .uniStatus _ rfl
    · exact .sqEnv _
    · exact .sqEnv _
    · exact .gmxEnv _
    · exact .same
    · exact .sqEnv _
    · exact .same
  | update ts m =>
    show Touch S w (updCall S w m)
    unfold updCall
    exact .ite .uniUpdate (.ite (.sqOp _) (.ite (.gmxOp _) (.ite (.der _ _) (.ite (.aave _ _ _) .same))))
  | opOk ts hk m tag => exact opCall_touch S w m tag
  | opRej ts hk m tag c =>
    cases c
    · exact opCall_touch S w m tag
    · exact .same
  | opFree ts hk m tag ok => exact opCall_touch S w m tag
  | row ts src => exact .caches _ _
  | _ => exact .same

theorem worldAfter_preserves {W : Type} (V : Valuation W) (I : W → Prop) (h : ∀ e w, I w → I (V.eff e w)) :
    ∀ (l : List Ev) (w : W), I w → I (worldAfter V l w)
  | [], _, hw => hw
  | e :: l, w, hw => worldAfter_preserves V I h l _ (h e w hw)

theorem worldAfter_touch (S : Setup) (I : World → Prop) (h : ∀ w w', Touch S w w' → I w → I w') (calls : List Ev) (w : World) (hw : I w) :
    I (worldAfter (marketsValuation S) calls w) :=
  worldAfter_preserves (marketsValuation S) I (fun e w hw => h w _ (marketsEff_touch S e w) hw) calls w hw

theorem Touch.sq_cases {S : Setup} {w w' : World} (h : Touch S w w') : w'.sq = w.sq ∨ ∃ op, w'.sq = (sqCall S w op).sq := by
  cases h with
  | sqOp op => exact .inr ⟨op, rfl⟩
  | _ => exact .inl rfl

theorem Touch.uni_cases {S : Setup} {w w' : World} (h : Touch S w w') :
    w'.uni.positions = w.uni.positions ∨ w'.uni = (Uni.update S.K.cx S.pool w.uni).1 ∨
      ∃ tag op, S.uniOp tag = some op ∧ w'.uni = (Uni.step S.K S.pool S.minError w.uniIn op).2 := by
  cases h with
  | uniStatus u hu => exact .inl hu
  | uniUpdate => exact .inr (.inl rfl)
  | uniOp tag op hop => exact .inr (.inr ⟨tag, op, hop, rfl⟩)
  | _ => exact .inl rfl

end Demeter.Core
