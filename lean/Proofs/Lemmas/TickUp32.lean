/-
  Both sqrt prices of `±a` are round-ups `⌈·/2^32⌉` (`up32`) — of the table's Q128.128 ratio `r = tickRatio (−a)` and of its
  reciprocal `⌊(2^256−1)/r⌋` — so the product of the second with `r` brackets `2^224` (`up_recip`).  Core Lean only.
-/
import Proofs.Lemmas.ClosePred
namespace Demeter.TickClose
open Demeter Gen

theorem up32_def (x : Nat) : up32 x = (x + 4294967295) / 2 ^ 32 := Nat.shiftRight_eq_div_pow _ 32

theorem up32_le (x : Nat) : x ≤ up32 x * 2 ^ 32 := by
  rw [up32_def]; omega

theorem up32_lt (x : Nat) : up32 x * 2 ^ 32 < x + 2 ^ 32 := by
  rw [up32_def]; omega

theorem up32_mono {x y : Nat} (h : x ≤ y) : up32 x ≤ up32 y := by
  rw [up32_def, up32_def]
  exact Nat.div_le_div_right (by omega)

theorem sqrtAt_up (t : Int) : sqrtAt t = up32 (tickRatio t) := by
  rw [up32_def]
  show tickRatio t >>> 32 + (if tickRatio t % 4294967296 = 0 then 0 else 1) = _
  split <;> omega

/-- `d = ⌊(K·T − 1)/r⌋`, `p = ⌈d/K⌉`  ⟹  `(p − 1)·r < T < (p + 1)·r`: the round-up adds less than 1, the floor loses
    less than `1/K` -/
theorem up_recip (K T r d p : Nat) (hK : 1 < K) (hr : 0 < r) (hd1 : d * r < K * T) (hd2 : K * T ≤ d * r + r)
    (hp1 : d ≤ p * K) (hp2 : p * K < d + K) : p * r < T + r ∧ T < p * r + r := by
  have e : K * (p * r) = p * K * r := by ac_rfl
  constructor
  · have h1 : p * K * r < (d + K) * r := Nat.mul_lt_mul_of_pos_right hp2 hr
    refine Nat.lt_of_mul_lt_mul_left (a := K) ?_
    rw [Nat.add_mul] at h1
    rw [Nat.mul_add, e]
    omega
  · have h1 : d * r ≤ p * K * r := Nat.mul_le_mul_right r hp1
    have h2 : 1 * r < K * r := Nat.mul_lt_mul_of_pos_right hK hr
    refine Nat.lt_of_mul_lt_mul_left (a := K) ?_
    rw [Nat.mul_add, e]
    omega

theorem up32_recip (M r : Nat) (hM : M + 1 = 2 ^ 32 * 2 ^ 224) (hr : 0 < r) :
    up32 (M / r) * r < 2 ^ 224 + r ∧ 2 ^ 224 < up32 (M / r) * r + r :=
  up_recip (2 ^ 32) (2 ^ 224) r (M / r) _ (by decide) hr (hM ▸ Nat.lt_succ_of_le (Nat.div_mul_le_self M r))
    (hM ▸ Nat.lt_div_mul_add hr) (up32_le _) (up32_lt _)

end Demeter.TickClose
