/-
  The kernel the code runs (`Kern.std` of Demeter/Uni/Kernel.lean, on top of `getLiquidity`/`toWei` of Demeter/LiqMath.lean),
  characterised once: when `newPosStd` succeeds; on valid ticks, for a natural liquidity held as `int`, `amountsGen` is the LiqMath
  model's `getAmounts`; under exact arithmetic the amounts of liquidity `l` (either sign, `int` or `Decimal`) are `l` times the
  non-negative amounts of one unit; every reported amount is a rounded value or the literal 0.
-/
import Demeter.Uni.Kernel
import Proofs.Lemmas.LiqMath
namespace Demeter.Uni
open Demeter

theorem q96R_pos : (0 : Rat) < q96R := Q96_cast_pos
theorem q96R_sq : q96R * q96R = (2 : Rat) ^ 192 := by unfold q96R Q96; push_cast; ring

theorem tickOk_neg (t : Int) : tickOk (-t) = tickOk t := by unfold tickOk; simp

theorem recip_lt {N a a' b b' : Nat} (hN : 0 < N) (ea : a * a' = N) (eb : b * b' = N) (h : a < b) : b' < a' := by
  by_contra hc
  have hb' : 0 < b' := Nat.pos_of_ne_zero (by rintro rfl; rw [Nat.mul_zero] at eb; omega)
  have : a * a' < b * b' :=
    Nat.lt_of_le_of_lt (Nat.mul_le_mul_left _ (Nat.le_of_not_lt hc)) (Nat.mul_lt_mul_of_pos_right h hb')
  omega

theorem getLiquidity_self (cx : NumCtx) (s : Nat) (t : Int) (a0 a1 : Rat) (d0 d1 : Nat) :
    getLiquidity cx s t t a0 a1 d0 d1 = none :=
  (getLiquidity_eq_none_iff ..).2 rfl

theorem getLiquidity_nonneg (cx : NumCtx) (hc : ∀ x : Rat, 0 ≤ x → 0 ≤ cx.rnd x) {s : Nat} {ta tb : Int} {a0 a1 : Rat}
    {d0 d1 : Nat} {L : Int} (h0 : 0 ≤ a0) (h1 : 0 ≤ a1) (h : getLiquidity cx s ta tb a0 a1 d0 d1 = some L) : 0 ≤ L := by
  by_cases hne : sqrtAt ta = sqrtAt tb
  · rw [(getLiquidity_eq_none_iff ..).2 hne] at h; cases h
  · obtain ⟨w0, hw0⟩ := Int.eq_ofNat_of_zero_le (toWei_zero_le cx hc a0 d0 h0)
    obtain ⟨w1, hw1⟩ := Int.eq_ofNat_of_zero_le (toWei_zero_le cx hc a1 d1 h1)
    rw [getLiquidity_of_wei cx s ta tb a0 a1 d0 d1 hne hw0 hw1] at h
    cases h; exact Int.natCast_nonneg _

theorem newPosStd_eq_ok_iff {cx : NumCtx} {pool : Pool} {s : Nat} {ta tb : Int} {a0 a1 u0 u1 : Rat} {L : Int} :
    newPosStd cx pool s ta tb a0 a1 = .ok (u0, u1, L) ↔
      tickOk ta = true ∧ tickOk tb = true ∧ getLiquidity cx s ta tb a0 a1 pool.d0 pool.d1 = some L ∧
        amountsGen cx s ta tb L false pool.d0 pool.d1 = .ok (u0, u1) := by
  unfold newPosStd
  by_cases hk : tickOk ta = true ∧ tickOk tb = true
  · obtain ⟨ha, hb⟩ := hk
    rw [if_neg (by rw [ha, hb]; decide)]
    cases getLiquidity cx s ta tb a0 a1 pool.d0 pool.d1 with
    | none => exact ⟨fun h => (by cases h), fun h => (by cases h.2.2.1)⟩
    | some l =>
      simp only []
      constructor
      · intro h
        cases hu : amountsGen cx s ta tb l false pool.d0 pool.d1 with
        | error e => rw [hu] at h; cases h
        | ok u => rw [hu] at h; cases h; exact ⟨ha, hb, rfl, hu⟩
      · rintro ⟨_, _, hl, hu⟩
        cases hl
        rw [hu]
  · have : (!tickOk ta || !tickOk tb) = true := by
      revert hk; cases tickOk ta <;> cases tickOk tb <;> decide
    rw [if_pos this]
    exact ⟨fun h => (by cases h), fun h => absurd ⟨h.1, h.2.1⟩ hk⟩

theorem newPosStd_ok_range (cx : NumCtx) (hc : ∀ x : Rat, 0 ≤ x → 0 ≤ cx.rnd x) {pool : Pool} {s : Nat} {ta tb : Int}
    {a0 a1 u0 u1 : Rat} {L : Int} (h0 : 0 ≤ a0) (h1 : 0 ≤ a1) (h : newPosStd cx pool s ta tb a0 a1 = .ok (u0, u1, L)) :
    ta ≠ tb ∧ 0 ≤ L := by
  obtain ⟨_, _, hl, _⟩ := newPosStd_eq_ok_iff.1 h
  refine ⟨?_, getLiquidity_nonneg cx hc h0 h1 hl⟩
  rintro rfl
  rw [getLiquidity_self] at hl; cases hl

theorem amount0Gen_nat (cx : NumCtx) (sa sb : Nat) (l : Nat) (d : Nat) :
    amount0Gen cx sa sb (l : Int) false d = getAmount0 cx sa sb l d := by
  unfold amount0Gen getAmount0
  simp only [Bool.false_eq_true, if_false]
  push_cast
  rfl

theorem amount1Gen_nat (cx : NumCtx) (sa sb : Nat) (l : Nat) (d : Nat) :
    amount1Gen cx sa sb (l : Int) false d = getAmount1 cx sa sb l d := by
  unfold amount1Gen getAmount1 q96R
  simp only [Bool.false_eq_true, if_false]
  push_cast
  rfl

/-- the three regimes of `get_amounts` on sorted bounds -/
def amountsAt (cx : NumCtx) (s sa sb : Nat) (l : Int) (dec : Bool) (d0 d1 : Nat) : Rat × Rat :=
  if s ≤ sa then (amount0Gen cx sa sb l dec d0, 0)
  else if s < sb then (amount0Gen cx s sb l dec d0, amount1Gen cx sa s l dec d1)
  else (0, amount1Gen cx sa sb l dec d1)

theorem amountsGen_of_ok (cx : NumCtx) (s : Nat) {ta tb : Int} (l : Int) (dec : Bool) (d0 d1 : Nat)
    (ha : tickOk ta = true) (hb : tickOk tb = true) (h : sqrtAt ta ≤ sqrtAt tb) :
    amountsGen cx s ta tb l dec d0 d1 = .ok (amountsAt cx s (sqrtAt ta) (sqrtAt tb) l dec d0 d1) := by
  unfold amountsGen sqrtAtE amountsAt
  rw [ha, hb, if_pos rfl, if_pos rfl]
  simp only [sortPair_le h]
  split_ifs <;> rfl

theorem amountsGen_ok_ticks {cx : NumCtx} {s : Nat} {ta tb l : Int} {dec : Bool} {d0 d1 : Nat} {u : Rat × Rat}
    (h : amountsGen cx s ta tb l dec d0 d1 = .ok u) : tickOk ta = true ∧ tickOk tb = true := by
  unfold amountsGen sqrtAtE at h
  by_cases ha : tickOk ta = true
  · by_cases hb : tickOk tb = true
    · exact ⟨ha, hb⟩
    · rw [if_pos ha, if_neg hb] at h; cases h
  · rw [if_neg ha] at h; cases h

theorem amountsGen_nat (cx : NumCtx) (s : Nat) (ta tb : Int) (l : Nat) (d0 d1 : Nat)
    (ha : tickOk ta = true) (hb : tickOk tb = true) :
    amountsGen cx s ta tb (l : Int) false d0 d1 = .ok (getAmounts cx s ta tb l d0 d1) := by
  unfold amountsGen sqrtAtE getAmounts getAmountsS
  rw [if_pos ha, if_pos hb]
  simp only [amount0Gen_nat, amount1Gen_nat]
  split
  · rfl
  · split <;> rfl

theorem amountsGen_nat_ok {cx : NumCtx} {s : Nat} {ta tb : Int} {l d0 d1 : Nat} {u : Rat × Rat}
    (h : amountsGen cx s ta tb (l : Int) false d0 d1 = .ok u) : u = getAmounts cx s ta tb l d0 d1 := by
  obtain ⟨ha, hb⟩ := amountsGen_ok_ticks h
  rw [amountsGen_nat cx s ta tb l d0 d1 ha hb] at h
  exact (Except.ok.inj h).symm

theorem amount0Gen_exact (sa sb : Nat) (l : Int) (dec : Bool) (d : Nat) :
    amount0Gen NumCtx.exact sa sb l dec d =
      (l : Rat) * (((Q96 : Nat) : Rat) * (((sortPair sa sb).2 - (sortPair sa sb).1 : Nat) : Rat) /
        (((sortPair sa sb).2 : Nat) : Rat) / (((sortPair sa sb).1 : Nat) : Rat) / ((pow10 d : Nat) : Rat)) := by
  unfold amount0Gen
  cases dec <;>
    simp only [NumCtx.exact_mul, NumCtx.exact_div, q96R, Bool.false_eq_true, if_false, if_true, Int.cast_mul, Int.cast_natCast] <;>
    ring

theorem amount1Gen_exact (sa sb : Nat) (l : Int) (dec : Bool) (d : Nat) :
    amount1Gen NumCtx.exact sa sb l dec d =
      (l : Rat) * ((((sortPair sa sb).2 - (sortPair sa sb).1 : Nat) : Rat) / (((Q96 : Nat) : Rat)) / ((pow10 d : Nat) : Rat)) := by
  unfold amount1Gen
  cases dec <;>
    simp only [NumCtx.exact_mul, NumCtx.exact_div, q96R, Bool.false_eq_true, if_false, if_true, Int.cast_mul, Int.cast_natCast] <;>
    ring

theorem amount0Gen_exact_of_le (sa sb : Nat) (l : Int) (dec : Bool) (d : Nat) (h : sa ≤ sb) (ha : sa ≠ 0) :
    amount0Gen NumCtx.exact sa sb l dec d = (l : Rat) * q96R * (1 / (sa : Rat) - 1 / (sb : Rat)) / ((pow10 d : Nat) : Rat) := by
  have hsa : (sa : Rat) ≠ 0 := by exact_mod_cast ha
  have hsb : (sb : Rat) ≠ 0 := by
    have : sb ≠ 0 := by omega
    exact_mod_cast this
  rw [amount0Gen_exact, sortPair_le h]
  show (l : Rat) * (q96R * ((sb - sa : Nat) : Rat) / (sb : Rat) / (sa : Rat) / _) = _
  rw [Nat.cast_sub h]
  field_simp

theorem amount1Gen_exact_of_le (sa sb : Nat) (l : Int) (dec : Bool) (d : Nat) (h : sa ≤ sb) :
    amount1Gen NumCtx.exact sa sb l dec d = (l : Rat) * ((sb : Rat) - (sa : Rat)) / q96R / ((pow10 d : Nat) : Rat) := by
  rw [amount1Gen_exact, sortPair_le h]
  show (l : Rat) * (((sb - sa : Nat) : Rat) / q96R / _) = _
  rw [Nat.cast_sub h, mul_div_assoc, mul_div_assoc]

theorem amount0Gen_exact_unit (sa sb : Nat) (l : Int) (dec : Bool) (d : Nat) :
    amount0Gen NumCtx.exact sa sb l dec d = (l : Rat) * amount0Gen NumCtx.exact sa sb 1 false d := by
  rw [amount0Gen_exact, amount0Gen_exact sa sb 1, Int.cast_one, one_mul]

theorem amount1Gen_exact_unit (sa sb : Nat) (l : Int) (dec : Bool) (d : Nat) :
    amount1Gen NumCtx.exact sa sb l dec d = (l : Rat) * amount1Gen NumCtx.exact sa sb 1 false d := by
  rw [amount1Gen_exact, amount1Gen_exact sa sb 1, Int.cast_one, one_mul]

theorem amountsGen_exact_unit (s : Nat) (ta tb l : Int) (dec : Bool) (d0 d1 : Nat) :
    amountsGen NumCtx.exact s ta tb l dec d0 d1 =
      (amountsGen NumCtx.exact s ta tb 1 false d0 d1).map (fun c => ((l : Rat) * c.1, (l : Rat) * c.2)) := by
  unfold amountsGen
  simp only [amount0Gen_exact_unit _ _ l dec, amount1Gen_exact_unit _ _ l dec]
  cases sqrtAtE ta with
  | error e => rfl
  | ok a =>
    cases sqrtAtE tb with
    | error e => rfl
    | ok b =>
      simp only []
      split
      · simp only [Except.map, mul_zero]
      · split <;> simp only [Except.map, mul_zero]

theorem amountsGen_exact_dec (s : Nat) (ta tb l : Int) (dec : Bool) (d0 d1 : Nat) :
    amountsGen NumCtx.exact s ta tb l dec d0 d1 = amountsGen NumCtx.exact s ta tb l false d0 d1 := by
  rw [amountsGen_exact_unit, ← amountsGen_exact_unit s ta tb l false]

theorem amountsGen_rounded (cx : NumCtx) (hr : cx.rnd 0 = 0) (hi : ∀ x, cx.rnd (cx.rnd x) = cx.rnd x)
    {s : Nat} {ta tb l : Int} {dec : Bool} {d0 d1 : Nat} {u : Rat × Rat}
    (h : amountsGen cx s ta tb l dec d0 d1 = .ok u) : cx.rnd u.1 = u.1 ∧ cx.rnd u.2 = u.2 := by
  have r0 : ∀ x y, cx.rnd (amount0Gen cx x y l dec d0) = amount0Gen cx x y l dec d0 := fun x y => by
    unfold amount0Gen NumCtx.div; exact hi _
  have r1 : ∀ x y, cx.rnd (amount1Gen cx x y l dec d1) = amount1Gen cx x y l dec d1 := fun x y => by
    unfold amount1Gen NumCtx.div; exact hi _
  unfold amountsGen at h
  split at h
  · cases h
  · cases h
  · simp only [] at h
    split at h
    · cases h; exact ⟨r0 _ _, hr⟩
    · split at h <;> cases h
      · exact ⟨r0 _ _, r1 _ _⟩
      · exact ⟨hr, r1 _ _⟩

/-- covers the `liquidity == 0` shortcut of `get_token_amounts` (hence `hr`) -/
theorem tokenAmountsStd_newPos (cx : NumCtx) (hr : cx.rnd 0 = 0) {pool : Pool} {s : Nat} {ta tb : Int} {a0 a1 u0 u1 : Rat}
    {L : Int} (h : newPosStd cx pool s ta tb a0 a1 = .ok (u0, u1, L)) :
    tokenAmountsStd cx pool s ta tb L false = .ok (u0, u1) := by
  have hu := (newPosStd_eq_ok_iff.1 h).2.2.2
  unfold tokenAmountsStd
  by_cases h0 : L = 0
  · subst h0
    rw [if_pos rfl, amountsGen_nat_ok (l := 0) hu, getAmounts_zero cx hr]
  · rw [if_neg h0, hu]

/-- the amounts of the concrete kernel as a total function of the liquidity ((0, 0) where the code raises) -/
def stdA (pool : Pool) (sqrt : Nat) (lo up l : Int) : Rat × Rat :=
  match amountsGen NumCtx.exact sqrt lo up l false pool.d0 pool.d1 with
  | .ok r => r
  | .error _ => (0, 0)

/-- where the code raises it raises for every liquidity: both coefficients 0 there -/
theorem stdA_linear (pool : Pool) (sqrt : Nat) (lo up : Int) :
    ∃ c0 c1 : Rat, 0 ≤ c0 ∧ 0 ≤ c1 ∧ ∀ l : Int, stdA pool sqrt lo up l = ((l : Rat) * c0, (l : Rat) * c1) := by
  unfold stdA
  cases h : amountsGen NumCtx.exact sqrt lo up 1 false pool.d0 pool.d1 with
  | error e => exact ⟨0, 0, le_refl _, le_refl _, fun l => by rw [amountsGen_exact_unit, h, mul_zero]; rfl⟩
  | ok c =>
    obtain ⟨n0, n1⟩ : 0 ≤ c.1 ∧ 0 ≤ c.2 := amountsGen_nat_ok (l := 1) h ▸ getAmountsS_exact_nonneg ..
    exact ⟨c.1, c.2, n0, n1, fun l => by rw [amountsGen_exact_unit, h]; rfl⟩

theorem stdA_nonneg (pool : Pool) (sqrt : Nat) (lo up l : Int) (hl : 0 ≤ l) :
    0 ≤ (stdA pool sqrt lo up l).1 ∧ 0 ≤ (stdA pool sqrt lo up l).2 := by
  obtain ⟨c0, c1, h0, h1, h⟩ := stdA_linear pool sqrt lo up
  have hlr : (0 : Rat) ≤ (l : Rat) := by exact_mod_cast hl
  rw [h]
  exact ⟨mul_nonneg hlr h0, mul_nonneg hlr h1⟩

end Demeter.Uni
