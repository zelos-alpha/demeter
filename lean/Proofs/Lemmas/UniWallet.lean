/-
  Wallet lemmas for the Uniswap proofs: keys are never lost (`Has w tok`: the wallet has an entry for the token), a successful
  debit or a credit leaves the token present; credits and debits of two tokens it holds commute.  `WalletHas pool w`: both
  pool tokens have an entry, so the balance look-ups for an action record cannot raise.
-/
import Demeter.Uni.Ops
import Proofs.Lemmas.Wallet
namespace Demeter.Uni
open Demeter

def Has (w : Wallet) (tok : String) : Prop := (AList.get? w tok).isSome = true

theorem has_set (m : Wallet) (k k' : String) (v : Rat) (h : Has m k' ∨ k' = k) : Has (AList.set m k v) k' := by
  unfold Has
  rw [AList.get?_set]
  split
  · rfl
  · rename_i e; exact h.resolve_right (fun e' => e e'.symm)

theorem has_credit (cx : NumCtx) (w : Wallet) (k k' : String) (a : Rat) (h : Has w k' ∨ k' = k) :
    Has (Wallet.credit cx w k a) k' :=
  Option.isSome_iff_exists.mpr (Wallet.get?_credit_some cx w k k' a (h.imp_left Option.isSome_iff_exists.mp))

theorem collectWallet_mono {cx : NumCtx} {pool : Pool} {w : Wallet} {tu : Bool} {f0 f1 : Rat} {k : String} (h : Has w k) :
    Has (collectWallet cx pool w tu f0 f1) k := by
  unfold collectWallet
  split
  · exact has_credit _ _ _ _ _ (Or.inl (has_credit _ _ _ _ _ (Or.inl h)))
  · exact h

/-- two credits of different tokens the wallet holds commute (`AList.set_comm`: an absent token would be appended) -/
theorem credit_comm (cx : NumCtx) (w : Wallet) (k1 k2 : String) (a1 a2 : Rat) (hne : k1 ≠ k2) (h1 : Has w k1) (h2 : Has w k2) :
    Wallet.credit cx (Wallet.credit cx w k1 a1) k2 a2 = Wallet.credit cx (Wallet.credit cx w k2 a2) k1 a1 := by
  obtain ⟨b1, e1⟩ := Option.isSome_iff_exists.mp h1
  obtain ⟨b2, e2⟩ := Option.isSome_iff_exists.mp h2
  simp only [Wallet.credit_eq, Wallet.bal_set, if_neg hne, if_neg hne.symm]
  exact AList.set_comm hne e1 e2 _ _

/-- the market's `debit` only renames the wallet's refusals -/
theorem debit_ok {cx : NumCtx} {w w' : Wallet} {k : String} {a : Rat} {neg : Bool}
    (hd : debit cx w k a neg = .ok w') : Wallet.debit cx w k a neg = .ok w' := by
  unfold debit at hd
  split at hd
  · rename_i heq; injection hd with hd; rw [heq, hd]
  · cases hd
  · cases hd

theorem debit_of_has {cx : NumCtx} {w : Wallet} {k : String} {b : Rat} (a : Rat) (neg : Bool) (h : AList.get? w k = some b) :
    debit cx w k a neg = match assetSub cx b a neg with
      | some b' => .ok (AList.set w k b')
      | none => .error .assertion := by
  unfold debit Wallet.debit; rw [h]; simp only []; cases hs : assetSub cx b a neg <;> simp only []

theorem has_debit {cx : NumCtx} {w w' : Wallet} {k : String} {a : Rat} {neg : Bool}
    (hd : debit cx w k a neg = .ok w') (k' : String) (h : Has w k' ∨ k' = k) : Has w' k' := by
  rcases Wallet.debit_ok (debit_ok hd) with ⟨_, _, _, _, e⟩ | ⟨_, _, e⟩ <;> rw [e] <;> exact has_set _ _ _ _ h

theorem debit2_ok {cx : NumCtx} {w w' : Wallet} {k1 k2 : String} {a1 a2 : Rat} {neg : Bool}
    (hd : debit2 cx w k1 a1 k2 a2 neg = .ok w') :
    ∃ w1, debit cx w k1 a1 neg = .ok w1 ∧ debit cx w1 k2 a2 neg = .ok w' := by
  unfold debit2 at hd
  split at hd
  · cases hd
  · rename_i w1 h1; exact ⟨w1, h1, hd⟩

theorem has_debit2 {cx : NumCtx} {w w' : Wallet} {k1 k2 : String} {a1 a2 : Rat} {neg : Bool}
    (hd : debit2 cx w k1 a1 k2 a2 neg = .ok w') (k' : String) (h : Has w k' ∨ k' = k1 ∨ k' = k2) : Has w' k' := by
  obtain ⟨w1, h1, hd⟩ := debit2_ok hd
  exact has_debit hd _ ((or_assoc.mpr h).imp_left (has_debit h1 _))

theorem debit2_comm (cx : NumCtx) (w : Wallet) (k1 k2 : String) (a1 a2 : Rat) (neg : Bool) (hne : k1 ≠ k2)
    (h1 : Has w k1) (h2 : Has w k2) : debit2 cx w k1 a1 k2 a2 neg = debit2 cx w k2 a2 k1 a1 neg := by
  obtain ⟨b1, e1⟩ := Option.isSome_iff_exists.mp h1
  obtain ⟨b2, e2⟩ := Option.isSome_iff_exists.mp h2
  unfold debit2
  rw [debit_of_has a1 neg e1, debit_of_has a2 neg e2]
  cases hs1 : assetSub cx b1 a1 neg with
  | none =>
    cases hs2 : assetSub cx b2 a2 neg with
    | none => rfl
    | some b2' =>
      simp only []
      rw [debit_of_has a1 neg (by rw [AList.get?_set_ne _ hne.symm _]; exact e1), hs1]
  | some b1' =>
    simp only []
    rw [debit_of_has a2 neg (by rw [AList.get?_set_ne _ hne _]; exact e2)]
    cases hs2 : assetSub cx b2 a2 neg with
    | none => rfl
    | some b2' =>
      simp only []
      rw [debit_of_has a1 neg (by rw [AList.get?_set_ne _ hne.symm _]; exact e1), hs1]
      rw [AList.set_comm hne e1 e2]

theorem balanceOf_of_has {w : Wallet} {k : String} (h : Has w k) : ∃ b, balanceOf w k = .ok b := by
  obtain ⟨b, e⟩ := Option.isSome_iff_exists.mp h
  exact ⟨b, by unfold balanceOf; rw [e]⟩

def WalletHas (pool : Pool) (w : Wallet) : Prop := Has w pool.tok0 ∧ Has w pool.tok1

/-- after an accepted `_add_liquidity_by_tick` both pool tokens are in the wallet: it has debited both -/
theorem walletHas_debit2 {cx : NumCtx} {pool : Pool} {w w' : Wallet} {a0 a1 : Rat} {neg : Bool}
    (h : debit2 cx w pool.tok0 a0 pool.tok1 a1 neg = .ok w') : WalletHas pool w' :=
  ⟨has_debit2 h _ (Or.inr (Or.inl rfl)), has_debit2 h _ (Or.inr (Or.inr rfl))⟩

theorem WalletHas.base {pool : Pool} {w : Wallet} (h : WalletHas pool w) : Has w pool.baseTok := by
  unfold Pool.baseTok; split; exact h.2; exact h.1
theorem WalletHas.quote {pool : Pool} {w : Wallet} (h : WalletHas pool w) : Has w pool.quoteTok := by
  unfold Pool.quoteTok; split; exact h.1; exact h.2

theorem WalletHas.no_error {pool : Pool} {w : Wallet} (h : WalletHas pool w) {e : Err} :
    ¬ (balanceOf w pool.baseTok = .error e ∨ balanceOf w pool.quoteTok = .error e) := by
  obtain ⟨_, hb⟩ := balanceOf_of_has h.base
  obtain ⟨_, hq⟩ := balanceOf_of_has h.quote
  rw [hb, hq]
  rintro (h | h) <;> cases h

end Demeter.Uni
