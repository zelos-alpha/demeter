/-
  `Except`: what a `>>=` that returned says about its two parts.  No Mathlib.
-/
namespace Demeter.Exc
variable {ε α β : Type}

theorem bind_ok {x : Except ε α} {f : α → Except ε β} {b : β} : (x >>= f) = .ok b ↔ ∃ a, x = .ok a ∧ f a = .ok b := by
  cases x with
  | error e =>
    constructor
    · intro h; cases h
    · rintro ⟨_, h, _⟩; cases h
  | ok a =>
    constructor
    · intro h; exact ⟨a, rfl, h⟩
    · rintro ⟨_, h, hf⟩; cases h; exact hf

theorem bind_err {x : Except ε α} {f : α → Except ε β} {e : ε} :
    (x >>= f) = .error e ↔ x = .error e ∨ ∃ a, x = .ok a ∧ f a = .error e := by
  cases x with
  | error e' =>
    constructor
    · intro h; exact Or.inl (congrArg Except.error (Except.error.inj h))
    · rintro (h | ⟨_, h, _⟩)
      · exact congrArg Except.error (Except.error.inj h)
      · cases h
  | ok a =>
    constructor
    · intro h; exact Or.inr ⟨a, rfl, h⟩
    · rintro (h | ⟨_, h, hf⟩)
      · cases h
      · cases h; exact hf

end Demeter.Exc
