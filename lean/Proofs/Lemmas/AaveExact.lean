/-
  The exact-arithmetic context of the Aave state machine (`aaveExact`: what the property theorems C01, C03, C04, C10–C13 are
  stated for), what the model's small pieces do in it (`sub_base_amount`, the wallet debit, the price conversion and the cap of a
  repayment out of collateral), and the inversions of AaveInv read in it.
-/
import Proofs.Lemmas.AaveInv
import Proofs.Lemmas.AssetSub
import Mathlib.Tactic.Ring
import Mathlib.Tactic.Linarith
import Mathlib.Tactic.NormNum
import Mathlib.Algebra.Order.Field.Rat
import Mathlib.Algebra.Order.Field.Basic
import Mathlib.Algebra.Order.Ring.Abs
namespace Demeter
open Aave

/-- exact arithmetic: every `+ − × ÷` is the rational operation, `**` the rational power -/
def aaveExact : ACtx := { NumCtx.exact with dpow := fun x n => x ^ n }

@[simp] theorem aaveExact_sub (a b : Rat) : aaveExact.sub a b = a - b := rfl

variable {env : Env}

theorem aave_minToken_pos : (0 : Rat) < Gen.aaveMinTokenValue := by unfold Gen.aaveMinTokenValue; norm_num

theorem aave_subBase_eq (b d : Rat) : subBase aaveExact b d = if b - d < Gen.aaveMinTokenValue then 0 else b - d := rfl

theorem aave_subBase_cases (b d : Rat) :
    (b - d < Gen.aaveMinTokenValue ∧ subBase aaveExact b d = 0) ∨
    (Gen.aaveMinTokenValue ≤ b - d ∧ subBase aaveExact b d = b - d ∧ subBase aaveExact b d ≠ 0) := by
  rw [aave_subBase_eq]
  by_cases h : b - d < Gen.aaveMinTokenValue
  · left; exact ⟨h, by simp [h]⟩
  · right
    have h' := not_lt.mp h
    refine ⟨h', by simp [h], ?_⟩
    simp only [h, if_false]
    exact ne_of_gt (lt_of_lt_of_le aave_minToken_pos h')

theorem aave_subBase_full (b : Rat) {I : Rat} (hI : I ≠ 0) : subBase aaveExact b (b * I / I) = 0 := by
  rcases aave_subBase_cases b (b * I / I) with ⟨_, h0⟩ | ⟨hge, _, _⟩
  · exact h0
  · rw [mul_div_cancel_right₀ _ hI, sub_self] at hge
    exact absurd aave_minToken_pos (not_lt.mpr hge)

theorem aave_subBase_noSnap {b d : Rat} (h : b - d < Gen.aaveMinTokenValue → b - d = 0) : subBase aaveExact b d = b - d := by
  rcases aave_subBase_cases b d with ⟨hlt, h0⟩ | ⟨_, heq, _⟩
  · rw [h0, h hlt]
  · exact heq

theorem aave_subBase_ne_zero {b x : Rat} (h : subBase aaveExact b x ≠ 0) : subBase aaveExact b x = b - x := by
  rcases aave_subBase_cases b x with ⟨_, h0⟩ | ⟨_, heq, _⟩
  · exact absurd h0 h
  · exact heq

theorem aave_subBase_two {b x : Rat} (y : Rat) (h1 : subBase aaveExact b x ≠ 0) :
    subBase aaveExact (subBase aaveExact b x) y = subBase aaveExact b (x + y) := by
  rw [aave_subBase_ne_zero h1, aave_subBase_eq, aave_subBase_eq, sub_sub]

theorem supAfterSub_base (sup : AList String SupplyInfo) (tok : String) (info : SupplyInfo) (nb : Rat) :
    ((AList.get? (supAfterSub sup tok info nb) tok).map (·.base)).getD 0 = nb := by
  rw [supAfterSub, AList.get?_eraseOrSet_self]
  split
  · rename_i h; rw [h]; rfl
  · rfl

theorem borAfterSub_base (bor : AList String BorrowInfo) (tok : String) (info : BorrowInfo) (nb : Rat) :
    ((AList.get? (borAfterSub bor tok info nb) tok).map (·.base)).getD 0 = nb := by
  rw [borAfterSub, AList.get?_eraseOrSet_self]
  split
  · rename_i h; rw [h]; rfl
  · rfl

theorem aave_eraseOrSet_cases {ν : Type} (base : ν → Rat) (upd : Rat → ν) (hb : ∀ nb, base (upd nb) = nb)
    (m : AList String ν) (tok : String) (b x I : Rat) (hI : I ≠ 0) :
    (b - x / I < Gen.aaveMinTokenValue ∧
      AList.get? (if subBase aaveExact b (x / I) = 0 then AList.erase m tok
        else AList.set m tok (upd (subBase aaveExact b (x / I)))) tok = none) ∨
    (Gen.aaveMinTokenValue ≤ b - x / I ∧
      ∃ e, AList.get? (if subBase aaveExact b (x / I) = 0 then AList.erase m tok
        else AList.set m tok (upd (subBase aaveExact b (x / I)))) tok = some e ∧ base e * I = b * I - x) := by
  rw [AList.get?_eraseOrSet_self]
  rcases aave_subBase_cases b (x / I) with ⟨hlt, h0⟩ | ⟨hge, heq, hne⟩
  · exact Or.inl ⟨hlt, by rw [if_pos h0]⟩
  · refine Or.inr ⟨hge, _, by rw [if_neg hne], ?_⟩
    rw [hb, heq, sub_mul, div_mul_cancel₀ _ hI]

theorem aave_supAfterSub_cases (sup : AList String SupplyInfo) (tok : String) (info : SupplyInfo) (x I : Rat) (hI : I ≠ 0) :
    (info.base - x / I < Gen.aaveMinTokenValue ∧
      AList.get? (supAfterSub sup tok info (subBase aaveExact info.base (x / I))) tok = none) ∨
    (Gen.aaveMinTokenValue ≤ info.base - x / I ∧
      ∃ e, AList.get? (supAfterSub sup tok info (subBase aaveExact info.base (x / I))) tok = some e ∧
        e.base * I = info.base * I - x) :=
  aave_eraseOrSet_cases (ν := SupplyInfo) (·.base) (fun nb => { info with base := nb }) (fun _ => rfl) sup tok info.base x I hI

theorem aave_borAfterSub_cases (bor : AList String BorrowInfo) (tok : String) (info : BorrowInfo) (x I : Rat) (hI : I ≠ 0) :
    (info.base - x / I < Gen.aaveMinTokenValue ∧
      AList.get? (borAfterSub bor tok info (subBase aaveExact info.base (x / I))) tok = none) ∨
    (Gen.aaveMinTokenValue ≤ info.base - x / I ∧
      ∃ e, AList.get? (borAfterSub bor tok info (subBase aaveExact info.base (x / I))) tok = some e ∧
        e.base * I = info.base * I - x) :=
  aave_eraseOrSet_cases (ν := BorrowInfo) (·.base) (fun nb => { info with base := nb }) (fun _ => rfl) bor tok info.base x I hI

theorem aave_supAfterSub_two (sup : AList String SupplyInfo) (tok : String) (info : SupplyInfo) (x y : Rat)
    (h1 : subBase aaveExact info.base x ≠ 0) :
    supAfterSub (supAfterSub sup tok info (subBase aaveExact info.base x)) tok { info with base := subBase aaveExact info.base x }
        (subBase aaveExact (subBase aaveExact info.base x) y) =
      supAfterSub sup tok info (subBase aaveExact info.base (x + y)) := by
  rw [aave_subBase_two y h1]
  exact AList.eraseOrSet_eraseOrSet _ _ _ _ _ h1

theorem aave_borAfterSub_two (bor : AList String BorrowInfo) (tok : String) (info : BorrowInfo) (x y : Rat)
    (h1 : subBase aaveExact info.base x ≠ 0) :
    borAfterSub (borAfterSub bor tok info (subBase aaveExact info.base x)) tok { info with base := subBase aaveExact info.base x }
        (subBase aaveExact (subBase aaveExact info.base x) y) =
      borAfterSub bor tok info (subBase aaveExact info.base (x + y)) := by
  rw [aave_subBase_two y h1]
  exact AList.eraseOrSet_eraseOrSet _ _ _ _ _ h1

theorem supplyEntry_base (cx : ACtx) (old : Option SupplyInfo) (p : Rat) (c : Bool) (i : Rat) :
    (supplyEntry cx old p c i).base = cx.add ((old.map (·.base)).getD 0) p := by
  cases old <;> rfl

theorem borrowEntry_base (cx : ACtx) (old : Option BorrowInfo) (p i : Rat) :
    (borrowEntry cx old p i).base = cx.add ((old.map (·.base)).getD 0) p := by
  cases old <;> rfl

theorem aave_supplyEntry_two (old : Option SupplyInfo) (a b I : Rat) (c : Bool) :
    supplyEntry aaveExact (some (supplyEntry aaveExact old (a / I) c I)) (b / I) c I =
      supplyEntry aaveExact old ((a + b) / I) c I := by
  cases old with
  | none =>
    simp only [supplyEntry]
    congr 1
    show 0 + a / I + b / I = 0 + (a + b) / I
    ring
  | some i =>
    simp only [supplyEntry]
    congr 1
    show i.base + a / I + b / I = i.base + (a + b) / I
    ring

theorem aave_borrowEntry_two (old : Option BorrowInfo) (a b I : Rat) :
    borrowEntry aaveExact (some (borrowEntry aaveExact old (a / I) I)) (b / I) I =
      borrowEntry aaveExact old ((a + b) / I) I := by
  cases old with
  | none =>
    simp only [borrowEntry]
    congr 1
    show 0 + a / I + b / I = 0 + (a + b) / I
    ring
  | some i =>
    simp only [borrowEntry]
    congr 1
    show i.base + a / I + b / I = i.base + (a + b) / I
    ring

/-- `w'` is `w` with `tok`'s balance as `Asset.sub` leaves it after `amount`: the difference, or 0 when the difference is within
    the 1e-5 dust of the balance; every other balance as it was -/
def WalletTook (w w' : Wallet) (tok : String) (amount : Rat) : Prop :=
  ∃ b b', AList.get? w tok = some b ∧ AList.get? w' tok = some b' ∧
    ((b' = b - amount ∧ 0 ≤ b - amount) ∨ (b' = 0 ∧ ratAbs ((b - amount) / (if b ≠ 0 then b else amount)) < assetDust)) ∧
    ∀ k, k ≠ tok → AList.get? w' k = AList.get? w k

/-- how a debit of `amount` from the balance `b0` can end: with the difference, or — inside `Asset.sub`'s dust — with 0 -/
def Aave.DebitEnds (b0 amount x : Rat) : Prop :=
  (x = b0 - amount ∧ 0 ≤ b0 - amount) ∨ (x = 0 ∧ 0 < b0 ∧ |b0 - amount| < assetDust * b0)

theorem Aave.DebitEnds.within {b amount x : Rat} (h : DebitEnds b amount x) (hle : amount ≤ b) :
    (x = b - amount ∨ (x = 0 ∧ b - amount < assetDust * b)) ∧ amount ≤ b - x := by
  rcases h with ⟨e, _⟩ | ⟨e, _, habs⟩
  · exact ⟨Or.inl e, by rw [e]; linarith⟩
  · exact ⟨Or.inr ⟨e, (abs_lt.mp habs).2⟩, by rw [e]; linarith⟩

theorem Aave.DebitEnds.over {b amount x : Rat} (h : DebitEnds b amount x) (hgt : b < amount) :
    x = 0 ∧ 0 < b ∧ amount - b < assetDust * b := by
  rcases h with ⟨_, hge⟩ | ⟨e, hbpos, habs⟩
  · exact absurd hge (by linarith)
  · exact ⟨e, hbpos, by linarith [(abs_lt.mp habs).1]⟩

theorem Aave.DebitEnds.differ {b0 amount x y : Rat} (hx : DebitEnds b0 amount x) (hy : DebitEnds b0 amount y) (hne : x ≠ y) :
    0 < b0 ∧ |b0 - amount| < assetDust * b0 := by
  rcases hx with ⟨e, _⟩ | ⟨e, h⟩
  · rcases hy with ⟨e', _⟩ | ⟨_, h'⟩
    · exact absurd (e.trans e'.symm) hne
    · exact h'
  · exact h

theorem Aave.DebitEnds.two {b0 a b x1 x2 : Rat} (ha : 0 < a) (hb : 0 < b) (c1 : DebitEnds b0 a x1) (c2 : DebitEnds x1 b x2) :
    DebitEnds b0 (a + b) x2 := by
  -- the first debit did not snap to 0 and left a positive balance (else the second would be refused)
  have hx1 : x1 = b0 - a ∧ 0 < x1 := by
    rcases c1 with ⟨e, h⟩ | ⟨e, _, _⟩
    · refine ⟨e, ?_⟩
      rcases c2 with ⟨_, h'⟩ | ⟨_, h', _⟩
      · linarith
      · exact h'
    · exfalso
      rcases c2 with ⟨_, h'⟩ | ⟨_, h', _⟩
      · rw [e] at h'; linarith
      · rw [e] at h'; exact lt_irrefl _ h'
  obtain ⟨ex1, px1⟩ := hx1
  have hb0 : 0 < b0 := by linarith
  have hdiff : x1 - b = b0 - (a + b) := by rw [ex1]; ring
  rcases c2 with ⟨e, h⟩ | ⟨e, _, hs2⟩
  · left; rw [← hdiff]; exact ⟨e, h⟩
  · right
    rw [hdiff] at hs2
    have : assetDust * x1 ≤ assetDust * b0 := mul_le_mul_of_nonneg_left (by linarith) assetDust_pos.le
    exact ⟨e, hb0, by linarith⟩

/-- `subtract_from_balance` in exact arithmetic -/
theorem aave_debit_inv {w w' : Wallet} {tok : String} {amount : Rat}
    (h : Wallet.debit aaveExact.toNumCtx w tok amount false = .ok w') (hpos : amount > 0) :
    ∃ b b', AList.get? w tok = some b ∧ w' = AList.set w tok b' ∧ DebitEnds b amount b' := by
  obtain ⟨b, b', hb, hs, rfl⟩ := Wallet.debit_false_ok h
  exact ⟨b, b', hb, rfl, assetSub_took (.inr hpos.le) hs⟩

theorem aave_walletTook_of_set {w : Wallet} {tok : String} {b0 x amount : Rat} (hg : AList.get? w tok = some b0)
    (hx : DebitEnds b0 amount x) :
    WalletTook w (AList.set w tok x) tok amount := by
  refine ⟨b0, x, hg, AList.get?_set_self _ _ _, ?_, fun k hk => AList.get?_set_ne _ (Ne.symm hk) _⟩
  rcases hx with h | ⟨e, hp, hs⟩
  · exact Or.inl h
  · right
    refine ⟨e, ?_⟩
    rw [ratAbs_eq_abs, if_pos (ne_of_gt hp), abs_div, abs_of_pos hp, div_lt_iff₀ hp]
    exact hs

/-- the bar's indices are positive (the property quantifies over positive indices) -/
def AavePosIdx (env : Env) : Prop := ∀ k st, env.statusOf k = .ok st → 0 < st.liqIdx ∧ 0 < st.varIdx

theorem aave_swap_exact {f t : String} {a x : Rat} (h : swapAmount aaveExact env f t a = .ok x) :
    ∃ pf pt, env.priceOf f = .ok pf ∧ env.priceOf t = .ok pt ∧ pt ≠ 0 ∧ x = a * pf / pt := by
  unfold swapAmount at h
  cases hpf : env.priceOf f with
  | error e => rw [hpf] at h; cases h
  | ok pf =>
    cases hpt : env.priceOf t with
    | error e => rw [hpf, hpt] at h; cases h
    | ok pt =>
      rw [hpf, hpt] at h
      have hin : divE aaveExact (aaveExact.mul (aaveExact.mul a 1) pf) pt = .ok x := h
      obtain ⟨hnz, hx⟩ := divE_ok_eq hin
      exact ⟨pf, pt, rfl, rfl, hnz, hx.trans (by show a * 1 * pf / pt = _; rw [mul_one])⟩

/-- the amount `p` a repayment of `a0` out of collateral settles on in exact arithmetic, against the collateral balance `S` at
    the prices `pb` (debt token) and `pc` (collateral token): `a0`, or the counter-value `S·pc/pb` of the whole balance when
    `a0` is worth more than that (`a0·pb/pc > S`) -/
def Aave.CappedAt (S pb pc a0 p : Rat) : Prop :=
  (a0 * pb / pc > S ∧ pb ≠ 0 ∧ p = S * pc / pb) ∨ (¬ a0 * pb / pc > S ∧ p = a0)

theorem aave_capped_exact {tok ctok : String} {a0 p : Rat} {cinfo : SupplyInfo} {cst : TokStatus} {pb pc : Rat}
    (hpb : env.priceOf tok = .ok pb) (hpc : env.priceOf ctok = .ok pc)
    (h : CappedPayback aaveExact env tok ctok a0 cinfo cst p) : CappedAt (cinfo.base * cst.liqIdx) pb pc a0 p := by
  obtain ⟨need, hneed, hcase⟩ := h
  obtain ⟨pf, pt, h1, h2, _, hx⟩ := aave_swap_exact hneed
  rw [hpb] at h1; rw [hpc] at h2; cases h1; cases h2
  subst hx
  rcases hcase with ⟨hc, hs⟩ | ⟨hc, hp⟩
  · obtain ⟨pf, pt, h1, h2, hnz, hx⟩ := aave_swap_exact hs
    rw [hpc] at h1; rw [hpb] at h2; cases h1; cases h2
    exact Or.inl ⟨hc, hnz, hx⟩
  · exact Or.inr ⟨hc, hp⟩

/-- the cap is additive -/
theorem Aave.CappedAt.two {S pb pc a b p2 p12 : Rat} (hpc : pc ≠ 0) (c2 : CappedAt (S - a * pb / pc) pb pc b p2)
    (c12 : CappedAt S pb pc (a + b) p12) : a + p2 = p12 := by
  have hadd : (a + b) * pb / pc = a * pb / pc + b * pb / pc := by rw [add_mul, add_div]
  rcases c2 with ⟨hc2, hpbnz, e2⟩ | ⟨hc2, e2⟩
  · rcases c12 with ⟨_, _, e12⟩ | ⟨hc12, _⟩
    · rw [e2, e12, sub_mul, sub_div, div_mul_cancel₀ _ hpc, mul_div_cancel_right₀ _ hpbnz]; ring
    · exfalso; apply hc12; rw [hadd]; exact sub_lt_iff_lt_add'.mp hc2
  · rcases c12 with ⟨hc12, _, _⟩ | ⟨_, e12⟩
    · exfalso; apply hc2; rw [hadd] at hc12; exact sub_lt_iff_lt_add'.mpr hc12
    · rw [e2, e12]

theorem aave_supply_moves {s s' : St} {tok : String} {amount : Rat} {coll : Bool}
    (h : supply aaveExact env tok amount coll s = (.ok (), s')) :
    ∃ st e b x, env.statusOf tok = .ok st ∧ AList.get? s'.supplies tok = some e ∧
      e.base * st.liqIdx = ((AList.get? s.supplies tok).map (·.base)).getD 0 * st.liqIdx + amount ∧
      (∀ k, k ≠ tok → AList.get? s'.supplies k = AList.get? s.supplies k) ∧ s'.borrows = s.borrows ∧
      AList.get? s.wallet tok = some b ∧ s'.wallet = AList.set s.wallet tok x ∧ DebitEnds b amount x := by
  obtain ⟨st, w', _, hpos, hst, hnz, _, hw, h1, h2, h3, _⟩ := supply_accepted h
  obtain ⟨b, x, hb, rfl, hd⟩ := aave_debit_inv hw hpos
  refine ⟨st, _, b, x, hst, by rw [h1]; exact AList.get?_set_self _ _ _, ?_,
    fun k hk => by rw [h1]; exact AList.get?_set_ne _ (Ne.symm hk) _, h2, hb, h3, hd⟩
  rw [supplyEntry_base]
  show (_ + amount / st.liqIdx) * st.liqIdx = _
  rw [add_mul, div_mul_cancel₀ _ hnz]

theorem aave_repay_cash_inv (hI : AavePosIdx env) {s s' : St} {tok : String}
    {amount? : Option Rat} {collTok? : Option String}
    (h : repay aaveExact env tok amount? false collTok? s = (.ok (), s')) :
    ∃ st info payback b x, env.statusOf tok = .ok st ∧ 0 < st.varIdx ∧ AList.get? s.borrows tok = some info ∧
      payback = amount?.getD (info.base * st.varIdx) ∧ 0 < payback ∧
      AList.get? s.wallet tok = some b ∧ s'.wallet = AList.set s.wallet tok x ∧ DebitEnds b payback x ∧
      s'.supplies = s.supplies ∧
      s'.borrows = borAfterSub s.borrows tok info (subBase aaveExact info.base (payback / st.varIdx)) := by
  obtain ⟨st, info, payback, w', _, hst, _, hg, hpay, hpos, _, hw, h1, h2, h3, _⟩ := repay_cash_accepted h
  have hidx : 0 < st.varIdx := (hI tok st hst).2
  have hpb : 0 < payback := (div_pos_iff_of_pos_right hidx).1 hpos
  obtain ⟨b, x, hb, rfl, hd⟩ := aave_debit_inv hw hpb
  exact ⟨st, info, payback, b, x, hst, hidx, hg, hpay, hpb, hb, h3, hd, h1, h2⟩

theorem aave_repay_coll_inv {s s' : St} {tok : String} {amount? : Option Rat} {collTok? : Option String}
    (h : repay aaveExact env tok amount? true collTok? s = (.ok (), s')) :
    ∃ st cst info cinfo payback pb pc, env.statusOf tok = .ok st ∧ env.statusOf (collTok?.getD tok) = .ok cst ∧
      cst.liqIdx ≠ 0 ∧ env.priceOf tok = .ok pb ∧ env.priceOf (collTok?.getD tok) = .ok pc ∧ pc ≠ 0 ∧
      AList.get? s.borrows tok = some info ∧ AList.get? s.supplies (collTok?.getD tok) = some cinfo ∧
      CappedAt (cinfo.base * cst.liqIdx) pb pc (amount?.getD (info.base * st.varIdx)) payback ∧
      0 < payback / st.varIdx ∧
      (∃ rr, quantE Gen.aaveRepayRoundDigits (info.base - payback / st.varIdx) = .ok rr ∧ 0 ≤ rr) ∧
      s'.wallet = s.wallet ∧
      s'.borrows = borAfterSub s.borrows tok info (subBase aaveExact info.base (payback / st.varIdx)) ∧
      s'.supplies = supAfterSub s.supplies (collTok?.getD tok) cinfo
        (subBase aaveExact cinfo.base (payback * pb / pc / cst.liqIdx)) := by
  obtain ⟨st, info, cinfo, cst, payback, inColl, _, hst, _, hg, hci, hcst, hcnz, hcap, hpos, hrr, hsw, k1, k2, k3, _⟩ :=
    repay_coll_accepted h
  obtain ⟨pb, pc, hpb, hpc, hpcnz, hin⟩ := aave_swap_exact hsw
  exact ⟨st, cst, info, cinfo, payback, pb, pc, hst, hcst, hcnz, hpb, hpc, hpcnz, hg, hci, aave_capped_exact hpb hpc hcap,
    hpos, hrr, k3, k2, hin ▸ k1⟩

end Demeter
