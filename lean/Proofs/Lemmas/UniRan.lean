/-
  How a call of one of the logging single-transaction operations of the Uniswap market (`add_liquidity`,
  `add_liquidity_by_tick`, `buy`, `sell`, `even_rebalance`) ends (`Ran`): rejected with the state it was given;
  accepted without effect; its one inner call (`_add_liquidity_by_tick` or `swap`) accepted and the action record
  appended; or — when a balance look-up for that record raises — the inner call's state alone with the look-up's
  exception.  `D s s'` is what is known of an accepted inner call.  The operations are walked once, here; a relation
  between states (`D := R 1`, Proofs/Lemmas/UniStepRelG.lean) and atomicity (`D :=` both pool tokens are in the wallet,
  Proofs/Lemmas/UniAtomic.lean) read their facts off `Ran`.
-/
import Proofs.Lemmas.UniPrims
namespace Demeter.Uni
open Demeter

inductive Ran (pool : Pool) (D : State → State → Prop) (s : State) : Res → Prop
  | rejected (e : Err) : Ran pool D s (.error e, s)
  | noop (v : List Rat) : Ran pool D s (.ok v, s)
  | done {s' : State} (v : List Rat) (a : Act) : D s s' → Ran pool D s (.ok v, record s' a)
  | late {s' : State} (e : Err) : D s s' →
      (balanceOf s'.wallet pool.baseTok = .error e ∨ balanceOf s'.wallet pool.quoteTok = .error e) →
      Ran pool D s (.error e, s')

variable {K : Kern} {pool : Pool} {D : State → State → Prop} {s : State}

theorem Ran.snd {r : Res} (h : Ran pool D s r) (refl : D s s) (record : ∀ {s'} a, D s s' → D s (Uni.record s' a)) :
    D s r.2 := by
  cases h with
  | rejected => exact refl
  | noop => exact refl
  | done _ a h => exact record a h
  | late _ h => exact h

/-- `even_rebalance` returns nothing of what its `buy` / `sell` returned -/
theorem Ran.dropValue {r : Res} (h : Ran pool D s r) :
    Ran pool D s (match (generalizing := false) r with
      | (.error e, s') => (.error e, s')
      | (.ok _, s') => (.ok [], s')) := by
  cases h with
  | rejected e => exact .rejected e
  | noop => exact .noop _
  | done _ a h => exact .done _ a h
  | late e h hb => exact .late e h hb

theorem ran_ite {c : Prop} [Decidable c] {a b : Res} (ha : Ran pool D s a) (hb : Ran pool D s b) :
    Ran pool D s (if c then a else b) := by
  split
  · exact ha
  · exact hb

/-- the tail shared by all of them: the inner call returned `(.ok x, s')`; look up both balances, append the record -/
theorem ran_log {s' : State} (hd : D s s') (out : List Rat) (act : Rat → Rat → Act) :
    Ran pool D s
      (match balanceOf s'.wallet pool.baseTok, balanceOf s'.wallet pool.quoteTok with
        | .ok bb, .ok qb => (.ok out, record s' (act bb qb))
        | .error e, _ => (.error e, s')
        | _, .error e => (.error e, s')) := by
  split
  · exact .done _ _ hd
  · rename_i hb; exact .late _ hd (.inl hb)
  · rename_i hq _; exact .late _ hd (.inr hq)

theorem addAndLog_ran (b q : Rat) (lo up : Int) (sq : Option Nat) (lp upp : Rat)
    (hD : D s (addRaw K pool s (pool.conv b q).1 (pool.conv b q).2 lo up sq).2) :
    Ran pool D s (addAndLog K pool s b q lo up sq lp upp) := by
  unfold Uni.addAndLog
  simp only []
  split
  · rename_i heq; rw [(addRaw_atomic ..).of_error heq]; exact .rejected _
  · rename_i heq; rw [heq] at hD; exact ran_log hD _ _

theorem addByTick_ran (lo up : Int) (b q : Option Rat) (sq : Option Nat) (t : Option Int) (trim : Bool)
    (hD : ∀ x a0 a1 lo up, sqrtOrTick K sq t = .ok x → D s (addRaw K pool s a0 a1 lo up x).2) :
    Ran pool D s (addByTick K pool s lo up b q sq t trim) := by
  unfold Uni.addByTick
  extract_lets lo1 up1
  split
  split
  · exact .rejected _
  rename_i x hx
  split
  · exact .rejected _
  split
  · exact .rejected _
  exact addAndLog_ran _ _ _ _ _ _ _ (hD x _ _ _ _ hx)

theorem addByPrice_ran (lp up : Rat) (lt ut : Int) (q b : Option Rat)
    (hD : ∀ a0 a1 lo up, D s (addRaw K pool s a0 a1 lo up none).2) :
    Ran pool D s (addByPrice K pool s lp up lt ut q b) := by
  unfold Uni.addByPrice
  split
  · exact .rejected _
  split
  · exact .rejected _
  split
  exact addAndLog_ran _ _ _ _ _ _ _ (hD ..)

theorem buy_ran (a : Rat) (p : Option Rat)
    (hD : ∀ price x, orMarketPrice s (givenPrice p) = .ok price → price ≠ 0 →
      D s (swap K pool s x pool.quoteTok pool.baseTok (some (K.cx.div 1 price)) false).2) :
    Ran pool D s (buy K pool s a p) := by
  unfold Uni.buy
  refine ran_ite (.noop _) ?_
  split
  · exact .rejected _
  rename_i price hprice
  refine ran_ite (.rejected _) ?_
  extract_lets qWithFee
  split
  · exact .rejected _
  rename_i hne
  have h := hD price qWithFee hprice hne
  split
  · rename_i heq; rw [(swap_atomic ..).of_error heq]; exact .rejected _
  · rename_i heq; rw [heq] at h; exact ran_log h _ _

theorem sell_ran (a : Rat) (p : Option Rat)
    (hD : ∀ price, orMarketPrice s (givenPrice p) = .ok price →
      D s (swap K pool s a pool.baseTok pool.quoteTok (some price) false).2) :
    Ran pool D s (sell K pool s a p) := by
  unfold Uni.sell
  refine ran_ite (.noop _) ?_
  split
  · exact .rejected _
  rename_i price hprice
  have h := hD price hprice
  split
  · rename_i heq; rw [(swap_atomic ..).of_error heq]; exact .rejected _
  · rename_i heq; rw [heq] at h; exact ran_log h _ _

theorem evenRebalance_ran (p : Option Rat)
    (hbuy : ∀ price x, priceOf s = .ok price → price ≠ 0 →
      D s (swap K pool s x pool.quoteTok pool.baseTok (some (K.cx.div 1 price)) false).2)
    (hsell : ∀ price x, priceOf s = .ok price → D s (swap K pool s x pool.baseTok pool.quoteTok (some price) false).2) :
    Ran pool D s (evenRebalance K pool s p) := by
  unfold Uni.evenRebalance
  split
  · exact .rejected _
  split
  · exact .rejected _
  split
  · exact .rejected _
  refine ran_ite (.rejected _) ?_
  extract_lets qb deltaBase deltaQuote
  refine ran_ite ?_ (ran_ite ?_ (.noop _))
  · exact (buy_ran deltaBase none hbuy).dropValue
  · exact (sell_ran deltaQuote none (fun price hp => hsell price _ hp)).dropValue

end Demeter.Uni
