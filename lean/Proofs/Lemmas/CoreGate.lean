/-
  `is_open`: between two refreshes the flags are the ones the first refresh of the bar computed from the markets' own time indexes
  (`OpenInv`), so every flag the trace shows — in a refresh, in the outcome of an operation, by an open callback — is that one (`OpGate`).
-/
import Proofs.Lemmas.CoreStretch
namespace Demeter.Core

def OpenInv (cfg : Cfg) (ts : Int) (ms : List MSt) : Prop :=
  ms.map (·.isOpen) = cfg.markets.map (fun mc => marketOpen cfg mc ts)

/-- what an event says about `is_open`, checked against the market's own time index -/
def OpGate (cfg : Cfg) (ts : Int) : Ev → Prop
  | .opOk _ _ m _ => ∃ mc, cfg.markets[m]? = some mc ∧ marketOpen cfg mc ts = true
  | .opRej _ _ m _ closed => ∃ mc, cfg.markets[m]? = some mc ∧ marketOpen cfg mc ts = !closed
  | .openCb _ m => ∃ mc, cfg.markets[m]? = some mc ∧ mc.openCb = true ∧ marketOpen cfg mc ts = true
  | .set _ m _ o _ => ∃ mc, cfg.markets[m]? = some mc ∧ o = marketOpen cfg mc ts
  | _ => True          -- in particular operations that are not `write_func`s are not gated

theorem openInv_lookup {cfg : Cfg} {ts : Int} {ms : List MSt} (h : OpenInv cfg ts ms) {m : Nat} {s : MSt} (hs : ms[m]? = some s) :
    ∃ mc, cfg.markets[m]? = some mc ∧ marketOpen cfg mc ts = s.isOpen := by
  have h1 : (ms.map (·.isOpen))[m]? = some s.isOpen := by rw [List.getElem?_map, hs]; rfl
  rw [h, List.getElem?_map] at h1
  cases hm : cfg.markets[m]? with
  | none => rw [hm] at h1; cases h1
  | some mc => rw [hm] at h1; exact ⟨mc, rfl, by simpa using h1⟩

theorem openAt_of_inv {cfg : Cfg} {ts : Int} {st : St} (h : OpenInv cfg ts st.ms) {i : Nat} {mc : MarketCfg}
    (hmc : cfg.markets[i]? = some mc) : st.openAt i = marketOpen cfg mc ts := by
  have h1 : (st.ms[i]?).map (·.isOpen) = some (marketOpen cfg mc ts) := by
    rw [← List.getElem?_map, h, List.getElem?_map, hmc]; rfl
  unfold St.openAt
  cases hs : st.ms[i]? with
  | none => rw [hs] at h1; cases h1
  | some s => rw [hs] at h1; exact Option.some.inj h1

def GateRel (cfg : Cfg) (ts : Int) (st : St) (evs : List Ev) (st' : St) : Prop :=
  OpenInv cfg ts st.ms → (∀ e ∈ evs, OpGate cfg ts e) ∧ OpenInv cfg ts st'.ms

theorem doOp_gate (cfg : Cfg) (ts : Int) (h : Hook) (op : OpSpec) (st : St) (hinv : OpenInv cfg ts st.ms) :
    (∀ e ∈ (doOp ts h op st).1, OpGate cfg ts e) ∧ OpenInv cfg ts (doOp ts h op st).2.ms := by
  refine doOp_cases (motive := fun r => (∀ e ∈ r.1, OpGate cfg ts e) ∧ OpenInv cfg ts r.2.ms) ts h op st
    (fun _ => ⟨List.forall_mem_nil _, hinv⟩) ⟨List.forall_mem_singleton.mpr trivial, hinv⟩ ⟨List.forall_mem_singleton.mpr trivial, hinv⟩ ?_ ?_ ?_
  · intro s hs ho
    obtain ⟨mc, hmc, hopen⟩ := openInv_lookup hinv hs
    exact ⟨List.forall_mem_singleton.mpr ⟨mc, hmc, by rw [hopen, ho]; rfl⟩, hinv⟩
  · intro s hs ho
    obtain ⟨mc, hmc, hopen⟩ := openInv_lookup hinv hs
    exact ⟨List.forall_mem_singleton.mpr ⟨mc, hmc, by rw [hopen, ho]; rfl⟩, hinv⟩
  · intro s hs ho
    obtain ⟨mc, hmc, hopen⟩ := openInv_lookup hinv hs
    refine ⟨List.forall_mem_singleton.mpr ⟨mc, hmc, by rw [hopen, ho]⟩, ?_⟩
    -- setting `has_update` leaves `is_open`
    show (st.ms.set op.m { s with hasUpdate := true }).map (·.isOpen) = _
    rw [← hinv]
    apply List.ext_getElem?
    intro i
    rw [List.getElem?_map, List.getElem?_map, getElem?_set_of_some hs]
    split
    · rename_i hi
      rw [← hi, hs]; rfl
    · rfl

theorem GateRel.phaseRel (cfg : Cfg) (ts : Int) : PhaseRel ts (GateRel cfg ts) where
  nil := fun _ hinv => ⟨List.forall_mem_nil _, hinv⟩
  append := fun h1 h2 hinv => ⟨List.forall_mem_append.mpr ⟨(h1 hinv).1, (h2 (h1 hinv).2).1⟩, (h2 (h1 hinv).2).2⟩
  op := fun h op st => doOp_gate cfg ts h op st
  plain := fun e _ he hinv => ⟨List.forall_mem_singleton.mpr (by cases e <;> trivial), hinv⟩
  uact := fun _ _ _ hinv => ⟨List.forall_mem_singleton.mpr trivial, hinv⟩

theorem GateRel.openCb (cfg : Cfg) (ts : Int) (i : Nat) (mc : MarketCfg) (st : St) (hmc : cfg.markets[i]? = some mc)
    (hcb : mc.openCb = true) (ho : st.openAt i = true) : GateRel cfg ts st [.openCb ts i] st :=
  fun hinv => ⟨List.forall_mem_singleton.mpr ⟨mc, hmc, hcb, by rw [← openAt_of_inv hinv hmc]; exact ho⟩, hinv⟩

theorem setAllFrom_gate (cfg : Cfg) (ts : Int) (stage : Nat) (i : Nat) (ms : List MarketCfg) (hd : cfg.markets.drop i = ms) :
    (∀ e ∈ (setAllFrom cfg ts stage i ms).1, OpGate cfg ts e) ∧
    (setAllFrom cfg ts stage i ms).2.map (·.isOpen) = ms.map (fun mc => marketOpen cfg mc ts) := by
  rw [setAllFrom_eq]
  refine ⟨List.forall_mem_map.mpr fun x hx => ⟨x.1, ?_, rfl⟩, by rw [List.map_map]; rfl⟩
  obtain ⟨h1, _, h3⟩ := List.mem_zipIdx hx
  have h4 : ms[x.2 - i]? = some x.1 := by rw [h3]; exact List.getElem?_eq_getElem _
  rw [← hd, List.getElem?_drop, Nat.add_sub_cancel' h1] at h4
  exact h4

theorem setUpdatedFrom_gate (cfg : Cfg) (ts : Int) (i : Nat) (ms : List MarketCfg) (ss : List MSt) : cfg.markets.drop i = ms →
    ss.map (·.isOpen) = ms.map (fun mc => marketOpen cfg mc ts) →
    (∀ e ∈ (setUpdatedFrom cfg ts i ms ss).1, OpGate cfg ts e) ∧
    (setUpdatedFrom cfg ts i ms ss).2.map (·.isOpen) = ms.map (fun mc => marketOpen cfg mc ts) := by
  fun_induction setUpdatedFrom cfg ts i ms ss with
  | case1 i mc rest s ss q hu ih =>
    intro hd hs
    obtain ⟨hmc, hd'⟩ := drop_cons_info hd
    simp only [List.map_cons, List.cons.injEq] at hs
    obtain ⟨b1, b2⟩ := ih hd' hs.2
    exact ⟨List.forall_mem_cons.mpr ⟨⟨mc, hmc, rfl⟩, b1⟩, congrArg (marketOpen cfg mc ts :: ·) b2⟩
  | case2 i mc rest s ss q hu ih =>
    intro hd hs
    simp only [List.map_cons, List.cons.injEq] at hs
    obtain ⟨b1, b2⟩ := ih (drop_cons_info hd).2 hs.2
    exact ⟨b1, by rw [List.map_cons, List.map_cons, hs.1]; exact congrArg (marketOpen cfg mc ts :: ·) b2⟩
  | case3 => exact fun _ hs => ⟨List.forall_mem_nil _, hs⟩

/-- operations issued from inside `notify` included: nothing refreshes the markets between `after_bar` and the `notify` loop -/
theorem barTrace_gate (cfg : Cfg) (sc : Script) (row : Nat) (ts : Int) (st : St) (price : Option Int) :
    (∀ e ∈ (barParts cfg sc row ts st price).trace row ts, OpGate cfg ts e) ∧ OpenInv cfg ts (barParts cfg sc row ts st price).n.2.ms := by
  obtain ⟨h1, h2, h3⟩ := barParts_stretch (GateRel.phaseRel cfg ts) cfg sc row st price (GateRel.openCb cfg ts)
  have g1 := setAllFrom_gate cfg ts 1 0 cfg.markets List.drop_zero
  obtain ⟨ga, ia⟩ := h1 g1.2
  obtain ⟨gb, ib⟩ := h2 ia
  have g2 := setUpdatedFrom_gate cfg ts 0 cfg.markets (barParts cfg sc row ts st price).n.2.ms List.drop_zero ib
  obtain ⟨gc, _⟩ := h3 g2.2
  refine ⟨?_, ib⟩
  rw [BarParts.trace_eq, BarParts.early_eq]
  exact List.forall_mem_append.mpr ⟨List.forall_mem_append.mpr ⟨List.forall_mem_append.mpr ⟨List.forall_mem_append.mpr ⟨g1.1, ga⟩, gb⟩,
    g2.1⟩, gc⟩

theorem runBars_gate (cfg : Cfg) (sc : Script) (bars : List Int) (row : Nat) (st : St) (h : (runBars cfg sc row bars st).2.2 = none) :
    ∀ e ∈ (runBars cfg sc row bars st).1, ∀ t, e.ts = some t → OpGate cfg t e := by
  intro e he t het
  rw [(runBars_normal h).1] at he
  obtain ⟨x, _, hx⟩ := List.mem_flatMap.mp he
  rw [((barTrace_sorted cfg sc _ _ _ _).2 e hx).1] at het
  cases het
  exact (barTrace_gate cfg sc _ _ _ _).1 e hx

theorem initTrace_gate (cfg : Cfg) (trigs : List Trig) (sc : Script) (ts0 : Int) : ∀ e ∈ initTrace cfg trigs sc ts0, OpGate cfg ts0 e := by
  have g0 := setAllFrom_gate cfg ts0 0 0 cfg.markets List.drop_zero
  obtain ⟨gi, _⟩ := runOps_rel (GateRel.phaseRel cfg ts0) .init sc.init (initSt cfg trigs ts0) g0.2
  intro e he
  simp only [initTrace, List.mem_append, List.mem_cons] at he
  rcases he with h' | rfl | h'
  · exact g0.1 e h'
  · trivial
  · exact gi e h'

end Demeter.Core
