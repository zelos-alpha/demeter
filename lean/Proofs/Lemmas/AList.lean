/-
  Insertion-ordered dictionaries (`AList κ ν`): what `get?` returns after `set` and `erase`, membership, and the key
  list `m.map (·.1)` with "no duplicate keys", the representation invariant of a Python dict.  No Mathlib.
-/
import Demeter.Wallet
namespace Demeter.AList
variable {κ ν : Type} [DecidableEq κ]

theorem get?_nil (k : κ) : get? ([] : AList κ ν) k = none := rfl

theorem get?_cons (k' : κ) (v : ν) (m : AList κ ν) (k : κ) :
    get? ((k', v) :: m) k = if k' = k then some v else get? m k := by
  unfold get?
  by_cases h : k' = k <;> simp [List.find?, h]

theorem get?_cons_self (k : κ) (v : ν) (m : AList κ ν) : get? ((k, v) :: m) k = some v := by
  rw [get?_cons, if_pos rfl]

theorem get?_cons_ne {k' k : κ} (h : k' ≠ k) (v : ν) (m : AList κ ν) : get? ((k', v) :: m) k = get? m k := by
  rw [get?_cons, if_neg h]

theorem set_nil (k : κ) (v : ν) : set ([] : AList κ ν) k v = [(k, v)] := rfl

theorem set_cons (k' k : κ) (v' v : ν) (m : AList κ ν) :
    set ((k', v') :: m) k v = if k' = k then (k, v) :: m else (k', v') :: set m k v := rfl

theorem erase_cons (k' k : κ) (v' : ν) (m : AList κ ν) :
    erase ((k', v') :: m) k = if k' = k then erase m k else (k', v') :: erase m k := by
  unfold erase
  by_cases hk : k' = k <;> simp [List.filter, hk]

theorem get?_set (m : AList κ ν) (k k' : κ) (v : ν) : get? (set m k v) k' = if k = k' then some v else get? m k' := by
  induction m with
  | nil => rw [set_nil, get?_cons]
  | cons e rest ih =>
    obtain ⟨t, b⟩ := e
    rw [set_cons]
    by_cases h : t = k
    · subst h
      rw [if_pos rfl, get?_cons, get?_cons]
      by_cases h1 : t = k' <;> simp only [h1, if_true, if_false]
    · rw [if_neg h, get?_cons, get?_cons, ih]
      by_cases h1 : t = k'
      · rw [if_pos h1, if_pos h1, if_neg (fun e => h (h1.trans e.symm))]
      · rw [if_neg h1, if_neg h1]

theorem get?_set_self (m : AList κ ν) (k : κ) (v : ν) : get? (set m k v) k = some v := by
  rw [get?_set, if_pos rfl]

theorem get?_set_ne (m : AList κ ν) {k k' : κ} (h : k ≠ k') (v : ν) : get? (set m k v) k' = get? m k' := by
  rw [get?_set, if_neg h]

theorem get?_erase (m : AList κ ν) (k k' : κ) : get? (erase m k) k' = if k = k' then none else get? m k' := by
  induction m with
  | nil => exact (ite_self _).symm
  | cons e rest ih =>
    obtain ⟨t, b⟩ := e
    rw [erase_cons]
    by_cases h : t = k
    · subst h
      rw [if_pos rfl, ih, get?_cons]
      by_cases h1 : t = k' <;> simp only [h1, if_true, if_false]
    · rw [if_neg h, get?_cons, get?_cons, ih]
      by_cases h1 : t = k'
      · rw [if_pos h1, if_pos h1, if_neg (fun e => h (h1.trans e.symm))]
      · rw [if_neg h1, if_neg h1]

theorem get?_erase_self (m : AList κ ν) (k : κ) : get? (erase m k) k = none := by
  rw [get?_erase, if_pos rfl]

theorem get?_erase_ne (m : AList κ ν) {k k' : κ} (h : k ≠ k') : get? (erase m k) k' = get? m k' := by
  rw [get?_erase, if_neg h]

theorem mem_of_get? {m : AList κ ν} {k : κ} {v : ν} (h : get? m k = some v) : (k, v) ∈ m := by
  induction m with
  | nil => cases h
  | cons a m ih =>
    obtain ⟨k', v'⟩ := a
    rw [get?_cons] at h
    by_cases h1 : k' = k
    · rw [if_pos h1] at h
      cases h
      rw [h1]
      exact List.mem_cons_self
    · rw [if_neg h1] at h
      exact List.mem_cons_of_mem _ (ih h)

theorem mem_set {m : AList κ ν} {k : κ} {v : ν} {a : κ × ν} (h : a ∈ set m k v) : a = (k, v) ∨ a ∈ m := by
  induction m with
  | nil => exact Or.inl (List.mem_singleton.mp h)
  | cons b m ih =>
    obtain ⟨k', v'⟩ := b
    rw [set_cons] at h
    by_cases h1 : k' = k
    · rw [if_pos h1] at h
      exact (List.mem_cons.mp h).imp_right (List.mem_cons_of_mem _)
    · rw [if_neg h1] at h
      rcases List.mem_cons.mp h with h | h
      · exact Or.inr (h ▸ List.mem_cons_self)
      · exact (ih h).imp_right (List.mem_cons_of_mem _)

theorem mem_erase_iff {m : AList κ ν} {k : κ} {a : κ × ν} : a ∈ erase m k ↔ a ∈ m ∧ a.1 ≠ k := by
  simp only [erase, List.mem_filter]
  exact and_congr_right fun _ => by simp

theorem mem_set_of_ne {m : AList κ ν} {n : κ} {v : ν} {a : κ × ν} (hne : a.1 ≠ n) : a ∈ set m n v ↔ a ∈ m := by
  obtain ⟨k, p⟩ := a
  induction m with
  | nil => simp [set, hne]
  | cons kv m ih =>
    obtain ⟨k', v'⟩ := kv
    rw [set_cons]
    by_cases hk : k' = n
    · subst hk; simp [hne]
    · simp [hk, ih]

theorem forall_set {P : ν → Prop} {m : AList κ ν} (h : ∀ a ∈ m, P a.2) (k : κ) {v : ν} (hv : P v) :
    ∀ a ∈ set m k v, P a.2 :=
  fun a ha => (mem_set ha).elim (fun e => e ▸ hv) (h a)

theorem set_of_get? {m : AList κ ν} {k : κ} {v : ν} (h : get? m k = some v) : set m k v = m := by
  induction m with
  | nil => cases h
  | cons p m ih =>
    obtain ⟨k', v'⟩ := p
    rw [set_cons]
    rw [get?_cons] at h
    by_cases hk : k' = k
    · rw [if_pos hk] at h ⊢
      cases h
      rw [hk]
    · rw [if_neg hk] at h ⊢
      rw [ih h]

theorem set_set (m : AList κ ν) (k : κ) (a b : ν) : set (set m k a) k b = set m k b := by
  induction m with
  | nil => rw [set_nil, set_cons, if_pos rfl, set_nil]
  | cons x m ih =>
    obtain ⟨k', v'⟩ := x
    by_cases h : k' = k
    · rw [set_cons, if_pos h, set_cons, set_cons, if_pos rfl, if_pos h]
    · rw [set_cons, if_neg h, set_cons, set_cons, if_neg h, if_neg h, ih]

theorem erase_set (m : AList κ ν) (k : κ) (v : ν) : erase (set m k v) k = erase m k := by
  induction m with
  | nil => rw [set_nil, erase_cons, if_pos rfl]
  | cons p m ih =>
    obtain ⟨k', v'⟩ := p
    rw [set_cons]
    by_cases hk : k' = k
    · rw [if_pos hk, erase_cons, erase_cons, if_pos rfl, if_pos hk]
    · rw [if_neg hk, erase_cons, erase_cons, if_neg hk, if_neg hk, ih]

omit [DecidableEq κ] in
theorem mem_keys_of_mem {m : AList κ ν} {p : κ × ν} (h : p ∈ m) : p.1 ∈ m.map (·.1) :=
  List.mem_map.mpr ⟨p, h, rfl⟩

theorem mem_keys_iff {m : AList κ ν} {k : κ} : k ∈ m.map (·.1) ↔ ∃ v, get? m k = some v := by
  refine ⟨fun h => ?_, fun ⟨_, h⟩ => mem_keys_of_mem (mem_of_get? h)⟩
  induction m with
  | nil => cases h
  | cons p m ih =>
    obtain ⟨k', v'⟩ := p
    rw [get?_cons]
    by_cases hk : k' = k
    · exact ⟨v', if_pos hk⟩
    · rw [if_neg hk]
      rcases List.mem_cons.mp h with h | h
      · exact absurd h.symm hk
      · exact ih h

theorem contains_iff {m : AList κ ν} {k : κ} : contains m k = true ↔ ∃ v, get? m k = some v := by
  unfold contains
  rw [List.any_eq_true, ← mem_keys_iff, List.mem_map]
  exact exists_congr fun _ => and_congr_right fun _ => decide_eq_true_iff

theorem get?_of_mem {m : AList κ ν} (hnd : (m.map (·.1)).Nodup) {p : κ × ν} (h : p ∈ m) : get? m p.1 = some p.2 := by
  induction m with
  | nil => cases h
  | cons q m ih =>
    obtain ⟨k', v'⟩ := q
    rw [List.map_cons, List.nodup_cons] at hnd
    rcases List.mem_cons.mp h with h | h
    · rw [h]
      exact get?_cons_self _ _ _
    · have hk : k' ≠ p.1 := fun e => hnd.1 (e ▸ mem_keys_of_mem (p := p) h)
      rw [get?_cons_ne hk]
      exact ih hnd.2 h

theorem keys_set (m : AList κ ν) (k : κ) (v : ν) :
    (set m k v).map (·.1) = if k ∈ m.map (·.1) then m.map (·.1) else m.map (·.1) ++ [k] := by
  induction m with
  | nil => rfl
  | cons p m ih =>
    obtain ⟨k', v'⟩ := p
    rw [set_cons]
    by_cases hk : k' = k
    · rw [if_pos hk, if_pos (by rw [hk]; exact List.mem_cons_self), hk]
      rfl
    · rw [if_neg hk, List.map_cons, List.map_cons, ih]
      by_cases hm : k ∈ m.map (·.1)
      · rw [if_pos hm, if_pos (List.mem_cons_of_mem _ hm)]
      · rw [if_neg hm, if_neg (fun h => (List.mem_cons.mp h).elim (fun e => hk e.symm) hm)]
        rfl

theorem mem_keys_set {m : AList κ ν} {k k' : κ} {v : ν} : k' ∈ (set m k v).map (·.1) ↔ k' = k ∨ k' ∈ m.map (·.1) := by
  rw [keys_set]
  split
  · rename_i h
    exact ⟨Or.inr, fun h' => h'.elim (fun e => e ▸ h) id⟩
  · rw [List.mem_append, List.mem_singleton]
    exact Or.comm

theorem nodup_keys_set (m : AList κ ν) (k : κ) (v : ν) : ((set m k v).map (·.1)).Nodup ↔ (m.map (·.1)).Nodup := by
  rw [keys_set]
  split
  · exact Iff.rfl
  · rename_i hk
    rw [List.nodup_append]
    refine ⟨fun h => h.1, fun h => ⟨h, List.nodup_cons.mpr ⟨List.not_mem_nil, List.nodup_nil⟩, ?_⟩⟩
    intro a ha b hb e
    rw [List.mem_singleton.mp hb] at e
    exact hk (e ▸ ha)

omit [DecidableEq κ] in
theorem nodup_map_filter {α : Type} (key : α → κ) (p : α → Bool) {l : List α} (h : (l.map key).Nodup) :
    ((l.filter p).map key).Nodup :=
  h.sublist (List.Sublist.map _ List.filter_sublist)

theorem keys_erase_sublist (m : AList κ ν) (k : κ) : ((erase m k).map (·.1)).Sublist (m.map (·.1)) :=
  List.Sublist.map _ List.filter_sublist

theorem nodup_keys_erase (m : AList κ ν) (k : κ) (h : (m.map (·.1)).Nodup) : ((erase m k).map (·.1)).Nodup :=
  nodup_map_filter Prod.fst _ h

theorem set_of_not_mem_keys {m : AList κ ν} {k : κ} (h : k ∉ m.map (·.1)) (v : ν) : set m k v = m ++ [(k, v)] := by
  induction m with
  | nil => rfl
  | cons p m ih =>
    obtain ⟨k', v'⟩ := p
    rw [List.map_cons, List.mem_cons, not_or] at h
    rw [set_cons, if_neg (fun e => h.1 e.symm), ih h.2]
    rfl

theorem erase_of_not_mem_keys {m : AList κ ν} {k : κ} (h : k ∉ m.map (·.1)) : erase m k = m := by
  induction m with
  | nil => rfl
  | cons p m ih =>
    obtain ⟨k', v'⟩ := p
    rw [List.map_cons, List.mem_cons, not_or] at h
    rw [erase_cons, if_neg (fun e => h.1 e.symm), ih h.2]

theorem forall_erase {P : ν → Prop} {m : AList κ ν} (h : ∀ a ∈ m, P a.2) (k : κ) : ∀ a ∈ erase m k, P a.2 :=
  fun a ha => h a (mem_erase_iff.mp ha).1

theorem forall_get? {P : ν → Prop} {m : AList κ ν} (h : ∀ a ∈ m, P a.2) {k : κ} {v : ν} (hg : get? m k = some v) : P v :=
  h (k, v) (mem_of_get? hg)

theorem set_restore {m : AList κ ν} {k : κ} {v : ν} (h : get? m k = some v) (v' : ν) : set (set m k v') k v = m := by
  rw [set_set, set_of_get? h]

theorem keys_set_of_get? {m : AList κ ν} {k : κ} {v' : ν} (h : get? m k = some v') (v : ν) :
    (set m k v).map (·.1) = m.map (·.1) := by
  rw [keys_set, if_pos (mem_keys_iff.mpr ⟨_, h⟩)]

/-- both keys present: an absent key would be appended, and the order of the two appends would show -/
theorem set_comm {m : AList κ ν} {k1 k2 : κ} {a1 a2 : ν} (hne : k1 ≠ k2) (h1 : get? m k1 = some a1) (h2 : get? m k2 = some a2)
    (v1 v2 : ν) : set (set m k1 v1) k2 v2 = set (set m k2 v2) k1 v1 := by
  induction m with
  | nil => cases h1
  | cons p m ih =>
    obtain ⟨k, v⟩ := p
    by_cases e1 : k = k1
    · have e2 : ¬ k = k2 := fun e => hne (e1.symm.trans e)
      rw [set_cons, if_pos e1, set_cons, if_neg (fun e => hne e), set_cons, if_neg e2, set_cons, if_pos e1]
    · by_cases e2 : k = k2
      · rw [set_cons, if_neg e1, set_cons, if_pos e2, set_cons, if_pos e2, set_cons, if_neg (fun e => hne e.symm)]
      · rw [get?_cons, if_neg e1] at h1
        rw [get?_cons, if_neg e2] at h2
        rw [set_cons, if_neg e1, set_cons, if_neg e2, set_cons, if_neg e2, set_cons, if_neg e1, ih h1 h2]

omit [DecidableEq κ] in
theorem eq_of_nodup_map {α : Type} (key : α → κ) : ∀ {l : List α}, (l.map key).Nodup → ∀ {x y : α}, x ∈ l → y ∈ l → key x = key y → x = y
  | [], _, _, _, hx, _, _ => by cases hx
  | a :: l, hn, x, y, hx, hy, hxy => by
    rw [List.map_cons, List.nodup_cons] at hn
    rcases List.mem_cons.mp hx with rfl | hx' <;> rcases List.mem_cons.mp hy with rfl | hy'
    · rfl
    · exact absurd (List.mem_map.mpr ⟨y, hy', hxy.symm⟩) hn.1
    · exact absurd (List.mem_map.mpr ⟨x, hx', hxy⟩) hn.1
    · exact eq_of_nodup_map key hn.2 hx' hy' hxy

/-! "delete the entry (`c`) or overwrite it", the update of a dict whose zero entries are dropped -/

theorem get?_eraseOrSet_self (m : AList κ ν) (k : κ) (v : ν) (c : Prop) [Decidable c] :
    get? (if c then erase m k else set m k v) k = if c then none else some v := by
  split
  · exact get?_erase_self _ _
  · exact get?_set_self _ _ _

theorem get?_eraseOrSet_ne (m : AList κ ν) {k k' : κ} (hk : k' ≠ k) (v : ν) (c : Prop) [Decidable c] :
    get? (if c then erase m k else set m k v) k' = get? m k' := by
  split
  · exact get?_erase_ne _ (Ne.symm hk)
  · exact get?_set_ne _ (Ne.symm hk) _

theorem eraseOrSet_found {m : AList κ ν} {k : κ} {v i : ν} {c : Prop} [Decidable c]
    (h : get? (if c then erase m k else set m k v) k = some i) : ¬ c ∧ i = v := by
  rw [get?_eraseOrSet_self] at h
  split at h
  · cases h
  · rename_i hne
    exact ⟨hne, (Option.some.inj h).symm⟩

theorem eraseOrSet_eraseOrSet (m : AList κ ν) (k : κ) (v v' : ν) {c : Prop} [Decidable c] (c' : Prop) [Decidable c'] (h : ¬ c) :
    (if c' then erase (if c then erase m k else set m k v) k else set (if c then erase m k else set m k v) k v') =
      if c' then erase m k else set m k v' := by
  rw [if_neg h]
  split
  · exact erase_set _ _ _
  · rw [set_set]

theorem nodup_keys_eraseOrSet {m : AList κ ν} (h : (m.map (·.1)).Nodup) (k : κ) (v : ν) (c : Prop) [Decidable c] :
    ((if c then erase m k else set m k v).map (·.1)).Nodup := by
  by_cases hc : c
  · rw [if_pos hc]; exact nodup_keys_erase m k h
  · rw [if_neg hc]; exact (nodup_keys_set m k v).mpr h

end Demeter.AList
