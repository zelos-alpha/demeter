/-
  What `BacktestManager.run()` (Demeter/Manager.lean) needs for its backtests to be isolated, layer by layer, and the facts
  the three C19 files share: one `_start` call under those hypotheses, the `if` ladder of `run()` as one function of its
  branches (`dispatch`), the plain manager as the failure layer at "nobody fails", and the scripted strategies of the
  witnesses.
-/
import Demeter.Manager
namespace Demeter
open Manager

variable {M C V N P O : Type}

def Manager.MktsIntact (strats : List (Strat M C V N P O)) : Prop := ∀ s ∈ strats, ∀ m d, (s.run m d).1 = m
def Manager.ColsIntact (strats : List (Strat M C V N P O)) : Prop := ∀ s ∈ strats, ∀ m d, (s.run m d).2.1.cols = d.cols
def Manager.ValsIntact (strats : List (Strat M C V N P O)) : Prop := ∀ s ∈ strats, ∀ m d, (s.run m d).2.1.vals = d.vals
/-- no strategy writes into the objects nested in cells itself -/
def Manager.CellsIntact (strats : List (Strat M C V N P O)) : Prop := ∀ s ∈ strats, ∀ m d, (s.run m d).2.1.cells = d.cells
/-- no strategy trades against an order book -/
def Manager.FillsNone (strats : List (Strat M C V N P O)) : Prop := ∀ s ∈ strats, ∀ m d n, s.fills m d n = n
/-- no strategy (nor its Actuator) writes into the price frame it holds -/
def Manager.PricesIntact (strats : List (Strat M C V N P O)) : Prop := ∀ s ∈ strats, ∀ m d, (s.run m d).2.1.prices = d.prices

/-- the shared data `d` survives every backtest of the list: layer by layer, either the code hands out a private copy
    of that layer or no strategy writes into it -/
structure Manager.DataSafe (env : Env M P) (md : Mode) (d : Data C V N P) (strats : List (Strat M C V N P O)) : Prop where
  cols : md.dataView = true ∨ ColsIntact strats
  vals : (md.dataView = true ∧ md.cow = true) ∨ ValsIntact strats
  cells : md.cellsCopied = true ∨ (CellsIntact strats ∧ (md.orderListCopied = true ∨ FillsNone strats))
  prices : md.prices.adopts (env.isDec d.prices) = false ∨ PricesIntact strats

/-- the configured markets survive every backtest and every backtest is attached to markets equal to the configured
    ones: copied as a whole; or copied one by one when no market refers to another; or not copied when no strategy
    leaves anything in them -/
def Manager.MarketsSafe (env : Env M P) (md : Mode) (cfg : M) (strats : List (Strat M C V N P O)) : Prop :=
  md.markets = .whole ∨ (md.markets = .each ∧ env.sever cfg = cfg) ∨ (md.markets = .none ∧ MktsIntact strats)

/-- every backtest is attached to markets equal to the configured ones (enough when the configuration is pickled per task) -/
def Manager.AttachSafe (env : Env M P) (md : Mode) (cfg : M) : Prop := md.markets ≠ .each ∨ env.sever cfg = cfg

section steps
variable {env : Env M P} {md : Mode} {d : Data C V N P} {cfg : M} {s : Strat M C V N P O} {strats : List (Strat M C V N P O)}

theorem Manager.MarketsSafe.attach (h : MarketsSafe env md cfg strats) : AttachSafe env md cfg := by
  rcases h with h | ⟨_, h⟩ | ⟨h, _⟩
  · left; rw [h]; decide
  · right; exact h
  · left; rw [h]; decide

theorem Manager.attached_eq (h : AttachSafe env md cfg) : attached env md cfg = cfg := by
  unfold attached
  split
  · rename_i hm
    exact h.resolve_left (not_not_intro hm)
  · rfl

private theorem ite_eq_of_or {α : Type} {c : Prop} [Decidable c] {a b : α} (h : c ∨ b = a) : (if c then a else b) = a := by
  rcases h with h | h
  · exact if_pos h
  · rw [h]; exact ite_self a

theorem Manager.start_data (h : DataSafe env md d strats) (hs : s ∈ strats) (cfg : M) : (start env md s cfg d).2.1 = d := by
  obtain ⟨c, v, n, p⟩ := d
  simp only [start, Data.mk.injEq]
  refine ⟨ite_eq_of_or (h.cols.imp id fun g => g s hs _ _),
    ite_eq_of_or (h.vals.imp (fun g => by rw [g.1, g.2]; rfl) fun g => g s hs _ _),
    ite_eq_of_or (h.cells.imp id fun g => ?_), ?_⟩
  · rw [g.1 s hs]
    exact ite_eq_of_or (g.2.imp id fun g2 => g2 s hs _ _ _)
  · rcases h.prices with g | g
    · exact if_neg (by rw [g]; decide)
    · rw [g s hs]; exact ite_self p

theorem Manager.start_markets (h : MarketsSafe env md cfg strats) (hs : s ∈ strats) (d : Data C V N P) :
    (start env md s cfg d).1 = cfg := by
  rcases h with h | ⟨h, _⟩ | ⟨h1, h2⟩
  · simp only [start, h]
  · simp only [start, h]
  · simp only [start, h1, attached]
    exact h2 s hs cfg d

theorem Manager.start_obs (h : AttachSafe env md cfg) (d : Data C V N P) : (start env md s cfg d).2.2 = (s.run cfg d).2.2 := by
  simp only [start, attached_eq h]

end steps

abbrev Manager.plain (strats : List (FStrat M C V N P O)) : List (Strat M C V N P O) := strats.map (·.toStrat)

section stepsF
variable {env : Env M P} {md : Mode} {d : Data C V N P} {cfg : M} {s : FStrat M C V N P O} {strats : List (FStrat M C V N P O)}

theorem Manager.startF_data (h : DataSafe env md d (plain strats)) (hs : s ∈ strats) (cfg : M) :
    (startF env md s cfg d).2.1 = d :=
  start_data h (List.mem_map_of_mem hs) cfg

theorem Manager.startF_markets (h : MarketsSafe env md cfg (plain strats)) (hs : s ∈ strats) (d : Data C V N P) :
    (startF env md s cfg d).1 = cfg :=
  start_markets h (List.mem_map_of_mem hs) d

theorem Manager.startF_res (h : AttachSafe env md cfg) (d : Data C V N P) :
    (startF env md s cfg d).2.2 = if s.fails cfg d then none else some (s.run cfg d).2.2 := by
  simp only [startF, attached_eq h, start_obs h]

end stepsF

/-- the `if` ladder of `BacktestManager.run()` once both the configuration and the data are set, as a function of what
    its branches do (`n` strategies; `empty`: none; `seq`: in-process loop; `args`: Windows pool; `fork`: forked pool) -/
def Manager.dispatch {α : Type} (threads cpu : Nat) (windows ctxSet : Bool) (n : Nat) (empty seq args fork : α)
    (raised : String → α) : α :=
  if n < 1 then empty
  else if n = 1 ∨ threads = 1 then seq
  else if threads > cpu then raised "TypeError"
  else if windows then
    if threads = 0 then raised "ValueError"
    else args
  else if ctxSet then raised "RuntimeError"
  else if threads = 0 then raised "ValueError"
  else fork

section dispatch
variable {α β : Type} {threads cpu n : Nat} {windows ctxSet : Bool} {empty seq args fork : α} {raised : String → α}

/-- eliminator of one `if`, applied by unification (`split` would simplify the whole remaining ladder at every rung) -/
private theorem Manager.ite_motive {motive : α → Prop} {c : Prop} [Decidable c] {a b : α} (ha : c → motive a) (hb : ¬ c → motive b) :
    motive (if c then a else b) := by
  by_cases h : c
  · rw [if_pos h]; exact ha h
  · rw [if_neg h]; exact hb h

theorem Manager.dispatch_cases {motive : α → Prop} (he : n = 0 → motive empty) (hs : motive seq) (ha : motive args)
    (hf : motive fork) (hr : ∀ cls, cpu < threads ∨ threads = 0 ∨ ctxSet = true → motive (raised cls)) :
    motive (dispatch threads cpu windows ctxSet n empty seq args fork raised) :=
  ite_motive (fun h => he (by omega)) fun _ =>
  ite_motive (fun _ => hs) fun _ =>
  ite_motive (fun h => hr _ (.inl h)) fun _ =>
  ite_motive (fun _ => ite_motive (fun h => hr _ (.inr (.inl h))) fun _ => ha) fun _ =>
  ite_motive (fun h => hr _ (.inr (.inr h))) fun _ =>
  ite_motive (fun h => hr _ (.inr (.inl h))) fun _ => hf

/-- in the supported configurations (at least one thread, not more threads than cpus, no start method fixed earlier) no
    rung of the ladder raises -/
theorem Manager.dispatch_supported {motive : α → Prop} (ht : 1 ≤ threads) (hc : threads ≤ cpu) (he : motive empty)
    (hs : motive seq) (ha : motive args) (hf : motive fork) :
    motive (dispatch threads cpu windows false n empty seq args fork raised) :=
  dispatch_cases (fun _ => he) hs ha hf fun _ h => by
    rcases h with h | h | h
    · omega
    · omega
    · cases h

theorem Manager.dispatch_map (f : α → β) :
    f (dispatch threads cpu windows ctxSet n empty seq args fork raised)
      = dispatch threads cpu windows ctxSet n (f empty) (f seq) (f args) (f fork) (fun cls => f (raised cls)) := by
  simp only [dispatch, apply_ite f]

end dispatch

theorem Manager.managerRun_eq (env : Env M P) (md : Mode) (threads cpu : Nat) (windows ctxSet : Bool) (assign : Nat → Nat)
    (cfg : M) (d : Data C V N P) (strats : List (Strat M C V N P O)) :
    managerRun env md threads cpu windows ctxSet assign (some cfg) (some d) strats
      = dispatch threads cpu windows ctxSet strats.length (.done []) (.done (runSeq env md cfg d strats))
          (.done (runPoolArgs env md cfg d strats)) (.done (runPool env md cfg assign (fun _ => d) 0 strats)) .raised :=
  rfl

theorem Manager.managerRunF_eq (env : Env M P) (md : Mode) (fm : FailMode) (threads cpu : Nat) (windows ctxSet : Bool)
    (assign : Nat → Nat) (finished : Nat → Bool) (cfg : M) (d : Data C V N P) (strats : List (FStrat M C V N P O)) :
    managerRunF env md fm threads cpu windows ctxSet assign finished (some cfg) (some d) strats
      = dispatch threads cpu windows ctxSet strats.length (.done [])
          (seqOutcome fm.catchesInProcess (runSeqF env md fm.catchesInProcess cfg d strats))
          (poolOutcome fm.argsPoolWaits finished (runPoolArgsF env md cfg d strats))
          (poolOutcome fm.forkPoolWaits finished (runPoolF env md cfg assign (fun _ => d) 0 strats)) .raised :=
  rfl

/-! a backtest that never fails: every path of the failure layer is the plain path with `some` around each observation -/

theorem Manager.runSeqF_neverFails (env : Env M P) (md : Mode) (catches : Bool) (cfg : M) (d : Data C V N P)
    (strats : List (Strat M C V N P O)) :
    runSeqF env md catches cfg d (strats.map Strat.neverFails) = (runSeq env md cfg d strats).map some := by
  induction strats generalizing cfg d with
  | nil => rfl
  | cons s rest ih => simp [runSeqF, runSeq, startF, Strat.neverFails, ih]

theorem Manager.runPoolF_neverFails (env : Env M P) (md : Mode) (cfg : M) (assign : Nat → Nat) (w : Nat → Data C V N P) (i0 : Nat)
    (strats : List (Strat M C V N P O)) :
    runPoolF env md cfg assign w i0 (strats.map Strat.neverFails) = (runPool env md cfg assign w i0 strats).map some := by
  induction strats generalizing w i0 with
  | nil => rfl
  | cons s rest ih => simp [runPoolF, runPool, startF, Strat.neverFails, ih]

theorem Manager.runPoolArgsF_neverFails (env : Env M P) (md : Mode) (cfg : M) (d : Data C V N P)
    (strats : List (Strat M C V N P O)) :
    runPoolArgsF env md cfg d (strats.map Strat.neverFails) = (runPoolArgs env md cfg d strats).map some := by
  simp [runPoolArgsF, runPoolArgs, startF, Strat.neverFails]

theorem Manager.specF_neverFails (cfg : M) (d : Data C V N P) (strats : List (Strat M C V N P O)) :
    specF cfg d (strats.map Strat.neverFails) = (spec cfg d strats).map some := by
  simp only [specF, spec, List.map_map]
  rfl

theorem Manager.eq_spec_of_specF {cfg : M} {d : Data C V N P} {strats : List (Strat M C V N P O)} {l : List O}
    (h : l.map some = specF cfg d (strats.map Strat.neverFails)) : l = spec cfg d strats := by
  rw [specF_neverFails] at h
  exact (List.map_inj_right fun _ _ => Option.some.inj).mp h

theorem Manager.plain_neverFails (strats : List (Strat M C V N P O)) : plain (strats.map Strat.neverFails) = strats := by
  rw [plain, List.map_map]
  exact List.map_id strats

def Manager.Outcome.lift : Outcome O → FOutcome O
  | .done obs => .done (obs.map some)
  | .raised cls => .raised cls

theorem Manager.mode_current (cow : Bool) : Mode.current cow = ⟨.whole, true, cow, true, true, .always⟩ := by
  cases cow <;> rfl

/- The witnesses of C19 use the projection of `Demeter.Manager`: a strategy observes what it *found*: (positions on
   market 1, on market 2, references between markets intact), and per data layer a counter (columns added, values
   overwritten, depth missing from the order books, price cells overwritten + "the `USD` column is there"). -/

def Manager.eff0 : Effect := ⟨0, 0, 0, 0, 0, 0, 0⟩
def Manager.pd0 : PData := ⟨0, 0, 0, (0, false)⟩
abbrev Manager.PStrat := Strat PM Nat Nat Nat (Nat × Bool) (PM × PData)

abbrev Manager.PFStrat := FStrat PM Nat Nat Nat (Nat × Bool) (PM × PData)
/-- (instance search gives up on the nested products below `Option (List (Option _))` without a shortcut) -/
instance Manager.instDecidableEqProbeObs : DecidableEq (PM × PData) := inferInstance
/-- fails always (an exception from `on_bar`) -/
def Manager.raiser : PFStrat := probeFStrat eff0 true
/-- opens a position -/
def Manager.adder : PFStrat := probeFStrat { eff0 with posA := 1 } false
def Manager.idle : PFStrat := probeFStrat eff0 false
/-- what a strategy finds in untouched objects -/
def Manager.fresh : PM × PData := ((0, 0, true), pd0)

end Demeter
