/-
  The "sticky half" lemma behind `sqrtSig`.

  `sqrtSig` rounds `y = (s + 1/2)/10^k` when the scaled radicand `X` is not a perfect square, where `s = ⌊√X⌋ ≥ 10^p`.
  Because `s` has more than `p` digits, one unit in the last place of the `p`-digit result is an even integer `2H ≥ 10` on
  the scale of `s`, so rounding points and ties are integers and none lies strictly inside `(s, s+1)`: the rounded value
  `R` satisfies `s + 1 − H ≤ R ≤ s + H`, i.e. it is within half an ulp of *every* point of `[s, s+1]`, in particular of
  the true `√X`.  With `H ≤ ε·s` this gives `(s+1)(1−ε) ≤ R ≤ s(1+ε)`.
-/
import Proofs.Lemmas.Round35Props
namespace Demeter.Numerics
open Demeter
local notation "T" => (10 : ℚ)

theorem nat_le_of_le_add_half {a b : ℕ} (h : (a:ℚ) ≤ b + 1 / 2) : a ≤ b := by
  by_contra hc
  have : ((b + 1 : ℕ) : ℚ) ≤ a := by exact_mod_cast Nat.lt_of_not_le hc
  push_cast at this
  linarith only [h, this]

theorem rheQ_half_grid (s H : ℕ) (hH : 0 < H) :
    2 * (rheQ (((s:ℚ) + 1 / 2) / (2 * H)) * H) ≤ s + H ∧
    s + 1 ≤ 2 * (rheQ (((s:ℚ) + 1 / 2) / (2 * H)) * H) + H := by
  have hHq : (0:ℚ) < 2 * H := by positivity
  have herr := rheQ_err (((s:ℚ) + 1 / 2) / (2 * H)) (by positivity)
  generalize rheQ (((s:ℚ) + 1 / 2) / (2 * H)) = Q at *
  obtain ⟨e1, e2⟩ := abs_le.1 herr
  have a := mul_le_mul_of_nonneg_right e1 hHq.le
  have b := mul_le_mul_of_nonneg_right e2 hHq.le
  rw [sub_mul, div_mul_cancel₀ _ hHq.ne'] at a b
  exact ⟨nat_le_of_le_add_half (by push_cast; linarith only [b]), nat_le_of_le_add_half (by push_cast; linarith only [a])⟩

theorem sqrt_inexact_core (p : ℕ) (hp : 1 ≤ p) (s : ℕ) (hsp : 10 ^ p ≤ s) (k : ℤ)
    (hr : InRange (((s:ℚ) + 1 / 2) / T ^ k)) :
    ((s:ℚ) + 1) * (1 - epsP p) ≤ rpos p (((s:ℚ) + 1 / 2) / T ^ k) * T ^ k ∧
    rpos p (((s:ℚ) + 1 / 2) / T ^ k) * T ^ k ≤ (s:ℚ) * (1 + epsP p) := by
  have hy : (0:ℚ) < ((s:ℚ) + 1 / 2) / T ^ k := div_pos (by positivity) (Tz_pos k)
  obtain ⟨v1, v2⟩ := sexp_spec p hy hr
  unfold rpos
  generalize sexp p (((s:ℚ) + 1 / 2) / T ^ k) = e at v1 v2 ⊢
  have hv : ((s:ℚ) + 1 / 2) / T ^ k / T ^ e = ((s:ℚ) + 1 / 2) / T ^ (k + e) := by
    rw [Tz_add, div_div]
  rw [hv] at v1 v2
  rw [mul_assoc, mul_comm (T ^ e), ← Tz_add, hv]
  have hsq : T ^ (p:ℤ) ≤ (s:ℚ) := by rw [zpow_natCast]; exact_mod_cast hsp
  -- the grid `10^(e+k)` is coarser than the integers: otherwise `s + 1/2 < 10^p ≤ s`
  have hg : 0 < k + e := by
    by_contra hc
    rw [div_lt_iff₀ (Tz_pos _), ← Tz_add] at v2
    have := lt_of_lt_of_le v2 (Tz_mono (by omega : (p:ℤ) + (k + e) ≤ p))
    linarith only [this, hsq]
  obtain ⟨m, hm⟩ : ∃ m : ℕ, k + e = (m:ℤ) + 1 := ⟨(k + e - 1).toNat, by omega⟩
  have hG : T ^ (k + e) = 2 * ((5 * 10 ^ m : ℕ) : ℚ) := by
    rw [hm, Tz_succ, zpow_natCast]; push_cast; ring
  have hH : 0 < 5 * 10 ^ m := by positivity
  rw [hG] at v1 ⊢
  obtain ⟨i1, i2⟩ := rheQ_half_grid s (5 * 10 ^ m) hH
  generalize rheQ (((s:ℚ) + 1 / 2) / (2 * ((5 * 10 ^ m : ℕ) : ℚ))) = Q at *
  generalize 5 * 10 ^ m = H at *
  have hHq : (0:ℚ) < 2 * H := by positivity
  have i1' : (2 * (Q * H) : ℚ) ≤ (s:ℚ) + H := by exact_mod_cast i1
  have i2' : (s:ℚ) + 1 ≤ 2 * (Q * H) + H := by exact_mod_cast i2
  -- `H ≤ ε·s`, from `10^(p-1) ≤ (s + 1/2) / (2H)` read on integers
  have i4 : (H:ℚ) ≤ epsP p * s := by
    have e := epsP_mul p
    rw [le_div_iff₀ hHq] at v1
    rw [Tz_pred hp] at v1 e
    have : 10 ^ (p - 1) * (2 * H) ≤ s := nat_le_of_le_add_half (by push_cast; exact v1)
    have : ((10 ^ (p - 1) * (2 * H) : ℕ) : ℚ) ≤ (s:ℚ) := by exact_mod_cast this
    push_cast at this
    calc (H:ℚ) = epsP p * (10 ^ (p - 1) * (2 * H)) := by rw [← mul_assoc, e]; ring
      _ ≤ epsP p * s := mul_le_mul_of_nonneg_left this (epsP_pos p).le
  have hε := epsP_pos p
  constructor
  · linarith only [i2', i4, hε]
  · linarith only [i1', i4]
end Demeter.Numerics
