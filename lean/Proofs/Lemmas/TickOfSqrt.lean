/-
  The sqrt price → tick conversion and the tick rounding of Demeter/TickMath.lean, for any strictly increasing `sqrtAt`
  (`MonoAll`, proved in Proofs/C06/Full.lean): `tickOfSqrt` returns the clamped floor tick whatever the estimate was, as soon
  as the fuel covers the distance; `roundDivHalfEven t sp · sp` is within half a spacing of `t`.  Integer arithmetic only.
-/
import Demeter.TickMath
namespace Demeter
open Gen

def MonoAll : Prop := ∀ t : Int, minTick ≤ t → t < maxTick → sqrtAt t < sqrtAt (t + 1)

theorem mono_le (hm : MonoAll) (s t : Int) (h1 : minTick ≤ s) (h2 : s ≤ t) (h3 : t ≤ maxTick) :
    sqrtAt s ≤ sqrtAt t := by
  obtain ⟨n, rfl⟩ : ∃ n : Nat, t = s + n := ⟨(t - s).toNat, by omega⟩
  clear h2
  induction n with
  | zero => simp
  | succ n ih =>
    have h4 := hm (s + n) (by omega) (by omega)
    have h5 := ih (by omega)
    rw [show s + ((n + 1 : Nat) : Int) = s + (n : Int) + 1 by omega]
    omega

theorem mono_lt (hm : MonoAll) (s t : Int) (h1 : minTick ≤ s) (h2 : s < t) (h3 : t ≤ maxTick) :
    sqrtAt s < sqrtAt t := by
  have a := hm s h1 (by omega)
  have b := mono_le hm (s + 1) t (by omega) (by omega) h3
  omega

theorem clampTick_range (est : Int) : minTick ≤ clampTick est ∧ clampTick est ≤ maxTick := by
  unfold clampTick minTick maxTick tickBound
  split
  · omega
  · split <;> omega

theorem tickCorrectDown_stay (f : Nat) {t : Int} {x : Nat} (h : ¬ (t > minTick ∧ x < sqrtAt t)) : tickCorrectDown f t x = t := by
  cases f with
  | zero => rfl
  | succ f => exact if_neg h

theorem tickCorrectUp_stay (f : Nat) {t : Int} {x : Nat} (h : ¬ (t < maxTick ∧ sqrtAt (t + 1) ≤ x)) : tickCorrectUp f t x = t := by
  cases f with
  | zero => rfl
  | succ f => exact if_neg h

theorem tickCorrectDown_reach {x : Nat} {ts T : Int} (go : ∀ u, ts < u → u ≤ T → u > minTick ∧ x < sqrtAt u)
    (stop : ¬ (ts > minTick ∧ x < sqrtAt ts)) (f : Nat) (t : Int) (hT : t ≤ T) (a : ts ≤ t) (b : t - ts ≤ f) :
    tickCorrectDown f t x = ts := by
  induction f generalizing t with
  | zero => rw [show t = ts by omega]; rfl
  | succ f ih =>
    by_cases e : t = ts
    · rw [e]; exact tickCorrectDown_stay _ stop
    · exact (if_pos (go t (by omega) hT)).trans (ih (t - 1) (by omega) (by omega) (by omega))

theorem tickCorrectUp_reach {x : Nat} {ts T : Int} (go : ∀ u, T ≤ u → u < ts → u < maxTick ∧ sqrtAt (u + 1) ≤ x)
    (stop : ¬ (ts < maxTick ∧ sqrtAt (ts + 1) ≤ x)) (f : Nat) (t : Int) (hT : T ≤ t) (a : t ≤ ts) (b : ts - t ≤ f) :
    tickCorrectUp f t x = ts := by
  induction f generalizing t with
  | zero => rw [show t = ts by omega]; rfl
  | succ f ih =>
    by_cases e : t = ts
    · rw [e]; exact tickCorrectUp_stay _ stop
    · exact (if_pos (go t hT (by omega))).trans (ih (t + 1) (by omega) (by omega) (by omega))

/-- `tickOfSqrt` returns `ts` as soon as `ts` is the floor tick of `x` in the clamped sense: `sqrtAt ts ≤ x` unless `ts` is the
    first tick, `x < sqrtAt (ts + 1)` unless it is the last.  By monotonicity the test of the downward loop holds exactly at
    `t > ts` and that of the upward loop exactly at `t < ts`: from the clamped estimate one loop reaches `ts`, the other stays. -/
theorem tickOfSqrt_eq (hm : MonoAll) (fuel : Nat) (est : Int) (x : Nat) (ts : Int) (h1 : minTick ≤ ts) (h2 : ts ≤ maxTick)
    (hlo : ts = minTick ∨ sqrtAt ts ≤ x) (hhi : ts = maxTick ∨ x < sqrtAt (ts + 1))
    (hf : (clampTick est - ts).natAbs ≤ fuel) : tickOfSqrt fuel est x = ts := by
  have below : ∀ t, minTick < t → t ≤ ts → sqrtAt t ≤ x := by
    intro t a b
    rcases hlo with e | e
    · omega
    · exact Nat.le_trans (mono_le hm t ts (by omega) b h2) e
  have above : ∀ t, ts < t → t ≤ maxTick → x < sqrtAt t := by
    intro t a b
    rcases hhi with e | e
    · omega
    · exact Nat.lt_of_lt_of_le e (mono_le hm (ts + 1) t (by omega) (by omega) b)
  have dstop : ∀ t, t ≤ ts → ¬ (t > minTick ∧ x < sqrtAt t) := fun t a ⟨c, d⟩ => absurd (below t c a) (by omega)
  have ustop : ¬ (ts < maxTick ∧ sqrtAt (ts + 1) ≤ x) := fun ⟨c, d⟩ => absurd (above (ts + 1) (by omega) (by omega)) (by omega)
  obtain ⟨c1, c2⟩ := clampTick_range est
  unfold tickOfSqrt
  simp only []
  by_cases hc : clampTick est ≤ ts
  · rw [tickCorrectDown_stay fuel (dstop _ hc)]
    exact tickCorrectUp_reach (T := minTick) (fun u a b => ⟨by omega, below (u + 1) (by omega) (by omega)⟩) ustop fuel _ c1 hc (by omega)
  · rw [tickCorrectDown_reach (T := maxTick) (fun u a b => ⟨by omega, above u a b⟩) (dstop ts (Int.le_refl _)) fuel _ c2 (by omega) (by omega)]
    exact tickCorrectUp_stay fuel ustop

theorem roundHalfEvenNat_near (n d : Nat) (hd : 0 < d) :
    2 * (roundHalfEvenNat n d * d) ≤ 2 * n + d ∧ 2 * n ≤ 2 * (roundHalfEvenNat n d * d) + d := by
  unfold roundHalfEvenNat
  have h := Nat.div_add_mod n d
  have hr := Nat.mod_lt n hd
  have hm : (n / d + 1) * d = d * (n / d) + d := by rw [Nat.add_mul, Nat.mul_comm]; omega
  have hm0 : n / d * d = d * (n / d) := Nat.mul_comm _ _
  simp only []
  split
  · omega
  · split
    · omega
    · split <;> omega

theorem roundDiv_near (t : Int) (sp : Nat) (hsp : 0 < sp) :
    2 * (roundDivHalfEven t sp * sp - t).natAbs ≤ sp := by
  unfold roundDivHalfEven
  have h := roundHalfEvenNat_near t.natAbs sp hsp
  by_cases ht : t < 0
  · simp only [ht, if_true]
    rw [Int.neg_mul]; omega
  · simp only [ht, if_false]
    omega

end Demeter
