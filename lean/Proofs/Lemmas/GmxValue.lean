/-
  Wallet valuation lemmas for the GMX parts of C03: value of a wallet under a price vector, effect of `AList.set`,
  what `Asset.sub` actually takes from a balance (the requested amount, or — inside the 1e-5 dust band — the whole
  balance), `Wallet.debit` / `Wallet.credit` in those terms.
-/
import Proofs.Lemmas.AssetSub
import Proofs.Lemmas.AListSum
import Mathlib.Tactic.Linarith
import Mathlib.Tactic.Ring
import Mathlib.Algebra.Order.Field.Rat
namespace Demeter.Gmx
open Demeter

def walletValue (price : String → Rat) : Wallet → Rat
  | [] => 0
  | (k, b) :: rest => b * price k + walletValue price rest

def balanceOf (w : Wallet) (k : String) : Rat := (AList.get? w k).getD 0

theorem balanceOf_eq (w : Wallet) (k : String) : balanceOf w k = Wallet.bal w k := rfl

theorem walletValue_eq (price : String → Rat) (w : Wallet) : walletValue price w = (w.map fun e => e.2 * price e.1).sum := by
  induction w with
  | nil => rfl
  | cons e w ih => simp only [walletValue, List.map_cons, List.sum_cons, ih]

theorem walletValue_set (price : String → Rat) (w : Wallet) (k : String) (b' : Rat) :
    walletValue price (AList.set w k b') = walletValue price w + (b' - balanceOf w k) * price k := by
  rw [walletValue_eq, walletValue_eq, AList.sum_map_set, AList.held, balanceOf]
  cases AList.get? w k <;> simp
  ring

theorem walletValue_credit (price : String → Rat) (w : Wallet) (k : String) (x : Rat) :
    walletValue price (Wallet.credit NumCtx.exact w k x) = walletValue price w + x * price k := by
  rw [Wallet.credit_eq, walletValue_set, balanceOf_eq, NumCtx.exact_add]
  ring

/-- an accepted debit of `a ≥ 0` was from a balance that is not negative, so the allowance carries `b`, not `|b|` -/
theorem assetSub_paid {b a b' : Rat} (ha : 0 ≤ a) (h : assetSub NumCtx.exact b a false = some b') :
    a - (b - b') ≤ assetDust * b := by
  rcases assetSub_took (.inr ha) h with ⟨e, h0⟩ | ⟨e, _, hlt⟩
  · rw [e]; linarith [mul_nonneg assetDust_pos.le (by linarith : 0 ≤ b)]
  · rw [e]; linarith [neg_abs_le (b - a)]

theorem walletValue_debit {price : String → Rat} {w w1 : Wallet} {k : String} {a : Rat} (ha : 0 ≤ a) (hp : 0 ≤ price k)
    (h : Wallet.debit NumCtx.exact w k a false = .ok w1) :
    walletValue price w1 ≤ walletValue price w - a * price k + assetDust * balanceOf w k * price k := by
  obtain ⟨b, b', hg, hs, rfl⟩ := Wallet.debit_false_ok h
  have hpaid := assetSub_paid ha hs
  rw [walletValue_set]
  unfold balanceOf; rw [hg]; simp only [Option.getD_some]
  have := mul_le_mul_of_nonneg_right hpaid hp
  linarith

end Demeter.Gmx
