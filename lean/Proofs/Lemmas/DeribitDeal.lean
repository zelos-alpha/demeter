/-
  An accepted order, said once.  `Deal cx c isBuy s r` is everything `buy` / `sell` settle before they touch the state (the row,
  the levels the order may touch, the matched price, the fills, the fee, the checks passed); `Deal.after` is the state they
  leave.  A call either rejects, state intact, or there is a deal (`trade_cases`), and a deal determines result and end state
  (`Deal.trade_eq`).  What the properties say about orders is said about `Deal`, for both sides at once: the side enters through
  `Instr.side`, `setSide` and the sign `sgn` of the contracts moved.
-/
import Proofs.Lemmas.DeribitValue
import Proofs.Lemmas.DeribitExpiry
namespace Demeter.Deribit
open Demeter

/-- an accepted order as the state before it determines it.  `listed`, `atLeast`, `cap`, `matched` are what `checked` amounts to
    (`checkTx_ok`); they are fields so that no proof about orders unfolds `checkTx` again. -/
structure Deal (cx : DCtx) (c : TokenCfg) (isBuy : Bool) (s : DState) (r : Req) where
  ins   : Instr
  avail : List Level
  price : Option Rat
  fills : List Fill
  fee   : Rat
  isOpen : s.flagOpen = true
  find   : findInstr s.book r.name = some ins
  checked : checkTx cx c s.book r isBuy = .ok ⟨roundDec c.tradeExp r.amount, normInstr cx ins, price⟩
  listed : ins.stateOpen = true
  atLeast : c.minAmount ≤ r.amount
  cap    : availSide cx (normInstr cx ins) r.mult isBuy = .ok avail
  matched :
    (reqPrice cx (normInstr cx ins) r = .ok none ∧ price = none ∧ roundDec c.tradeExp r.amount ≤ sumSizes cx avail) ∨
    (∃ p l rest, reqPrice cx (normInstr cx ins) r = .ok (some p) ∧ findAvailable cx p avail = l :: rest ∧
      price = some (cx.reprD l.price) ∧ roundDec c.tradeExp r.amount ≤ cx.reprD l.size)
  fills_eq : fills = deduct cx (roundDec c.tradeExp r.amount) avail price
  fee_eq : fee = tradeFee cx c (roundDec c.tradeExp r.amount) (premiumOf cx fills)
  funds : if isBuy then 0 ≤ cx.num.sub s.cash (cx.num.add (premiumOf cx fills) fee)
          else ∃ p, AList.get? s.positions r.name = some p ∧ roundDec c.tradeExp r.amount ≤ p.amount

namespace Deal
variable {cx : DCtx} {c : TokenCfg} {isBuy : Bool} {s : DState} {r : Req}

/-- the side the order is matched against -/
def side (d : Deal cx c isBuy s r) : List Level := normSide cx isBuy (d.ins.side isBuy)

def ck (d : Deal cx c isBuy s r) : Checked := ⟨roundDec c.tradeExp r.amount, normInstr cx d.ins, d.price⟩

/-- the record under the instrument's name after the order; `none`: the entry is deleted -/
def newPos (d : Deal cx c isBuy s r) : Option Position :=
  if isBuy then some (boughtPosition cx (AList.get? s.positions r.name) r d.ck (avgPrice cx d.fills))
  else (AList.get? s.positions r.name).bind fun p =>
    let p' := soldPosition cx p (roundDec c.tradeExp r.amount) (avgPrice cx d.fills)
    if p'.amount ≤ 0 then none else some p'

def putPos (ps : AList String Position) (k : String) : Option Position → AList String Position
  | none => AList.erase ps k
  | some p => AList.set ps k p

def after (d : Deal cx c isBuy s r) : DState :=
  { s with
    cash := if isBuy then cx.num.sub s.cash (cx.num.add (premiumOf cx d.fills) d.fee)
            else cx.num.add s.cash (cx.num.sub (premiumOf cx d.fills) d.fee)
    book := setSide isBuy s.book r.name (newOrderList cx d.side d.fills)
    positions := putPos s.positions r.name d.newPos
    cache := none
    actions := s.actions ++
      [(if isBuy then Action.buy else Action.sell) (tradeRec cx r d.ck d.fills (premiumOf cx d.fills) d.fee)] }

end Deal

theorem Deal.avail_buy {cx : DCtx} {c : TokenCfg} {s : DState} {r : Req} (d : Deal cx c true s r) :
    d.avail = availAsks cx (normInstr cx d.ins) r.mult := by
  have := d.cap; simp only [availSide, if_true, Except.ok.injEq] at this; exact this.symm

theorem Deal.avail_sell {cx : DCtx} {c : TokenCfg} {s : DState} {r : Req} (d : Deal cx c false s r) :
    availBids cx (normInstr cx d.ins) r.mult = .ok d.avail := d.cap

theorem Deal.newPos_sell {cx : DCtx} {c : TokenCfg} {s : DState} {r : Req} (d : Deal cx c false s r) :
    ∃ p, AList.get? s.positions r.name = some p ∧ roundDec c.tradeExp r.amount ≤ p.amount ∧
      d.newPos = if (soldPosition cx p (roundDec c.tradeExp r.amount) (avgPrice cx d.fills)).amount ≤ 0 then none
                 else some (soldPosition cx p (roundDec c.tradeExp r.amount) (avgPrice cx d.fills)) := by
  obtain ⟨p, hp, hle⟩ := by simpa using d.funds
  exact ⟨p, hp, hle, by simp only [Deal.newPos, Bool.false_eq_true, if_false, hp, Option.bind_some]⟩

theorem Deal.ck_amount {cx : DCtx} {c : TokenCfg} {isBuy : Bool} {s : DState} {r : Req} (d : Deal cx c isBuy s r) :
    d.ck.amount = roundDec c.tradeExp r.amount := rfl

theorem Deal.after_positions {cx : DCtx} {c : TokenCfg} {isBuy : Bool} {s : DState} {r : Req} (d : Deal cx c isBuy s r) :
    d.after.positions = Deal.putPos s.positions r.name d.newPos := rfl

theorem Deal.after_positions_buy {cx : DCtx} {c : TokenCfg} {s : DState} {r : Req} (d : Deal cx c true s r) :
    d.after.positions = AList.set s.positions r.name
      (boughtPosition cx (AList.get? s.positions r.name) r d.ck (avgPrice cx d.fills)) := rfl

theorem Deal.after_positions_sell {cx : DCtx} {c : TokenCfg} {s : DState} {r : Req} (d : Deal cx c false s r) :
    ∃ p, AList.get? s.positions r.name = some p ∧ roundDec c.tradeExp r.amount ≤ p.amount ∧
      d.after.positions =
        if (soldPosition cx p (roundDec c.tradeExp r.amount) (avgPrice cx d.fills)).amount ≤ 0
        then AList.erase s.positions r.name
        else AList.set s.positions r.name (soldPosition cx p (roundDec c.tradeExp r.amount) (avgPrice cx d.fills)) := by
  obtain ⟨p, hp, hle, hnew⟩ := d.newPos_sell
  refine ⟨p, hp, hle, ?_⟩
  rw [d.after_positions, hnew]
  split <;> rfl

theorem Deal.buy_covered {cx : DCtx} {c : TokenCfg} {s : DState} {r : Req} (d : Deal cx c true s r) : 0 ≤ d.after.cash := by
  simpa [Deal.after] using d.funds

theorem trade_cases (cx : DCtx) (c : TokenCfg) (isBuy : Bool) (s : DState) (r : Req) :
    (∃ e, trade cx c isBuy s r = (.error e, s)) ∨ Nonempty (Deal cx c isBuy s r) := by
  -- what `check_transaction` accepted, as the fields of a deal
  have hdeal : ∀ {ck : Checked} {avail : List Level}, s.flagOpen = true → checkTx cx c s.book r isBuy = .ok ck →
      availSide cx ck.ins r.mult isBuy = .ok avail →
      (if isBuy then 0 ≤ cx.num.sub s.cash (cx.num.add (premiumOf cx (deduct cx ck.amount avail ck.price))
          (tradeFee cx c ck.amount (premiumOf cx (deduct cx ck.amount avail ck.price))))
        else ∃ p, AList.get? s.positions r.name = some p ∧ ck.amount ≤ p.amount) →
      Nonempty (Deal cx c isBuy s r) := by
    intro ck avail hopen hck hav hfunds
    obtain ⟨⟨ins, hfind, hnorm⟩, hso, hmin, hamt, avail', hav', hcase⟩ := checkTx_ok hck
    obtain ⟨⟩ : avail' = avail := by rw [hav] at hav'; simpa using hav'.symm
    obtain ⟨a, i, p⟩ := ck
    obtain ⟨rfl, rfl⟩ : a = roundDec c.tradeExp r.amount ∧ i = normInstr cx ins := ⟨hamt, hnorm⟩
    exact ⟨⟨ins, avail, p, _, _, hopen, hfind, hck, hso, hmin, hav, hcase, rfl, rfl, hfunds⟩⟩
  cases isBuy with
  | true =>
    simp only [trade]
    unfold buy
    split
    · exact Or.inl ⟨_, rfl⟩
    rename_i hopen
    split
    · exact Or.inl ⟨_, rfl⟩
    rename_i ck hck
    simp only []
    split
    · exact Or.inl ⟨_, rfl⟩
    rename_i hneg
    exact Or.inr (hdeal (by simpa using hopen) hck rfl (by rw [if_pos rfl]; exact not_lt.mp hneg))
  | false =>
    simp only [trade]
    unfold sell
    split
    · exact Or.inl ⟨_, rfl⟩
    rename_i hopen
    split
    · exact Or.inl ⟨_, rfl⟩
    rename_i ck hck
    split
    · exact Or.inl ⟨_, rfl⟩
    rename_i p hp
    split
    · exact Or.inl ⟨_, rfl⟩
    rename_i hle
    split
    · exact Or.inl ⟨_, rfl⟩
    rename_i bids hb
    exact Or.inr (hdeal (by simpa using hopen) hck hb (by rw [if_neg (by simp)]; exact ⟨p, hp, not_lt.mp hle⟩))

theorem Deal.trade_eq {cx : DCtx} {c : TokenCfg} {isBuy : Bool} {s : DState} {r : Req} (d : Deal cx c isBuy s r) :
    trade cx c isBuy s r = (.ok (.trade d.fills d.fee), d.after) := by
  cases isBuy with
  | true =>
    have hav := d.avail_buy
    obtain ⟨ins, avail, price, fills, fee, isOpen, find, checked, listed, atLeast, cap, matched, rfl, rfl, funds⟩ := d
    simp only at hav
    subst hav
    simp only [trade, buy]
    rw [if_neg (by simp [isOpen]), checked]
    simp only []
    rw [if_neg (not_lt.mpr (by simpa using funds))]
    rfl
  | false =>
    obtain ⟨p, hp, hle, _⟩ := d.newPos_sell
    have hav := d.avail_sell
    obtain ⟨ins, avail, price, fills, fee, isOpen, find, checked, listed, atLeast, cap, matched, rfl, rfl, funds⟩ := d
    simp only [trade, sell]
    rw [if_neg (by simp [isOpen]), checked]
    simp only [hp, gt_iff_lt, not_lt.mpr hle, if_false, hav]
    simp only [Deal.after, Deal.newPos, Deal.putPos, Deal.side, Deal.ck, setSide, hp, Option.bind_some,
      Bool.false_eq_true, if_false]
    split <;> rfl

theorem trade_ok {cx : DCtx} {c : TokenCfg} {isBuy : Bool} {s s' : DState} {r : Req} {res : Res}
    (h : trade cx c isBuy s r = (.ok res, s')) :
    ∃ d : Deal cx c isBuy s r, res = .trade d.fills d.fee ∧ s' = d.after := by
  rcases trade_cases cx c isBuy s r with ⟨e, he⟩ | ⟨⟨d⟩⟩
  · rw [he] at h; cases h
  · rw [d.trade_eq] at h; cases h; exact ⟨d, rfl, rfl⟩

theorem trade_err {cx : DCtx} {c : TokenCfg} {isBuy : Bool} {s s' : DState} {r : Req} {e : Err}
    (h : trade cx c isBuy s r = (.error e, s')) : s' = s := by
  rcases trade_cases cx c isBuy s r with ⟨e', he⟩ | ⟨⟨d⟩⟩
  · rw [he] at h; cases h; rfl
  · rw [d.trade_eq] at h; cases h

theorem step_err {cx : DCtx} {c : TokenCfg} {s s' : DState} {op : Op} {e : Err}
    (h : step cx c s op = (.error e, s')) : s' = s := by
  cases op with
  | buy r => exact trade_err (isBuy := true) h
  | sell r => exact trade_err (isBuy := false) h
  | deposit a => exact deposit_err h
  | withdraw a => exact withdraw_err h
  | balance =>
    obtain ⟨b, cache, hg⟩ := gmb_eq cx c s
    simp [step, hg] at h
  | update => simp [step] at h

theorem trade_deal {cx : DCtx} {c : TokenCfg} {isBuy : Bool} {s s' : DState} {r : Req} {fills : List Fill} {fee : Rat}
    (h : trade cx c isBuy s r = (.ok (.trade fills fee), s')) :
    ∃ d : Deal cx c isBuy s r, d.fills = fills ∧ d.fee = fee ∧ d.after = s' := by
  obtain ⟨d, hres, rfl⟩ := trade_ok h
  simp only [Res.trade.injEq] at hres
  exact ⟨d, hres.1.symm, hres.2.symm, rfl⟩

theorem Deal.newPos_expiry {cx : DCtx} {c : TokenCfg} {isBuy : Bool} {s : DState} {r : Req} (d : Deal cx c isBuy s r)
    {p' : Position} (hp' : d.newPos = some p') :
    p'.expiry = d.ins.expiry ∨ ∃ p0, AList.get? s.positions r.name = some p0 ∧ p'.expiry = p0.expiry := by
  cases isBuy with
  | true =>
    simp only [Deal.newPos, if_true, Option.some.injEq] at hp'
    subst hp'
    cases hg : AList.get? s.positions r.name with
    | none => exact Or.inl rfl
    | some p0 => exact Or.inr ⟨p0, rfl, rfl⟩
  | false =>
    obtain ⟨p0, hg, _, hnew⟩ := d.newPos_sell
    rw [hnew] at hp'
    refine Or.inr ⟨p0, hg, ?_⟩
    by_cases hz : (soldPosition cx p0 (roundDec c.tradeExp r.amount) (avgPrice cx d.fills)).amount ≤ 0
    · rw [if_pos hz] at hp'; cases hp'
    · rw [if_neg hz] at hp'; cases hp'; rfl

/-- the sign with which the contracts of an order enter the holding -/
def sgn (isBuy : Bool) : Rat := if isBuy then 1 else -1

@[simp] theorem sgn_true : sgn true = 1 := rfl
@[simp] theorem sgn_false : sgn false = -1 := rfl

namespace Deal
variable {cx : DCtx} {c : TokenCfg} {isBuy : Bool} {s : DState} {r : Req}

theorem amount_pos (d : Deal cx c isBuy s r) : 0 < roundDec c.tradeExp r.amount := roundDec_pos _ d.atLeast

theorem avail_eq (d : Deal cx c isBuy s r) : ∃ f : Level → Bool, d.avail = d.side.filter f := by
  obtain ⟨f, hf⟩ := availSide_filter d.cap
  exact ⟨f, by rw [hf, normInstr_side]; rfl⟩

theorem fill_level (d : Deal cx c isBuy s r) {x : Fill} (hx : x ∈ d.fills) : ∃ l ∈ d.avail, x.price = cx.reprD l.price := by
  rw [d.fills_eq] at hx
  rcases d.matched with ⟨_, hp, _⟩ | ⟨p, l, rest, _, hfa, hp, _⟩
  · rw [hp] at hx
    exact deductMarket_mem hx
  · rw [hp] at hx
    have hl : l ∈ findAvailable cx p d.avail := hfa ▸ List.mem_cons_self
    exact ⟨l, (List.mem_filter.mp hl).1, by rw [deductLimit_mem hx]⟩

theorem after_book (d : Deal cx c isBuy s r) :
    d.after.book = setSide isBuy s.book r.name (newOrderList cx d.side d.fills) := rfl

theorem side_nodup (d : Deal cx c isBuy s r) : PricesNodup d.side := sortedLt_nodup (normSide_sortedLt _ _ _)

variable (d : Deal DCtx.exact c isBuy s r)

theorem side_ok (hb : BookInv s.book) : SideOk d.side := by
  refine ⟨d.side_nodup, normSide_nonneg ?_⟩
  have := hb _ (findInstr_mem d.find)
  cases isBuy
  · exact this.2
  · exact this.1

theorem priced_fill {l : Level} (hl : l ∈ d.avail) (hpr : d.price = some l.price) :
    l ∈ d.side ∧ d.fills = [⟨l.price, roundDec c.tradeExp r.amount⟩] := by
  obtain ⟨f, hf⟩ := d.avail_eq
  refine ⟨(List.mem_filter.mp (hf ▸ hl)).1, ?_⟩
  rw [d.fills_eq, hpr]
  simpa [deduct] using deductLimit_single DCtx.exact (roundDec c.tradeExp r.amount) d.avail l hl
    (by simpa [PricesNodup, hf] using AList.nodup_map_filter Level.price f d.side_nodup)

theorem exact_fills (hb : BookInv s.book) :
    fillSum d.fills = roundDec c.tradeExp r.amount ∧ (∀ x ∈ d.fills, 0 ≤ x.amount) ∧
      ∀ l ∈ d.side, taken d.fills l.price ≤ l.size := by
  have ho := d.side_ok hb
  obtain ⟨f, hf⟩ := d.avail_eq
  have hnn := d.amount_pos.le
  have hsz : ∀ l ∈ d.side.filter f, 0 ≤ l.size := fun l hl => ho.2 l (List.mem_filter.mp hl).1
  rcases d.matched with ⟨_, hp, hle⟩ | ⟨p, l, rest, _, hfa, hp, hle⟩
  · rw [d.fills_eq, hf, hp, sumSizes_exact, hf] at *
    exact ⟨fillSum_deductMarket DCtx.exact floatSane_exact _ _ hsz hnn hle, deductMarket_amount_nonneg _ _ hsz hnn,
      taken_market_le ho f hnn⟩
  · obtain ⟨hl, hfs⟩ := d.priced_fill (List.mem_filter.mp (hfa ▸ List.mem_cons_self)).1 hp
    rw [hfs]
    exact ⟨by simp [fillSum], fun x hx => by rw [List.mem_singleton.mp hx]; exact hnn, taken_single_le ho hl hle⟩

theorem after_bookInv (hb : BookInv s.book) : BookInv d.after.book :=
  bookInv_setSide hb _ _ _ (newOrderList_nonneg (d.side_ok hb).1 (d.exact_fills hb).2.2)

theorem fill_price {x : Fill} (hx : x ∈ d.fills) : ∃ l ∈ d.side, x.price = l.price := by
  obtain ⟨l, hl, hp⟩ := d.fill_level hx
  obtain ⟨f, hf⟩ := d.avail_eq
  exact ⟨l, (List.mem_filter.mp (hf ▸ hl)).1, hp⟩

theorem fill_row {x : Fill} (hx : x ∈ d.fills) : ∃ l0 ∈ d.ins.side isBuy, x.price = l0.price := by
  obtain ⟨l, hl, hp⟩ := d.fill_price hx
  obtain ⟨l0, h0, hp0⟩ := normSide_mem_price hl
  exact ⟨l0, h0, hp.trans hp0.symm⟩

theorem after_cash : d.after.cash = s.cash - sgn isBuy * fillCost d.fills - d.fee := by
  cases isBuy <;> simp [after, sgn, premiumOf_exact] <;> ring

theorem fee_exact :
    d.fee = roundDec c.feeExp (min (c.tradeFee * roundDec c.tradeExp r.amount) (maxFeeRate * fillCost d.fills)) := by
  rw [d.fee_eq, premiumOf_exact]; rfl

end Deal

def held (s : DState) (k : String) : Rat := ((AList.get? s.positions k).map (·.amount)).getD 0

theorem markValue_putPos (c : TokenCfg) (book : List Instr) (ps : AList String Position) (k : String) (o : Option Position)
    (hn : (ps.map Prod.fst).Nodup) :
    markValue c book (Deal.putPos ps k o) =
      markValue c book ps - AList.held (fun kp => posValue c book kp.2) ps k + (o.map (posValue c book)).getD 0 := by
  cases o with
  | none => simp [Deal.putPos, markValue_erase c book ps k hn]
  | some p => simp [Deal.putPos, markValue_set c book ps k p]

namespace Deal
variable {c : TokenCfg} {isBuy : Bool} {s : DState} {r : Req} (d : Deal DCtx.exact c isBuy s r)

theorem newPos_spec :
    (d.newPos.map (·.amount)).getD 0 = held s r.name + sgn isBuy * roundDec c.tradeExp r.amount ∧
    (∀ p' ∈ d.newPos, p'.name = ((AList.get? s.positions r.name).map (·.name)).getD r.name) ∧
    (isBuy = false → 0 ≤ held s r.name + sgn isBuy * roundDec c.tradeExp r.amount) := by
  cases isBuy with
  | true =>
    refine ⟨?_, ?_, fun h => by cases h⟩
    all_goals
      simp only [newPos, if_true, held, sgn, boughtPosition, ck]
      cases AList.get? s.positions r.name <;> simp
  | false =>
    obtain ⟨p, hp, hle, hnew⟩ := d.newPos_sell
    simp only [hnew, held, sgn, Bool.false_eq_true, if_false, hp, Option.map_some, Option.getD_some]
    generalize hq : soldPosition DCtx.exact p (roundDec c.tradeExp r.amount) (avgPrice DCtx.exact d.fills) = q
    have ha : q.amount = p.amount - roundDec c.tradeExp r.amount := by rw [← hq]; rfl
    have hn : q.name = p.name := by rw [← hq]; rfl
    refine ⟨?_, ?_, fun _ => by linarith⟩
    · by_cases hz : q.amount ≤ 0
      · rw [if_pos hz]; simp only [Option.map_none, Option.getD_none]; linarith
      · rw [if_neg hz]; simp only [Option.map_some, Option.getD_some]; linarith
    · intro p' hp'
      by_cases hz : q.amount ≤ 0
      · rw [if_pos hz] at hp'; cases hp'
      · rw [if_neg hz] at hp'; cases hp'; exact hn

theorem after_markValue (hn : (s.positions.map Prod.fst).Nodup) (hname : ∀ kp ∈ s.positions, kp.2.name = kp.1) :
    markValue c d.after.book d.after.positions =
      markValue c s.book s.positions + sgn isBuy * roundDec c.tradeExp r.amount * roundDec c.feeExp d.ins.mark := by
  obtain ⟨hamt, hnm, _⟩ := d.newPos_spec
  show markValue c (setSide _ _ _ _) (putPos _ _ _) = _
  rw [markValue_setSide, markValue_putPos _ _ _ _ _ hn]
  -- old and new record sit under `r.name`, whose row is `d.ins`: both are valued at `d.ins.mark`
  have hold : ∀ p, AList.get? s.positions r.name = some p → p.name = r.name := fun p hg => hname _ (AList.mem_of_get? hg)
  have hval : ∀ p : Position, p.name = r.name → posValue c s.book p = p.amount * roundDec c.feeExp d.ins.mark := by
    intro p hp; simp only [posValue, hp, d.find]
  have hheld : AList.held (fun kp => posValue c s.book kp.2) s.positions r.name =
      held s r.name * roundDec c.feeExp d.ins.mark := by
    unfold AList.held held
    cases hg : AList.get? s.positions r.name with
    | none => simp
    | some p => simp [hval p (hold p hg)]
  have hnew : (d.newPos.map (posValue c s.book)).getD 0 =
      (d.newPos.map (·.amount)).getD 0 * roundDec c.feeExp d.ins.mark := by
    cases ho : d.newPos with
    | none => simp
    | some p' =>
      have := hnm p' (by rw [ho]; rfl)
      cases hg : AList.get? s.positions r.name with
      | none => rw [hg] at this; simp [hval p' this]
      | some p => rw [hg] at this; simp [hval p' (this.trans (hold p hg))]
  rw [hheld, hnew, hamt]; ring

/-- **what an order does to the account**: cash plus holdings at mark drop by the fee and by what was paid beyond the mark
    (a buy pays `price − mark` per contract above, a sell receives `mark − price` below) -/
theorem value_eq (hn : (s.positions.map Prod.fst).Nodup) (hname : ∀ kp ∈ s.positions, kp.2.name = kp.1)
    (hsum : fillSum d.fills = roundDec c.tradeExp r.amount) :
    d.after.cash + markValue c d.after.book d.after.positions =
      s.cash + markValue c s.book s.positions -
        (sgn isBuy * (fillCost d.fills - roundDec c.feeExp d.ins.mark * fillSum d.fills) + d.fee) := by
  rw [d.after_cash, d.after_markValue hn hname, hsum]; ring

end Deal

theorem Deal.mem_putPos {ps : AList String Position} {k : String} {o : Option Position} {kp : String × Position}
    (h : kp ∈ Deal.putPos ps k o) : kp ∈ ps ∨ (kp.1 = k ∧ o = some kp.2) := by
  cases o with
  | none => exact Or.inl (AList.mem_erase_iff.mp h).1
  | some p =>
    rcases AList.mem_set h with h | h
    · exact Or.inr ⟨by rw [h], by rw [h]⟩
    · exact Or.inl h

theorem Deal.mem_putPos_of_ne {ps : AList String Position} {n : String} (o : Option Position) {k : String} (p : Position)
    (hne : k ≠ n) : (k, p) ∈ Deal.putPos ps n o ↔ (k, p) ∈ ps := by
  cases o with
  | none => exact AList.mem_erase_iff.trans (and_iff_left hne)
  | some q => exact AList.mem_set_of_ne hne

theorem Deal.keys_putPos {ps : AList String Position} (k : String) (o : Option Position) (hn : (ps.map Prod.fst).Nodup) :
    ((Deal.putPos ps k o).map Prod.fst).Nodup := by
  cases o with
  | none => exact AList.nodup_keys_erase _ _ hn
  | some p => exact (AList.nodup_keys_set _ _ _).mpr hn

def tradeOp : Bool → Req → Op
  | true => .buy
  | false => .sell

/-- the case principle for one call of the strategy other than `update()` (`h`: the call is rejected) -/
theorem step_deal {P : DState → Prop} {cx : DCtx} {c : TokenCfg} {s : DState} (o : Op) (ho : o ≠ .update) (h : P s)
    (hdeal : ∀ isBuy r (d : Deal cx c isBuy s r), o = tradeOp isBuy r → P d.after)
    (hdep : ∀ a w, o = .deposit a → 0 ≤ a → Wallet.debit cx.num s.wallet c.token a s.allowNeg = .ok w →
      P { s with wallet := w, cash := cx.num.add s.cash a, actions := s.actions ++ [.deposit c.token a] })
    (hwd : ∀ a, o = .withdraw a → 0 ≤ a → 0 ≤ cx.num.sub s.cash a →
      P { s with cash := cx.num.sub s.cash a, wallet := Wallet.credit cx.num s.wallet c.token a,
                 actions := s.actions ++ [.withdraw c.token a] })
    (hcache : ∀ b, (getMarketBalance cx c s).2 = { s with cache := b } → P { s with cache := b }) :
    P (step cx c s o).2 := by
  rcases hst : step cx c s o with ⟨out, s'⟩
  cases out with
  | error e => rw [step_err hst]; exact h
  | ok res =>
    cases o with
    | update => exact absurd rfl ho
    | buy r => obtain ⟨d, _, rfl⟩ := trade_ok (isBuy := true) hst; exact hdeal _ _ d rfl
    | sell r => obtain ⟨d, _, rfl⟩ := trade_ok (isBuy := false) hst; exact hdeal _ _ d rfl
    | deposit a => obtain ⟨ha, w, hw, _, rfl⟩ := deposit_ok hst; exact hdep a w rfl ha hw
    | withdraw a => obtain ⟨ha, hl, _, rfl⟩ := withdraw_ok hst; exact hwd a rfl ha hl
    | balance =>
      obtain ⟨b, cache, hg⟩ := gmb_eq cx c s
      obtain ⟨⟩ := hg.symm.trans hst
      exact hcache cache (by rw [hg])

theorem step_keysNodup (cx : DCtx) (c : TokenCfg) (s : DState) (o : Op) (ho : o ≠ .update) (hn : KeysNodup s) :
    KeysNodup (step cx c s o).2 :=
  step_deal o ho hn (fun _ _ _ _ => Deal.keys_putPos _ _ hn) (fun _ _ _ _ _ => hn) (fun _ _ _ _ => hn) (fun _ _ => hn)

def Req.isLimit (r : Req) : Prop := r.priceTok ≠ none ∨ r.priceUsd ≠ none

theorem Deal.limit {c : TokenCfg} {isBuy : Bool} {s : DState} {r : Req} (d : Deal DCtx.exact c isBuy s r) (hlim : r.isLimit) :
    ∃ p l, (∀ t, r.priceTok = some t → p = t) ∧
      (∀ u, r.priceTok = none → r.priceUsd = some u → d.ins.underlying ≠ 0 ∧ p = u / d.ins.underlying) ∧
      l ∈ d.avail ∧ l ∈ d.side ∧ d.fills = [⟨l.price, roundDec c.tradeExp r.amount⟩] ∧
      (1 - 1 / 1000) * p < l.price ∧ l.price < (1 + 1 / 1000) * p ∧ roundDec c.tradeExp r.amount ≤ l.size := by
  rcases d.matched with ⟨hrp, _, _⟩ | ⟨p, l, rest, hrp, hfa, hpr, hle⟩
  · obtain ⟨h1, h2⟩ := reqPrice_none_iff.mp hrp
    rcases hlim with h | h <;> contradiction
  · obtain ⟨hl1, hl2⟩ := List.mem_filter.mp (hfa ▸ List.mem_cons_self : l ∈ findAvailable DCtx.exact p d.avail)
    obtain ⟨hls, hfs⟩ := d.priced_fill hl1 hpr
    replace hl2 := of_decide_eq_true hl2
    simp only [exact_num, NumCtx.exact_mul, NumCtx.exact_sub, NumCtx.exact_add, matchErr_eq] at hl2
    obtain ⟨ht, hu⟩ := reqPrice_exact_some hrp
    exact ⟨p, l, ht, hu, hl1, hls, hfs, hl2.1, hl2.2, hle⟩

theorem Deal.never_overdraws {c : TokenCfg} {isBuy : Bool} {s : DState} {r : Req}
    (d : Deal DCtx.exact c isBuy s r) (hb : BookInv s.book) :
    (newOrderList DCtx.exact d.side d.fills).map (·.size) = d.side.map (fun l => l.size - taken d.fills l.price) ∧
      (∀ l ∈ d.side, taken d.fills l.price ≤ l.size ∧ l.size = rawAt (d.ins.side isBuy) l.price) :=
  ⟨newOrderList_sizes d.side d.fills (d.side_ok hb).1,
    fun l hl => ⟨(d.exact_fills hb).2.2 l hl, normSide_size isBuy _ l hl⟩⟩

theorem Deal.after_row {c : TokenCfg} {isBuy : Bool} {s : DState} {r : Req} (d : Deal DCtx.exact c isBuy s r)
    (hn : (s.book.map (·.name)).Nodup) :
    ∀ i ∈ d.after.book, ∃ i0 ∈ s.book, i.mark = i0.mark ∧ ∀ b, ∀ l ∈ i.side b, ∃ l0 ∈ i0.side b, l0.price = l.price := by
  intro i hi
  obtain ⟨i0, hi0, rfl | ⟨hname, rfl⟩⟩ := mem_setSide hi
  · exact ⟨i, hi0, rfl, fun b l hl => ⟨l, hl, rfl⟩⟩
  · have hins : d.ins = i0 :=
      AList.eq_of_nodup_map Instr.name hn (findInstr_mem d.find) hi0 ((findInstr_name d.find).trans hname.symm)
    refine ⟨i0, hi0, i0.withSide_mark isBuy _, fun b l hl => ?_⟩
    rcases Bool.eq_or_eq_not b isBuy with hb | hb
    · rw [hb, i0.withSide_side] at hl
      have hpr : l.price ∈ d.side.map (·.price) :=
        newOrderList_prices DCtx.exact d.side d.fills ▸ List.mem_map_of_mem (f := Level.price) hl
      obtain ⟨l0, hl0, hp⟩ := List.mem_map.mp ((normSide_prices _ _ _ _).mp hpr)
      exact ⟨l0, hb ▸ hins ▸ hl0, hp⟩
    · rw [hb, i0.withSide_other] at hl
      exact ⟨l, hb ▸ hl, rfl⟩

theorem step_bookInv (c : TokenCfg) (s : DState) (op : Op) (h : BookInv s.book) :
    BookInv (step DCtx.exact c s op).2.book := by
  by_cases hu : op = .update
  · rw [hu]; exact (update_frame DCtx.exact c s).1.symm ▸ h
  · exact step_deal (P := fun s' => BookInv s'.book) op hu h
      (fun _ _ d _ => d.after_bookInv h) (fun _ _ _ _ _ => h) (fun _ _ _ _ => h) (fun _ _ => h)

theorem runOps_bookInv (c : TokenCfg) (ops : List Op) (s : DState) (h : BookInv s.book) :
    BookInv (runOps DCtx.exact c s ops).book :=
  runOps_preserves (P := fun s => BookInv s.book) DCtx.exact c ops s h (fun o _ s hs => step_bookInv c s o hs)

end Demeter.Deribit
