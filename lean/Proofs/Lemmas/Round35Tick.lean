/-
  discharging the `Approx` hypothesis of the ε-robust tick theorems (Proofs/Lemmas/TickInv.lean)
  with CPython's own unit roundoff `ε = EPS35 = 5·10⁻³⁵`.

  `pyGTn` is `TickNum.py` with every component guarded by the magnitude range:
     * `cx  = NumCtx.pyG`                (= `NumCtx.py` on `InRange`)
     * `sq  = dpowNat 35 · 2`            when numerator/denominator of `x²` are below `10^45000`, else exact `x²`
     * `fac = facPy`                     for `e ≥ 0` (exact `10^e`); for `e < 0` the exact `10^e` instead of the libm oracle
     * `lg  = lgPy`
  The link to the arithmetic the driver runs is conditional: `pyGTn_sq_eq`, `pyGTn_fac_eq` and `Num_pyG_agrees` say that a
  component of `pyGTn` is the one of `TickNum.py` on an argument inside the guard (and `e ≥ 0` for `fac`); no theorem bounds the
  intermediates of `tickToPrice` / `priceToTickX96`.  `pyGTnFac fac` is `pyGTn` with `Decimal(10 ** e)` given by `fac`: the
  ε-robust theorems ask of it only that it is positive (`pyGTnFac_approx`).
-/
import Proofs.Lemmas.Round35Pow
import Proofs.Lemmas.TickInv
namespace Demeter

theorem facPy_pos_of_nonneg (e : Int) (h : 0 ≤ e) : 0 < facPy e := by
  unfold facPy; rw [if_pos h]
  exact_mod_cast Nat.pow_pos (by decide)

end Demeter

namespace Demeter.Numerics
open Demeter Demeter.TickInv
set_option exponentiation.threshold 200000

def SmallSq (x : ℚ) : Prop := (x * x).num.natAbs < 10 ^ 45000 ∧ (x * x).den < 10 ^ 45000

instance (x : ℚ) : Decidable (SmallSq x) := by unfold SmallSq; infer_instance

def pyGTn : TickNum :=
  { cx := NumCtx.pyG
    sq := fun x => if SmallSq x then TickNum.py.sq x else x * x
    fac := fun e => if e ≥ 0 then TickNum.py.fac e else (10:ℚ) ^ e
    lg := TickNum.py.lg }

theorem pyGTn_sq_eq {x : ℚ} (h : SmallSq x) : pyGTn.sq x = TickNum.py.sq x := if_pos h

theorem pyGTn_sq_of_not_small {x : ℚ} (h : ¬ SmallSq x) : pyGTn.sq x = x * x := if_neg h

theorem pyGTn_fac_eq {e : ℤ} (h : 0 ≤ e) : pyGTn.fac e = TickNum.py.fac e := if_pos h

theorem pyGTn_approx : Approx pyGTn EPS35 :=
  { eps_nonneg := le_of_lt EPS35_pos
    eps_small := EPS35_small
    rnd := NumCtx.pyG_relRnd
    sq := fun x => by
      by_cases h : SmallSq x
      · rw [pyGTn_sq_eq h]
        exact dpowNat35_two_bounds x h.1 h.2
      · rw [pyGTn_sq_of_not_small h]
        exact (Within.refl (x * x)).weaken EPS35_pos.le NumCtx.pyG_rounds.le_one (mul_self_nonneg x) (Nat.zero_le 2) (Nat.zero_le 2)
    sqrt := fun _ hy => NumCtx.pyG_dsqrt_spec hy
    fac_pos := fun e => by
      show (0:ℚ) < (if e ≥ 0 then facPy e else (10:ℚ) ^ e)
      split_ifs with h
      · exact facPy_pos_of_nonneg e h
      · exact Tz_pos e }

end Demeter.Numerics

namespace Demeter
open TickInv Numerics
set_option exponentiation.threshold 200000

def pyGTnFac (fac : Int → Rat) : TickNum := { cx := pyGTn.cx, sq := pyGTn.sq, fac := fac, lg := pyGTn.lg }

theorem pyGTnFac_lg (fac : Int → Rat) : pyGTn.lg = (pyGTnFac fac).lg := rfl

theorem pyGTnFac_approx (fac : Int → Rat) (hfac : ∀ e, 0 < fac e) : Approx (pyGTnFac fac) EPS35 :=
  { pyGTn_approx with fac_pos := hfac }

end Demeter
