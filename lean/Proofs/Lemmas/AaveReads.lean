/-
  What a read of the Aave model does to the state, in ANY state: it changes cache contents only (`*_shape`).  `Frame` is what no read
  changes (positions, wallet, log, `has_update`); `Moved s s1` says that `s1` has the frame of `s` and is coherent if `s` was — the
  relation every read, every rejected call and every undone trial write satisfies; `At x s`, coherent with frame `x`, is what the
  triples of `update()` are stated over.
-/
import Proofs.Lemmas.AaveCoh
namespace Demeter.Aave
open Demeter M

variable {cx : ACtx} {env : Env}

theorem suppliesValue_shape (s : St) : ∃ c, (suppliesValue cx env s).2 = { s with supAmtC := c } := by
  unfold suppliesValue
  split
  · split <;> exact ⟨_, rfl⟩
  · exact ⟨s.supAmtC, rfl⟩

theorem borrowsValue_shape (s : St) : ∃ c, (borrowsValue cx env s).2 = { s with borAmtC := c } := by
  unfold borrowsValue
  split
  · split <;> exact ⟨_, rfl⟩
  · exact ⟨s.borAmtC, rfl⟩

theorem collateralValue_shape (s : St) :
    ∃ c c', (collateralValue cx env s).2 = { s with supAmtC := c, collC := c' } := by
  unfold collateralValue
  split
  · split
    · exact ⟨s.supAmtC, s.collC, rfl⟩
    · obtain ⟨c, hc⟩ := suppliesValue_shape (cx := cx) (env := env) s
      split
      · rename_i e s1 heq
        rw [heq] at hc; simp only at hc
        exact ⟨c, s.collC, by rw [hc]⟩
      · rename_i vs s1 heq
        rw [heq] at hc; simp only at hc
        split <;> exact ⟨c, _, by rw [hc]⟩
  · exact ⟨s.supAmtC, s.collC, rfl⟩

section
variable {I : St → Prop}

theorem Inv.getSupply (h1 : Inv I (suppliesValue cx env)) (k : String) : Inv I (getSupply cx env k) :=
  Inv.bind (Inv.queryPos _) (fun _ => Inv.bind (Inv.ofRes _) (fun _ => Inv.bind h1 (fun _ => Inv.ofRes _)))

theorem Inv.getBorrow (h2 : Inv I (borrowsValue cx env)) (k : String) : Inv I (getBorrow cx env k) :=
  Inv.bind (Inv.queryPos _) (fun _ => Inv.bind (Inv.ofRes _) (fun _ => Inv.bind h2 (fun _ => Inv.ofRes _)))

theorem Inv.fillSupLoop (h1 : Inv I (suppliesValue cx env))
    (hset : ∀ s k v, I s → I { s with supC := s.supC.set k v }) : ∀ ks, Inv I (fillSupLoop cx env ks) := by
  intro ks
  induction ks with
  | nil => exact Inv.pure _
  | cons k ks ih =>
    unfold Aave.fillSupLoop
    refine Inv.bind (Inv.getSupply h1 k) (fun v => Inv.bind (Inv.modify _ (fun s hs => hset s k v hs)) (fun _ => ih))

theorem Inv.fillBorLoop (h2 : Inv I (borrowsValue cx env))
    (hset : ∀ s k v, I s → I { s with borC := s.borC.set k v }) : ∀ ks, Inv I (fillBorLoop cx env ks) := by
  intro ks
  induction ks with
  | nil => exact Inv.pure _
  | cons k ks ih =>
    unfold Aave.fillBorLoop
    refine Inv.bind (Inv.getBorrow h2 k) (fun v => Inv.bind (Inv.modify _ (fun s hs => hset s k v hs)) (fun _ => ih))

end

theorem suppliesView_shape (s : St) :
    ∃ c c', (suppliesView cx env s).2 = { s with supAmtC := c, supC := c' } := by
  unfold suppliesView
  split
  · have hI : Inv (fun s' => ∃ c c', s' = { s with supAmtC := c, supC := c' }) (fillSupLoop cx env (keys s.supplies)) := by
      apply Inv.fillSupLoop
      · intro s1 ⟨c, c', h⟩
        obtain ⟨c2, h2⟩ := suppliesValue_shape (cx := cx) (env := env) s1
        exact ⟨c2, c', by rw [h2, h]⟩
      · intro s1 k v ⟨c, c', h⟩
        exact ⟨c, _, by rw [h]⟩
    obtain ⟨c, c', h⟩ := hI s ⟨s.supAmtC, s.supC, rfl⟩
    split
    · rename_i e s1 heq
      rw [heq] at h
      dsimp only at h ⊢
      exact ⟨c, s.supC, by rw [h]⟩
    · rename_i s1 heq
      rw [heq] at h; exact ⟨c, c', h⟩
  · exact ⟨s.supAmtC, s.supC, rfl⟩

theorem borrowsView_shape (s : St) :
    ∃ c c', (borrowsView cx env s).2 = { s with borAmtC := c, borC := c' } := by
  unfold borrowsView
  split
  · have hI : Inv (fun s' => ∃ c c', s' = { s with borAmtC := c, borC := c' }) (fillBorLoop cx env (keys s.borrows)) := by
      apply Inv.fillBorLoop
      · intro s1 ⟨c, c', h⟩
        obtain ⟨c2, h2⟩ := borrowsValue_shape (cx := cx) (env := env) s1
        exact ⟨c2, c', by rw [h2, h]⟩
      · intro s1 k v ⟨c, c', h⟩
        exact ⟨c, _, by rw [h]⟩
    obtain ⟨c, c', h⟩ := hI s ⟨s.borAmtC, s.borC, rfl⟩
    split
    · rename_i e s1 heq
      rw [heq] at h
      dsimp only at h ⊢
      exact ⟨c, s.borC, by rw [h]⟩
    · rename_i s1 heq
      rw [heq] at h; exact ⟨c, c', h⟩
  · exact ⟨s.borAmtC, s.borC, rfl⟩

section
variable {I : St → Prop}

theorem Inv.mapM' {α β : Type} (f : α → β) {m : M α} (h : Inv I m) : Inv I (mapM' f m) := by
  intro s hs
  have := h s hs
  unfold Aave.mapM'
  generalize m s = x at this ⊢
  obtain ⟨r, s'⟩ := x
  cases r <;> exact this

theorem Inv.unitM {m : M Unit} (hm : Inv I m) : Inv I (unitM m) := Inv.mapM' _ hm

end

/-- what no read changes -/
structure Frame where
  supplies : AList String SupplyInfo
  borrows : AList String BorrowInfo
  wallet : Wallet
  actions : List Action
  hasUpdate : Bool

def St.frame (s : St) : Frame := ⟨s.supplies, s.borrows, s.wallet, s.actions, s.hasUpdate⟩

theorem supplies_of_frame {s t : St} (h : t.frame = s.frame) : t.supplies = s.supplies := congrArg Frame.supplies h
theorem borrows_of_frame {s t : St} (h : t.frame = s.frame) : t.borrows = s.borrows := congrArg Frame.borrows h
theorem wallet_of_frame {s t : St} (h : t.frame = s.frame) : t.wallet = s.wallet := congrArg Frame.wallet h
theorem actions_of_frame {s t : St} (h : t.frame = s.frame) : t.actions = s.actions := congrArg Frame.actions h

theorem core_eq_of_frame {s s' : St} (h : s'.frame = s.frame) : s'.core = s.core := by
  show (⟨s'.supplies, s'.borrows, s'.wallet, s'.actions⟩ : Core) = ⟨s.supplies, s.borrows, s.wallet, s.actions⟩
  rw [supplies_of_frame h, borrows_of_frame h, wallet_of_frame h, actions_of_frame h]

theorem GoodS.congr {s s' : St} (g : GoodS cx env s) (h1 : s'.supplies = s.supplies) (h2 : s'.supAmtC = s.supAmtC)
    (h3 : s'.collC = s.collC) (h4 : s'.supC = s.supC) : GoodS cx env s' :=
  ⟨h1 ▸ g.nd, h1 ▸ g.cv, by rw [h1, h2]; exact g.sa, by rw [h1, h3]; exact g.co, by rw [h1, h4]; exact g.su⟩

theorem GoodB.congr {s s' : St} (g : GoodB cx env s) (h1 : s'.borrows = s.borrows) (h2 : s'.borAmtC = s.borAmtC)
    (h3 : s'.borC = s.borC) : GoodB cx env s' :=
  ⟨h1 ▸ g.nd, h1 ▸ g.cv, by rw [h1, h2]; exact g.ba, by rw [h1, h3]; exact g.bo⟩

def At (cx : ACtx) (env : Env) (x : Frame) (s : St) : Prop := Good cx env s ∧ s.frame = x

theorem At.sup {x : Frame} {s : St} (h : At cx env x s) : s.supplies = x.supplies := congrArg Frame.supplies h.2
theorem At.bor {x : Frame} {s : St} (h : At cx env x s) : s.borrows = x.borrows := congrArg Frame.borrows h.2

def Moved (cx : ACtx) (env : Env) (s s1 : St) : Prop := s1.frame = s.frame ∧ (Good cx env s → Good cx env s1)

theorem Moved.refl (s : St) : Moved cx env s s := ⟨rfl, id⟩

theorem Moved.trans {s s1 s2 : St} (h1 : Moved cx env s s1) (h2 : Moved cx env s1 s2) : Moved cx env s s2 :=
  ⟨h2.1.trans h1.1, fun h => h2.2 (h1.2 h)⟩

theorem Moved.sup {s s1 : St} (h : Moved cx env s s1) : s1.supplies = s.supplies := supplies_of_frame h.1
theorem Moved.bor {s s1 : St} (h : Moved cx env s s1) : s1.borrows = s.borrows := borrows_of_frame h.1
theorem Moved.wallet {s s1 : St} (h : Moved cx env s s1) : s1.wallet = s.wallet := wallet_of_frame h.1
theorem Moved.actions {s s1 : St} (h : Moved cx env s s1) : s1.actions = s.actions := actions_of_frame h.1

theorem Moved.at {s s1 : St} (h : Moved cx env s s1) {x : Frame} (hs : At cx env x s) : At cx env x s1 :=
  ⟨h.2 hs.1, h.1.trans hs.2⟩

/-- `health_factor` on any state: inside `withdraw`'s trial deduction it runs on a non-coherent one -/
theorem healthFactor_shape (s : St) :
    ∃ c1 c2 c3, (healthFactor cx env s).2 = { s with supAmtC := c1, collC := c2, borAmtC := c3 } ∧
      (GoodB cx env s → CohC c3 (specBorAmt cx env s.borrows)) := by
  unfold healthFactor
  rw [run_bind]
  obtain ⟨c, c', h1⟩ := collateralValue_shape (cx := cx) (env := env) s
  rcases hcv : collateralValue cx env s with ⟨r, s1⟩
  rw [hcv] at h1
  subst h1
  cases r with
  | error e => exact ⟨c, c', s.borAmtC, rfl, fun gb => gb.ba⟩
  | ok cv =>
    dsimp only
    rw [run_bind]
    by_cases hgb : GoodB cx env s
    · obtain ⟨vs, hvs, hrun⟩ := borrowsValue_run (cx := cx) (env := env) (s := { s with supAmtC := c, collC := c' })
        hgb.nd hgb.cv hgb.ba
      rw [hrun]
      exact ⟨c, c', cacheOf vs, rfl, fun _ => CohC.of hvs⟩
    · obtain ⟨c3, h2⟩ := borrowsValue_shape (cx := cx) (env := env) { s with supAmtC := c, collC := c' }
      rcases hbv : borrowsValue cx env { s with supAmtC := c, collC := c' } with ⟨r2, s2⟩
      rw [hbv] at h2
      subst h2
      refine ⟨c, c', c3, ?_, fun gb => absurd gb hgb⟩
      cases r2 <;> rfl

end Demeter.Aave
