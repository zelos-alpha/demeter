/-
  Relations between the state before a stretch of calls, the calls, and the state after, that compose (`PhaseRel`): what holds of an
  operation, of a call that touches nothing and of a record made by `update()` holds of every phase of a bar, and of the three parts
  of a bar between which the loop itself writes the state (`barParts_stretch`).  First instance: the bookkeeping of account rows and
  action lists (`Frame`).
-/
import Proofs.Lemmas.CoreSegments
namespace Demeter.Core

/-- a call that shows nothing of the state and changes nothing -/
def Ev.plain : Ev → Prop
  | .before .. | .fire .. | .on .. | .update .. | .after .. | .row .. | .notify .. => True
  | _ => False

structure PhaseRel (ts : Int) (R : St → List Ev → St → Prop) : Prop where
  nil : ∀ st, R st [] st
  append : ∀ {a b c : St} {e₁ e₂ : List Ev}, R a e₁ b → R b e₂ c → R a (e₁ ++ e₂) c
  op : ∀ h op st, R st (doOp ts h op st).1 (doOp ts h op st).2
  plain : ∀ e st, e.plain → R st [e] st
  uact : ∀ i tag st, R st [.uact ts i tag] { st with cur := st.cur ++ [⟨tag, ts, i⟩], all := st.all ++ [⟨tag, ts, i⟩] }

theorem drop_cons_info {α : Type} {l : List α} {i : Nat} {a : α} {r : List α} (h : l.drop i = a :: r) :
    l[i]? = some a ∧ l.drop (i + 1) = r := by
  constructor
  · rw [← List.head?_drop, h]; rfl
  · rw [List.drop_add_one_eq_tail_drop, h]; rfl

theorem getElem?_set_of_some {α : Type} {l : List α} {m : Nat} {a : α} (h : l[m]? = some a) (a' : α) (i : Nat) :
    (l.set m a')[i]? = if m = i then some a' else l[i]? := by
  rw [List.getElem?_set, if_pos (List.getElem?_eq_some_iff.mp h).1]

section
variable {ts : Int} {R : St → List Ev → St → Prop} (hR : PhaseRel ts R)
include hR

theorem PhaseRel.cons {a b c : St} {e : Ev} {l : List Ev} (he : R a [e] b) (h : R b l c) : R a (e :: l) c := hR.append he h

theorem runOps_rel (h : Hook) : ∀ (ops : List OpSpec) (st : St), R st (runOps ts h ops st).1 (runOps ts h ops st).2
  | [], st => hR.nil st
  | op :: ops, st => hR.append (hR.op h op st) (runOps_rel h ops _)

theorem runFires_rel (sc : Script) (row : Nat) : ∀ (fs : List Fire) (st : St), R st (runFires sc ts row fs st).1 (runFires sc ts row fs st).2
  | [], st => hR.nil st
  | f :: fs, st =>
    hR.cons (hR.plain (.fire ts f.id f.kw) st trivial) (hR.append (runOps_rel hR (.fire f.id) _ st) (runFires_rel sc row fs _))

/-- `hopen`: what an open callback shows — that the market has one and is open — may be what `R` needs of it -/
theorem runOpenFrom_rel (sc : Script) (row : Nat) (all : List MarketCfg)
    (hopen : ∀ i mc st, all[i]? = some mc → mc.openCb = true → st.openAt i = true → R st [.openCb ts i] st)
    (i : Nat) (ms : List MarketCfg) (st : St) :
    all.drop i = ms → R st (runOpenFrom sc ts row i ms st).1 (runOpenFrom sc ts row i ms st).2 := by
  fun_induction runOpenFrom sc ts row i ms st with
  | case1 => exact fun _ => hR.nil _
  | case2 i mc rest st hc r q ih =>
    intro hd
    obtain ⟨hmc, hd'⟩ := drop_cons_info hd
    rw [Bool.and_eq_true] at hc
    exact hR.cons (hopen i mc st hmc hc.1 hc.2) (hR.append (runOps_rel hR (.openCb i) _ st) (ih hd'))
  | case3 i mc rest st hc ih => exact fun hd => ih (drop_cons_info hd).2

theorem recUpd_rel (i : Nat) : ∀ (tags : List String) (st : St), R st (recUpd ts i tags st).1 (recUpd ts i tags st).2
  | [], st => hR.nil st
  | tag :: tags, st => hR.cons (hR.uact i tag st) (recUpd_rel i tags _)

theorem runUpdFrom_rel (sc : Script) (row : Nat) : ∀ (i : Nat) (ms : List MarketCfg) (st : St),
    R st (runUpdFrom sc ts row i ms st).1 (runUpdFrom sc ts row i ms st).2
  | _, [], st => hR.nil st
  | i, _ :: rest, st =>
    hR.cons (hR.plain (.update ts i) st trivial) (hR.append (recUpd_rel hR i _ st) (runUpdFrom_rel sc row (i + 1) rest _))

theorem runNotify_rel (sc : Script) (row : Nat) (fuel i : Nat) (st : St) :
    R st (runNotify sc ts row fuel i st).1 (runNotify sc ts row fuel i st).2.1 := by
  fun_induction runNotify sc ts row fuel i st with
  | case1 => exact hR.nil _
  | case2 => exact hR.nil _
  | case3 fuel i st a ha r q ih =>
    exact hR.cons (hR.plain (.notify ts a.tag a.stamp a.m) st trivial) (hR.append (runOps_rel hR .notify _ st) ih)

/-- the points at which the loop itself writes the state: the two refreshes, the retirement of triggers -/
theorem barParts_stretch (cfg : Cfg) (sc : Script) (row : Nat) (st : St) (price : Option Int)
    (hopen : ∀ i mc st, cfg.markets[i]? = some mc → mc.openCb = true → st.openAt i = true → R st [.openCb ts i] st) :
    let p := barParts cfg sc row ts st price
    R { st with ms := p.s1.2 } (.before ts row price :: p.b.1 ++ p.f.1) p.f.2 ∧
    R { p.f.2 with trigs := p.tp.2.1 } (p.o.1 ++ .on ts row price :: p.n.1) p.n.2 ∧
    R { p.n.2 with ms := p.s2.2 } (p.u.1 ++ .after ts row price :: p.a.1 ++ .row ts price :: p.nt.1) p.nt.2.1 := by
  intro p
  refine ⟨?_, ?_, ?_⟩
  · exact hR.append (hR.cons (hR.plain _ _ trivial) (runOps_rel hR .before _ _)) (runFires_rel hR sc row _ _)
  · exact hR.append (runOpenFrom_rel hR sc row cfg.markets hopen 0 _ _ List.drop_zero)
      (hR.cons (hR.plain _ _ trivial) (runOps_rel hR .on _ _))
  · exact hR.append (hR.append (runUpdFrom_rel hR sc row 0 _ _) (hR.cons (hR.plain _ _ trivial) (runOps_rel hR .after _ _)))
      (hR.cons (hR.plain _ _ trivial) (runNotify_rel hR sc row _ 0 _))

end

end Demeter.Core
namespace Demeter
open Core

def Core.BarParts.early (p : BarParts) (row : Nat) (ts : Int) : List Ev :=
  p.s1.1 ++ .before ts row p.price :: p.b.1 ++ p.f.1 ++ p.o.1 ++ .on ts row p.price :: p.n.1

def Core.BarParts.late (p : BarParts) (row : Nat) (ts : Int) : List Ev :=
  p.u.1 ++ .after ts row p.price :: p.a.1 ++ .row ts p.price :: p.nt.1

end Demeter
namespace Demeter.Core

theorem BarParts.early_eq (p : BarParts) (row : Nat) (ts : Int) :
    p.early row ts = p.s1.1 ++ (.before ts row p.price :: p.b.1 ++ p.f.1) ++ (p.o.1 ++ .on ts row p.price :: p.n.1) := by
  simp only [BarParts.early, List.append_assoc, List.cons_append]

theorem BarParts.trace_eq (p : BarParts) (row : Nat) (ts : Int) : p.trace row ts = p.early row ts ++ p.s2.1 ++ p.late row ts := by
  simp only [BarParts.trace, BarParts.early, BarParts.late, List.append_assoc, List.cons_append]

/-- the action an event records (`_record_action_list`): accepted operations and what `update()` records -/
def recordedAct : Ev → Option Act
  | .opOk ts _ m tag => some ⟨tag, ts, m⟩
  | .opFree ts _ m tag true => some ⟨tag, ts, m⟩
  | .uact ts m tag => some ⟨tag, ts, m⟩
  | _ => none

def notifyAct : Ev → Option Act
  | .notify _ tag stamp m => some ⟨tag, stamp, m⟩
  | _ => none

def recOf (l : List Ev) : List Act := l.filterMap recordedAct

theorem recOf_append (a b : List Ev) : recOf (a ++ b) = recOf a ++ recOf b := by simp [recOf]

theorem notifyAct_phase (e : Ev) (h : (notifyAct e).isSome) : e.phase = 15 := by
  unfold notifyAct at h
  split at h
  · rfl
  · cases h

theorem recordedAct_stamp {e : Ev} {a : Act} (h : recordedAct e = some a) : e.ts = some a.stamp := by
  unfold recordedAct at h
  split at h <;> first | (cases h; rfl) | cases h

theorem recOf_stamp {ts : Int} {l : List Ev} (hl : ∀ e ∈ l, e.ts = some ts) : ∀ a ∈ recOf l, a.stamp = ts := by
  intro a ha
  obtain ⟨e, he, hea⟩ := List.mem_filterMap.mp ha
  exact Option.some.inj ((recordedAct_stamp hea).symm.trans (hl e he))

def NotifyOnTime : Ev → Prop
  | .notify ts _ stamp _ => ts = stamp
  | _ => True

def Frame (st : St) (evs : List Ev) (st' : St) : Prop :=
  st'.rows = st.rows ∧ st'.trigs = st.trigs ∧ st'.cur = st.cur ++ recOf evs ∧ st'.all = st.all ++ recOf evs

theorem Frame.refl (st : St) : Frame st [] st := ⟨rfl, rfl, by simp [recOf], by simp [recOf]⟩

theorem Frame.trans {a b c : St} {e₁ e₂ : List Ev} (h1 : Frame a e₁ b) (h2 : Frame b e₂ c) : Frame a (e₁ ++ e₂) c := by
  obtain ⟨a1, a2, a3, a4⟩ := h1
  obtain ⟨b1, b2, b3, b4⟩ := h2
  exact ⟨by rw [b1, a1], by rw [b2, a2], by rw [b3, a3, recOf_append, List.append_assoc],
    by rw [b4, a4, recOf_append, List.append_assoc]⟩

theorem Frame.silent {st : St} {e : Ev} (he : recordedAct e = none) : Frame st [e] st :=
  ⟨rfl, rfl, by simp [recOf, he], by simp [recOf, he]⟩

theorem doOp_frame (ts : Int) (h : Hook) (op : OpSpec) (st : St) : Frame st (doOp ts h op st).1 (doOp ts h op st).2 :=
  doOp_cases (motive := fun r => Frame st r.1 r.2) ts h op st (fun _ => Frame.refl st) ⟨rfl, rfl, rfl, rfl⟩ (Frame.silent rfl)
    (fun _ _ _ => Frame.silent rfl) (fun _ _ _ => Frame.silent rfl) (fun _ _ _ => ⟨rfl, rfl, rfl, rfl⟩)

theorem Frame.phaseRel (ts : Int) : PhaseRel ts Frame where
  nil := Frame.refl
  append := Frame.trans
  op := doOp_frame ts
  plain := fun e _ he => Frame.silent (by cases e <;> first | rfl | exact he.elim)
  uact := fun _ _ _ => ⟨rfl, rfl, rfl, rfl⟩

theorem recOf_setAllFrom (cfg : Cfg) (ts : Int) (stage : Nat) (i : Nat) (ms : List MarketCfg) :
    recOf (setAllFrom cfg ts stage i ms).1 = [] := by
  rw [setAllFrom_eq]; exact List.filterMap_eq_nil_iff.mpr (List.forall_mem_map.mpr fun _ _ => rfl)

theorem recOf_setUpdatedFrom (cfg : Cfg) (ts : Int) (i : Nat) (ms : List MarketCfg) (ss : List MSt) :
    recOf (setUpdatedFrom cfg ts i ms ss).1 = [] := by
  rw [setUpdatedFrom_eq]; exact List.filterMap_eq_nil_iff.mpr (List.forall_mem_map.mpr fun _ _ => rfl)

theorem barParts_frame (cfg : Cfg) (sc : Script) (row : Nat) (ts : Int) (st : St) (price : Option Int) :
    let p := barParts cfg sc row ts st price
    p.nt.2.1.rows = st.rows ∧ p.b.2.trigs = st.trigs ∧ p.nt.2.1.trigs = p.tp.2.1 := by
  intro p
  obtain ⟨h1, h2, h3⟩ := barParts_stretch (Frame.phaseRel ts) cfg sc row st price (fun _ _ _ _ _ _ => Frame.silent rfl)
  exact ⟨by rw [h3.1, h2.1, h1.1], (runOps_rel (Frame.phaseRel ts) .before _ _).2.1, by rw [h3.2.1, h2.2.1]⟩

theorem runBars_rows (cfg : Cfg) (sc : Script) (bars : List Int) (row : Nat) (st : St) (h : (runBars cfg sc row bars st).2.2 = none) :
    (runBars cfg sc row bars st).2.1.rows = st.rows ++ bars.map (fun ts => (ts, priceRow cfg ts)) := by
  refine runBars_ind (motive := fun bars _ st r => r.2.1.rows = st.rows ++ bars.map (fun ts => (ts, priceRow cfg ts)))
    (fun _ _ => by simp) ?_ bars row st h
  intro ts bars row st price hpr _ _ _ ih
  have hpe : (barParts cfg sc row ts st price).price = price := rfl
  simp only [BarParts.final] at ih ⊢
  rw [ih, (barParts_frame cfg sc row ts st price).1, hpe, priceAt_some hpr]
  simp

theorem doOp_noNotify (ts : Int) (h : Hook) (op : OpSpec) (st : St) : (doOp ts h op st).1.filterMap notifyAct = [] :=
  doOp_cases (motive := fun r => r.1.filterMap notifyAct = []) ts h op st (fun _ => rfl) rfl rfl (fun _ _ _ => rfl) (fun _ _ _ => rfl)
    (fun _ _ _ => rfl)

theorem runOps_fm_nil {α : Type} {P : Ev → Option α} {ts : Int} {h : Hook} (hP : ∀ op st, (doOp ts h op st).1.filterMap P = []) :
    ∀ (ops : List OpSpec) (st : St), (runOps ts h ops st).1.filterMap P = []
  | [], _ => rfl
  | op :: ops, st => by
    simp only [runOps, List.filterMap_append, hP, runOps_fm_nil hP ops, List.append_nil]

end Demeter.Core
