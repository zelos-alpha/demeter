/-
  Error propagation through the price ⇄ tick helpers (Demeter/TickPrice.lean) for an arithmetic context whose every
  operation has relative error ≤ ε, stated on rationals only:

  the hypotheses (`Approx`, `Exact`, and `LgSound` over the tick ratio `rho = 1.0001`), and the size of up to nineteen roundings at
  `ε ≤ 10⁻⁹`.  The enclosures themselves are `Within` of Proofs/Lemmas/RelRnd.lean.
-/
import Proofs.Lemmas.RelRnd
import Demeter.TickPrice
import Mathlib.Tactic.Linarith
import Mathlib.Tactic.Positivity
import Mathlib.Tactic.Ring
import Mathlib.Tactic.NormNum
import Mathlib.Algebra.Order.Field.Rat
import Mathlib.Algebra.Order.Ring.Pow
import Mathlib.Data.Rat.Cast.Order
namespace Demeter.TickInv
open Demeter Gen

/-- what the ε-robust theorems assume about the arithmetic (`ε = 0`: exact arithmetic; CPython: `ε = 5·10⁻³⁵`,
    for `sq` — two roundings — `(1±ε)²`) -/
structure Approx (tn : TickNum) (ε : Rat) : Prop where
  eps_nonneg : 0 ≤ ε
  eps_small : ε ≤ 1 / 1000000000
  /-- every Decimal `+ − × ÷` result is rounded with relative error ≤ ε -/
  rnd : ∀ x : Rat, 0 ≤ x → x * (1 - ε) ≤ tn.cx.rnd x ∧ tn.cx.rnd x ≤ x * (1 + ε)
  /-- `x ** 2` -/
  sq : ∀ x : Rat, x * x * (1 - ε) ^ 2 ≤ tn.sq x ∧ tn.sq x ≤ x * x * (1 + ε) ^ 2
  /-- `Decimal.sqrt` -/
  sqrt : ∀ y : Rat, 0 ≤ y → 0 ≤ tn.cx.dsqrt y ∧
    y * (1 - ε) ^ 2 ≤ tn.cx.dsqrt y ^ 2 ∧ tn.cx.dsqrt y ^ 2 ≤ y * (1 + ε) ^ 2
  /-- `Decimal(10 ** e)` is positive -/
  fac_pos : ∀ e : Int, 0 < tn.fac e

/-- exact arithmetic: what `NumCtx.exact` would be with an exact square root on perfect squares -/
structure Exact (tn : TickNum) : Prop where
  rnd : ∀ x : Rat, tn.cx.rnd x = x
  sq : ∀ x : Rat, tn.sq x = x * x
  sqrt : ∀ y : Rat, 0 ≤ y → tn.cx.dsqrt (y * y) = y
  fac_pos : ∀ e : Int, 0 < tn.fac e

/-- the ratio of neighbouring tick prices, `1.0001` -/
def rho : Rat := 10001 / 10000

theorem rho_pos : 0 < rho := by unfold rho; norm_num
theorem one_lt_rho : 1 < rho := by unfold rho; norm_num

/-- what is assumed of `math.floor(math.log(y, SQRT_1p0001))`: it is the floor of the logarithm to base `√1.0001` of
    `y` perturbed by a relative error of at most `δ` — on squares: `1.0001^e ≤ (y(1+δ))²` and `(y(1−δ))² < 1.0001^(e+1)`. -/
def LgSound (tn : TickNum) (δ : Rat) : Prop :=
  ∀ y : Rat, 0 < y → rho ^ (tn.lg y) ≤ (y * (1 + δ)) ^ 2 ∧ (y * (1 - δ)) ^ 2 < rho ^ (tn.lg y + 1)

theorem LgSound.congr {tn tn' : TickNum} (h : tn.lg = tn'.lg) {δ δ' : Rat} (hδ : δ = δ') (hl : LgSound tn δ) :
    LgSound tn' δ' := by
  subst hδ
  intro y hy
  rw [← h]
  exact hl y hy

namespace Approx
variable {tn : TickNum} {ε : Rat}
theorem eps_le_one (h : Approx tn ε) : ε ≤ 1 := le_trans h.eps_small (by norm_num)
theorem rounds (h : Approx tn ε) : Rounds tn.cx ε := ⟨h.rnd, h.eps_le_one⟩
theorem eps_le_half (h : Approx tn ε) : ε ≤ 1 / 2 := le_trans h.eps_small (by norm_num)
theorem eps_lt_one (h : Approx tn ε) : ε < 1 := lt_of_le_of_lt h.eps_small (by norm_num)
theorem one_sub_pos (h : Approx tn ε) : 0 < 1 - ε := sub_pos.2 h.eps_lt_one
theorem one_add_pos (h : Approx tn ε) : 0 < 1 + ε := by linarith [h.eps_nonneg]

/-- a theorem with a numeric conclusion may take `ε` at its largest -/
theorem mono (h : Approx tn ε) {ε' : Rat} (hε : ε ≤ ε') (h' : ε' ≤ 1 / 1000000000) : Approx tn ε' := by
  have h0 := h.eps_nonneg
  have lo : (1 - ε') ^ 2 ≤ (1 - ε) ^ 2 := pow_le_pow_left₀ (by linarith only [h']) (by linarith only [hε]) 2
  have hi : (1 + ε) ^ 2 ≤ (1 + ε') ^ 2 := pow_le_pow_left₀ (by linarith only [h0]) (by linarith only [hε]) 2
  refine ⟨h0.trans hε, h', fun x hx => ?_, fun x => ?_, fun y hy => ⟨(h.sqrt y hy).1, ?_, ?_⟩, h.fac_pos⟩
  · exact ⟨le_trans (mul_le_mul_of_nonneg_left (by linarith only [hε]) hx) (h.rnd x hx).1,
      le_trans (h.rnd x hx).2 (mul_le_mul_of_nonneg_left (by linarith only [hε]) hx)⟩
  · exact ⟨le_trans (mul_le_mul_of_nonneg_left lo (mul_self_nonneg x)) (h.sq x).1,
      le_trans (h.sq x).2 (mul_le_mul_of_nonneg_left hi (mul_self_nonneg x))⟩
  · exact le_trans (mul_le_mul_of_nonneg_left lo hy) (h.sqrt y hy).2.1
  · exact le_trans (h.sqrt y hy).2.2 (mul_le_mul_of_nonneg_left hi hy)
end Approx

section rel
variable {ε : Rat} (h0 : 0 ≤ ε) (h1 : ε ≤ 1 / 1000000000)
include h0 h1

/-- at `ε ≤ 10⁻⁹`, nineteen roundings, `m` up against `n` down, stay within `2·10⁻⁸ = (19 + 1)·10⁻⁹` -/
theorem pow_eps_ratio_small (m n : Nat) (hmn : m + n ≤ 19) :
    (1 - 2 / 100000000) * (1 + ε) ^ m ≤ (1 - ε) ^ n ∧ (1 + ε) ^ m ≤ (1 + 2 / 100000000) * (1 - ε) ^ n := by
  have hN : (m + n : Rat) ≤ 19 := by exact_mod_cast hmn
  have hN0 : (0 : Rat) ≤ m + n := by positivity
  have hNε : (m + n : Rat) * ε ≤ 19 / 1000000000 := le_trans (mul_le_mul hN h1 h0 (by norm_num)) (by norm_num)
  have b := pow_eps_ratio h0 m n (by
    calc (m + n : Rat) * (m + n + 1) * ε = (m + n + 1) * ((m + n) * ε) := by ring
      _ ≤ 20 * (19 / 1000000000) := mul_le_mul (by linarith only [hN]) hNε (mul_nonneg hN0 h0) (by norm_num)
      _ ≤ 1 := by norm_num)
  have hs : 0 ≤ 1 - ε := by linarith only [h1]
  exact ⟨le_trans (mul_le_mul_of_nonneg_right (by linarith only [hNε]) (by positivity)) b.1,
    le_trans b.2 (mul_le_mul_of_nonneg_right (by linarith only [hNε, h1]) (pow_nonneg hs n))⟩

theorem pow_eps_small (n : Nat) (hn : n ≤ 19) :
    1 - 2 / 100000000 ≤ (1 - ε) ^ n ∧ (1 + ε) ^ n ≤ 1 + 2 / 100000000 :=
  ⟨by simpa using (pow_eps_ratio_small h0 h1 0 n (by omega)).1, by simpa using (pow_eps_ratio_small h0 h1 n 0 (by omega)).2⟩

end rel

end Demeter.TickInv
