/-
  Two predicates on a computation of the Aave model's monad: `EKP c0 m` (an error exit of `m` finds the core — supplies, borrows,
  wallet, action log — as it was) and `NFP R m` (`m` cannot fail from a state in `R`).  That a rejected user operation leaves
  the whole frame alone is `step_rejected_moved` (AaveEffect).
-/
import Proofs.Lemmas.AaveM
namespace Demeter.Aave
open Demeter M

variable {cx : ACtx} {env : Env}

def EKP (c0 : Core) {α : Type} (m : M α) : Prop := ∀ s, s.core = c0 → ∀ e, (m s).1 = .error e → (m s).2.core = c0

def NFP (R : St → Prop) {α : Type} (m : M α) : Prop := ∀ s, R s → ∃ a, (m s).1 = .ok a

section
variable {α β : Type}

theorem NFP.bind {R : St → Prop} {m : M α} {f : α → M β} (hm : NFP R m) (hR : Inv R m) (hf : ∀ a, NFP R (f a)) :
    NFP R (m >>= f) := by
  intro s hs
  obtain ⟨a, ha⟩ := hm s hs
  have h1 := hR s hs
  rcases hms : m s with ⟨r, s1⟩
  rw [hms] at ha h1
  subst ha
  rw [run_bind_ok hms]
  exact hf a s1 h1

theorem NFP.modify {R : St → Prop} (g : St → St) : NFP R (M.modify g) := fun _ _ => ⟨(), rfl⟩

theorem nfp_true_bind_modify {g : St → St} {f : Unit → M β} (hf : NFP (fun _ => True) (f ())) :
    NFP (fun _ => True) (M.modify g >>= f) :=
  NFP.bind (NFP.modify g) (fun _ _ => trivial) (fun _ => hf)

end

/-- `__sub_borrow_amount` raises before it writes -/
theorem ekp_subBorrowAmount (c0 : Core) (tok : String) (amt : Rat) : EKP c0 (subBorrowAmount cx env tok amt) := by
  intro s hs e he
  rw [subBorrowAmount_eq] at he ⊢
  split at he
  · split at he
    · cases he
    · rename_i hz; rw [if_neg hz]; exact hs
  · split at he
    · exact hs
    · split at he
      · rename_i hz; rw [if_pos hz]; exact hs
      · cases he

end Demeter.Aave
