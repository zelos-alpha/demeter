/-
  GMX v2 on a frozen row, rational semantics: what a deposit costs and a withdrawal pays per share (value per share
  `poolValue / supply`).  An accepted deposit mints a non-negative amount of GM, worth at most the tokens paid unless the price
  impact is positive; an accepted withdrawal redeems at most the holding and pays at most what the shares are worth.
-/
import Proofs.Lemmas.GmxV2Spec
namespace Demeter.Gmx2
open Demeter Demeter.GmxV2

variable {pw : Rat → Rat → Rat}

theorem PoolPos.perShare {ps : Pool Rat} (hp : PoolPos ps) : 0 < ps.poolValue / ps.supply := div_pos hp.poolValue hp.supply

theorem deposit_value {cx : NumCtx} {cfg : Config Rat} (hc : CfgOK cfg) {ps : Pool Rat} (hp : PoolPos ps) {lk sk : String}
    {s s' : State Rat} {la sa : Rat} {r : LPResult Rat} {tag : String}
    (h : deposit (ratOps pw) cx cfg ps lk sk s la sa = (.ok (r, tag), s')) :
    mintAmount (ratOps pw) cfg ps la sa = .ok (r, tag) ∧ 0 ≤ r.gmAmount ∧ s'.amount = s.amount + r.gmAmount ∧
      (r.priceImpactUsd ≤ 0 → r.gmAmount * (ps.poolValue / ps.supply) ≤ la * ps.longPrice + sa * ps.shortPrice) := by
  obtain ⟨hla, hsa, hm, hamt, _, _⟩ := deposit_ok h
  exact ⟨hm, gm_nonneg hc hp hm, hamt, mint_value_le_paid hc hp hla hsa hm⟩

theorem withdraw_value {cx : NumCtx} {cfg : Config Rat} (hc : CfgOK cfg) {ps : Pool Rat} (hp : PoolPos ps) {lk sk : String}
    {s s' : State Rat} {amt : Option Rat} {r : LPResult Rat}
    (h : withdraw (ratOps pw) cx cfg ps lk sk s amt = (.ok r, s')) :
    0 ≤ amt.getD s.amount ∧ amt.getD s.amount ≤ s.amount ∧ s'.amount = s.amount - amt.getD s.amount ∧
      r.longAmount * ps.longPrice + r.shortAmount * ps.shortPrice ≤ amt.getD s.amount * (ps.poolValue / ps.supply) := by
  obtain ⟨h0, h1, ho, hamt, _, _⟩ := withdraw_ok h
  obtain ⟨_, _, _, _, hg, _, _, hout⟩ := outputAmount_ok ho
  refine ⟨h0, h1, hg ▸ hamt, ?_⟩
  rw [hout, show ps.poolValue * amt.getD s.amount / ps.supply = amt.getD s.amount * (ps.poolValue / ps.supply) by ring]
  have := mul_nonneg hc.wn0 (mul_nonneg h0 hp.perShare.le)
  linarith

end Demeter.Gmx2
