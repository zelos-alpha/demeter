/-
  Reasoning kit for the Aave state machine's monad `M α = St → Except Err α × St`: `run_*` unfolding lemmas, invariants (`Inv`)
  and Hoare triples with separate post-conditions for the normal and the error exit (`Tri`).
-/
import Demeter.Aave
import Proofs.Lemmas.AList
import Proofs.Lemmas.Run
namespace Demeter.Aave
open M

theorem run_bind {α β : Type} (m : M α) (f : α → M β) (s : St) :
    (m >>= f) s = match m s with
      | (.ok a, s') => f a s'
      | (.error e, s') => (.error e, s') := rfl

theorem run_bind_ok {α β : Type} {m : M α} {f : α → M β} {s s' : St} {a : α} (h : m s = (.ok a, s')) :
    (m >>= f) s = f a s' := by rw [run_bind, h]

theorem run_bind_err {α β : Type} {m : M α} {f : α → M β} {s s' : St} {e : Err} (h : m s = (.error e, s')) :
    (m >>= f) s = (.error e, s') := by rw [run_bind, h]

@[simp] theorem run_pure {α : Type} (a : α) (s : St) : (pure a : M α) s = (.ok a, s) := rfl
@[simp] theorem run_throw {α : Type} (e : Err) (s : St) : (M.throw e : M α) s = (.error e, s) := rfl
@[simp] theorem run_get (s : St) : M.get s = (.ok s, s) := rfl
@[simp] theorem run_modify (f : St → St) (s : St) : M.modify f s = (.ok (), f s) := rfl
@[simp] theorem run_ofRes {α : Type} (r : Res α) (s : St) : M.ofRes r s = (r, s) := rfl
@[simp] theorem run_queryPos {α : Type} (q : AList String SupplyInfo → AList String BorrowInfo → Res α) (s : St) :
    M.queryPos q s = (q s.supplies s.borrows, s) := rfl
theorem run_require (c : Bool) (e : Err) (s : St) :
    M.require c e s = if c then (.ok (), s) else (.error e, s) := rfl
@[simp] theorem run_require_true (e : Err) (s : St) : M.require true e s = (.ok (), s) := rfl
@[simp] theorem run_require_false (e : Err) (s : St) : M.require false e s = (.error e, s) := rfl

theorem run_bind_require_true {β : Type} {c : Bool} (hc : c = true) (e : Err) (f : Unit → M β) (s : St) :
    (M.require c e >>= f) s = f () s := by subst hc; rfl

theorem run_bind_require_false {β : Type} {c : Bool} (hc : c = false) (e : Err) (f : Unit → M β) (s : St) :
    (M.require c e >>= f) s = (.error e, s) := by subst hc; rfl

theorem run_bind_ofRes_ok {α β : Type} (a : α) (f : α → M β) (s : St) : (M.ofRes (.ok a) >>= f) s = f a s := rfl
theorem run_bind_pure {α β : Type} (a : α) (f : α → M β) (s : St) : ((pure a : M α) >>= f) s = f a s := rfl
theorem run_bind_modify {β : Type} (g : St → St) (f : Unit → M β) (s : St) : (M.modify g >>= f) s = f () (g s) := rfl

theorem run_bind_queryPos_ok {α β : Type} {q : AList String SupplyInfo → AList String BorrowInfo → Res α}
    {a : α} {s : St} (h : q s.supplies s.borrows = .ok a) (f : α → M β) : (M.queryPos q >>= f) s = f a s := by
  rw [run_bind, run_queryPos, h]

theorem run_bind_queryPos_err {α β : Type} {q : AList String SupplyInfo → AList String BorrowInfo → Res α}
    {e : Err} {s : St} (h : q s.supplies s.borrows = .error e) (f : α → M β) : (M.queryPos q >>= f) s = (.error e, s) := by
  rw [run_bind, run_queryPos, h]

theorem run_bind_assoc {α β γ : Type} (m : M α) (g : α → M β) (f : β → M γ) (s : St) :
    ((m >>= g) >>= f) s = (m >>= fun a => g a >>= f) s := by
  rw [run_bind, run_bind, run_bind]
  rcases m s with ⟨r, s'⟩
  cases r <;> rfl

theorem run_onError {α : Type} (m : M α) (fin : St → St) (s : St) :
    onError m fin s = match m s with
      | (.ok a, s1) => (.ok a, s1)
      | (.error e, s1) => (.error e, fin s1) := rfl
theorem run_onError_ok {α : Type} {m : M α} {fin : St → St} {s s1 : St} {a : α} (h : m s = (.ok a, s1)) :
    onError m fin s = (.ok a, s1) := by rw [run_onError, h]
theorem optRes_eq_ok {α : Type} {o : Option α} {e : Err} {a : α} : optRes o e = .ok a ↔ o = some a := by
  cases o with
  | none => constructor <;> intro h <;> cases h
  | some b => constructor <;> intro h <;> cases h <;> rfl

/-- `__sub_supply_amount` raises before it writes; accepted, it is one `commitSubSupply` -/
theorem subSupplyAmount_eq (cx : ACtx) (env : Env) (tok : String) (amt : Rat) (s : St) :
    subSupplyAmount cx env tok amt s =
      match AList.get? s.supplies tok with
      | none => if amt = 0 then (.ok 0, s) else (.error .subMissing, s)
      | some info =>
        match env.statusOf tok with
        | .error e => (.error e, s)
        | .ok st =>
          if st.liqIdx = 0 then (.error .divZero, s)
          else (.ok (subBase cx info.base (cx.div amt st.liqIdx)),
                (commitSubSupply tok info (subBase cx info.base (cx.div amt st.liqIdx)) s).2) := by
  unfold subSupplyAmount
  rw [run_bind, run_queryPos]
  cases AList.get? s.supplies tok with
  | none => dsimp only; split <;> rfl
  | some info =>
    dsimp only
    rw [run_bind, run_ofRes]
    cases env.statusOf tok with
    | error e => rfl
    | ok st =>
      dsimp only
      rw [run_bind, run_ofRes]
      by_cases hz : st.liqIdx = 0
      · simp only [divE, hz, if_true]
      · simp only [divE, hz, if_false]; rfl

theorem subBorrowAmount_eq (cx : ACtx) (env : Env) (tok : String) (amt : Rat) (s : St) :
    subBorrowAmount cx env tok amt s =
      match AList.get? s.borrows tok with
      | none => if amt = 0 then (.ok 0, s) else (.error .subMissing, s)
      | some info =>
        match env.statusOf tok with
        | .error e => (.error e, s)
        | .ok st =>
          if st.varIdx = 0 then (.error .divZero, s)
          else (.ok (subBase cx info.base (cx.div amt st.varIdx)),
                (commitSubBorrow tok info (subBase cx info.base (cx.div amt st.varIdx)) s).2) := by
  unfold subBorrowAmount
  rw [run_bind, run_queryPos]
  cases AList.get? s.borrows tok with
  | none => dsimp only; split <;> rfl
  | some info =>
    dsimp only
    rw [run_bind, run_ofRes]
    cases env.statusOf tok with
    | error e => rfl
    | ok st =>
      dsimp only
      rw [run_bind, run_ofRes]
      by_cases hz : st.varIdx = 0
      · simp only [divE, hz, if_true]
      · simp only [divE, hz, if_false]; rfl

theorem subBorrowAmount_run {cx : ACtx} {env : Env} {s : St} {tok : String} {info : BorrowInfo} {st : TokStatus} (amt : Rat)
    (hg : AList.get? s.borrows tok = some info) (hst : env.statusOf tok = .ok st) (hnz : st.varIdx ≠ 0) :
    subBorrowAmount cx env tok amt s =
      (.ok (subBase cx info.base (cx.div amt st.varIdx)),
       (commitSubBorrow tok info (subBase cx info.base (cx.div amt st.varIdx)) s).2) := by
  rw [subBorrowAmount_eq, hg, hst]
  simp only [hnz, if_false]

/-! `keys m = m.map (·.1)` by unfolding, so the lemmas of `Proofs.Lemmas.AList` about `m.map (·.1)` apply as they are -/

section
variable {ν : Type}

@[simp] theorem keys_nil : keys ([] : AList String ν) = [] := rfl
@[simp] theorem keys_cons (k : String) (v : ν) (m : AList String ν) : keys ((k, v) :: m) = k :: keys m := rfl
@[simp] theorem keys_append (a b : AList String ν) : keys (a ++ b) = keys a ++ keys b := List.map_append

@[simp] theorem aget_nil (k : String) : AList.get? ([] : AList String ν) k = none := rfl

@[simp] theorem aset_nil (k : String) (v : ν) : AList.set ([] : AList String ν) k v = [(k, v)] := rfl

theorem mem_erase {m : AList String ν} {k : String} {p : String × ν} (h : p ∈ AList.erase m k) : p ∈ m ∧ p.1 ≠ k :=
  AList.mem_erase_iff.mp h

theorem aget_mem_keys {m : AList String ν} {k : String} {v : ν} (h : AList.get? m k = some v) : k ∈ keys m :=
  AList.mem_keys_of_mem (AList.mem_of_get? h)

end

def Inv (I : St → Prop) {α : Type} (m : M α) : Prop := ∀ s, I s → I (m s).2

def InvTo (P Q : St → Prop) {α : Type} (m : M α) : Prop := ∀ s, P s → Q (m s).2

def PostR {α : Type} (R : α → St → Prop) (Q : St → Prop) (x : Res α × St) : Prop :=
  match x with
  | (.ok a, s') => R a s'
  | (.error _, s') => Q s'

def Tri {α : Type} (P : St → Prop) (m : M α) (Rok : α → St → Prop) (Rerr : St → Prop) : Prop :=
  ∀ s, P s → PostR Rok Rerr (m s)

section
variable {α β : Type} {P : St → Prop} {E : St → Prop}

theorem Tri.bind {m : M α} {f : α → M β} {R : α → St → Prop} {Q : β → St → Prop}
    (hm : Tri P m R E) (hf : ∀ a, Tri (R a) (f a) Q E) : Tri P (m >>= f) Q E := by
  intro s hs
  have h1 := hm s hs
  rcases hms : m s with ⟨r, s1⟩
  rw [hms] at h1
  cases r with
  | ok a => rw [run_bind_ok hms]; exact hf a s1 h1
  | error e => rw [run_bind_err hms]; exact h1

theorem PostR.imp {R R' : α → St → Prop} {E' : St → Prop} (hr : ∀ a s, R a s → R' a s) (he : ∀ s, E s → E' s) :
    ∀ {x : Res α × St}, PostR R E x → PostR R' E' x
  | (.ok a, s), h => hr a s h
  | (.error _, s), h => he s h

theorem PostR.const {Q : St → Prop} : ∀ {x : Res α × St}, PostR (fun _ => Q) Q x ↔ Q x.2
  | (.ok _, _) => Iff.rfl
  | (.error _, _) => Iff.rfl

theorem Tri.weaken {m : M α} {R R' : α → St → Prop} {E' P' : St → Prop} (h : Tri P m R E) (hp : ∀ s, P' s → P s)
    (hr : ∀ a s, R a s → R' a s) (he : ∀ s, E s → E' s) : Tri P' m R' E' :=
  fun s hs => (h s (hp s hs)).imp hr he

theorem Tri.snd {m : M α} {R : α → St → Prop} {Q : St → Prop} (h : Tri P m R E) (hr : ∀ a s, R a s → Q s)
    (he : ∀ s, E s → Q s) {s : St} (hs : P s) : Q (m s).2 :=
  PostR.const.mp ((h s hs).imp hr he)

theorem Tri.ok {m : M α} {R : α → St → Prop} (h : Tri P m R E) {s s' : St} {a : α} (hs : P s) (hm : m s = (.ok a, s')) :
    R a s' := by
  have h1 := h s hs
  rw [hm] at h1
  exact h1

theorem Tri.err {m : M α} {R : α → St → Prop} (h : Tri P m R E) {s : St} {e : Err} (hs : P s) (hm : (m s).1 = .error e) :
    E (m s).2 := by
  have h1 := h s hs
  generalize m s = x at h1 hm
  obtain ⟨r, s1⟩ := x
  cases hm
  exact h1

/-- the two exits as equations, for a goal that is itself a `match` on the run -/
theorem Tri.cases {m : M α} {R : α → St → Prop} (h : Tri P m R E) {s : St} (hs : P s) :
    (∃ a s', m s = (.ok a, s') ∧ R a s') ∨ (∃ e s', m s = (.error e, s') ∧ E s') := by
  rcases hm : m s with ⟨r, s'⟩
  cases r with
  | ok a => exact Or.inl ⟨a, s', rfl, h.ok hs hm⟩
  | error e => exact Or.inr ⟨e, s', rfl, by have := h.err (e := e) hs (by rw [hm]); rwa [hm] at this⟩

theorem Tri.of_pure {m : M α} {R : α → St → Prop} {p : Prop} (h : p → Tri P m R E) : Tri (fun s => P s ∧ p) m R E :=
  fun s hs => h hs.2 s hs.1

theorem Tri.pure {R : α → St → Prop} (a : α) (h : ∀ s, P s → R a s) : Tri P (pure a : M α) R E := fun s hs => h s hs

theorem Tri.modify {R : St → Prop} (g : St → St) (h : ∀ s, P s → R (g s)) : Tri P (M.modify g) (fun _ => R) E :=
  fun s hs => h s hs

theorem Tri.throw {R : α → St → Prop} (e : Err) (h : ∀ s, P s → E s) : Tri P (M.throw e : M α) R E := fun s hs => h s hs

theorem Tri.ofInv {m : M α} (h : Inv P m) (he : ∀ s, P s → E s) : Tri P m (fun _ => P) E :=
  fun s hs => (PostR.const.mpr (h s hs)).imp (fun _ _ h => h) he

/-- `try: m except: fin; raise` -/
theorem Tri.onError {m : M α} {fin : St → St} {R : α → St → Prop} {E' : St → Prop} (hm : Tri P m R E')
    (he : ∀ s, E' s → E (fin s)) : Tri P (onError m fin) R E := by
  intro s hs
  have h1 := hm s hs
  rw [run_onError]
  generalize m s = x at h1 ⊢
  obtain ⟨r, s1⟩ := x
  cases r with
  | ok a => exact h1
  | error e => exact he s1 h1

/-! the guard steps of a walk: a guard that raises leaves the state as it is, and a read keeps its invariant on both exits, so
    there the error exit asks what the pre-condition gives -/

theorem Tri.bind_inv {m : M α} {f : α → M β} {Q : β → St → Prop} (h : Inv P m) (hf : ∀ a, Tri P (f a) Q P) :
    Tri P (m >>= f) Q P :=
  Tri.bind (Tri.ofInv h (fun _ h => h)) hf

theorem Tri.bind_ofRes {r : Res α} {f : α → M β} {Q : β → St → Prop} (h : ∀ a, r = .ok a → Tri P (f a) Q P) :
    Tri P (M.ofRes r >>= f) Q P := by
  intro s hs
  rw [run_bind]
  cases r with
  | ok a => exact h a rfl s hs
  | error e => exact hs

theorem Tri.bind_require {c : Bool} {e0 : Err} {f : Unit → M β} {Q : β → St → Prop} (h : c = true → Tri P (f ()) Q P) :
    Tri P (M.require c e0 >>= f) Q P := by
  intro s hs
  rw [run_bind]
  cases c with
  | true => exact h rfl s hs
  | false => exact hs

theorem Tri.bind_queryPos {q : AList String SupplyInfo → AList String BorrowInfo → Res α} {f : α → M β}
    {Q : β → St → Prop} {sup0 : AList String SupplyInfo} {bor0 : AList String BorrowInfo}
    (hpin : ∀ s, P s → s.supplies = sup0 ∧ s.borrows = bor0)
    (h : ∀ a, q sup0 bor0 = .ok a → Tri P (f a) Q P) : Tri P (M.queryPos q >>= f) Q P := by
  intro s hs
  obtain ⟨h1, h2⟩ := hpin s hs
  rw [run_bind, run_queryPos, h1, h2]
  cases hq : q sup0 bor0 with
  | ok a => exact h a hq s hs
  | error e => exact hs

end

theorem Inv.tri {I : St → Prop} {α : Type} {m : M α} (h : Inv I m) : Tri I m (fun _ => I) I :=
  fun s hs => PostR.const.mpr (h s hs)

theorem Tri.inv {I : St → Prop} {α : Type} {m : M α} (h : Tri I m (fun _ => I) I) : Inv I m :=
  fun s hs => PostR.const.mp (h s hs)

theorem Inv.bind {I : St → Prop} {α β : Type} {m : M α} {f : α → M β}
    (hm : Inv I m) (hf : ∀ a, Inv I (f a)) : Inv I (m >>= f) :=
  Tri.inv (Tri.bind hm.tri (fun a => (hf a).tri))

theorem Inv.pure {I : St → Prop} {α : Type} (a : α) : Inv I (pure a : M α) := fun _ h => h
theorem Inv.ofRes {I : St → Prop} {α : Type} (r : Res α) : Inv I (M.ofRes r) := fun _ h => h
theorem Inv.queryPos {I : St → Prop} {α : Type} (q : AList String SupplyInfo → AList String BorrowInfo → Res α) :
    Inv I (M.queryPos q) := fun _ h => h
theorem Inv.require {I : St → Prop} (c : Bool) (e : Err) : Inv I (M.require c e) := by
  intro s h; rw [run_require]; split <;> exact h
theorem Inv.modify {I : St → Prop} (f : St → St) (h : ∀ s, I s → I (f s)) : Inv I (M.modify f) := fun s hs => h s hs

theorem Tri.checkCanCollateral {P : St → Prop} (env : Env) (tok : String) (coll : Bool) :
    Tri P (checkCanCollateral env tok coll)
      (fun _ s => P s ∧ (coll = true → ∃ r, env.riskOf tok = .ok r ∧ r.canColl = true)) P := by
  unfold Aave.checkCanCollateral
  cases coll with
  | false => exact Tri.pure _ (fun _ h => ⟨h, fun hc => (by cases hc)⟩)
  | true =>
    rw [if_pos rfl]
    refine Tri.bind_ofRes (fun r hr => ?_)
    intro s hs
    rw [run_require]
    cases hc : r.canColl with
    | false => exact hs
    | true => exact ⟨hs, fun _ => ⟨r, hr, hc⟩⟩

theorem Tri.checkFlag {P : St → Prop} (old : Option SupplyInfo) (coll : Bool) :
    Tri P (checkFlag old coll) (fun _ s => P s ∧ ∀ info, old = some info → info.coll = coll) P := by
  unfold Aave.checkFlag
  cases old with
  | none => exact Tri.pure _ (fun _ h => ⟨h, fun _ hi => (by cases hi)⟩)
  | some info =>
    intro s hs
    show PostR _ _ (M.require (info.coll == coll) Err.flagMismatch s)
    rw [run_require]
    cases hc : info.coll == coll with
    | false => exact hs
    | true => exact ⟨hs, fun i hi => by cases hi; simpa using hc⟩

theorem Inv.checkWithdrawHf {I : St → Prop} {cx : ACtx} {env : Env} {tok : String} {info : SupplyInfo}
    (h : ∀ tb, Inv I (trialHealthFactor cx env tok info tb)) (amount idx : Rat) :
    Inv I (checkWithdrawHf cx env tok info amount idx) := by
  unfold Aave.checkWithdrawHf
  split
  · exact Inv.bind (Inv.ofRes _) (fun _ => Inv.bind (h _) (fun _ => Inv.require _ _))
  · exact Inv.pure _

end Demeter.Aave

namespace Demeter
open Aave

variable {env : Env}

theorem aave_unitM_ok {m : M Unit} {s s1 : St} (hm : m s = (.ok (), s1)) : unitM m s = (.ok .unit, s1) := by
  unfold unitM mapM'; rw [hm]

theorem aave_unitM_err {m : M Unit} {s s1 : St} {e : Err} (hm : m s = (.error e, s1)) : unitM m s = (.error e, s1) := by
  unfold unitM mapM'; rw [hm]

theorem aave_unitM_snd (m : M Unit) (s : St) : (unitM m s).2 = (m s).2 := by
  rcases hm : m s with ⟨r, s1⟩
  cases r with
  | ok u => rw [aave_unitM_ok hm]
  | error e => rw [aave_unitM_err hm]

theorem aave_unitM_fst {m : M Unit} {s : St} {e : Err} (h : (unitM m s).1 = .error e) : (m s).1 = .error e := by
  rcases hm : m s with ⟨r, s1⟩
  cases r with
  | ok u => rw [aave_unitM_ok hm] at h; cases h
  | error e' => rw [aave_unitM_err hm] at h; cases h; rfl

theorem aave_guardOpen_closed {α : Type} (hc : env.isOpen = false) (f : Unit → M α) (s : St) :
    (guardOpen env >>= f) s = (.error .closed, s) :=
  run_bind_err (by unfold guardOpen; rw [hc]; rfl)

def runOps (cx : ACtx) (env : Env) : St → List Op → St
  | s, [] => s
  | s, op :: ops => runOps cx env (step cx env s op).2 ops

theorem runOps_keeps {cx : ACtx} {P : St → Prop} (ops : List Op) (h : ∀ op ∈ ops, ∀ s, P s → P (step cx env s op).2) :
    ∀ s, P s → P (runOps cx env s ops) :=
  run_keeps (run := runOps cx env) (step := fun s op => (step cx env s op).2) (fun _ => rfl) (fun _ _ _ => rfl) ops h

end Demeter
