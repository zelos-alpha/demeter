/-
  Staying inside the magnitude range.  A quotient of integers below `2^150000` is in range, since reduction to lowest terms
  only shrinks.  So `roundSig p x` is in range again when `|num x|, den x < 10^45000` and the `p` digits of the mantissa fit between
  that bound and the range (`p + 45000 ≤ 45154`: `10^45154 ≤ 2^150000`).
-/
import Proofs.Lemmas.Round35Props
import Mathlib.Data.Rat.Lemmas
namespace Demeter.Numerics
open Demeter
set_option exponentiation.threshold 200000

local notation "T" => (10 : ℚ)

theorem InRange_iff (x : ℚ) : InRange x ↔ x.num.natAbs < 2 ^ 150000 ∧ x.den < 2 ^ 150000 := by
  unfold InRange; rw [log2_lt_iff, log2_lt_iff]

theorem num_den_le (a b : ℕ) (hb : 0 < b) :
    ((a:ℚ) / (b:ℚ)).num.natAbs ≤ a ∧ ((a:ℚ) / (b:ℚ)).den ≤ b := by
  have hb' : (b:ℤ) ≠ 0 := by omega
  have e : (a:ℚ) / (b:ℚ) = Rat.divInt a b := by rw [Rat.divInt_eq_div]; push_cast; rfl
  rw [e]
  constructor
  · by_cases ha : a = 0
    · subst ha; simp
    · have := Int.natAbs_dvd_natAbs.2 (Rat.num_dvd (a:ℤ) hb')
      exact Nat.le_of_dvd (Nat.pos_of_ne_zero ha) this
  · have := Rat.den_dvd a b
    exact Nat.le_of_dvd hb (Int.natCast_dvd_natCast.1 this)

theorem InRange_natDiv (a b : ℕ) (hb : 0 < b) (ha : a < 2 ^ 150000) (hb' : b < 2 ^ 150000) :
    InRange ((a:ℚ) / (b:ℚ)) := by
  obtain ⟨h1, h2⟩ := num_den_le a b hb
  rw [InRange_iff]; exact ⟨by omega, by omega⟩

theorem ndigits_le (n : ℕ) (hn : 0 < n) (hb : n.log2 < LOG2_BOUND) : ndigits n ≤ 45155 := by
  obtain ⟨h1, _⟩ := ndigits_spec n hn hb
  have h2 : n < 2 ^ 150000 := (log2_lt_iff n).1 hb
  have h3 : 10 ^ (ndigits n - 1) < 10 ^ 45155 :=
    Nat.lt_of_le_of_lt h1 (Nat.lt_trans h2 two_pow_150000_digits.2)
  have := (Nat.pow_lt_pow_iff_right (by decide : 1 < 10)).1 h3
  omega

theorem InRange_mul_Tz (m : ℕ) (e : ℤ) (B : ℕ) (hm : m < 10 ^ B) (hB : B ≤ 45154) (h1 : (B:ℤ) + e ≤ 45154)
    (h2 : -45154 < e) : InRange ((m:ℚ) * T ^ e) := by
  have h5 := two_pow_150000_digits.1
  by_cases he : 0 ≤ e
  · have e1 : (m:ℚ) * T ^ e = ((m * 10 ^ e.toNat : ℕ) : ℚ) / ((1:ℕ):ℚ) := by
      rw [Tz_of_nonneg he]; push_cast; ring
    rw [e1]
    apply InRange_natDiv _ _ (by decide) _ (Nat.one_lt_two_pow (by decide))
    have : m * 10 ^ e.toNat < 10 ^ B * 10 ^ e.toNat := Nat.mul_lt_mul_of_pos_right hm (Nat.pow_pos (by decide))
    rw [← Nat.pow_add] at this
    have h3 : 10 ^ (B + e.toNat) ≤ 10 ^ 45154 := Nat.pow_le_pow_right (by decide) (by omega)
    omega
  · have e1 : (m:ℚ) * T ^ e = ((m : ℕ) : ℚ) / ((10 ^ (-e).toNat : ℕ) : ℚ) := by
      rw [Tz_of_neg he]; push_cast; ring
    rw [e1]
    apply InRange_natDiv _ _ (Nat.pow_pos (by decide))
    · have h3 : 10 ^ B ≤ 10 ^ 45154 := Nat.pow_le_pow_right (by decide) hB
      omega
    · have h3 : (10:ℕ) ^ (-e).toNat < 10 ^ 45154 := Nat.pow_lt_pow_right (by decide) (by omega)
      omega

theorem Tz_bounds_of_lt {y : ℚ} (hy : 0 < y) (h1 : y.num.natAbs < 10 ^ 45000) (h2 : y.den < 10 ^ 45000) :
    T ^ (-45000:ℤ) < y ∧ y < T ^ (45000:ℤ) := by
  have hB : ∀ m : ℕ, m < 10 ^ 45000 → (m:ℚ) < T ^ (45000:ℤ) := by
    intro m hm
    have := (Nat.cast_lt (α := ℚ)).2 hm
    rwa [Nat.cast_pow, Nat.cast_ofNat, ← zpow_natCast] at this
  have hdq : (0:ℚ) < y.den := by exact_mod_cast y.den_pos
  have hd1 : (1:ℚ) ≤ y.den := by exact_mod_cast y.den_pos
  have hnq : (1:ℚ) ≤ ((y.num.natAbs : ℕ) : ℚ) := by
    exact_mod_cast Int.natAbs_pos.2 (ne_of_gt (Rat.num_pos.2 hy))
  have hT45 := Tz_pos (45000:ℤ)
  rw [← natAbs_div_den hy, lt_div_iff₀ hdq, div_lt_iff₀ hdq, zpow_neg, inv_mul_lt_iff₀ hT45]
  exact ⟨lt_of_lt_of_le (hB _ h2) (le_mul_of_one_le_right hT45.le hnq),
    lt_of_lt_of_le (hB _ h1) (le_mul_of_one_le_right hT45.le hd1)⟩

theorem InRange_rpos (p : ℕ) (hp : 1 ≤ p) (hp' : p + 45000 ≤ 45154) {y : ℚ} (hy : 0 < y)
    (h1 : y.num.natAbs < 10 ^ 45000) (h2 : y.den < 10 ^ 45000) : InRange (rpos p y) := by
  have hr : InRange y := InRange_of_lt h1 h2
  obtain ⟨_, mq⟩ := rpos_mantissa p hp hy hr
  obtain ⟨v1, v2⟩ := sexp_spec p hy hr
  obtain ⟨ylo, yhi⟩ := Tz_bounds_of_lt hy h1 h2
  -- `10^-45000 < y < 10^45000` pins `p + sexp p y` between `-45000` and `45000`
  have hTe := Tz_pos (sexp p y)
  rw [le_div_iff₀ hTe, ← Tz_add] at v1
  rw [div_lt_iff₀ hTe, ← Tz_add] at v2
  have e_hi : (p:ℤ) - 1 + sexp p y < 45000 := Tz_lt_iff.1 (lt_of_le_of_lt v1 yhi)
  have e_lo : -45000 < (p:ℤ) + sexp p y := Tz_lt_iff.1 (lt_trans ylo v2)
  unfold rpos
  generalize rheQ (y / T ^ sexp p y) = Q at *
  generalize sexp p y = e at *
  exact InRange_mul_Tz Q e (p + 1)
    (Nat.lt_of_le_of_lt mq (Nat.pow_lt_pow_right (by decide) (Nat.lt_succ_self p))) (by omega)
    (by omega) (by omega)

theorem InRange_roundSig (p : ℕ) (hp : 1 ≤ p) (hp' : p + 45000 ≤ 45154) (x : ℚ)
    (h1 : x.num.natAbs < 10 ^ 45000) (h2 : x.den < 10 ^ 45000) : InRange (roundSig p x) := by
  rcases lt_trichotomy x 0 with h | h | h
  · rw [roundSig_of_neg p h]
    apply InRange_neg
    exact InRange_rpos p hp hp' (neg_pos.2 h) (by simpa using h1) (by simpa using h2)
  · subst h; rw [roundSig_zero]; exact InRange_zero
  · rw [roundSig_of_pos p h]; exact InRange_rpos p hp hp' h h1 h2

end Demeter.Numerics
