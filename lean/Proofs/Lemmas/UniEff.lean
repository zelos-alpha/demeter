/-
  What one accepted primitive transaction of the Uniswap market model does to the state (`Eff`): the seven explicit
  end states of `_add_liquidity_by_tick`, `__collect_fee` (before / after its action record), `__remove_liquidity`,
  `swap`, the two transfers and an action record, each with the checks the call has passed.  A rejected call leaves
  the state as it was, so a relation that is reflexive, transitive and holds across `Eff` is a `GStepRel` / `StepRel`
  (`GStepRel.ofEff`, `StepRel.ofEff`): the inversion of the primitives is done here once, not once per relation.
-/
import Proofs.Lemmas.UniStepRel
import Proofs.Lemmas.UniPrims
namespace Demeter.Uni
open Demeter

/-- the grade is `Op.debits` of the transaction -/
inductive Eff (K : Kern) (pool : Pool) (al : Allow) : Nat → State → State → Prop
  | record (s : State) (a : Act) : Eff K pool al 0 s (Uni.record s a)
  | add {s : State} {a0 a1 : Rat} {lo up : Int} {sq : Option Nat} {sqrt : Nat} {u0 u1 : Rat} {liq : Int} {ent : Option Pos}
      {w2 : Wallet} : al.addSqrt sq → AddRawOK K pool s a0 a1 lo up sq sqrt u0 u1 liq ent w2 →
      Eff K pool al 1 s (markUpdate { s with wallet := w2, positions := addToPositions s.positions lo up liq ent })
  | collectCore {s : State} {lo up : Int} {p : Pos} {m0 m1 : Option Rat} (tu : Bool) :
      findPos s.positions lo up = some p → p.transferred = false → negGiven m0 = false → negGiven m1 = false →
      Eff K pool al 0 s (collectCore K pool s lo up p (capAt m0 p.pending0) (capAt m1 p.pending1) tu)
  | collect {s : State} {lo up : Int} {p : Pos} {m0 m1 : Option Rat} (rd tu : Bool) (bb qb : Rat) :
      findPos s.positions lo up = some p → p.transferred = false → negGiven m0 = false → negGiven m1 = false →
      Eff K pool al 0 s (collectFinish K pool s lo up p (capAt m0 p.pending0) (capAt m1 p.pending1) rd tu bb qb)
  | remove {s : State} {lo up : Int} {l : Option Int} {sq : Option Nat} {p : Pos} {sqrt : Nat} {g0 g1 : Rat} :
      al.remSqrt sq → findPos s.positions lo up = some p → negLiq l = false → resolveSqrt K pool s sq = .ok sqrt →
      K.amounts pool sqrt lo up (removeDelta l p).1 (removeDelta l p).2 = .ok (g0, g1) →
      Eff K pool al 0 s (removeCore K s lo up p (removeDelta l p).1 (removeDelta l p).2 g0 g1)
  | swap {s : State} {a : Rat} {f t : String} {p : Option Rat} {price : Rat} {w1 : Wallet} :
      al.swapPx s f p → debit K.cx s.wallet f a s.allowNeg = .ok w1 → swapPrice K pool s f (givenPrice p) = .ok price →
      f ≠ t → (f = pool.quoteTok ∨ f = pool.baseTok) → (t = pool.quoteTok ∨ t = pool.baseTok) → 0 ≤ a →
      Eff K pool al 1 s
        { s with wallet := Wallet.credit K.cx w1 t (K.cx.mul (K.cx.sub a (K.cx.mul a pool.feeRate)) price) }
  | flag (s : State) (lo up : Int) (b : Bool) : al.transfer →
      Eff K pool al 0 s { s with positions := mapPos s.positions lo up (fun p => { p with transferred := b }) }

/-- what `buy`, `sell` and the swap of `add_liquidity_by_value` need of the admitted execution prices: the market
    price is admitted, not given or given as these callers pass it -/
structure Allow.Market (K : Kern) (pool : Pool) (al : Allow) : Prop where
  none : ∀ s f, al.swapPx s f none
  buy : ∀ s price, priceOf s = .ok price → price ≠ 0 → al.swapPx s pool.quoteTok (some (K.cx.div 1 price))
  sell : ∀ s price, priceOf s = .ok price → al.swapPx s pool.baseTok (some price)

theorem Allow.Market.ofAll {K : Kern} {pool : Pool} {al : Allow} (h : ∀ s f q, al.swapPx s f q) : al.Market K pool :=
  ⟨fun _ _ => h .., fun _ _ _ _ => h .., fun _ _ _ => h ..⟩

theorem GStepRel.ofEff {K : Kern} {pool : Pool} {al : Allow} {R : Nat → State → State → Prop} (hpx : al.Market K pool)
    (refl : ∀ s, R 0 s s) (trans : ∀ {n m a b c}, R n a b → R m b c → R (n + m) a c)
    (mono : ∀ {n m a b}, n ≤ m → R n a b → R m a b) (eff : ∀ {n s s'}, Eff K pool al n s s' → R n s s') :
    GStepRel K pool al R := by
  have hcollect : ∀ s lo up m0 m1 rd tu, R 0 s (Uni.collect K pool s lo up m0 m1 rd tu).2 := by
    intro s lo up m0 m1 rd tu
    rcases collect_cases K pool s lo up m0 m1 rd tu with ⟨_, h⟩ | ⟨p, hf, ht, _, h0, h1, ⟨_, _, h⟩ | ⟨bb, qb, h⟩⟩ <;> rw [h]
    · exact refl s
    · exact eff (.collectCore tu hf ht h0 h1)
    · exact eff (.collect rd tu bb qb hf ht h0 h1)
  have hremove : ∀ s lo up l sq, al.remSqrt sq → R 0 s (removeNoCollect K pool s lo up l sq).2 := by
    intro s lo up l sq hs
    rcases removeNoCollect_cases K pool s lo up l sq with ⟨_, h⟩ | ⟨p, sqrt, g0, g1, hf, _, _, hl, hq, ha, ⟨_, _, h⟩ | ⟨bb, qb, h⟩⟩ <;>
      rw [h]
    · exact refl s
    · exact eff (.remove hs hf hl hq ha)
    · exact trans (eff (.remove hs hf hl hq ha)) (eff (.record ..))
  exact
  { refl := refl
    trans := trans
    mono := mono
    record := fun s a => eff (.record s a)
    addRaw := fun s a0 a1 lo up sq hs => by
      rcases addRaw_cases K pool s a0 a1 lo up sq with ⟨_, h⟩ | ⟨_, _, _, _, _, _, A⟩
      · rw [h]; exact mono (Nat.zero_le 1) (refl s)
      · rw [A.result]; exact eff (.add hs A)
    collect := hcollect
    remove := fun s lo up l c sq rd hs => by
      rcases remove_state K pool s lo up l c sq rd with h | h <;> rw [h]
      · exact hremove s lo up l sq hs
      · exact trans (hremove s lo up l sq hs) (hcollect ..)
    swap := fun s a f t p log hs => by
      rcases swap_cases K pool s a f t p log with ⟨_, h⟩ | ⟨_, _, h1, h2, h3, h4, h5, h6, h⟩ <;> rw [h]
      · exact mono (Nat.zero_le 1) (refl s)
      · cases log
        · exact eff (.swap hs h6 h5 h1 h2 h3 h4)
        · exact trans (eff (.swap hs h6 h5 h1 h2 h3 h4)) (eff (.record ..))
    transferOut := fun ht s lo up => by
      rcases transferOut_cases s lo up with h | h <;> rw [h]
      · exact refl s
      · exact eff (.flag s lo up true ht)
    transferIn := fun ht s lo up => by
      rcases transferIn_cases s lo up with h | h <;> rw [h]
      · exact refl s
      · exact eff (.flag s lo up false ht)
    px_none := hpx.none
    px_buy := hpx.buy
    px_sell := hpx.sell }

theorem StepRel.ofEff {K : Kern} {pool : Pool} {R : State → State → Prop} (refl : ∀ s, R s s)
    (trans : ∀ {a b c}, R a b → R b c → R a c) (eff : ∀ {n s s'}, Eff K pool Allow.all n s s' → R s s') :
    StepRel K pool R :=
  have G := GStepRel.ofEff (R := fun _ => R) (.ofAll fun _ _ _ => trivial) refl trans (fun _ h => h) eff
  { refl := refl
    trans := trans
    record := G.record
    addRaw := fun s a0 a1 lo up sq => G.addRaw s a0 a1 lo up sq trivial
    collect := G.collect
    remove := fun s lo up l c sq rd => G.remove s lo up l c sq rd trivial
    swap := fun s a f t p log => G.swap s a f t p log trivial
    transferOut := G.transferOut trivial
    transferIn := G.transferIn trivial }

end Demeter.Uni
