/-
  Atomicity of the single-transaction operations of the Uniswap market model: an operation that raises returns the
  state it was given.  The logging operations read it off `Ran` (Proofs/Lemmas/UniRan.lean): their inner call changed
  nothing or left both pool tokens in the wallet, so the balance look-ups for the action record cannot raise.
  `collect_fee` / `remove_liquidity` debit nothing, so their look-ups need the wallet invariant `PosImpliesWallet`: the
  position they found shows that both tokens were in the wallet before, and a credit removes none.
-/
import Proofs.Lemmas.UniWallet
import Proofs.Lemmas.UniPositions
import Proofs.Lemmas.UniRan
namespace Demeter.Uni
open Demeter

def PosImpliesWallet (pool : Pool) (s : State) : Prop := s.positions ≠ [] → WalletHas pool s.wallet

def Funded (pool : Pool) (s s' : State) : Prop := s' = s ∨ (Has s'.wallet pool.baseTok ∧ Has s'.wallet pool.quoteTok)

theorem Ran.atomic {pool : Pool} {s : State} {r : Res} (h : Ran pool (Funded pool) s r) : Atomic r s := by
  cases h with
  | rejected => exact Or.inl rfl
  | noop => exact Or.inr ⟨_, rfl⟩
  | done => exact Or.inr ⟨_, rfl⟩
  | late e h hb =>
    rcases h with h | ⟨h1, h2⟩
    · exact Or.inl h
    · obtain ⟨_, h1⟩ := balanceOf_of_has h1
      obtain ⟨_, h2⟩ := balanceOf_of_has h2
      rw [h1, h2] at hb
      rcases hb with hb | hb <;> cases hb

theorem addRaw_funded (K : Kern) (pool : Pool) (s : State) (a0 a1 : Rat) (lo up : Int) (sq : Option Nat) :
    Funded pool s (addRaw K pool s a0 a1 lo up sq).2 := by
  rcases addRaw_cases K pool s a0 a1 lo up sq with ⟨_, h⟩ | ⟨_, _, _, _, _, _, A⟩
  · rw [h]; exact Or.inl rfl
  · rw [A.result]; exact Or.inr ⟨(walletHas_debit2 A.debit).base, (walletHas_debit2 A.debit).quote⟩

theorem addByTick_atomic (K : Kern) (pool : Pool) (s : State) (lo up : Int) (b q : Option Rat) (sq : Option Nat)
    (t : Option Int) (trim : Bool) : Atomic (addByTick K pool s lo up b q sq t trim) s :=
  (addByTick_ran lo up b q sq t trim (fun _ _ _ _ _ _ => addRaw_funded ..)).atomic

theorem addByPrice_atomic (K : Kern) (pool : Pool) (s : State) (lp up : Rat) (lt ut : Int) (q b : Option Rat) :
    Atomic (addByPrice K pool s lp up lt ut q b) s :=
  (addByPrice_ran lp up lt ut q b (fun _ _ _ _ => addRaw_funded ..)).atomic

theorem collect_atomic (K : Kern) (pool : Pool) (s : State) (lo up : Int) (m0 m1 : Option Rat) (rd tu : Bool)
    (hw : PosImpliesWallet pool s) : Atomic (collect K pool s lo up m0 m1 rd tu) s := by
  rcases collect_cases K pool s lo up m0 m1 rd tu with ⟨_, h⟩ | ⟨p, hf, _, _, _, _, ⟨_, hb, _⟩ | ⟨_, _, h⟩⟩
  · rw [h]; exact Or.inl rfl
  · exact absurd hb (WalletHas.no_error ((hw (findPos_some_nonempty hf)).imp collectWallet_mono collectWallet_mono))
  · rw [h]; exact Or.inr ⟨_, rfl⟩

theorem removeNoCollect_atomic (K : Kern) (pool : Pool) (s : State) (lo up : Int) (l : Option Int) (sq : Option Nat)
    (hw : PosImpliesWallet pool s) : Atomic (removeNoCollect K pool s lo up l sq) s := by
  rcases removeNoCollect_cases K pool s lo up l sq with ⟨_, h⟩ | ⟨p, _, _, _, hf, _, _, _, _, _, ⟨_, hb, _⟩ | ⟨_, _, h⟩⟩
  · rw [h]; exact Or.inl rfl
  · exact absurd hb (WalletHas.no_error (hw (findPos_some_nonempty hf)))
  · rw [h]; exact Or.inr ⟨_, rfl⟩

/-- an accepted swap leaves both pool tokens in the wallet: they are the spent and the received token -/
theorem swap_funded (K : Kern) (pool : Pool) (s : State) (a : Rat) (f t : String) (p : Option Rat) (log : Bool) :
    Funded pool s (swap K pool s a f t p log).2 := by
  rcases swap_cases K pool s a f t p log with ⟨_, h⟩ | ⟨price, w1, hne, hf, ht, _, _, hd, h⟩ <;> rw [h]
  · exact Or.inl rfl
  · have hft : ∀ (amt : Rat) (x : String), (x = f ∨ x = t) → Has (Wallet.credit K.cx w1 t amt) x := fun _ _ hx =>
      has_credit _ _ _ _ _ (hx.imp_left fun e => has_debit hd _ (Or.inr e))
    have hbq : (pool.baseTok = f ∨ pool.baseTok = t) ∧ (pool.quoteTok = f ∨ pool.quoteTok = t) := by
      rcases hf with rfl | rfl <;> rcases ht with rfl | rfl
      · exact absurd rfl hne
      · exact ⟨Or.inr rfl, Or.inl rfl⟩
      · exact ⟨Or.inl rfl, Or.inr rfl⟩
      · exact absurd rfl hne
    cases log <;> exact Or.inr ⟨hft _ _ hbq.1, hft _ _ hbq.2⟩

theorem buy_atomic (K : Kern) (pool : Pool) (s : State) (a : Rat) (p : Option Rat) : Atomic (buy K pool s a p) s :=
  (buy_ran a p (fun _ _ _ _ => swap_funded ..)).atomic

theorem sell_atomic (K : Kern) (pool : Pool) (s : State) (a : Rat) (p : Option Rat) : Atomic (sell K pool s a p) s :=
  (sell_ran a p (fun _ _ => swap_funded ..)).atomic

theorem evenRebalance_atomic (K : Kern) (pool : Pool) (s : State) (p : Option Rat) :
    Atomic (evenRebalance K pool s p) s :=
  (evenRebalance_ran p (fun _ _ _ _ => swap_funded ..) (fun _ _ _ => swap_funded ..)).atomic

theorem transferOut_atomic (s : State) (lo up : Int) : Atomic (transferOut s lo up) s := by
  rcases transferOut_cases s lo up with h | h <;> rw [h]
  · exact Or.inl rfl
  · exact Or.inr ⟨_, rfl⟩

theorem transferIn_atomic (s : State) (lo up : Int) : Atomic (transferIn s lo up) s := by
  rcases transferIn_cases s lo up with h | h <;> rw [h]
  · exact Or.inl rfl
  · exact Or.inr ⟨_, rfl⟩

/-- single transactions; the others (`remove_liquidity(collect=True)`, `remove_all_liquidity`,
    `add_liquidity_by_value`) are the multi-step convenience helpers of the property -/
def Op.atomic : Op → Bool
  | .remove _ _ _ c _ _ => !c
  | .removeAll => false
  | .addByValue .. => false
  | _ => true

theorem step_atomic (K : Kern) (pool : Pool) (me : Rat) (s : State) (op : Op) (hi : PosImpliesWallet pool s)
    (ha : op.atomic = true) : Atomic (step K pool me s op) s := by
  cases op <;> simp only [step]
  case addRaw =>
    split
    · rename_i heq; exact Or.inl ((addRaw_atomic ..).of_error heq)
    · exact Or.inr ⟨_, rfl⟩
  case swap =>
    split
    · rename_i heq; exact Or.inl ((swap_atomic ..).of_error heq)
    · exact Or.inr ⟨_, rfl⟩
  case addByTick => exact addByTick_atomic ..
  case addByPrice => exact addByPrice_atomic ..
  case remove lo up l c sq rd =>
    have hc : c = false := by simpa [Op.atomic] using ha
    subst hc
    rw [remove_noCollect]
    exact removeNoCollect_atomic K pool s lo up l sq hi
  case collect lo up m0 m1 rd tu => exact collect_atomic K pool s lo up m0 m1 rd tu hi
  case removeAll => simp [Op.atomic] at ha
  case buy => exact buy_atomic ..
  case sell => exact sell_atomic ..
  case evenRebalance => exact evenRebalance_atomic ..
  case addByValue => simp [Op.atomic] at ha
  case transferOut => exact transferOut_atomic ..
  case transferIn => exact transferIn_atomic ..

end Demeter.Uni
