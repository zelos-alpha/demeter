/-
  Real-vs-integer lemmas behind C17's "fee = the Vault's rule within one basis point": the code computes the target,
  the average distance and the rebate as fractions, the contract rounds each of them down.  Both are `feeRule`, the code's with
  no rounding (`feeBpsCore_exact_fst`), the Vault's — cast to ℚ — with two floors and the floor of the target (`vaultFeeBps_cast`);
  `feeRule_floor_close` compares the two over ℚ.
-/
import Proofs.Lemmas.GmxV1Spec
import Mathlib.Algebra.Order.Floor.Ring
import Mathlib.Algebra.Order.Group.MinMax
import Mathlib.Tactic.LinearCombination
namespace Demeter.Gmx
open Demeter Demeter.GmxV1

/-- the fee rule over ℚ given both distances from the target, with the contract's two roundings as parameters: `r` on the rebate,
    `a` on the average distance — identities for the code, floors (and an integer target) for the Vault -/
def feeRule (r a : Rat → Rat) (D Dn T : Rat) : Rat :=
  if Dn < D then max 0 (25 - r (60 * D / T)) else 25 + ((⌊60 * min (a ((D + Dn) / 2)) T / T⌋ : Int) : Rat)

/-- the one step of the fee formula that is not 1-Lipschitz: a quotient `k·x/t` whose numerator and denominator both move,
    `(ka/t − kb/v)·t = k(a − b) − (kb/v)(t − v)` -/
theorem quot_close {k a b t v : Rat} (hv : 0 < v) (hvt : v ≤ t) (htv : t < v + 1) (hk : 0 ≤ k) (hb : 0 ≤ b) :
    |k * a / t - k * b / v| * t ≤ k * |a - b| + k * b / v := by
  have ht : 0 < t := by linarith
  have hq0 : 0 ≤ k * b / v := by positivity
  have e : (k * a / t - k * b / v) * t = k * (a - b) - k * b / v * (t - v) := by field_simp; ring
  calc |k * a / t - k * b / v| * t = |k * (a - b) - k * b / v * (t - v)| := by rw [← e, abs_mul, abs_of_pos ht]
    _ ≤ |k * (a - b)| + |k * b / v * (t - v)| := abs_sub _ _
    _ = k * |a - b| + k * b / v * (t - v) := by
        rw [abs_mul, abs_mul, abs_of_nonneg hk, abs_of_nonneg hq0, abs_of_nonneg (by linarith : 0 ≤ t - v)]
    _ ≤ k * |a - b| + k * b / v := by
        have := mul_le_of_le_one_right hq0 (by linarith : t - v ≤ 1)
        linarith

/-- the rebate branch: the clamp `max 0 (25 − ·)` does not enlarge distances, the two quotients are `(60 + q)/t` apart and the
    Vault's is rounded down; beyond `q = 140` both rebates exceed the base fee and both fees are 0 -/
theorem fee_rebate_close {t v D Dv rv : Rat} (hv : 200 ≤ v) (hvt : v ≤ t) (htv : t < v + 1) (hDv : 0 ≤ Dv)
    (hd : |D - Dv| ≤ t - v) (hr0 : rv ≤ 60 * Dv / v) (hr1 : 60 * Dv / v < rv + 1) :
    |max 0 (25 - 60 * D / t) - max 0 (25 - rv)| ≤ 1 + 200 / t := by
  have ht0 : 0 < t := by linarith
  have hq := quot_close (k := 60) (a := D) (by linarith) hvt htv (by norm_num) hDv
  have hq0 : 0 ≤ 60 * Dv / v := div_nonneg (by linarith) (by linarith)
  generalize 60 * Dv / v = q at hq hr0 hr1 hq0
  generalize 60 * D / t = r at hq
  have hrq : |r - q| ≤ (60 + q) / t := by
    rw [le_div_iff₀ ht0]
    linarith
  have h200t : 0 ≤ 200 / t := by positivity
  rcases le_or_gt q 140 with h | h
  · calc |max 0 (25 - r) - max 0 (25 - rv)| ≤ |(25 - r) - (25 - rv)| := by
          rw [max_comm 0, max_comm 0]; exact abs_max_sub_max_le_abs _ _ _
      _ = |(r - q) + (q - rv)| := by rw [← abs_neg]; congr 1; ring
      _ ≤ |r - q| + |q - rv| := abs_add_le _ _
      _ ≤ (60 + q) / t + 1 := add_le_add hrq (by rw [abs_of_nonneg (by linarith)]; linarith)
      _ ≤ 1 + 200 / t := by
          have := div_le_div_of_nonneg_right (by linarith : 60 + q ≤ 200) ht0.le
          linarith
  · have hqt : (60 + q) / t ≤ (60 + q) / 200 := div_le_div_of_nonneg_left (by linarith) (by norm_num) (by linarith)
    obtain ⟨l1, _⟩ := abs_le.mp hrq
    rw [max_eq_left (by linarith), max_eq_left (by linarith), sub_self, abs_zero]
    linarith

/-- the tax branch: capping moves the averages no further apart than they were, 2; the capped Vault average is at most `v`, so the quotients
    are at most `(60·2 + 60)/t < 1` apart -/
theorem fee_tax_close {t v m avgv : Rat} (hv : 200 ≤ v) (hvt : v ≤ t) (htv : t < v + 1)
    (ha0 : 0 ≤ avgv) (hma : |m - avgv| ≤ 2) :
    |60 * min m t / t - 60 * min avgv v / v| < 1 := by
  have hv0 : 0 < v := by linarith
  have ht0 : 0 < t := by linarith
  have hdiff : |min m t - min avgv v| ≤ 2 :=
    le_trans (abs_min_sub_min_le_max _ _ _ _) (max_le hma (by rw [abs_of_nonneg (by linarith)]; linarith))
  have hq := quot_close (k := 60) (a := min m t) hv0 hvt htv (by norm_num) (le_min ha0 hv0.le)
  have hy : 60 * min avgv v / v ≤ 60 := by rw [div_le_iff₀ hv0]; linarith [min_le_right avgv v]
  rw [← mul_lt_mul_iff_of_pos_right ht0, one_mul]
  linarith

theorem vaultTarget_bounds {w S W : Nat} (hT : 0 < vaultTarget w S W) :
    ((vaultTarget w S W : Nat) : Rat) ≤ (w : Rat) * S / W ∧ (w : Rat) * S / W < ((vaultTarget w S W : Nat) : Rat) + 1 := by
  have hvdef : vaultTarget w S W = w * S / W := by
    unfold vaultTarget
    rw [if_neg]
    rintro rfl
    simp [vaultTarget] at hT
  rw [hvdef, natDiv_eq_floor, Nat.cast_mul]
  exact ⟨Int.floor_le _, Int.lt_floor_add_one _⟩

def natAbsDiff (a b : Nat) : Nat := if a > b then a - b else b - a

theorem natAbsDiff_cast (a b : Nat) : ((natAbsDiff a b : Nat) : Rat) = |(a : Rat) - b| := by
  unfold natAbsDiff
  split
  · rename_i h
    rw [Nat.cast_sub (le_of_lt h), abs_of_pos]
    have : (b : Rat) < a := by exact_mod_cast h
    linarith
  · rename_i h
    have h' : a ≤ b := not_lt.mp h
    rw [Nat.cast_sub h', abs_of_nonpos]
    · ring
    · have : (a : Rat) ≤ b := by exact_mod_cast h'
      linarith

def vaultFromDiffs (idiff ndiff v f tx : Nat) : Nat :=
  if ndiff < idiff then
    (if tx * idiff / v > f then 0 else f - tx * idiff / v)
  else
    f + tx * (if (idiff + ndiff) / 2 > v then v else (idiff + ndiff) / 2) / v

theorem vaultFromDiffs_cast (a b v : Nat) :
    ((vaultFromDiffs a b v 25 60 : Nat) : Rat) = feeRule (fun x => ⌊x⌋) (fun x => ⌊x⌋) a b v := by
  have e1 : ((⌊60 * (a : Rat) / v⌋ : Int) : Rat) = ((60 * a / v : Nat) : Rat) := by
    rw [natDiv_eq_floor]; push_cast; rfl
  have e2 : ((⌊((a : Rat) + b) / 2⌋ : Int) : Rat) = (((a + b) / 2 : Nat) : Rat) := by
    rw [natDiv_eq_floor]; push_cast; rfl
  unfold vaultFromDiffs feeRule
  simp only [e1, e2, ← ite_gt_eq_max, ← ite_gt_eq_min]
  by_cases hlt : b < a
  · have hlt' : (b : Rat) < a := by exact_mod_cast hlt
    rw [if_pos hlt, if_pos hlt']
    by_cases h25 : 60 * a / v > 25
    · have : ((60 * a / v : Nat) : Rat) > 25 := by exact_mod_cast h25
      rw [if_pos h25, if_pos this, Nat.cast_zero]
    · have : ¬ ((60 * a / v : Nat) : Rat) > 25 := by exact_mod_cast h25
      rw [if_neg h25, if_neg this, Nat.cast_sub (not_lt.mp h25), Nat.cast_ofNat]
  · have hlt' : ¬ (b : Rat) < a := by exact_mod_cast hlt
    rw [if_neg hlt, if_neg hlt', Nat.cast_add, natDiv_eq_floor]
    push_cast
    simp only [gt_iff_lt, Nat.cast_lt]
def natNext (i u : Nat) (inc : Bool) : Nat := if inc then i + u else if u > i then 0 else i - u

theorem nextAmount_cast (i u : Nat) (inc : Bool) : nextAmount NumCtx.exact i u inc = ((natNext i u inc : Nat) : Rat) := by
  unfold nextAmount natNext
  cases inc with
  | true => simp
  | false =>
    by_cases h : u > i
    · have : (u : Rat) > i := by exact_mod_cast h
      simp [h, this]
    · have h' : u ≤ i := not_lt.mp h
      have : ¬ ((u : Rat) > i) := by
        have : (u : Rat) ≤ i := by exact_mod_cast h'
        linarith
      simp [h, this, Nat.cast_sub h']

theorem feeBpsCore_exact_fst (i u : Nat) {t : Rat} (ht : 0 < t) (inc : Bool) :
    (feeBpsCore NumCtx.exact i u t inc).1 = feeRule id id |(i : Rat) - t| |((natNext i u inc : Nat) : Rat) - t| t := by
  have hm : 0 ≤ min ((|(i : Rat) - t| + |((natNext i u inc : Nat) : Rat) - t|) / 2) t :=
    le_min (div_nonneg (add_nonneg (abs_nonneg _) (abs_nonneg _)) (by norm_num)) ht.le
  unfold feeBpsCore feeRule
  simp only [ht.ne', if_false, nextAmount_cast, absDiff_eq_abs, feeFromDiffs_exact_fst, ite_gt_eq_max, ite_gt_eq_min, id]
  rw [truncInt_eq_floor (div_nonneg (mul_nonneg (by norm_num) hm) ht.le)]

theorem vaultFeeBps_eq (i u v f tx : Nat) (inc : Bool) (hv : v ≠ 0) :
    vaultFeeBps i u v f tx inc = vaultFromDiffs (natAbsDiff i v) (natAbsDiff (natNext i u inc) v) v f tx := by
  unfold vaultFeeBps vaultFromDiffs natAbsDiff natNext
  simp only [hv, if_false]

theorem vaultFeeBps_cast (i u : Nat) {v : Nat} (hv : 0 < v) (inc : Bool) :
    ((vaultFeeBps i u v Gen.gmxMintBurnFeeBps Gen.gmxTaxBps inc : Nat) : Rat)
      = feeRule (fun x => ⌊x⌋) (fun x => ⌊x⌋) |(i : Rat) - v| |((natNext i u inc : Nat) : Rat) - v| v := by
  rw [vaultFeeBps_eq _ _ _ _ _ _ hv.ne', show Gen.gmxMintBurnFeeBps = 25 from rfl, show Gen.gmxTaxBps = 60 from rfl,
    vaultFromDiffs_cast, natAbsDiff_cast, natAbsDiff_cast]

theorem abs_dist_sub_dist_le {x t v : Rat} (hvt : v ≤ t) : abs (|x - t| - |x - v|) ≤ t - v := by
  calc abs (|x - t| - |x - v|) ≤ |(x - t) - (x - v)| := abs_abs_sub_abs_le_abs_sub _ _
    _ = t - v := by rw [show (x - t) - (x - v) = -(t - v) by ring, abs_neg, abs_of_nonneg (by linarith)]

/-- `|n − x| < |i − x|` says that `n − i` and `n + i − 2x` have opposite signs, and `n + i − 2x` has the same sign at `t` and `v` -/
theorem branch_agree {n i t v : Rat} (hvt : v ≤ t) (htv : t < v + 1) (hk : n + i - 2 * v ≤ -1 ∨ 2 ≤ n + i - 2 * v) :
    (|n - t| < |i - t|) ↔ (|n - v| < |i - v|) := by
  have key : ∀ x : Rat, |n - x| < |i - x| ↔ (n - i) * (n + i - 2 * x) < 0 := by
    intro x
    rw [← sq_lt_sq, ← sub_neg, show (n - x) ^ 2 - (i - x) ^ 2 = (n - i) * (n + i - 2 * x) by ring]
  rw [key t, key v]
  rcases hk with hk | hk
  · have h1 : n + i - 2 * t < 0 := by linarith
    have h2 : n + i - 2 * v < 0 := by linarith
    exact ⟨fun h => mul_neg_of_pos_of_neg (pos_of_mul_neg_left h h1.le) h2,
      fun h => mul_neg_of_pos_of_neg (pos_of_mul_neg_left h h2.le) h1⟩
  · have h1 : 0 < n + i - 2 * t := by linarith
    have h2 : 0 < n + i - 2 * v := by linarith
    exact ⟨fun h => mul_neg_of_neg_of_pos (neg_of_mul_neg_left h h1.le) h2,
      fun h => mul_neg_of_neg_of_pos (neg_of_mul_neg_left h h2.le) h1⟩

theorem feeRule_floor_close {i n t v : Rat} (hv : 200 ≤ v) (hvt : v ≤ t) (htv : t < v + 1)
    (hk : n + i - 2 * v ≤ -1 ∨ 2 ≤ n + i - 2 * v) :
    |feeRule id id |i - t| |n - t| t - feeRule (fun x => ⌊x⌋) (fun x => ⌊x⌋) |i - v| |n - v| v| ≤ 1 + 200 / t := by
  have ht0 : 0 < t := by linarith
  have hDi := abs_dist_sub_dist_le (x := i) hvt
  have hDn := abs_dist_sub_dist_le (x := n) hvt
  unfold feeRule
  by_cases hlt : |n - v| < |i - v|
  · rw [if_pos ((branch_agree hvt htv hk).mpr hlt), if_pos hlt]
    exact fee_rebate_close hv hvt htv (abs_nonneg _) hDi (Int.floor_le _) (Int.lt_floor_add_one _)
  · rw [if_neg (fun h => hlt ((branch_agree hvt htv hk).mp h)), if_neg hlt, add_sub_add_left_eq_sub]
    have hma : |(|i - t| + |n - t|) / 2 - ((⌊(|i - v| + |n - v|) / 2⌋ : Int) : Rat)| ≤ 2 := by
      obtain ⟨h1, h2⟩ := abs_le.mp hDi
      obtain ⟨h3, h4⟩ := abs_le.mp hDn
      have b0 := Int.floor_le ((|i - v| + |n - v|) / 2)
      have b1 := Int.lt_floor_add_one ((|i - v| + |n - v|) / 2)
      rw [abs_le]; constructor <;> linarith
    have ha0 : (0 : Rat) ≤ ⌊(|i - v| + |n - v|) / 2⌋ :=
      Int.cast_nonneg (Int.floor_nonneg.2 (div_nonneg (add_nonneg (abs_nonneg _) (abs_nonneg _)) (by norm_num)))
    have := floor_close (fee_tax_close hv hvt htv ha0 hma)
    have h200 : 0 ≤ 200 / t := div_nonneg (by norm_num) ht0.le
    exact le_trans this (by linarith)

end Demeter.Gmx
