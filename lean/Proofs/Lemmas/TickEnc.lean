/-
  Soundness of the enclosure product of Proofs/Lemmas/ClosePred.lean, without real numbers:

    `Enc m r d`  :=  r² · 10001^m ≤ 2^384 · 10000^m ≤ (r+d)² · 10001^m   ∧   r ≤ 2^192

  i.e. `r ≤ 2^192 · (10000/10001)^(m/2) ≤ r + d`.  Brackets multiply, at the cost of 2 units of slack per rounded-down
  product; the fold over the table keeps the invariant given a certificate `Cert n c` for every table entry (`Enc n c 1`
  with `c + 1 ≤ 2^192`); the masks that `a < 2^n` selects (`maskSum`) add up to `a`.  The certificates themselves are kernel-checked in Proofs/C06/CloseCert.lean.
-/
import Proofs.Lemmas.ClosePred
import Mathlib.Tactic.Ring
import Mathlib.Tactic.Positivity
import Mathlib.Data.Nat.Bitwise
namespace Demeter.TickClose
open Demeter Gen

structure Enc (m r d : Nat) : Prop where
  lo : r ^ 2 * 10001 ^ m ≤ 2 ^ 384 * 10000 ^ m
  hi : 2 ^ 384 * 10000 ^ m ≤ (r + d) ^ 2 * 10001 ^ m
  le : r ≤ 2 ^ 192

def Cert (n c : Nat) : Prop :=
  c ^ 2 * 10001 ^ n ≤ 2 ^ 384 * 10000 ^ n ∧ 2 ^ 384 * 10000 ^ n ≤ (c + 1) ^ 2 * 10001 ^ n ∧ c + 1 ≤ 2 ^ 192

instance (n c : Nat) : Decidable (Cert n c) := by unfold Cert; infer_instance

theorem enc_mul_lo (w r c r' A B C D : Nat) (hw : 0 < w) (h1 : r' * w ≤ r * c)
    (hA : r ^ 2 * A ≤ w ^ 2 * B) (hC : c ^ 2 * C ≤ w ^ 2 * D) : r' ^ 2 * (A * C) ≤ w ^ 2 * (B * D) := by
  have h2 : (r' * w) ^ 2 ≤ (r * c) ^ 2 := Nat.pow_le_pow_left h1 2
  have h3 : w ^ 2 * (r' ^ 2 * (A * C)) ≤ w ^ 2 * (w ^ 2 * (B * D)) := by
    calc w ^ 2 * (r' ^ 2 * (A * C)) = (r' * w) ^ 2 * (A * C) := by ring
      _ ≤ (r * c) ^ 2 * (A * C) := Nat.mul_le_mul_right _ h2
      _ = (r ^ 2 * A) * (c ^ 2 * C) := by ring
      _ ≤ (w ^ 2 * B) * (w ^ 2 * D) := Nat.mul_le_mul hA hC
      _ = w ^ 2 * (w ^ 2 * (B * D)) := by ring
  exact Nat.le_of_mul_le_mul_left h3 (by positivity)

theorem enc_mul_hi (w u v u' A B C D : Nat) (hw : 0 < w) (h1 : u * v ≤ u' * w)
    (hB : w ^ 2 * B ≤ u ^ 2 * A) (hD : w ^ 2 * D ≤ v ^ 2 * C) : w ^ 2 * (B * D) ≤ u' ^ 2 * (A * C) := by
  have h2 : (u * v) ^ 2 ≤ (u' * w) ^ 2 := Nat.pow_le_pow_left h1 2
  have h3 : w ^ 2 * (w ^ 2 * (B * D)) ≤ w ^ 2 * (u' ^ 2 * (A * C)) := by
    calc w ^ 2 * (w ^ 2 * (B * D)) = (w ^ 2 * B) * (w ^ 2 * D) := by ring
      _ ≤ (u ^ 2 * A) * (v ^ 2 * C) := Nat.mul_le_mul hB hD
      _ = (u * v) ^ 2 * (A * C) := by ring
      _ ≤ (u' * w) ^ 2 * (A * C) := Nat.mul_le_mul_right _ h2
      _ = w ^ 2 * (u' ^ 2 * (A * C)) := by ring
  exact Nat.le_of_mul_le_mul_left h3 (by positivity)

theorem pow384 : (2 : Nat) ^ 384 = (2 ^ 192) ^ 2 := by rw [← Nat.pow_mul]

theorem enc_step {m r d n c : Nat} (h : Enc m r d) (hc : Cert n c) :
    Enc (m + n) ((r * c) >>> 192) (d + 2) := by
  obtain ⟨hlo, hhi, hle⟩ := h
  obtain ⟨clo, chi, cle⟩ := hc
  rw [pow384] at hlo hhi clo chi
  rw [Nat.shiftRight_eq_div_pow]
  generalize hw : (2 : Nat) ^ 192 = w at *
  have hwpos : 0 < w := by rw [← hw]; positivity
  have hdm : r * c / w * w ≤ r * c := Nat.div_mul_le_self _ _
  have hlt : r * c < (r * c / w + 1) * w := by
    have := Nat.lt_div_mul_add (a := r * c) (b := w) hwpos
    rw [Nat.add_mul]; omega
  refine ⟨?_, ?_, ?_⟩
  · rw [pow384, hw, Nat.pow_add, Nat.pow_add]
    exact enc_mul_lo w r c _ _ _ _ _ hwpos hdm hlo clo
  · rw [pow384, hw, Nat.pow_add, Nat.pow_add]
    refine enc_mul_hi w (r + d) (c + 1) _ _ _ _ _ hwpos ?_ hhi chi
    -- (r+d)(c+1) = rc + r + d(c+1) ≤ rc + w + d·w ≤ (r' + 1)·w + w + d·w
    have e1 : (r + d) * (c + 1) = r * c + r + d * (c + 1) := by ring
    have e2 : (r * c / w + (d + 2)) * w = (r * c / w + 1) * w + w + d * w := by ring
    have h4 : d * (c + 1) ≤ d * w := Nat.mul_le_mul_left _ cle
    rw [e1, e2]; omega
  · have : r * c / w ≤ r := by
      apply Nat.div_le_of_le_mul
      rw [Nat.mul_comm w r]
      exact Nat.mul_le_mul_left _ (by omega)
    omega

theorem enc_weaken {m r d d' : Nat} (h : Enc m r d) (hd : d ≤ d') : Enc m r d' :=
  ⟨h.lo, Nat.le_trans h.hi (Nat.mul_le_mul_right _ (Nat.pow_le_pow_left (by omega) 2)), h.le⟩

def maskSum (a : Nat) : List Nat → Nat
  | [] => 0
  | mask :: rest => (if a &&& mask != 0 then mask else 0) + maskSum a rest

theorem maskSum_append (a : Nat) : ∀ m1 m2 : List Nat, maskSum a (m1 ++ m2) = maskSum a m1 + maskSum a m2
  | [], m2 => by simp [maskSum]
  | m :: m1, m2 => by simp only [List.cons_append, maskSum, maskSum_append a m1 m2, Nat.add_assoc]

theorem stepFold_enc (a : Nat) : ∀ (tbl : List (Nat × Nat × Nat)) (m : Nat) (rl : Nat × Nat) (d : Nat),
    (∀ s ∈ tbl, Cert s.1 s.2.2) → Enc m rl.2 d →
    Enc (m + maskSum a (tbl.map (·.1))) (stepFold a tbl rl).2 (d + 2 * tbl.length) := by
  intro tbl
  induction tbl with
  | nil => intro m rl d _ h; simpa [maskSum, stepFold] using h
  | cons s rest ih =>
    intro m rl d hc h
    have hc2 : ∀ e ∈ rest, Cert e.1 e.2.2 := fun e he => hc e (by simp [he])
    simp only [List.map_cons, maskSum, stepFold, List.length_cons]
    have e2 : d + 2 * (rest.length + 1) = d + 2 + 2 * rest.length := by omega
    rw [e2, ← Nat.add_assoc]
    by_cases hb : (a &&& s.1 != 0) = true
    · simp only [hb, if_true]
      exact ih _ _ _ hc2 (enc_step h (hc s (by simp)))
    · simp only [hb, Bool.false_eq_true, if_false, Nat.add_zero]
      exact ih _ _ _ hc2 (enc_weaken h (by omega))

theorem bit_if (a i : Nat) : (if a &&& 2 ^ i != 0 then 2 ^ i else 0) = 2 ^ i * (a / 2 ^ i % 2) := by
  rw [Nat.and_two_pow, Nat.toNat_testBit]
  rcases Nat.mod_two_eq_zero_or_one (a / 2 ^ i) with h | h <;> simp [h]

theorem maskSum_pow2 (a : Nat) : ∀ n, maskSum a ((List.range n).map (2 ^ ·)) = a % 2 ^ n
  | 0 => by simp [maskSum, Nat.mod_one]
  | n + 1 => by
    rw [List.range_succ, List.map_append, maskSum_append, maskSum_pow2 a n, Nat.mod_pow_succ]
    simp only [List.map_cons, List.map_nil, maskSum, bit_if, Nat.add_zero]

theorem closeSteps_masks : closeSteps.map (·.1) = (List.range 20).map (2 ^ ·) := by decide

theorem enc_bracket_of_cert (hc : ∀ s ∈ closeSteps, Cert s.1 s.2.2) (a : Nat) (h : a < 1048576) :
    Enc a (stepFold a closeSteps (tickStartEven, encStartEven)).2 encSlack := by
  have h0 : Enc 0 encStartEven 0 := ⟨by decide +kernel, by decide +kernel, by decide +kernel⟩
  have := stepFold_enc a closeSteps 0 (tickStartEven, encStartEven) 0 hc h0
  rw [closeSteps_masks, maskSum_pow2, Nat.mod_eq_of_lt (show a < 2 ^ 20 from h), Nat.zero_add] at this
  exact this

end Demeter.TickClose
