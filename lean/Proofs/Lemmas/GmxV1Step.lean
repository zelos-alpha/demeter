/-
  GMX v1 on a frozen row, exact arithmetic: everything one call can do.  A call is rejected and changes nothing, or it is an
  `update` that adds to the pending reward, or a purchase that debits the wallet and mints GLP worth at most the tokens paid, or a
  sale of at most the holding that credits tokens worth at most the GLP redeemed (value per share `⌊aum/10¹²⌋ / supply`).
-/
import Proofs.Lemmas.GmxV1Value
import Proofs.Lemmas.GmxV1Reject
namespace Demeter.Gmx
open Demeter Demeter.GmxV1

theorem step_cases {env : Env} (he : EnvPos env) (s : State) (op : Op) :
    (∃ e, step NumCtx.exact env s op = (.error e, s)) ∨
    (∃ r, op = .update ∧ step NumCtx.exact env s op = (.ok r, { s with reward := s.reward + r })) ∨
    (∃ tok dec a g r w mint, op = .buy tok dec a ∧ env.row? tok = some r ∧ 0 ≤ a ∧ 0 ≤ g ∧
        g * (aumU env / env.glpSupply) ≤ a * (r.price / 10 ^ 30) ∧
        Wallet.debit NumCtx.exact s.wallet (walletKey tok) a false = .ok w ∧
        step NumCtx.exact env s op
          = (.ok g, { s with wallet := w, glp := s.glp + g, actions := s.actions ++ [.buy (walletKey tok) a mint] })) ∨
    (∃ tok dec ga g out r, op = .sell tok dec ga ∧ g = (if ga = 0 then s.glp else ga) ∧ env.row? tok = some r ∧
        0 ≤ g ∧ g ≤ s.glp ∧ 0 ≤ out ∧ out * (r.price / 10 ^ 30) ≤ g * (aumU env / env.glpSupply) ∧
        step NumCtx.exact env s op
          = (.ok out, { s with glp := s.glp - g, wallet := Wallet.credit NumCtx.exact s.wallet (walletKey tok) out,
                               actions := s.actions ++ [.sell (walletKey tok) g out] })) := by
  cases hst : step NumCtx.exact env s op with
  | mk res s' =>
    cases res with
    | error e => exact .inl ⟨e, by rw [step_reject hst]⟩
    | ok x =>
      right
      cases op with
      | update =>
        have e : step NumCtx.exact env s .update = update NumCtx.exact env s := rfl
        rcases update_cases NumCtx.exact env s with ⟨_, e', hu⟩ | ⟨_, hu⟩
        · rw [e, hu] at hst; cases hst
        · rw [e, hu] at hst; cases hst
          exact .inl ⟨_, rfl, rfl⟩
      | buy tok dec a =>
        obtain ⟨r, hr, hg, hv⟩ := buyGlp_value he hst
        obtain ⟨ha, mint, _, _, w, _, hw, _, hs'⟩ := buyGlp_ok hst
        exact .inr (.inl ⟨tok, dec, a, x, r, w, mint, rfl, hr, ha, hg, hv, hw, by rw [hs']; rfl⟩)
      | sell tok dec ga =>
        obtain ⟨r, hr, hout, hv⟩ := sellGlp_value he rfl hst
        obtain ⟨hg0, hgle, _, _, _, hs'⟩ := sellGlp_ok rfl hst
        exact .inr (.inr ⟨tok, dec, ga, _, x, r, rfl, rfl, hr, hg0, hgle, hout, hv, by rw [hs']; rfl⟩)

end Demeter.Gmx
