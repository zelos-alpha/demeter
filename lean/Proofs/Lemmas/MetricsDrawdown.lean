/-
  Maximum drawdown: `mddSpec` is the greatest `dd xs i j` over `i ≤ j` (`mddSpec_ge`, `mddSpec_attained`), with its range, scaling
  and running-peak form; and the loop invariant `HLInv` of the code's scan `_withdraw_with_high_low`, which with
  `hlRun_g_eq_dd_nonneg` says the same of the scan's state after `k` iterations.
-/
import Proofs.Lemmas.Metrics
namespace Demeter.Metrics

theorem maxDecl_nonneg (x : Rat) (ys : List Rat) : 0 ≤ maxDecl x ys := by
  cases ys with
  | nil => simp [maxDecl]
  | cons y r => simp only [maxDecl]; exact le_max_of_le_right (maxDecl_nonneg x r)

theorem maxDecl_ge (x : Rat) (ys : List Rat) (j : Nat) (h : j < ys.length) :
    (x - nth ys j) / x ≤ maxDecl x ys := by
  induction ys generalizing j with
  | nil => simp at h
  | cons y r ih =>
    simp only [maxDecl]
    cases j with
    | zero => exact le_max_left _ _
    | succ j =>
      rw [nth_succ_cons]
      exact le_max_of_le_right (ih j (by simpa using h))

theorem maxDecl_attained (x : Rat) (ys : List Rat) :
    maxDecl x ys = 0 ∨ ∃ j, j < ys.length ∧ maxDecl x ys = (x - nth ys j) / x := by
  induction ys with
  | nil => left; rfl
  | cons y r ih =>
    simp only [maxDecl]
    rcases le_total ((x - y) / x) (maxDecl x r) with h | h
    · rw [max_eq_right h]
      rcases ih with h0 | ⟨j, hj, e⟩
      · left; exact h0
      · right; exact ⟨j + 1, by simpa using hj, by rw [nth_succ_cons]; exact e⟩
    · rw [max_eq_left h]
      right; exact ⟨0, by simp, rfl⟩

theorem mddSpec_nonneg (xs : List Rat) : 0 ≤ mddSpec xs := by
  cases xs with
  | nil => simp [mddSpec]
  | cons x r => simp only [mddSpec]; exact le_max_of_le_left (maxDecl_nonneg x r)

theorem dd_self (xs : List Rat) (i : Nat) : dd xs i i = 0 := by simp [dd]

theorem mddSpec_ge (xs : List Rat) (i j : Nat) (hij : i ≤ j) (hj : j < xs.length) : dd xs i j ≤ mddSpec xs := by
  induction xs generalizing i j with
  | nil => simp at hj
  | cons x r ih =>
    simp only [mddSpec]
    cases i with
    | zero =>
      cases j with
      | zero => rw [dd_self]; exact le_max_of_le_left (maxDecl_nonneg x r)
      | succ j =>
        refine le_max_of_le_left ?_
        have := maxDecl_ge x r j (by simpa using hj)
        simpa [dd, nth_zero_cons, nth_succ_cons] using this
    | succ i =>
      cases j with
      | zero => omega
      | succ j =>
        refine le_max_of_le_right ?_
        have := ih i j (by omega) (by simpa using hj)
        simpa [dd, nth_succ_cons] using this

theorem mddSpec_attained (xs : List Rat) (hne : xs ≠ []) :
    ∃ i j, i ≤ j ∧ j < xs.length ∧ mddSpec xs = dd xs i j := by
  induction xs with
  | nil => exact absurd rfl hne
  | cons x r ih =>
    simp only [mddSpec]
    rcases le_total (maxDecl x r) (mddSpec r) with h | h
    · rw [max_eq_right h]
      cases r with
      | nil =>
        refine ⟨0, 0, le_refl _, by simp, ?_⟩
        simp [mddSpec, dd_self]
      | cons y r' =>
        obtain ⟨i, j, hij, hj, e⟩ := ih (by simp)
        refine ⟨i + 1, j + 1, by omega, by simpa using hj, ?_⟩
        rw [e]; simp [dd, nth_succ_cons]
    · rw [max_eq_left h]
      rcases maxDecl_attained x r with h0 | ⟨j, hj, e⟩
      · exact ⟨0, 0, le_refl _, by simp, by rw [h0, dd_self]⟩
      · exact ⟨0, j + 1, by omega, by simpa using hj, by rw [e]; simp [dd, nth_zero_cons, nth_succ_cons]⟩

theorem hlRun_zero (xs : List Rat) : hlRun xs 0 = hlInit := rfl

theorem hlRun_succ (xs : List Rat) (k : Nat) : hlRun xs (k + 1) = hlStep xs (hlRun xs k) (k + 1) := by
  unfold hlRun
  rw [List.range'_concat, List.foldl_append]
  simp [Nat.add_comm]

/-- the index of the running peak once position `i - 1` has been looked at -/
def newHigh (xs : List Rat) (s : HL) (i : Nat) : Nat := if nth xs s.iHigh < nth xs (i - 1) then i - 1 else s.iHigh

theorem newHigh_le (xs : List Rat) (s : HL) (i : Nat) : newHigh xs s i ≤ max s.iHigh (i - 1) := by
  unfold newHigh
  split
  · exact le_max_right _ _
  · exact le_max_left _ _

theorem newHigh_ge (xs : List Rat) (s : HL) (i : Nat) :
    nth xs s.iHigh ≤ nth xs (newHigh xs s i) ∧ nth xs (i - 1) ≤ nth xs (newHigh xs s i) := by
  unfold newHigh
  split
  · exact ⟨le_of_lt ‹_›, le_refl _⟩
  · exact ⟨le_refl _, not_lt.mp ‹_›⟩

theorem hlStep_eq (xs : List Rat) (s : HL) (i : Nat) :
    hlStep xs s i =
      if 0 < nth xs (newHigh xs s i) ∧ s.g < dd xs (newHigh xs s i) i then
        { iHigh := newHigh xs s i, g := dd xs (newHigh xs s i) i, gHigh := newHigh xs s i, gLow := i }
      else { s with iHigh := newHigh xs s i } := by
  unfold hlStep newHigh dd
  simp only
  generalize (if nth xs s.iHigh < nth xs (i - 1) then i - 1 else s.iHigh) = H
  by_cases h1 : 0 < nth xs H
  · by_cases h2 : s.g < (nth xs H - nth xs i) / nth xs H
    · rw [if_pos h1, if_pos h2, if_pos ⟨h1, h2⟩]
    · rw [if_pos h1, if_neg h2, if_neg (fun h => h2 h.2)]
  · rw [if_neg h1, if_neg (fun h => h1 h.1)]

theorem decl_le_of_peak_le {p h y : Rat} (hp : 0 < p) (hph : p ≤ h) (hy : 0 ≤ y) : (p - y) / p ≤ (h - y) / h := by
  have hh : 0 < h := lt_of_lt_of_le hp hph
  rw [div_le_div_iff₀ hp hh]
  linarith [mul_nonneg hy (sub_nonneg.mpr hph)]

theorem hlInit_eq : hlInit = ⟨0, 0, 0, 0⟩ := by decide +kernel

/-- what the loop keeps on any series (`HLInv` below needs `AllPos`) -/
theorem hlRun_g_eq_dd_nonneg (xs : List Rat) (k : Nat) :
    (hlRun xs k).g = dd xs (hlRun xs k).gHigh (hlRun xs k).gLow ∧ 0 ≤ (hlRun xs k).g := by
  induction k with
  | zero =>
    rw [hlRun_zero, hlInit_eq]
    simp [dd_self]
  | succ k ih =>
    rw [hlRun_succ, hlStep_eq]
    split
    · rename_i hnew
      exact ⟨rfl, le_of_lt (lt_of_le_of_lt ih.2 hnew.2)⟩
    · exact ih

/-- loop invariant of `_withdraw_with_high_low` after the iterations `1 … k` -/
structure HLInv (xs : List Rat) (k : Nat) (s : HL) : Prop where
  high_le : s.iHigh ≤ k
  peak : ∀ a, a < k → nth xs a ≤ nth xs s.iHigh
  hl : s.gHigh ≤ s.gLow
  low : s.gLow ≤ k
  g_max : ∀ a b, a ≤ b → b ≤ k → dd xs a b ≤ s.g

theorem hlInv_step (xs : List Rat) (hp : AllPos xs) (k : Nat) (hk : k + 1 < xs.length) (s : HL)
    (inv : HLInv xs k s) : HLInv xs (k + 1) (hlStep xs s (k + 1)) := by
  obtain ⟨high_le, peak, hl, low, g_max⟩ := inv
  rw [hlStep_eq]
  have hHk : newHigh xs s (k + 1) ≤ k := le_trans (newHigh_le xs s (k + 1)) (max_le high_le (by omega))
  have hpeak : ∀ a, a < k + 1 → nth xs a ≤ nth xs (newHigh xs s (k + 1)) := by
    intro a ha
    obtain ⟨h1, h2⟩ := newHigh_ge xs s (k + 1)
    rcases Nat.lt_succ_iff_lt_or_eq.mp ha with h | rfl
    · exact (peak a h).trans h1
    · exact h2
  generalize newHigh xs s (k + 1) = H at hHk hpeak ⊢
  have hHpos : 0 < nth xs H := nth_pos hp (by omega)
  have g0 : 0 ≤ s.g := by
    have := g_max 0 0 (le_refl _) (Nat.zero_le _)
    rwa [dd_self] at this
  -- the new `g` is `max s.g (dd xs H (k + 1))`: every decline ending at `k + 1` is at most the one from the running peak
  have hmax : ∀ a b, a ≤ b → b ≤ k + 1 → dd xs a b ≤ max s.g (dd xs H (k + 1)) := by
    intro a b hab hb
    by_cases hbk : b = k + 1
    · subst hbk
      by_cases hak : a = k + 1
      · subst hak; rw [dd_self]; exact le_max_of_le_left g0
      · exact le_max_of_le_right
          (decl_le_of_peak_le (nth_pos hp (by omega)) (hpeak a (by omega)) (le_of_lt (nth_pos hp hk)))
    · exact le_max_of_le_left (g_max a b hab (by omega))
  by_cases hlt : s.g < dd xs H (k + 1)
  · rw [if_pos ⟨hHpos, hlt⟩]
    exact ⟨by simp; omega, by simpa using hpeak, by simp; omega, by simp,
      fun a b hab hb => max_eq_right (le_of_lt hlt) ▸ hmax a b hab hb⟩
  · rw [if_neg (fun h => hlt h.2)]
    exact ⟨by simp; omega, by simpa using hpeak, by simpa using hl, by simp; omega,
      fun a b hab hb => max_eq_left (not_lt.mp hlt) ▸ hmax a b hab hb⟩

theorem hlInv_run (xs : List Rat) (hp : AllPos xs) (k : Nat) (hk : k < xs.length) :
    HLInv xs k (hlRun xs k) := by
  induction k with
  | zero =>
    rw [hlRun_zero, hlInit_eq]
    refine ⟨le_refl _, fun a ha => absurd ha (Nat.not_lt_zero a), le_refl _, le_refl _, fun a b hab hb => ?_⟩
    obtain rfl : a = b := by omega
    simp [dd_self]
  | succ k ih =>
    rw [hlRun_succ]
    exact hlInv_step xs hp k hk _ (ih (by omega))

theorem maxDecl_eq_zero_of_le (x : Rat) (hx : 0 < x) (ys : List Rat) (h : ∀ y ∈ ys, x ≤ y) : maxDecl x ys = 0 := by
  induction ys with
  | nil => rfl
  | cons y r ih =>
    simp only [maxDecl]
    rw [ih (fun z hz => h z (List.mem_cons_of_mem _ hz))]
    exact max_eq_right (div_nonpos_of_nonpos_of_nonneg (sub_nonpos.mpr (h y List.mem_cons_self)) (le_of_lt hx))

theorem mddSpec_eq_zero_of_sorted (xs : List Rat) (hp : AllPos xs) (hs : xs.Pairwise (· ≤ ·)) : mddSpec xs = 0 := by
  induction xs with
  | nil => rfl
  | cons x r ih =>
    rw [List.pairwise_cons] at hs
    simp only [mddSpec]
    rw [ih hp.tail hs.2, maxDecl_eq_zero_of_le x hp.head r hs.1]
    simp

theorem mddSpec_lt_one (xs : List Rat) (hp : AllPos xs) : mddSpec xs < 1 := by
  by_cases hne : xs = []
  · subst hne
    exact zero_lt_one
  · obtain ⟨i, j, hij, hj, e⟩ := mddSpec_attained xs hne
    rw [e, dd, div_lt_one (nth_pos hp (by omega))]
    exact sub_lt_self _ (nth_pos hp hj)

theorem maxDecl_scale (c x : Rat) (hc : c ≠ 0) (ys : List Rat) :
    maxDecl (c * x) (ys.map (c * ·)) = maxDecl x ys := by
  induction ys with
  | nil => rfl
  | cons y r ih =>
    simp only [List.map_cons, maxDecl]
    rw [ih]
    congr 1
    rw [← mul_sub, mul_div_mul_left _ _ hc]

theorem mddSpec_scale (c : Rat) (hc : c ≠ 0) (xs : List Rat) : mddSpec (xs.map (c * ·)) = mddSpec xs := by
  induction xs with
  | nil => rfl
  | cons x r ih =>
    simp only [List.map_cons, mddSpec]
    rw [ih, maxDecl_scale c x hc r]

theorem maxDecl_mono_peak {p h : Rat} (hp : 0 < p) (hph : p ≤ h) (ys : List Rat) (hy : AllPos ys) :
    maxDecl p ys ≤ maxDecl h ys := by
  induction ys with
  | nil => exact le_refl _
  | cons y r ih =>
    simp only [maxDecl]
    exact max_le_max (decl_le_of_peak_le hp hph (le_of_lt hy.head)) (ih hy.tail)

theorem mddPeak_eq (p : Rat) (hp : 0 < p) (xs : List Rat) (hx : AllPos xs) :
    mddPeak p xs = max (maxDecl p xs) (mddSpec xs) := by
  induction xs generalizing p with
  | nil => simp [mddPeak, maxDecl, mddSpec]
  | cons x r ih =>
    have hx0 := hx.head
    simp only [mddPeak, maxDecl, mddSpec]
    rcases le_total x p with h | h
    · rw [max_eq_left h, ih p hp hx.tail]
      have hm := maxDecl_mono_peak hx0 h r hx.tail
      -- max A (max B C) = max (max A B) (max D C)  with D ≤ B
      rw [max_assoc ((p - x) / p)]
      congr 1
      rw [← max_assoc, max_eq_left hm]
    · rw [max_eq_right h, ih x hx0 hx.tail]
      have hm := maxDecl_mono_peak hp h r hx.tail
      have hneg : (p - x) / p ≤ 0 := div_nonpos_of_nonpos_of_nonneg (sub_nonpos.mpr h) (le_of_lt hp)
      have h0 : (0 : Rat) ≤ maxDecl x r := maxDecl_nonneg x r
      rw [sub_self, zero_div]
      rw [max_eq_right (le_max_of_le_left h0)]
      rw [max_eq_right (le_trans hneg (maxDecl_nonneg p r)), ← max_assoc, max_eq_right hm]

end Demeter.Metrics
