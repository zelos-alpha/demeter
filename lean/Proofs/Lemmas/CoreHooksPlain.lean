/-
  The general model (`runG`) on a script whose hooks only issue operations is the basic model (`run`).  Read the other way, what the general
  `notify` loop delivers is what the basic one delivers.
-/
import Proofs.Lemmas.CoreHooksBooks
import Proofs.Lemmas.CoreTriggerSpec
namespace Demeter.Core

/-- an operation neither reads nor writes the trigger list and the account history: it commutes with any rewriting of the two -/
theorem doOp_map (ft : List Trig → List Trig) (fr : List (Int × Option Int) → List (Int × Option Int)) (ts : Int) (h : Hook) (op : OpSpec) (st : St) :
    doOp ts h op { st with trigs := ft st.trigs, rows := fr st.rows } =
      ((doOp ts h op st).1, { (doOp ts h op st).2 with trigs := ft (doOp ts h op st).2.trigs, rows := fr (doOp ts h op st).2.rows }) := by
  unfold doOp
  simp only []
  split
  · rfl
  · split
    · split <;> rfl
    · split
      · rfl
      · split <;> rfl

theorem runOps_map (ft : List Trig → List Trig) (fr : List (Int × Option Int) → List (Int × Option Int)) (ts : Int) (h : Hook) :
    ∀ (ops : List OpSpec) (st : St), runOps ts h ops { st with trigs := ft st.trigs, rows := fr st.rows } =
      ((runOps ts h ops st).1, { (runOps ts h ops st).2 with trigs := ft (runOps ts h ops st).2.trigs, rows := fr (runOps ts h ops st).2.rows })
  | [], _ => rfl
  | op :: ops, st => by
    simp only [runOps]
    rw [doOp_map, runOps_map ft fr ts h ops]

theorem runOps_trigs_with (ts : Int) (h : Hook) (ops : List OpSpec) (st : St) (tr : List Trig) :
    runOps ts h ops { st with trigs := tr } = ((runOps ts h ops st).1, { (runOps ts h ops st).2 with trigs := tr }) :=
  runOps_map (fun _ => tr) id ts h ops st

theorem runOps_rows_with (ts : Int) (h : Hook) (ops : List OpSpec) (st : St) (rw_ : List (Int × Option Int)) :
    runOps ts h ops { st with rows := rw_ } = ((runOps ts h ops st).1, { (runOps ts h ops st).2 with rows := rw_ }) :=
  runOps_map id (fun _ => rw_) ts h ops st

theorem runStmts_plain (ts : Int) (h : Hook) : ∀ (ops : List OpSpec) (st : St),
    runStmts ts h (ops.map .op) st = ((runOps ts h ops st).1, (runOps ts h ops st).2, none)
  | [], _ => rfl
  | op :: ops, st => by
    simp only [List.map_cons, runStmts, doStmt, runOps]
    rw [andThen_ok rfl, runStmts_plain ts h ops]

theorem st_eta (st : St) : ({ st with trigs := st.trigs } : St) = st := by cases st; rfl

theorem runFires_with (sc : Script) (ts : Int) (row : Nat) : ∀ (fs : List Fire) (st : St) (tr : List Trig),
    runFires sc ts row fs { st with trigs := tr } = ((runFires sc ts row fs st).1, { (runFires sc ts row fs st).2 with trigs := tr })
  | [], _, _ => rfl
  | f :: fs, st, tr => by
    simp only [runFires]
    rw [runOps_trigs_with, runFires_with sc ts row fs]

theorem fireLoopG_plain (sc : Script) (row : Nat) (ts : Int) : ∀ (todo done : List Trig) (st : St) (fuel : Nat),
    st.trigs = done ++ todo → todo.length ≤ fuel →
    fireLoopG ((ofScript sc).bar row) ts fuel done.length st =
      ((runFires sc ts row (fireLoop ts todo).1 st).1,
       { (runFires sc ts row (fireLoop ts todo).1 st).2 with trigs := done ++ (fireLoop ts todo).2.1 },
       (fireLoop ts todo).2.2)
  | [], done, st, fuel, hst, _ => by
    have hlen : st.trigs.length = done.length := by rw [hst]; simp
    have hstate : ({ st with trigs := done ++ [] } : St) = st := by rw [← hst]
    cases fuel with
    | zero =>
      simp only [fireLoopG, fireLoop, runFires, hlen, Nat.lt_irrefl, if_false]
      rw [hstate]
    | succ f =>
      unfold fireLoopG
      have : st.trigs[done.length]? = none := List.getElem?_eq_none_iff.mpr (by omega)
      simp only [this, fireLoop, runFires, hstate]
  | t :: rest, done, st, fuel, hst, hf => by
    cases fuel with
    | zero => simp at hf
    | succ f =>
      unfold fireLoopG
      have hget : st.trigs[done.length]? = some t := by rw [hst]; exact getElem?_append_mid done t rest
      simp only [hget]
      unfold fireLoop
      cases hw : whenErr t.k with
      | some e =>
        simp only [runFires]
        rw [← hst]
      | none =>
        simp only []
        have hset : st.trigs.set done.length { t with k := (whenT ts t.k).2 } = (done ++ [{ t with k := (whenT ts t.k).2 }]) ++ rest := by
          rw [hst]; exact set_append_mid done t _ rest
        have hlen' : (done ++ [{ t with k := (whenT ts t.k).2 }]).length = done.length + 1 := by simp
        cases hfire : (whenT ts t.k).1 with
        | false =>
          simp only [Bool.false_eq_true, if_false, List.nil_append]
          have ih := fireLoopG_plain sc row ts rest (done ++ [{ t with k := (whenT ts t.k).2 }])
            { st with trigs := st.trigs.set done.length { t with k := (whenT ts t.k).2 } } f hset (by simpa using hf)
          rw [hlen'] at ih
          rw [ih, runFires_with]
          simp only [List.append_assoc, List.singleton_append]
        | true =>
          simp only [if_true, List.singleton_append, runFires]
          rw [andThen_okRes]
          have hbody : ((ofScript sc).bar row).fire t.id = (sc.fire row t.id).map .op := rfl
          rw [hbody, runStmts_plain]
          rw [andThen_ok rfl]
          rw [runOps_trigs_with]
          have ih := fireLoopG_plain sc row ts rest (done ++ [{ t with k := (whenT ts t.k).2 }])
            { (runOps ts (.fire t.id) (sc.fire row t.id) st).2 with trigs := st.trigs.set done.length { t with k := (whenT ts t.k).2 } }
            f hset (by simpa using hf)
          rw [hlen'] at ih
          rw [ih, runFires_with]
          simp only [List.append_assoc, List.cons_append, List.nil_append]

theorem runOpenFromG_plain (sc : Script) (row : Nat) (ts : Int) : ∀ (i : Nat) (ms : List MarketCfg) (st : St),
    runOpenFromG ((ofScript sc).bar row) ts i ms st = ((runOpenFrom sc ts row i ms st).1, (runOpenFrom sc ts row i ms st).2, none)
  | _, [], _ => rfl
  | i, mc :: rest, st => by
    unfold runOpenFromG runOpenFrom
    split
    · rw [andThen_okRes]
      have hbody : ((ofScript sc).bar row).openCb i = (sc.openCb row i).map .op := rfl
      rw [hbody, runStmts_plain, andThen_ok rfl]
      rw [runOpenFromG_plain sc row ts (i + 1) rest]
      simp only [List.cons_append, List.nil_append]
    · exact runOpenFromG_plain sc row ts (i + 1) rest st

theorem runUpdFromG_eq_runUpdFrom {b : BarScript} {sc : Script} {row : Nat} (h : b.upd = sc.upd row) (ts : Int) :
    ∀ (i : Nat) (ms : List MarketCfg) (st : St), runUpdFromG b ts i ms st = runUpdFrom sc ts row i ms st
  | _, [], _ => rfl
  | i, _ :: rest, st => by
    simp only [runUpdFromG, runUpdFrom, h, runUpdFromG_eq_runUpdFrom h ts (i + 1) rest]

theorem runNotifyG_plain (sc : Script) (row : Nat) (ts : Int) : ∀ (fuel i : Nat) (st : St),
    runNotifyG ((ofScript sc).bar row) ts fuel i st =
      ((runNotify sc ts row fuel i st).1, (runNotify sc ts row fuel i st).2.1,
       if (runNotify sc ts row fuel i st).2.2 then none else some .diverges)
  | 0, i, st => rfl
  | fuel + 1, i, st => by
    unfold runNotifyG runNotify
    cases hc : st.cur[i]? with
    | none => rfl
    | some a =>
      simp only []
      rw [andThen_okRes]
      have hbody : ((ofScript sc).bar row).notify a.tag = (sc.notify row a.tag).map .op := rfl
      rw [hbody, runStmts_plain, andThen_ok rfl]
      rw [runNotifyG_plain sc row ts fuel (i + 1)]
      simp only [List.cons_append, List.nil_append]

/-- `cur` on the right is `_currents.actions` at the END of the loop: the deliveries include the entries appended while it ran -/
theorem runNotify_deliveries (sc : Script) (ts : Int) (row fuel i : Nat) (st : St) (h : (runNotify sc ts row fuel i st).2.2 = true) :
    (runNotify sc ts row fuel i st).1.filterMap notifyAct = (runNotify sc ts row fuel i st).2.1.cur.drop i := by
  have hg := (runNotifyG_deliveries ((ofScript sc).bar row) ts fuel i st).2
  rw [runNotifyG_plain] at hg
  exact hg (if_pos h)

theorem runNotify_with (sc : Script) (ts : Int) (row : Nat) : ∀ (fuel i : Nat) (st : St) (rw_ : List (Int × Option Int)),
    runNotify sc ts row fuel i { st with rows := rw_ } =
      ((runNotify sc ts row fuel i st).1, { (runNotify sc ts row fuel i st).2.1 with rows := rw_ }, (runNotify sc ts row fuel i st).2.2)
  | 0, _, _, _ => rfl
  | fuel + 1, i, st, rw_ => by
    unfold runNotify
    cases hc : st.cur[i]? with
    | none => rfl
    | some a =>
      simp only []
      rw [runOps_rows_with, runNotify_with sc ts row fuel (i + 1)]

def marker : Option PyErr → List Ev
  | some e => [.raised e]
  | none => []

/-- one iteration of the basic model up to and including `after_bar`, in the shape of the general one -/
def headOf (p : BarParts) (row : Nat) (ts : Int) : Res :=
  match p.tp.2.2 with
  | some e => (p.s1.1 ++ .before ts row p.price :: p.b.1 ++ p.f.1, { p.f.2 with trigs := p.tp.2.1 }, some e)
  | none =>
    (p.s1.1 ++ .before ts row p.price :: p.b.1 ++ p.f.1 ++ p.o.1 ++ .on ts row p.price :: p.n.1 ++ p.s2.1 ++ p.u.1
      ++ .after ts row p.price :: p.a.1, p.a.2, none)

/-- … and the whole of it: no closing marker in the trace, the row appended before the deliveries -/
def stepOf (p : BarParts) (row : Nat) (ts : Int) : Res :=
  match p.tp.2.2 with
  | some _ => headOf p row ts
  | none =>
    (p.trace row ts,
     { p.nt.2.1 with rows := p.nt.2.1.rows ++ [(ts, p.price)], cur := if p.nt.2.2 then [] else p.nt.2.1.cur },
     if p.nt.2.2 then none else some .diverges)

theorem andThen_retireG (evs : List Ev) (st : St) (ts : Int) (l : List Trig) :
    Res.andThen (evs, { st with trigs := (fireLoop ts l).2.1 }, (fireLoop ts l).2.2) (retireG ts) =
      (evs, { st with trigs := (trigPhase ts l).2.1 }, (trigPhase ts l).2.2) := by
  rw [trigPhase_eq]
  cases (fireLoop ts l).2.2 with
  | some e => rfl
  | none => simp [Res.andThen, retireG]

theorem barHeadG_plain (cfg : Cfg) (sc : Script) (row : Nat) (ts : Int) (st : St) (price : Option Int) :
    barHeadG cfg ((ofScript sc).bar row) 0 row ts price st = headOf (barParts cfg sc row ts st price) row ts := by
  unfold barHeadG headOf
  simp only [Res.ok, andThen_mk_none, barParts]
  have hb : ((ofScript sc).bar row).before = (sc.before row).map .op := rfl
  have hon : ((ofScript sc).bar row).on = (sc.on row).map .op := rfl
  have haf : ((ofScript sc).bar row).after = (sc.after row).map .op := rfl
  rw [hb, runStmts_plain]
  simp only [andThen_mk_none]
  generalize runOps ts .before (sc.before row) { st with ms := (setAllFrom cfg ts 1 0 cfg.markets).2 } = B
  have hfl := fireLoopG_plain sc row ts B.2.trigs [] B.2 (B.2.trigs.length + 0) rfl (by omega)
  simp only [List.length_nil, List.nil_append] at hfl
  rw [hfl, andThen_retireG, ← trigPhase_fst]
  cases (trigPhase ts B.2.trigs).2.2 with
  | some e => simp only [andThen_mk_some, List.append_assoc, List.cons_append, List.nil_append]
  | none =>
    rw [andThen_mk_none, runOpenFromG_plain]
    simp only [andThen_mk_none]
    rw [hon, runStmts_plain]
    simp only [andThen_mk_none, midG]
    rw [runUpdFromG_eq_runUpdFrom (sc := sc) (row := row) rfl, haf, runStmts_plain]
    simp only [List.append_assoc, List.cons_append, List.nil_append]

theorem barStepG_plain (cfg : Cfg) (sc : Script) (row : Nat) (ts : Int) (st : St) (price : Option Int) (hp : priceAt cfg ts = some price) :
    barStepG cfg ((ofScript sc).bar row) sc.fuel 0 row ts st = stepOf (barParts cfg sc row ts st price) row ts := by
  unfold barStepG
  rw [hp]
  simp only []
  rw [barHeadG_plain]
  have hnt : (barParts cfg sc row ts st price).nt =
      runNotify sc ts row ((barParts cfg sc row ts st price).a.2.cur.length + sc.fuel) 0 (barParts cfg sc row ts st price).a.2 := rfl
  have hpr : (barParts cfg sc row ts st price).price = price := rfl
  generalize barParts cfg sc row ts st price = p at hnt hpr
  unfold stepOf headOf
  cases htp : p.tp.2.2 with
  | some e => simp only [andThen_mk_some]
  | none =>
    have hrows : p.nt.2.1.rows = p.a.2.rows := by rw [hnt]; exact (runNotify_rel (Frame.phaseRel ts) sc row _ 0 p.a.2).1
    simp only [andThen_mk_none, barTailG, Res.ok]
    rw [runNotifyG_plain, runNotify_with, ← hnt, hpr, hrows]
    cases hd : p.nt.2.2 with
    | true =>
      simp only [if_true, andThen_mk_none, BarParts.trace, hpr, List.append_assoc, List.cons_append, List.nil_append, List.append_nil]
    | false =>
      simp only [Bool.false_eq_true, if_false, andThen_mk_some, BarParts.trace, hpr, List.append_assoc, List.cons_append, List.nil_append]

/-- what the two models have in common after a stretch: outcome, account rows, action list, installed triggers; the basic model writes the closing
    `raised` marker into the trace itself -/
def SameObs (R : List Ev × St × Option PyErr) (G : Res) : Prop :=
  R.1 = G.1 ++ marker G.2.2 ∧ R.2.2 = G.2.2 ∧ R.2.1.rows = G.2.1.rows ∧ R.2.1.all = G.2.1.all ∧ R.2.1.trigs = G.2.1.trigs ∧
  (G.2.2 = none → R.2.1 = G.2.1) ∧ ∀ e, G.2.2 = some e → e.isRuntime = false

theorem SameObs.ok (evs : List Ev) (st : St) : SameObs (evs, st, none) (evs, st, none) :=
  ⟨(List.append_nil _).symm, rfl, rfl, rfl, rfl, fun _ => rfl, fun _ h => nomatch h⟩

/-- an exception that is no `RuntimeError`: the states need only agree on what is observed (after a `notify` loop cut short the basic model
    has emptied the pending list, the general one has not) -/
theorem SameObs.raised {evs : List Ev} {st' st : St} {e : PyErr} (he : e.isRuntime = false) (hr : st'.rows = st.rows) (ha : st'.all = st.all)
    (ht : st'.trigs = st.trigs) : SameObs (evs ++ [.raised e], st', some e) (evs, st, some e) :=
  ⟨rfl, rfl, hr, ha, ht, fun h => (nomatch h), fun _ h => Option.some.inj h ▸ he⟩

theorem barStep_sameObs (cfg : Cfg) (sc : Script) (row : Nat) (ts : Int) (st : St) :
    SameObs (barStep cfg sc row ts st) (barStepG cfg ((ofScript sc).bar row) sc.fuel 0 row ts st) := by
  unfold barStep
  cases hp : priceAt cfg ts with
  | none =>
    unfold barStepG
    rw [hp]
    exact .raised (evs := []) rfl rfl rfl rfl
  | some price =>
    rw [barStepG_plain cfg sc row ts st price hp]
    unfold stepOf headOf
    dsimp only
    cases htp : (barParts cfg sc row ts st price).tp.2.2 with
    | some e => exact .raised (by rcases trigPhase_err_kind ts _ _ htp with rfl | rfl <;> rfl) rfl rfl rfl
    | none =>
      cases hd : (barParts cfg sc row ts st price).nt.2.2 with
      | true => exact .ok _ _
      | false => exact .raised rfl rfl rfl rfl

theorem SameObs.seq : Rel.Seq (fun _ => SameObs) := by
  intro st r' r k' k h1 h2
  have ⟨s1, s2, _, _, _, s6, _⟩ := h1
  cases hg : r.2.2 with
  | some e => rw [andThen_err hg, andThen_err (s2.trans hg)]; exact h1
  | none =>
    rw [andThen_ok hg, andThen_ok (s2.trans hg), s6 hg]
    obtain ⟨q1, q⟩ := h2 r.2.1
    rw [hg] at s1
    exact ⟨by rw [s1, q1, marker, List.append_nil, List.append_assoc], q⟩

theorem runBars_sameObs (cfg : Cfg) (sc : Script) (bars : List Int) (row : Nat) (st : St) :
    SameObs (runBars cfg sc row bars st) (runBarsG cfg (ofScript sc) row bars st) := by
  rw [runBars_eq_barLoop, runBarsG_eq_barLoop]
  exact barLoop_rel SameObs.seq (SameObs.ok []) bars row st
    (fun ts _ row st => barStep_sameObs cfg sc row ts st)

theorem loopExit_of_not_runtime (rows : List (Int × Option Int)) (e : PyErr) (h : e.isRuntime = false) : loopExit rows e = e := by
  unfold loopExit
  simp [h]

theorem runG_plain (cfg : Cfg) (trigs : List Trig) (sc : Script) : runG cfg trigs (ofScript sc) = run cfg trigs sc := by
  rw [runG_eq, run_eq]
  unfold runFrom
  cases startOf cfg with
  | error e => rfl
  | ok p =>
    obtain ⟨ts0, bars⟩ := p
    dsimp only
    unfold loopFrom initG runPrefix
    have hi : (ofScript sc).init = sc.init.map .op := rfl
    rw [hi, andThen_okRes, runStmts_plain]
    obtain ⟨q1, q2, q3, q4, q5, _, q7⟩ := runBars_sameObs cfg sc (ts0 :: bars) 0
      (runOps ts0 .init sc.init ⟨(setAllFrom cfg ts0 0 0 cfg.markets).2, trigs, [], [], []⟩).2
    rw [andThen_mk_none]
    unfold finishG
    cases hg : (runBarsG cfg (ofScript sc) 0 (ts0 :: bars)
        (runOps ts0 .init sc.init ⟨(setAllFrom cfg ts0 0 0 cfg.markets).2, trigs, [], [], []⟩).2).2.2 with
    | none =>
      rw [hg] at q1 q2
      simp only [marker, List.append_nil] at q1
      rw [q2]
      dsimp only
      rw [q1, q3, q4, q5]
      simp only [List.append_assoc, List.cons_append, List.nil_append]
    | some e =>
      rw [hg] at q1 q2
      simp only [marker] at q1
      rw [q2]
      dsimp only
      rw [loopExit_of_not_runtime _ _ (q7 e hg), q1, q3, q4, q5]
      simp only [List.append_assoc, List.cons_append, List.nil_append, List.append_nil, if_true]

end Demeter.Core
