/-
  Lemmas about the broker's wallet (`AList`) and its valuation `specWallet`: what overwriting one balance does to the
  value, and that non-negative balances stay so.
-/
import Demeter.Broker
import Proofs.Lemmas.AssetSub
import Proofs.Lemmas.AListSum
namespace Demeter
namespace WalletLemmas

theorem get?_nil (k : String) : AList.get? ([] : Wallet) k = none := rfl

theorem get?_set_self (w : Wallet) (k : String) (x : Rat) : AList.get? (AList.set w k x) k = some x :=
  AList.get?_set_self w k x

theorem specWallet_cons_eq_some {p : Prices} {tok : String} {b : Rat} {rest : Wallet} {v : Rat} :
    specWallet p ((tok, b) :: rest) = some v ↔
      ∃ pr r, AList.get? p tok = some pr ∧ specWallet p rest = some r ∧ b * pr + r = v := by
  rw [show specWallet p ((tok, b) :: rest) =
    (AList.get? p tok).bind (fun pr => (specWallet p rest).bind (fun r => some (b * pr + r))) from rfl]
  cases AList.get? p tok <;> cases specWallet p rest <;> simp

theorem specWallet_eq_some {p : Prices} {w : Wallet} {v : Rat} :
    specWallet p w = some v ↔
      (∀ e ∈ w, ∃ pr, AList.get? p e.1 = some pr) ∧ v = (w.map fun e => e.2 * (AList.get? p e.1).getD 0).sum := by
  induction w generalizing v with
  | nil => exact ⟨fun h => ⟨fun _ he => absurd he List.not_mem_nil, (Option.some.inj h).symm⟩, fun h => h.2 ▸ rfl⟩
  | cons e rest ih =>
    obtain ⟨tok, b⟩ := e
    rw [specWallet_cons_eq_some, List.forall_mem_cons, List.map_cons, List.sum_cons]
    constructor
    · rintro ⟨pr, r, hp, hr, rfl⟩
      obtain ⟨h1, rfl⟩ := ih.mp hr
      exact ⟨⟨⟨pr, hp⟩, h1⟩, by rw [hp]; rfl⟩
    · rintro ⟨⟨⟨pr, hp⟩, h1⟩, rfl⟩
      exact ⟨pr, _, hp, ih.mpr ⟨h1, rfl⟩, by rw [hp]; rfl⟩

theorem specWallet_set (p : Prices) (k : String) (x pk : Rat) (hpk : AList.get? p k = some pk) (w : Wallet) (v : Rat)
    (hv : specWallet p w = some v) : specWallet p (AList.set w k x) = some (v + (x - Wallet.bal w k) * pk) := by
  obtain ⟨hall, rfl⟩ := specWallet_eq_some.mp hv
  refine specWallet_eq_some.mpr ⟨fun e he => (AList.mem_set he).elim (fun h => ⟨pk, by rw [h]; exact hpk⟩) (hall e), ?_⟩
  have held : AList.held (fun e => e.2 * (AList.get? p e.1).getD 0) w k = Wallet.bal w k * pk := by
    unfold AList.held Wallet.bal
    cases AList.get? w k <;> simp [hpk]
  rw [AList.sum_map_set, held]
  simp only [hpk, Option.getD_some]
  ring

def NonNeg (w : Wallet) : Prop := ∀ e ∈ w, 0 ≤ e.2

theorem nonneg_set (w : Wallet) (k : String) (x : Rat) (hw : NonNeg w) (hx : 0 ≤ x) : NonNeg (AList.set w k x) :=
  AList.forall_set (P := (0 ≤ ·)) hw k hx

theorem nonneg_bal {w : Wallet} (hw : NonNeg w) (k : String) : 0 ≤ Wallet.bal w k := by
  unfold Wallet.bal
  cases hg : AList.get? w k with
  | none => exact le_refl _
  | some b => exact AList.forall_get? hw hg

theorem nonneg_credit {cx : NumCtx} {w : Wallet} (hw : NonNeg w) (hadd : ∀ b x : Rat, 0 ≤ b → 0 ≤ x → 0 ≤ cx.add b x)
    (k : String) {a : Rat} (ha : 0 ≤ a) : NonNeg (Wallet.credit cx w k a) := by
  rw [Wallet.credit_eq]
  exact nonneg_set w k _ hw (hadd _ _ (nonneg_bal hw k) ha)

theorem nonneg_credit_exact {w : Wallet} (hw : NonNeg w) (k : String) {a : Rat} (ha : 0 ≤ a) :
    NonNeg (Wallet.credit NumCtx.exact w k a) :=
  -- `cx` is given: left to unification, `0 ≤ ?cx.add b x =?= 0 ≤ ?a + ?b` is met with `?cx` unknown and is slow to check
  nonneg_credit (cx := NumCtx.exact) hw (fun _ _ => add_nonneg) k ha

/-- in any context: `Asset.sub` answers with the rounded difference only when it is not negative, else with 0 -/
theorem nonneg_debit {cx : NumCtx} {w w' : Wallet} {k : String} {a : Rat} (hw : NonNeg w)
    (h : Wallet.debit cx w k a false = .ok w') : NonNeg w' := by
  obtain ⟨b, b', hg, hs, rfl⟩ := Wallet.debit_false_ok h
  exact nonneg_set w k b' hw (assetSub_nonneg cx (AList.forall_get? hw hg) hs)

end WalletLemmas
end Demeter
