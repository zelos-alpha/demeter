/-
  For `0 < n, d < 2^150000` and any `p`, the exponent `e = sigExp p n d` normalises `n/d` to `p` digits:
        10^(p-1) ≤ (n/d) / 10^e < 10^p ,
  stated both on rationals and as integer inequalities on the pair returned by `scale10`.  It is the *only* such exponent.
-/
import Proofs.Lemmas.Round35
import Mathlib.Tactic.Ring
import Mathlib.Algebra.Order.Field.Rat
import Mathlib.Algebra.Order.Field.Power
import Mathlib.Data.Rat.Cast.Order
namespace Demeter.Numerics
open Demeter

local notation "T" => (10 : ℚ)

theorem Tz_pos (e : ℤ) : (0:ℚ) < T ^ e := zpow_pos (by norm_num) e
theorem Tz_add (a b : ℤ) : T ^ (a + b) = T ^ a * T ^ b := zpow_add₀ (by norm_num) a b
theorem Tz_succ (a : ℤ) : T ^ (a + 1) = T ^ a * 10 := by rw [Tz_add, zpow_one]
theorem Tz_mono {a b : ℤ} (h : a ≤ b) : T ^ a ≤ T ^ b := zpow_le_zpow_right₀ (by norm_num) h
theorem Tz_lt_iff {a b : ℤ} : T ^ a < T ^ b ↔ a < b := zpow_lt_zpow_iff_right₀ (by norm_num)

/-- the two shapes in which the model writes `10^e` for an integer `e`: `pow10 e.toNat` and `1 / pow10 (-e).toNat` -/
theorem Tz_of_nonneg {e : ℤ} (h : 0 ≤ e) : T ^ e = T ^ e.toNat := by
  rw [← zpow_natCast]; congr 1; omega

theorem Tz_of_neg {e : ℤ} (h : ¬ 0 ≤ e) : T ^ e = (T ^ (-e).toNat)⁻¹ := by
  rw [← zpow_natCast, ← zpow_neg]; congr 1; omega

theorem Tz_pred {p : ℕ} (hp : 1 ≤ p) : T ^ ((p : ℤ) - 1) = T ^ (p - 1) := by
  rw [← zpow_natCast]; congr 1; omega

theorem scale10_spec (n d : Nat) (e : Int) (hd : 0 < d) :
    0 < (scale10 n d e).2 ∧
    ((scale10 n d e).1 : ℚ) / ((scale10 n d e).2 : ℚ) = (n : ℚ) / d / T ^ e := by
  have hdq : (0:ℚ) < d := by exact_mod_cast hd
  unfold scale10 pow10
  split
  · rename_i h
    refine ⟨Nat.mul_pos hd (Nat.pow_pos (by decide)), ?_⟩
    simp only [Nat.cast_mul, Nat.cast_pow, Nat.cast_ofNat]
    rw [Tz_of_nonneg h, div_div]
  · rename_i h
    refine ⟨hd, ?_⟩
    simp only [Nat.cast_mul, Nat.cast_pow, Nat.cast_ofNat]
    rw [Tz_of_neg h, div_inv_eq_mul, div_mul_eq_mul_div]

theorem sigExp_eval (p n d A B : ℕ) (hA : ndigits n = A) (hB : ndigits d = B) :
    sigExp p n d =
      if (scale10 n d ((A:ℤ) - (B:ℤ) - (p:ℤ))).1 ≥ (scale10 n d ((A:ℤ) - (B:ℤ) - (p:ℤ))).2 * pow10 p
      then (A:ℤ) - (B:ℤ) - (p:ℤ) + 1 else (A:ℤ) - (B:ℤ) - (p:ℤ) := by
  subst hA hB; unfold sigExp; rfl

theorem scale10_neg (n d k : ℕ) (hk : 0 < k) : scale10 n d (-(k:ℤ)) = (n * 10 ^ k, d) := by
  unfold scale10 pow10
  have : ¬ (-(k:ℤ) ≥ 0) := by omega
  rw [if_neg this]; simp

theorem ndigits_bounds_rat (n : Nat) (hn : 0 < n) (hb : n.log2 < LOG2_BOUND) :
    T ^ ((ndigits n : ℤ) - 1) ≤ (n : ℚ) ∧ (n : ℚ) < T ^ (ndigits n : ℤ) := by
  obtain ⟨h1, h2⟩ := ndigits_spec n hn hb
  have hp := ndigits_pos n
  constructor
  · rw [Tz_pred hp]
    exact_mod_cast h1
  · rw [zpow_natCast]
    exact_mod_cast h2

theorem quot_digits_bounds (n d : Nat) (hn : 0 < n) (hd : 0 < d)
    (hbn : n.log2 < LOG2_BOUND) (hbd : d.log2 < LOG2_BOUND) :
    T ^ ((ndigits n : ℤ) - (ndigits d : ℤ) - 1) < (n : ℚ) / d ∧ (n : ℚ) / d < T ^ ((ndigits n : ℤ) - (ndigits d : ℤ) + 1) := by
  obtain ⟨n1, n2⟩ := ndigits_bounds_rat n hn hbn
  obtain ⟨d1, d2⟩ := ndigits_bounds_rat d hd hbd
  have hdq : (0:ℚ) < d := by exact_mod_cast hd
  generalize (ndigits n : ℤ) = A at *
  generalize (ndigits d : ℤ) = B at *
  constructor
  · rw [lt_div_iff₀ hdq]
    calc T ^ (A - B - 1) * (d:ℚ) < T ^ (A - B - 1) * T ^ B := mul_lt_mul_of_pos_left d2 (Tz_pos _)
      _ = T ^ (A - 1) := by rw [← Tz_add]; congr 1; ring
      _ ≤ n := n1
  · rw [div_lt_iff₀ hdq]
    calc (n:ℚ) < T ^ A := n2
      _ = T ^ (A - B + 1) * T ^ (B - 1) := by rw [← Tz_add]; congr 1; ring
      _ ≤ T ^ (A - B + 1) * (d:ℚ) := mul_le_mul_of_nonneg_left d1 (le_of_lt (Tz_pos _))

theorem sigExp_spec_rat (p n d : Nat) (hn : 0 < n) (hd : 0 < d)
    (hbn : n.log2 < LOG2_BOUND) (hbd : d.log2 < LOG2_BOUND) :
    T ^ ((p : ℤ) - 1) ≤ (n : ℚ) / d / T ^ (sigExp p n d) ∧
    (n : ℚ) / d / T ^ (sigExp p n d) < T ^ (p : ℤ) := by
  obtain ⟨q1, q2⟩ := quot_digits_bounds n d hn hd hbn hbd
  generalize hA : (ndigits n : ℤ) = A at *
  generalize hB : (ndigits d : ℤ) = B at *
  have key_lo : T ^ ((p:ℤ) - 1) < (n:ℚ) / d / T ^ (A - B - p) := by
    rw [lt_div_iff₀ (Tz_pos _), ← Tz_add, show (p:ℤ) - 1 + (A - B - p) = A - B - 1 by ring]
    exact q1
  have key_hi : (n:ℚ) / d / T ^ (A - B - p) < T ^ ((p:ℤ) + 1) := by
    rw [div_lt_iff₀ (Tz_pos _), ← Tz_add, show (p:ℤ) + 1 + (A - B - p) = A - B + 1 by ring]
    exact q2
  obtain ⟨sd_pos, sval⟩ := scale10_spec n d (A - B - p) hd
  unfold sigExp
  simp only [hA, hB]
  have hsdq : (0:ℚ) < ((scale10 n d (A - B - p)).2 : ℚ) := by exact_mod_cast sd_pos
  -- the model's integer comparison is `10^p ≤ v0` for the candidate's mantissa `v0`
  have hcmp : (scale10 n d (A - B - p)).2 * pow10 p ≤ (scale10 n d (A - B - p)).1 ↔
      T ^ (p:ℤ) ≤ (n:ℚ) / d / T ^ (A - B - p) := by
    rw [← sval, le_div_iff₀ hsdq, zpow_natCast, ← Nat.cast_le (α := ℚ), mul_comm]
    unfold pow10; push_cast; rfl
  split
  · rename_i hge
    rw [Tz_succ, ← div_div]
    have e1 : T ^ (p:ℤ) = T ^ ((p:ℤ) - 1) * 10 := by rw [← Tz_succ]; congr 1; ring
    constructor
    · rw [le_div_iff₀ (by norm_num), ← e1]; exact hcmp.1 hge
    · rw [div_lt_iff₀ (by norm_num), ← Tz_succ]; exact key_hi
  · rename_i hlt
    exact ⟨le_of_lt key_lo, lt_of_not_ge (mt hcmp.2 hlt)⟩

theorem exp_le_of_norm {x y : ℚ} {p e e' : ℤ} (hxy : x ≤ y) (h1 : T ^ (p - 1) ≤ x / T ^ e) (h2 : y / T ^ e' < T ^ p) :
    e ≤ e' := by
  rw [le_div_iff₀ (Tz_pos _), ← Tz_add] at h1
  rw [div_lt_iff₀ (Tz_pos _), ← Tz_add] at h2
  have := Tz_lt_iff.1 (lt_of_le_of_lt (le_trans h1 hxy) h2)
  omega

theorem sigExp_unique (p n d : Nat) (hn : 0 < n) (hd : 0 < d)
    (hbn : n.log2 < LOG2_BOUND) (hbd : d.log2 < LOG2_BOUND) (e : ℤ)
    (h1 : T ^ ((p : ℤ) - 1) ≤ (n : ℚ) / d / T ^ e) (h2 : (n : ℚ) / d / T ^ e < T ^ (p : ℤ)) :
    sigExp p n d = e := by
  obtain ⟨s1, s2⟩ := sigExp_spec_rat p n d hn hd hbn hbd
  exact le_antisymm (exp_le_of_norm (le_refl _) s1 h2) (exp_le_of_norm (le_refl _) h1 s2)

theorem sigExp_spec (p n d : Nat) (hp : 0 < p) (hn : 0 < n) (hd : 0 < d)
    (hbn : n.log2 < LOG2_BOUND) (hbd : d.log2 < LOG2_BOUND) :
    let s := scale10 n d (sigExp p n d)
    0 < s.2 ∧ s.2 * 10 ^ (p - 1) ≤ s.1 ∧ s.1 < s.2 * 10 ^ p := by
  intro s
  obtain ⟨s1, s2⟩ := sigExp_spec_rat p n d hn hd hbn hbd
  obtain ⟨sd_pos, sval⟩ := scale10_spec n d (sigExp p n d) hd
  have hsdq : (0:ℚ) < (s.2 : ℚ) := by exact_mod_cast sd_pos
  rw [← sval] at s1 s2
  refine ⟨sd_pos, ?_, ?_⟩
  · rw [Tz_pred hp, le_div_iff₀ hsdq] at s1
    have : ((s.2 * 10 ^ (p - 1) : ℕ) : ℚ) ≤ (s.1 : ℚ) := by push_cast; rw [mul_comm]; exact s1
    exact_mod_cast this
  · rw [zpow_natCast, div_lt_iff₀ hsdq] at s2
    have : (s.1 : ℚ) < ((s.2 * 10 ^ p : ℕ) : ℚ) := by push_cast; rw [mul_comm]; exact s2
    exact_mod_cast this

end Demeter.Numerics
