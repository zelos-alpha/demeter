/-
  The functions of Demeter/Actuator.lean on each form of their input, the two status refreshes as maps over the markets, and a run that
  ends normally taken apart (`run_ok`).
-/
import Proofs.Lemmas.CoreLoop
namespace Demeter.Core

/-- `free`, `freeRefused`: not a `write_func`; `closed`: refused because the market is closed; `refused`: by the market itself -/
theorem doOp_cases {motive : List Ev × St → Prop} (ts : Int) (h : Hook) (op : OpSpec) (st : St)
    (absent : st.ms[op.m]? = none → motive ([], st))
    (free : motive ([.opFree ts h op.m op.tag true],
      { st with cur := st.cur ++ [⟨op.tag, ts, op.m⟩], all := st.all ++ [⟨op.tag, ts, op.m⟩] }))
    (freeRefused : motive ([.opFree ts h op.m op.tag false], st))
    (closed : ∀ s, st.ms[op.m]? = some s → s.isOpen = false → motive ([.opRej ts h op.m op.tag true], st))
    (refused : ∀ s, st.ms[op.m]? = some s → s.isOpen = true → motive ([.opRej ts h op.m op.tag false], st))
    (accepted : ∀ s, st.ms[op.m]? = some s → s.isOpen = true →
      motive ([.opOk ts h op.m op.tag],
        { st with ms := st.ms.set op.m { s with hasUpdate := true },
                  cur := st.cur ++ [⟨op.tag, ts, op.m⟩], all := st.all ++ [⟨op.tag, ts, op.m⟩] })) :
    motive (doOp ts h op st) := by
  unfold doOp
  cases hs : st.ms[op.m]? with
  | none => exact absent hs
  | some s =>
    simp only []
    split
    · split
      · exact free
      · exact freeRefused
    · split
      · rename_i hc
        exact closed s hs (by simpa using hc)
      · rename_i hc
        have ho : s.isOpen = true := by simpa using hc
        split
        · exact refused s hs ho
        · exact accepted s hs ho

theorem setAllFrom_eq (cfg : Cfg) (ts : Int) (stage : Nat) : ∀ (i : Nat) (ms : List MarketCfg),
    setAllFrom cfg ts stage i ms =
      ((ms.zipIdx i).map (fun x => setEv cfg ts stage x.2 x.1), ms.map (fun mc => ⟨marketOpen cfg mc ts, false⟩))
  | _, [] => rfl
  | i, mc :: rest => by rw [setAllFrom, setAllFrom_eq cfg ts stage (i + 1) rest]; rfl

theorem setUpdatedFrom_eq (cfg : Cfg) (ts : Int) : ∀ (i : Nat) (ms : List MarketCfg) (ss : List MSt),
    setUpdatedFrom cfg ts i ms ss =
      ((((ms.zip ss).zipIdx i).filter (·.1.2.hasUpdate)).map (fun x => setEv cfg ts 2 x.2 x.1.1),
       (ms.zip ss).map (fun x => if x.2.hasUpdate then ⟨marketOpen cfg x.1 ts, false⟩ else x.2) ++ ss.drop ms.length)
  | _, [], ss => by unfold setUpdatedFrom; rfl
  | _, _ :: _, [] => by unfold setUpdatedFrom; rfl
  | i, mc :: rest, s :: ss => by
    rw [setUpdatedFrom, setUpdatedFrom_eq cfg ts (i + 1) rest ss]
    cases h : s.hasUpdate <;> simp [h, List.zipIdx_cons]

theorem runNotify_none {sc : Script} {ts : Int} {row i : Nat} {st : St} (h : st.cur[i]? = none) :
    ∀ fuel, runNotify sc ts row fuel i st = ([], st, true)
  | 0 => by rw [runNotify, h]; rfl
  | _ + 1 => by rw [runNotify, h]

theorem runNotify_some {sc : Script} {ts : Int} {row fuel i : Nat} {st : St} {a : Act} (h : st.cur[i]? = some a) :
    runNotify sc ts row (fuel + 1) i st =
      (.notify ts a.tag a.stamp a.m :: (runOps ts .notify (sc.notify row a.tag) st).1 ++
          (runNotify sc ts row fuel (i + 1) (runOps ts .notify (sc.notify row a.tag) st).2).1,
        (runNotify sc ts row fuel (i + 1) (runOps ts .notify (sc.notify row a.tag) st).2).2.1,
        (runNotify sc ts row fuel (i + 1) (runOps ts .notify (sc.notify row a.tag) st).2).2.2) := by
  rw [runNotify, h]

theorem runBars_cons (cfg : Cfg) (sc : Script) (row : Nat) (ts : Int) (bars : List Int) (st : St) :
    runBars cfg sc row (ts :: bars) st = Res.andThen (barStep cfg sc row ts st) (runBars cfg sc (row + 1) bars) := by
  rw [runBars_eq_barLoop, barLoop]

def priceRow (cfg : Cfg) (ts : Int) : Option Int := frameSrc cfg.resample cfg.Δ cfg.priceIdx ts

theorem priceAt_some {cfg : Cfg} {ts : Int} {price : Option Int} (h : priceAt cfg ts = some price) : price = priceRow cfg ts := by
  unfold priceAt at h
  split at h
  · cases h; rfl
  · cases h

theorem barStep_keyError {cfg : Cfg} {sc : Script} {row : Nat} {ts : Int} {st : St} (hp : priceAt cfg ts = none) :
    barStep cfg sc row ts st = ([.raised .keyError], st, some .keyError) := by
  rw [barStep, hp]

theorem barStep_raised {cfg : Cfg} {sc : Script} {row : Nat} {ts : Int} {st : St} {price : Option Int} {e : PyErr}
    (hp : priceAt cfg ts = some price) (ht : (barParts cfg sc row ts st price).tp.2.2 = some e) :
    barStep cfg sc row ts st =
      ((barParts cfg sc row ts st price).s1.1 ++ .before ts row price :: (barParts cfg sc row ts st price).b.1 ++
          (barParts cfg sc row ts st price).f.1 ++ [.raised e],
        { (barParts cfg sc row ts st price).f.2 with trigs := (barParts cfg sc row ts st price).tp.2.1 }, some e) := by
  rw [barStep, hp]
  simp only [ht]

theorem barStep_done {cfg : Cfg} {sc : Script} {row : Nat} {ts : Int} {st : St} {price : Option Int}
    (hp : priceAt cfg ts = some price) (ht : (barParts cfg sc row ts st price).tp.2.2 = none)
    (hn : (barParts cfg sc row ts st price).nt.2.2 = true) :
    barStep cfg sc row ts st = ((barParts cfg sc row ts st price).trace row ts, (barParts cfg sc row ts st price).final ts, none) := by
  rw [barStep, hp]
  simp only [ht, hn, if_true]

/-- the `notify` loop was still running when the model stopped following it -/
theorem barStep_diverges {cfg : Cfg} {sc : Script} {row : Nat} {ts : Int} {st : St} {price : Option Int}
    (hp : priceAt cfg ts = some price) (ht : (barParts cfg sc row ts st price).tp.2.2 = none)
    (hn : (barParts cfg sc row ts st price).nt.2.2 = false) :
    barStep cfg sc row ts st =
      ((barParts cfg sc row ts st price).trace row ts ++ [.raised .diverges], (barParts cfg sc row ts st price).final ts, some .diverges) := by
  rw [barStep, hp]
  simp only [ht, hn, Bool.false_eq_true, if_false]

theorem barStep_ok {cfg : Cfg} {sc : Script} {row : Nat} {ts : Int} {st : St}
    (h : (barStep cfg sc row ts st).2.2 = none) :
    ∃ price, priceAt cfg ts = some price ∧ (barParts cfg sc row ts st price).tp.2.2 = none ∧
      (barParts cfg sc row ts st price).nt.2.2 = true ∧
      barStep cfg sc row ts st = ((barParts cfg sc row ts st price).trace row ts, (barParts cfg sc row ts st price).final ts, none) := by
  cases hp : priceAt cfg ts with
  | none => rw [barStep_keyError hp] at h; cases h
  | some price =>
    cases ht : (barParts cfg sc row ts st price).tp.2.2 with
    | some e => rw [barStep_raised hp ht] at h; cases h
    | none =>
      cases hn : (barParts cfg sc row ts st price).nt.2.2 with
      | false => rw [barStep_diverges hp ht hn] at h; cases h
      | true => exact ⟨price, rfl, ht, hn, barStep_done hp ht hn⟩

theorem runBars_ind {cfg : Cfg} {sc : Script} {motive : List Int → Nat → St → List Ev × St × Option PyErr → Prop}
    (nil : ∀ row st, motive [] row st ([], st, none))
    (cons : ∀ ts bars row st price, priceAt cfg ts = some price → (barParts cfg sc row ts st price).tp.2.2 = none →
      (barParts cfg sc row ts st price).nt.2.2 = true →
      (runBars cfg sc (row + 1) bars ((barParts cfg sc row ts st price).final ts)).2.2 = none →
      motive bars (row + 1) ((barParts cfg sc row ts st price).final ts)
        (runBars cfg sc (row + 1) bars ((barParts cfg sc row ts st price).final ts)) →
      motive (ts :: bars) row st
        ((barParts cfg sc row ts st price).trace row ts ++ (runBars cfg sc (row + 1) bars ((barParts cfg sc row ts st price).final ts)).1,
         (runBars cfg sc (row + 1) bars ((barParts cfg sc row ts st price).final ts)).2.1, none)) :
    ∀ (bars : List Int) (row : Nat) (st : St), (runBars cfg sc row bars st).2.2 = none → motive bars row st (runBars cfg sc row bars st)
  | [], row, st, _ => nil row st
  | ts :: bars, row, st, h => by
    rw [runBars_cons] at h ⊢
    obtain ⟨h1, h2, _⟩ := andThen_none h
    obtain ⟨price, hp, ht, hn, hstep⟩ := barStep_ok h1
    rw [hstep] at h2 ⊢
    rw [andThen_mk_none, h2]
    exact cons ts bars row st price hp ht hn h2 (runBars_ind nil cons bars (row + 1) _ h2)

/-- the checks in front of `initialize()`: `_check_backtest`, a first bar, a price row for it: the first bar and the rest, or the exception -/
def startOf (cfg : Cfg) : Except PyErr (Int × List Int) :=
  match checkBacktest cfg with
  | some e => .error e
  | none =>
    match barIndex cfg with
    | [] => .error .indexError
    | ts0 :: bars =>
      match priceAt cfg ts0 with
      | none => .error .keyError
      | some _ => .ok (ts0, bars)

theorem startOf_ok_iff {cfg : Cfg} {ts0 : Int} {bars : List Int} :
    startOf cfg = .ok (ts0, bars) ↔ checkBacktest cfg = none ∧ barIndex cfg = ts0 :: bars ∧ (priceAt cfg ts0).isSome := by
  unfold startOf
  cases checkBacktest cfg with
  | some e => simp
  | none =>
    cases barIndex cfg with
    | nil => simp
    | cons t bs =>
      simp only []
      cases hp : priceAt cfg t with
      | none =>
        simp only [reduceCtorEq, true_and, false_iff]
        rintro ⟨h, hs⟩
        cases h
        rw [hp] at hs; cases hs
      | some p =>
        simp only [Except.ok.injEq, Prod.mk.injEq, List.cons.injEq, true_and]
        constructor
        · rintro ⟨rfl, rfl⟩; exact ⟨⟨rfl, rfl⟩, by rw [hp]; rfl⟩
        · rintro ⟨⟨rfl, rfl⟩, _⟩; exact ⟨rfl, rfl⟩

/-- `Actuator.run` up to and including the bars `ts0 :: pre`: calls, state, the exception that ended it if any -/
def runPrefix (cfg : Cfg) (trigs : List Trig) (sc : Script) (ts0 : Int) (pre : List Int) : List Ev × St × Option PyErr :=
  let s0 := setAllFrom cfg ts0 0 0 cfg.markets
  let i := runOps ts0 .init sc.init ⟨s0.2, trigs, [], [], []⟩
  let r := runBars cfg sc 0 (ts0 :: pre) i.2
  (s0.1 ++ .initialize ts0 :: i.1 ++ r.1, r.2.1, r.2.2)

theorem run_eq (cfg : Cfg) (trigs : List Trig) (sc : Script) :
    run cfg trigs sc =
      match startOf cfg with
      | .error e => ⟨[.raised e], [], [], trigs, some e⟩
      | .ok (ts0, bars) =>
        ⟨(runPrefix cfg trigs sc ts0 bars).1 ++ (match (runPrefix cfg trigs sc ts0 bars).2.2 with
            | none => [Ev.finalize ((ts0 :: bars).getLast?.getD ts0)] | some _ => []),
          (runPrefix cfg trigs sc ts0 bars).2.1.rows, (runPrefix cfg trigs sc ts0 bars).2.1.all,
          (runPrefix cfg trigs sc ts0 bars).2.1.trigs, (runPrefix cfg trigs sc ts0 bars).2.2⟩ := by
  unfold run startOf
  cases checkBacktest cfg with
  | some e => rfl
  | none =>
    cases barIndex cfg with
    | nil => rfl
    | cons ts0 bars =>
      simp only []
      cases priceAt cfg ts0 <;> rfl

theorem run_of_start {cfg : Cfg} {trigs : List Trig} {sc : Script} {ts0 : Int} {bars : List Int} (hs : startOf cfg = .ok (ts0, bars)) :
    run cfg trigs sc =
      ⟨(runPrefix cfg trigs sc ts0 bars).1 ++ (match (runPrefix cfg trigs sc ts0 bars).2.2 with
          | none => [Ev.finalize ((ts0 :: bars).getLast?.getD ts0)] | some _ => []),
        (runPrefix cfg trigs sc ts0 bars).2.1.rows, (runPrefix cfg trigs sc ts0 bars).2.1.all,
        (runPrefix cfg trigs sc ts0 bars).2.1.trigs, (runPrefix cfg trigs sc ts0 bars).2.2⟩ := by
  rw [run_eq, hs]

def initSt (cfg : Cfg) (trigs : List Trig) (ts0 : Int) : St := ⟨(setAllFrom cfg ts0 0 0 cfg.markets).2, trigs, [], [], []⟩

def initRun (cfg : Cfg) (trigs : List Trig) (sc : Script) (ts0 : Int) : List Ev × St :=
  runOps ts0 .init sc.init (initSt cfg trigs ts0)

def initTrace (cfg : Cfg) (trigs : List Trig) (sc : Script) (ts0 : Int) : List Ev :=
  (setAllFrom cfg ts0 0 0 cfg.markets).1 ++ Ev.initialize ts0 :: (initRun cfg trigs sc ts0).1

def loopRun (cfg : Cfg) (trigs : List Trig) (sc : Script) (ts0 : Int) (bars : List Int) : List Ev × St × Option PyErr :=
  runBars cfg sc 0 (ts0 :: bars) (initRun cfg trigs sc ts0).2

theorem runPrefix_eq (cfg : Cfg) (trigs : List Trig) (sc : Script) (ts0 : Int) (bars : List Int) :
    runPrefix cfg trigs sc ts0 bars =
      Res.andThen (initTrace cfg trigs sc ts0, (initRun cfg trigs sc ts0).2, none) (runBars cfg sc 0 (ts0 :: bars)) := by
  simp only [runPrefix, initTrace, initRun, initSt, andThen_mk_none, List.append_assoc, List.cons_append]

theorem run_ok {cfg : Cfg} {trigs : List Trig} {sc : Script} (h : (run cfg trigs sc).err = none) :
    ∃ ts0 bars, barIndex cfg = ts0 :: bars ∧ checkBacktest cfg = none ∧ (priceAt cfg ts0).isSome ∧
      (loopRun cfg trigs sc ts0 bars).2.2 = none ∧
      (run cfg trigs sc).trace = initTrace cfg trigs sc ts0 ++ (loopRun cfg trigs sc ts0 bars).1 ++ [Ev.finalize ((ts0 :: bars).getLast?.getD ts0)] ∧
      (run cfg trigs sc).rows = (loopRun cfg trigs sc ts0 bars).2.1.rows ∧
      (run cfg trigs sc).actions = (loopRun cfg trigs sc ts0 bars).2.1.all ∧
      (run cfg trigs sc).trigsLeft = (loopRun cfg trigs sc ts0 bars).2.1.trigs := by
  obtain ⟨ts0, bars, hs⟩ : ∃ ts0 bars, startOf cfg = .ok (ts0, bars) := by
    cases hs : startOf cfg with
    | error e => rw [run_eq, hs] at h; cases h
    | ok p => exact ⟨p.1, p.2, rfl⟩
  obtain ⟨hc, hb, hp⟩ := startOf_ok_iff.mp hs
  rw [run_of_start hs] at h ⊢
  simp only [runPrefix_eq, andThen_mk_none] at h ⊢
  have hl : (loopRun cfg trigs sc ts0 bars).2.2 = none := h
  refine ⟨ts0, bars, hb, hc, hp, hl, ?_, rfl, rfl, rfl⟩
  simp only [h]
  rfl

end Demeter.Core
