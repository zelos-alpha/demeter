/-
  The end-of-bar liquidation (`update()` = `_liquidate` → `_do_liquidate`).  Every `raise` of `_do_liquidate`
  precedes its first mutation and nothing after the first mutation can raise, so a call is atomic: it either
  appends one `LiquidationAction`, or raises and leaves everything but caches as it was.  `update()` is a
  sequence of such steps; cache coherence is kept throughout.
-/
import Proofs.Lemmas.AaveWrites
namespace Demeter.Aave
open Demeter M

variable {cx : ACtx} {env : Env}

/-- no index of the bar is zero: `__sub_borrow_amount` divides by one -/
def EnvPos (env : Env) : Prop := ∀ k st, env.statusOf k = .ok st → st.liqIdx ≠ 0 ∧ st.varIdx ≠ 0

theorem liqCommit_eq (ctok : String) (info : SupplyInfo) (nb : Rat) {dtok : String} (debtLiq : Rat) {s : St}
    {binfo : BorrowInfo} {dst : TokStatus} (hbi : AList.get? s.borrows dtok = some binfo)
    (hdst : env.statusOf dtok = .ok dst) (hnz : dst.varIdx ≠ 0) :
    liqCommit cx env ctok info nb dtok debtLiq s =
      (.ok (subBase cx binfo.base (cx.div debtLiq dst.varIdx)),
       (resetAll (commitSubBorrow dtok binfo (subBase cx binfo.base (cx.div debtLiq dst.varIdx))
         (liqSeize ctok info nb s).2).2).2) := by
  unfold liqCommit
  rw [run_bind]
  simp only [liqSeize, run_modify]
  rw [run_bind, subBorrowAmount_run debtLiq (by exact hbi) hdst hnz]
  simp only [run_bind, resetAll, run_modify, run_pure]

/-- with a zero borrow index `__sub_borrow_amount` raises after the collateral was seized: nothing else is written -/
theorem liqCommit_divZero (ctok : String) (info : SupplyInfo) (nb : Rat) {dtok : String} (debtLiq : Rat) {s : St}
    {binfo : BorrowInfo} {dst : TokStatus} (hbi : AList.get? s.borrows dtok = some binfo)
    (hdst : env.statusOf dtok = .ok dst) (hz : dst.varIdx = 0) :
    liqCommit cx env ctok info nb dtok debtLiq s = (.error .divZero, (liqSeize ctok info nb s).2) := by
  unfold liqCommit
  rw [run_bind]
  simp only [liqSeize, run_modify]
  rw [run_bind, subBorrowAmount_eq, show AList.get? _ dtok = some binfo from hbi, hdst]
  simp only [hz, if_true]

theorem good_liqCommit (hE : EnvOK env) {s : St} (hs : Good cx env s)
    {ctok dtok : String} {info : SupplyInfo} {binfo : BorrowInfo} {cst dst : TokStatus} (hcst : env.statusOf ctok = .ok cst)
    (hdst : env.statusOf dtok = .ok dst) (hnz : dst.varIdx ≠ 0) (hbi : AList.get? s.borrows dtok = some binfo)
    (nb debtLiq : Rat) :
    Good cx env (liqCommit cx env ctok info nb dtok debtLiq s).2 := by
  obtain ⟨gs, gb⟩ := hs
  have hdc : HasData env ctok := hE ctok cst hcst
  have hdd : HasData env dtok := hE dtok dst hdst
  rw [liqCommit_eq ctok info nb debtLiq hbi hdst hnz]
  refine ⟨⟨?_, ?_, CohC.fresh _, CohC.fresh _, CohC.fresh _⟩, ⟨?_, ?_, CohC.fresh _, CohC.fresh _⟩⟩
  · exact AList.nodup_keys_eraseOrSet gs.nd _ _ _
  · exact covers_eraseOrSet gs.cv hdc _ _
  · exact AList.nodup_keys_eraseOrSet gb.nd _ _ _
  · exact covers_eraseOrSet gb.cv hdd _ _

/-- `get_borrow(key).amount if key in _borrows else 0` -/
theorem liqDebtOf_tri (dtok : String) (x : Frame) :
    Tri (At cx env x) (liqDebtOf cx env dtok)
      (fun v s' => At cx env x s' ∧ (v ≠ 0 → AList.contains x.borrows dtok = true)) (At cx env x) := by
  unfold liqDebtOf
  refine Tri.bind_queryPos (fun _ h => ⟨h.sup, h.bor⟩) (fun hasDebt hq => ?_)
  have hq' : AList.contains x.borrows dtok = hasDebt := by cases hq; rfl
  cases hasDebt with
  | true => exact Tri.bind_inv ((reads_getBorrow dtok).at x) (fun b => Tri.pure _ (fun _ h => ⟨h, fun _ => hq'⟩))
  | false => exact Tri.pure _ (fun _ h => ⟨h, fun h0 => absurd rfl h0⟩)

theorem Inv.liqEnabled {I : St → Prop} (ctok : String) (cr : Risk) : Inv I (liqEnabled ctok cr) := by
  unfold Aave.liqEnabled lookupSupply
  split
  · exact Inv.bind (Inv.queryPos _) (fun _ => Inv.pure _)
  · exact Inv.pure _

theorem doLiquidate_tri (hE : EnvOK env) (hP : EnvPos env) (ck dk : Option String) (dv : Rat) (x : Frame) :
    Tri (At cx env x) (doLiquidate cx env ck dk dv)
      (fun _ s' => Good cx env s' ∧ s'.actions.length = x.actions.length + 1) (At cx env x) := by
  unfold doLiquidate
  refine Tri.bind_inv (reads_healthFactor.at x) (fun oldHf => ?_)
  refine Tri.bind_ofRes (fun dtok _ => Tri.bind_ofRes (fun dst hdst => ?_))
  refine Tri.bind_ofRes (fun ctok _ => Tri.bind_ofRes (fun cst hcst => Tri.bind_ofRes (fun cr _ => ?_)))
  refine Tri.bind (liqDebtOf_tri dtok x) (fun varDebt => Tri.of_pure (fun hdebt => ?_))
  refine Tri.bind_inv (Inv.liqEnabled ctok cr) (fun enabled => ?_)
  refine Tri.bind_require (fun _ => Tri.bind_require (fun hvd => ?_))
  unfold lookupSupply
  refine Tri.bind_queryPos (fun _ h => ⟨h.sup, h.bor⟩) (fun info _ => ?_)
  refine Tri.bind_ofRes (fun pd _ => Tri.bind_ofRes (fun pc _ => Tri.bind_ofRes (fun amts _ => ?_)))
  refine Tri.bind_require (fun _ => Tri.bind_ofRes (fun dBase _ => ?_))
  -- from here on nothing raises: the debt entry is there (`varDebt ≠ 0`), the index is not zero
  intro s hs
  have hc : AList.contains s.borrows dtok = true := by rw [hs.bor]; exact hdebt (by simpa using hvd)
  obtain ⟨binfo, hbi⟩ := AList.contains_iff.mp hc
  have hnz := (hP dtok dst hdst).2
  have g4 := good_liqCommit (cx := cx) hE hs.1 (info := info) hcst hdst hnz hbi (subBase cx info.base dBase) amts.2
  have e4 := liqCommit_eq (cx := cx) (env := env) ctok info (subBase cx info.base dBase) amts.2 hbi hdst hnz
  rw [e4] at g4
  rw [run_bind_ok e4]
  obtain ⟨v, s5, e5, g5, f5⟩ := healthFactor_ok g4
  rw [run_bind_ok e5, run_bind, run_queryPos]
  refine ⟨inv_record _ s5 g5, ?_⟩
  show (s5.actions ++ [_]).length = _
  rw [List.length_append, show s5.actions = s.actions from congrArg Frame.actions f5,
    show s.actions = x.actions from congrArg Frame.actions hs.2]
  rfl

theorem inv_doLiquidate (hE : EnvOK env) (hP : EnvPos env) (ck dk : Option String) (dv : Rat) :
    Inv (Good cx env) (doLiquidate cx env ck dk dv) :=
  fun s hs => (doLiquidate_tri hE hP ck dk dv s.frame).snd (fun _ _ h => h.1) (fun _ h => h.1) ⟨hs, rfl⟩

/-- `except AssertionError: pass`: a caught error exit counts as a normal one -/
theorem Tri.catchAssertion {P E : St → Prop} {m : M Unit} {R : Unit → St → Prop} (h : Tri P m R E) :
    Tri P (catchAssertion m) (fun _ s => R () s ∨ E s) E := by
  intro s hs
  have h1 := h s hs
  unfold Aave.catchAssertion
  generalize m s = x at h1 ⊢
  obtain ⟨r, s1⟩ := x
  cases r with
  | ok u => exact Or.inl h1
  | error e =>
    dsimp only
    split
    · exact Or.inr h1
    · exact h1

/-- the two exits of (a part of) `update()` started in a coherent state of frame `x` -/
def LiqOk (cx : ACtx) (env : Env) (x : Frame) (s' : St) : Prop := Good cx env s' ∧ x.actions.length ≤ s'.actions.length
def LiqErr (cx : ACtx) (env : Env) (x : Frame) (s' : St) : Prop :=
  LiqOk cx env x s' ∧ (s'.actions.length = x.actions.length → s'.frame = x)

theorem liqOk_of_frame {x : Frame} {s : St} (h : At cx env x s) : LiqOk cx env x s :=
  ⟨h.1, by rw [← h.2]; exact Nat.le_refl _⟩

theorem liqErr_of_frame {x : Frame} {s : St} (h : At cx env x s) : LiqErr cx env x s :=
  ⟨liqOk_of_frame h, fun _ => h.2⟩

theorem liquidateLoop_tri (hE : EnvOK env) (hP : EnvPos env) : ∀ (fuel : Nat) (done : List String) (hf : XRat) (x : Frame),
    Tri (At cx env x) (liquidateLoop cx env fuel done hf) (fun _ => LiqOk cx env x) (LiqErr cx env x) := by
  intro fuel
  induction fuel with
  | zero => intro done hf x; exact Tri.pure _ (fun _ h => liqOk_of_frame h)
  | succ n ih =>
    intro done hf x
    unfold liquidateLoop
    split
    rotate_left
    · exact Tri.pure _ (fun _ h => liqOk_of_frame h)
    refine Tri.bind (Tri.ofInv (reads_borrowsView.at x) (fun _ h => liqErr_of_frame h)) (fun bv => ?_)
    refine Tri.bind (Tri.ofInv (reads_suppliesView.at x) (fun _ h => liqErr_of_frame h)) (fun sv => ?_)
    dsimp only
    cases hpd : (pickDebt bv done).fst with
    | none => exact Tri.pure _ (fun _ h => liqOk_of_frame h)
    | some d =>
      refine Tri.bind ((doLiquidate_tri hE hP _ _ _ x).catchAssertion.weaken (fun _ h => h) (fun _ _ h => h)
        (fun _ h => liqErr_of_frame h)) (fun _ => ?_)
      -- whether the step recorded a liquidation or was skipped: the loop again, from the frame reached
      have hcont : ∀ y, Tri (At cx env y) (healthFactor cx env >>= fun hf' => liquidateLoop cx env n (done ++ [d]) hf')
          (fun _ => LiqOk cx env y) (LiqErr cx env y) :=
        fun y => Tri.bind (Tri.ofInv (reads_healthFactor.at y) (fun _ h => liqErr_of_frame h)) (fun hf' => ih _ _ y)
      intro s hs
      rcases hs with ⟨g, hl⟩ | h
      · have hl' : s.frame.actions.length = x.actions.length + 1 := hl
        exact (hcont s.frame).weaken (fun _ h => h) (fun _ s' h => ⟨h.1, by have := h.2; omega⟩)
          (fun s' h => ⟨⟨h.1.1, by have := h.1.2; omega⟩, fun hlen => by have := h.1.2; omega⟩) s ⟨g, rfl⟩
      · exact hcont x s h

theorem liquidate_post (hE : EnvOK env) (hP : EnvPos env) {s : St} (hs : Good cx env s) :
    Good cx env (liquidate cx env s).2 ∧ s.actions.length ≤ (liquidate cx env s).2.actions.length ∧
      (∀ e, (liquidate cx env s).1 = .error e → (liquidate cx env s).2.actions.length = s.actions.length →
        (liquidate cx env s).2.frame = s.frame) := by
  have h : Tri (At cx env s.frame) (liquidate cx env) (fun _ => LiqOk cx env s.frame) (LiqErr cx env s.frame) := by
    unfold liquidate guardOpen
    refine Tri.bind (Tri.ofInv (Inv.require _ _) (fun _ h => liqErr_of_frame h)) (fun _ => ?_)
    refine Tri.bind (Tri.ofInv (reads_healthFactor.at s.frame) (fun _ h => liqErr_of_frame h)) (fun hf => ?_)
    refine Tri.bind (Tri.ofInv (Inv.queryPos _) (fun _ h => liqErr_of_frame h)) (fun k => ?_)
    refine Tri.bind (liquidateLoop_tri hE hP _ _ _ _) (fun _ => ?_)
    exact Tri.modify _ (fun s' h => ⟨inv_setUpdated s' h.1, h.2⟩)
  rcases h.cases ⟨hs, rfl⟩ with ⟨_, s', hm, h1⟩ | ⟨e, s', hm, h1⟩ <;> rw [hm]
  · exact ⟨h1.1, h1.2, fun e he => by cases he⟩
  · exact ⟨h1.1.1, h1.1.2, fun _ _ hl => h1.2 hl⟩

theorem inv_liquidate (hE : EnvOK env) (hP : EnvPos env) : Inv (Good cx env) (liquidate cx env) :=
  fun _ hs => (liquidate_post hE hP hs).1

end Demeter.Aave
