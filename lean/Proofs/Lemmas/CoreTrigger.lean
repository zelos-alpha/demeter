/-
  Lemmas about Demeter.Trigger: the skip loop of the period triggers, the lattice invariant
  of a due time, one trigger through the bar loop (`soloFires`), and the reduction of a list of triggers to
  independent single triggers (`trigRun_solo`).
-/
import Proofs.Lemmas.CoreAdvance
import Mathlib.Tactic.Ring
namespace Demeter.Core

theorem getElem?_append_mid {α : Type} (done : List α) (t : α) (rest : List α) : (done ++ t :: rest)[done.length]? = some t := by
  simp

theorem set_append_mid {α : Type} (done : List α) (t t' : α) (rest : List α) :
    (done ++ t :: rest).set done.length t' = (done ++ [t']) ++ rest := by
  induction done with
  | nil => rfl
  | cons a d ih => simp only [List.cons_append, List.length_cons, List.set_cons_succ, ih]

/-- the `while next < now: next += δ` loop lands on the first lattice point `≥ now` -/
theorem advance_spec (δ next now : Int) (hδ : 0 < δ) :
    (∃ m : Nat, advance δ next now = next + m * δ) ∧
    (now ≤ next → advance δ next now = next) ∧
    (next < now → now ≤ advance δ next now ∧ advance δ next now - δ < now) := by
  by_cases h : next < now
  · obtain ⟨⟨m, hm⟩, h1, h2⟩ := advance_spec δ (next + δ) now hδ
    rw [advance_lt hδ h]
    refine ⟨⟨m + 1, by rw [hm]; push_cast; ring⟩, fun h' => by omega, fun _ => ?_⟩
    by_cases hc : next + δ < now
    · exact h2 hc
    · rw [h1 (by omega)]; constructor <;> omega
  · rw [advance_ge (by omega)]
    exact ⟨⟨0, by simp⟩, fun _ => rfl, fun h' => absurd h' h⟩
termination_by (now - next).toNat
decreasing_by omega

def OnLat (δ base x : Int) : Prop := ∃ k : Nat, x = base + ((k : Int) + 1) * δ

/-- what is known about a due time after the bar at `t`: it is a lattice point, and no lattice point lies in `(t, next)` -/
def LatInv (base t δ next : Int) : Prop :=
  0 < δ ∧ OnLat δ base next ∧ (next = base + δ ∨ next - δ ≤ t)

/-- two points of a lattice of step `δ` that are less than `δ` apart are the same point -/
theorem lat_unique {δ a b : Int} (hδ : 0 < δ) (h1 : a * δ < b * δ + δ) (h2 : b * δ < a * δ + δ) : a = b := by
  have e : ∀ c : Int, c * δ + δ = (c + 1) * δ := fun c => by ring
  have := Int.lt_of_mul_lt_mul_right (e b ▸ h1) (le_of_lt hδ)
  have := Int.lt_of_mul_lt_mul_right (e a ▸ h2) (le_of_lt hδ)
  omega

theorem advance_first {base t δ next now : Int} (hinv : LatInv base t δ next) (ht : t < now) :
    OnLat δ base (advance δ next now) ∧ now ≤ advance δ next now ∧
      (advance δ next now = base + δ ∨ advance δ next now - δ < now) := by
  obtain ⟨hδ, ⟨j, hj⟩, hgap⟩ := hinv
  obtain ⟨⟨m, hm⟩, h1, h2⟩ := advance_spec δ next now hδ
  refine ⟨⟨j + m, by rw [hm, hj]; push_cast; ring⟩, ?_⟩
  by_cases hc : now ≤ next
  · rw [h1 hc]
    exact ⟨hc, hgap.imp_right (by omega)⟩
  · obtain ⟨h3, h4⟩ := h2 (by omega)
    exact ⟨h3, .inr h4⟩

theorem stepOne_spec {base t δ next now : Int} (hinv : LatInv base t δ next) (ht : t < now) :
    ((stepOne now δ next).1 = true ↔ OnLat δ base now) ∧ LatInv base now δ (stepOne now δ next).2 := by
  obtain ⟨⟨j, hj⟩, hge, hfirst⟩ := advance_first hinv ht
  have hδ := hinv.1
  unfold stepOne
  by_cases hr : advance δ next now = now
  · simp only [hr, if_true]
    rw [hr] at hj
    exact ⟨iff_of_true trivial ⟨j, hj⟩, hδ, ⟨j + 1, by rw [hj]; push_cast; ring⟩, Or.inr (by omega)⟩
  · simp only [hr, if_false]
    refine ⟨iff_of_false (by simp) ?_, hδ, ⟨j, hj⟩, hfirst.imp_right (by omega)⟩
    -- the new due time is the first lattice point after `now`: were `now` one too, less than `δ` below it, it would be that point
    rintro ⟨k, hk⟩
    have hpos : 0 < ((k : Int) + 1) * δ := Int.mul_pos (by omega) hδ
    rw [hj, hk] at hge hfirst hr
    have := lat_unique hδ (a := (k : Int) + 1) (b := (j : Int) + 1) (by omega) (by omega)
    rw [this] at hr
    exact hr rfl

theorem stepAll_spec {base t now : Int} (ht : t < now) :
    ∀ {δs ns : List Int}, List.Forall₂ (LatInv base t) δs ns →
      ((stepAll now δs ns).1 = true ↔ ∃ δ ∈ δs, OnLat δ base now) ∧
      List.Forall₂ (LatInv base now) δs (stepAll now δs ns).2
  | [], [], _ => by simp [stepAll]
  | δ :: δs, n :: ns, h => by
    cases h with
    | cons h1 h2 =>
      obtain ⟨a1, a2⟩ := stepOne_spec h1 ht
      obtain ⟨b1, b2⟩ := stepAll_spec ht h2
      simp only [stepAll, Bool.or_eq_true, List.mem_cons, exists_eq_or_imp]
      exact ⟨by rw [a1, b1], List.Forall₂.cons a2 b2⟩

theorem onLat_iff {δ base x : Int} (hδ : 0 < δ) : onLat δ base x = true ↔ OnLat δ base x := by
  unfold onLat OnLat
  simp only [Bool.and_eq_true, decide_eq_true_eq, beq_iff_eq]
  constructor
  · rintro ⟨⟨_, hm⟩, hge⟩
    obtain ⟨c, hc⟩ := Int.dvd_of_emod_eq_zero hm
    have hc1 : 1 ≤ c := by
      by_contra hcc
      have : δ * c ≤ δ * 0 := Int.mul_le_mul_of_nonneg_left (by omega) (le_of_lt hδ)
      omega
    refine ⟨(c - 1).toNat, ?_⟩
    have : (((c - 1).toNat : Nat) : Int) = c - 1 := Int.toNat_of_nonneg (by omega)
    rw [this]
    have : (c - 1 + 1) * δ = δ * c := by ring
    omega
  · rintro ⟨k, hk⟩
    have e : x - base = δ * ((k : Int) + 1) := by rw [hk]; ring
    refine ⟨⟨hδ, ?_⟩, ?_⟩
    · rw [e]; exact Int.mul_emod_right _ _
    · rw [e]
      have : δ * 1 ≤ δ * ((k : Int) + 1) := Int.mul_le_mul_of_nonneg_left (by omega) (le_of_lt hδ)
      omega

/-- one trigger through the bar loop: the bars on which its action is called (evaluation, then retirement) -/
def soloFires : List Int → TrigKind → List Int
  | [], _ => []
  | t :: bars, k =>
    (if (whenT t k).1 then [t] else []) ++ (if outOfDate t (whenT t k).2 then [] else soloFires bars (whenT t k).2)

/-- the period classes and the base class never retire: only the four dated classes are cases -/
theorem out_sound {k : TrigKind} {t t' : Int} (h : outOfDate t k = true) (ht : t < t') : (whenT t' k).1 = false := by
  cases k with
  | atTime s =>
    simp only [outOfDate, decide_eq_true_eq] at h
    simp only [whenT, beq_eq_false_iff_ne, ne_eq]
    omega
  | atTimes ss =>
    simp only [outOfDate] at h
    simp only [whenT]
    cases hm : listMax ss with
    | none => rw [hm] at h; cases h
    | some m =>
      rw [hm] at h
      simp only [decide_eq_true_eq] at h
      apply Bool.eq_false_iff.mpr
      intro hc
      have := listMax_ge hm (List.contains_iff_mem.mp hc)
      omega
  | range s e =>
    simp only [outOfDate, decide_eq_true_eq] at h
    simp only [whenT, Bool.and_eq_false_imp, decide_eq_true_eq, decide_eq_false_iff_not]
    omega
  | ranges rs =>
    simp only [outOfDate] at h
    simp only [whenT]
    cases hm : listMax (rs.map (·.2)) with
    | none => rw [hm] at h; cases h
    | some m =>
      rw [hm] at h
      simp only [decide_eq_true_eq] at h
      apply Bool.eq_false_iff.mpr
      intro hc
      obtain ⟨r, hr, hr2⟩ := List.any_eq_true.mp hc
      simp only [Bool.and_eq_true, decide_eq_true_eq] at hr2
      have := listMax_ge hm (List.mem_map_of_mem (f := (·.2)) hr)
      omega
  | _ => cases h

theorem latInv_init {δ t0 pend : Int} (hδ : 0 < δ) : LatInv (t0 + pend) t0 δ (t0 + δ + pend) :=
  ⟨hδ, ⟨0, by push_cast; ring⟩, Or.inl (by ring)⟩

/-- no exception can come out of `when` / `is_out_date` of this object -/
def WF (k : TrigKind) : Prop := whenErr k = none ∧ outErr k = none

def firesOf (i : Nat) (fs : List Fire) : List Fire := fs.filter (fun f => f.id == i)
def findTrig (i : Nat) (trigs : List Trig) : Option Trig := trigs.find? (fun t => t.id == i)
def stepTrig (now : Int) (t : Trig) : Trig := { t with k := (whenT now t.k).2 }
def fireOf (now : Int) (t : Trig) : Option Fire := if (whenT now t.k).1 then some ⟨now, t.id, t.kw⟩ else none

/-- evaluating `when` writes `_next_match` / `_next_matches` only: nothing the two exceptions or `is_out_date` read, and what `reset()` clears -/
theorem whenErr_step (now : Int) (k : TrigKind) : whenErr (whenT now k).2 = whenErr k := by
  cases k with
  | period δ imm pend next => cases next <;> rfl
  | periods δs imm pend nexts => cases nexts <;> cases δs <;> rfl
  | _ => rfl

theorem outErr_step (now : Int) (k : TrigKind) : outErr (whenT now k).2 = outErr k := by
  cases k with
  | period δ imm pend next => cases next <;> rfl
  | periods δs imm pend nexts => cases nexts <;> rfl
  | _ => rfl

theorem outOfDate_step (now t : Int) (k : TrigKind) : outOfDate now (whenT t k).2 = outOfDate now k := by
  cases k with
  | period δ imm pend next => cases next <;> rfl
  | periods δs imm pend nexts => cases nexts <;> rfl
  | _ => rfl

theorem whenT_reset (now : Int) (k : TrigKind) : (whenT now k).2.reset = k.reset := by
  cases k with
  | period δ imm pend next => cases next <;> rfl
  | periods δs imm pend nexts => cases nexts <;> rfl
  | _ => rfl

theorem WF_step (now : Int) {k : TrigKind} (h : WF k) : WF (whenT now k).2 :=
  ⟨by rw [whenErr_step]; exact h.1, by rw [outErr_step]; exact h.2⟩

theorem fireLoop_cons_err {now : Int} {t : Trig} {e : PyErr} (hw : whenErr t.k = some e) (l : List Trig) :
    fireLoop now (t :: l) = ([], t :: l, some e) := by
  simp only [fireLoop, hw]

theorem fireLoop_cons {now : Int} {t : Trig} (hw : whenErr t.k = none) (l : List Trig) :
    fireLoop now (t :: l) = ((if (whenT now t.k).1 then [⟨now, t.id, t.kw⟩] else []) ++ (fireLoop now l).1,
      { t with k := (whenT now t.k).2 } :: (fireLoop now l).2.1, (fireLoop now l).2.2) := by
  simp only [fireLoop, hw]

theorem fireLoop_ok (now : Int) : ∀ trigs : List Trig, (∀ t ∈ trigs, whenErr t.k = none) →
    fireLoop now trigs = (trigs.filterMap (fireOf now), trigs.map (stepTrig now), none)
  | [], _ => rfl
  | t :: rest, h => by
    have ht := h t (List.mem_cons_self ..)
    have ih := fireLoop_ok now rest (fun x hx => h x (List.mem_cons_of_mem _ hx))
    simp only [fireLoop, ht, ih, List.filterMap_cons, List.map_cons, fireOf, stepTrig]
    by_cases hb : (whenT now t.k).1 = true <;> simp [hb]

theorem retire_ok (now : Int) : ∀ trigs : List Trig, (∀ t ∈ trigs, WF t.k) →
    retire now trigs = (trigs.filter (fun t => !outOfDate now t.k), none)
  | [], _ => rfl
  | t :: rest, h => by
    have ht := (h t (List.mem_cons_self ..)).2
    have ih := retire_ok now rest (fun x hx => h x (List.mem_cons_of_mem _ hx))
    simp only [retire, ht, ih, List.filter_cons]
    by_cases hb : outOfDate now t.k = true <;> simp [hb]

def phaseTrigs (now : Int) (trigs : List Trig) : List Trig :=
  (trigs.map (stepTrig now)).filter (fun t => !outOfDate now t.k)

theorem WF_map_step (now : Int) {trigs : List Trig} (h : ∀ t ∈ trigs, WF t.k) :
    ∀ t ∈ trigs.map (stepTrig now), WF t.k := by
  intro t ht
  obtain ⟨x, hx, rfl⟩ := List.mem_map.mp ht
  exact WF_step now (h x hx)

theorem trigPhase_ok (now : Int) (trigs : List Trig) (h : ∀ t ∈ trigs, WF t.k) :
    trigPhase now trigs = (trigs.filterMap (fireOf now), phaseTrigs now trigs, none) := by
  simp only [trigPhase, fireLoop_ok now trigs (fun t ht => (h t ht).1), retire_ok now _ (WF_map_step now h), phaseTrigs]

theorem WF_phase (now : Int) {trigs : List Trig} (h : ∀ t ∈ trigs, WF t.k) :
    ∀ t ∈ phaseTrigs now trigs, WF t.k := by
  intro t ht
  exact WF_map_step now h t (List.mem_filter.mp ht).1

theorem ids_phase (now : Int) (trigs : List Trig) :
    ((phaseTrigs now trigs).map (·.id)).Sublist (trigs.map (·.id)) := by
  have h1 : (trigs.map (stepTrig now)).map (·.id) = trigs.map (·.id) := by
    rw [List.map_map]; rfl
  rw [← h1]
  exact List.Sublist.map _ List.filter_sublist

/-- `f` is `fireOf`, or evaluation followed by retirement -/
theorem filter_id_filterMap {β : Type} (idOf : β → Nat) (f : Trig → Option β) (hid : ∀ t b, f t = some b → idOf b = t.id) (i : Nat) :
    ∀ l : List Trig, (l.map (·.id)).Nodup → (l.filterMap f).filter (fun b => idOf b == i) = ((findTrig i l).bind f).toList
  | [], _ => rfl
  | a :: l, hn => by
    obtain ⟨ha, hn'⟩ := List.nodup_cons.mp hn
    have ih := filter_id_filterMap idOf f hid i l hn'
    have hhead : ∀ b, f a = some b → (idOf b == i) = (a.id == i) := fun b hb => by rw [hid a b hb]
    by_cases hai : a.id = i
    · have hl : findTrig i l = none := List.find?_eq_none.mpr fun x hx hxi =>
        ha (List.mem_map.mpr ⟨x, hx, (beq_iff_eq.mp hxi).trans hai.symm⟩)
      rw [hl] at ih
      have hf : findTrig i (a :: l) = some a := by simp [findTrig, hai]
      rw [hf, List.filterMap_cons, Option.bind_some]
      cases hfa : f a with
      | none => exact ih
      | some b => simp only [List.filter_cons, hhead b hfa, hai, beq_self_eq_true, if_true, ih]; rfl
    · have hf : findTrig i (a :: l) = findTrig i l := by simp [findTrig, hai]
      rw [hf, List.filterMap_cons]
      cases hfa : f a with
      | none => exact ih
      | some b => simp only [List.filter_cons, hhead b hfa, beq_iff_eq, hai, if_false]; exact ih

theorem firesOf_phase (now : Int) (i : Nat) (trigs : List Trig) (hn : (trigs.map (·.id)).Nodup) :
    firesOf i (trigs.filterMap (fireOf now)) =
      match findTrig i trigs with
      | none => []
      | some x => if (whenT now x.k).1 then [⟨now, x.id, x.kw⟩] else [] := by
  rw [firesOf, filter_id_filterMap Fire.id (fireOf now) (fun t b hb => by unfold fireOf at hb; split at hb <;> cases hb; rfl) i trigs hn]
  cases findTrig i trigs with
  | none => rfl
  | some x => simp only [Option.bind_some, fireOf]; split <;> rfl

theorem phaseTrigs_eq (now : Int) (trigs : List Trig) :
    phaseTrigs now trigs = trigs.filterMap fun t => if outOfDate now (whenT now t.k).2 then none else some (stepTrig now t) := by
  unfold phaseTrigs
  induction trigs with
  | nil => rfl
  | cons t l ih =>
    simp only [List.map_cons, List.filter_cons, List.filterMap_cons, ih]
    cases h : outOfDate now (whenT now t.k).2 <;> simp [stepTrig, h]

theorem findTrig_phase (now : Int) (i : Nat) (trigs : List Trig) (hn : (trigs.map (·.id)).Nodup) :
    findTrig i (phaseTrigs now trigs) =
      match findTrig i trigs with
      | none => none
      | some x => if outOfDate now (whenT now x.k).2 then none else some (stepTrig now x) := by
  rw [findTrig, ← List.head?_filter, phaseTrigs_eq,
    filter_id_filterMap Trig.id _ (fun t b hb => by split at hb <;> cases hb; rfl) i trigs hn]
  cases findTrig i trigs with
  | none => rfl
  | some x => simp only [Option.bind_some]; split <;> rfl

theorem trigRun_solo : ∀ (bars : List Int) (trigs : List Trig), (∀ t ∈ trigs, WF t.k) → (trigs.map (·.id)).Nodup →
    (trigRun bars trigs).2.2 = none ∧
    ∀ i, firesOf i (trigRun bars trigs).1 =
      match findTrig i trigs with
      | none => []
      | some x => (soloFires bars x.k).map (fun t => ⟨t, x.id, x.kw⟩)
  | [], trigs, _, _ => by
    refine ⟨rfl, fun i => ?_⟩
    cases findTrig i trigs <;> rfl
  | t :: bars, trigs, hwf, hn => by
    have hph := trigPhase_ok t trigs hwf
    have hn2 : ((phaseTrigs t trigs).map (·.id)).Nodup := List.Nodup.sublist (ids_phase t trigs) hn
    obtain ⟨ih1, ih2⟩ := trigRun_solo bars (phaseTrigs t trigs) (WF_phase t hwf) hn2
    simp only [trigRun, hph]
    refine ⟨ih1, fun i => ?_⟩
    have hsplit : firesOf i (trigs.filterMap (fireOf t) ++ (trigRun bars (phaseTrigs t trigs)).1) =
        firesOf i (trigs.filterMap (fireOf t)) ++ firesOf i (trigRun bars (phaseTrigs t trigs)).1 := by
      simp [firesOf]
    rw [hsplit, ih2 i, firesOf_phase t i trigs hn, findTrig_phase t i trigs hn]
    cases hfi : findTrig i trigs with
    | none => rfl
    | some x =>
      simp only [soloFires]
      by_cases hb : (whenT t x.k).1 = true <;> by_cases ho : outOfDate t (whenT t x.k).2 = true <;>
        simp [hb, ho, stepTrig]

end Demeter.Core
