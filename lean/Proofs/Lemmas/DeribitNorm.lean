/-
  `normalize_order_list` (helper.py; model: `sortSide`, `mergeSide`, `normSide` in Demeter/Deribit.lean): the side
  `check_transaction` matches against is the raw side of the data sorted best price first (stable) with the levels of
  one price merged.  For every raw side (unsorted, duplicate prices) the result is strictly sorted, has the prices of
  the raw side, and under exact arithmetic shows at each price the sum of the raw sizes at that price.
-/
import Proofs.Lemmas.DeribitBook
import Proofs.Lemmas.AListSum
namespace Demeter.Deribit
open Demeter

theorem better_irrefl (asc : Bool) (a : Rat) : better asc a a = false := by
  unfold better; cases asc <;> simp

theorem better_trans {asc : Bool} {a b c : Rat} (h1 : better asc a b = true) (h2 : better asc b c = true) :
    better asc a c = true := by
  unfold better at *
  cases asc <;> simp only [Bool.false_eq_true, if_false, if_true, decide_eq_true_eq] at * <;> linarith

theorem better_tri (asc : Bool) (a b : Rat) : a = b ∨ better asc a b = true ∨ better asc b a = true := by
  unfold better
  rcases lt_trichotomy a b with h | h | h
  · cases asc <;> simp [h]
  · exact Or.inl h
  · cases asc <;> simp [h]

theorem better_ne {asc : Bool} {a b : Rat} (h : better asc a b = true) : a ≠ b := by
  rintro rfl
  rw [better_irrefl] at h
  exact absurd h (by simp)

theorem better_of_ne {asc : Bool} {a b : Rat} (hne : a ≠ b) (h : better asc b a = false) : better asc a b = true :=
  ((better_tri asc a b).resolve_left hne).resolve_right (by rw [h]; simp)

theorem better_asymm {asc : Bool} {a b : Rat} (h : better asc a b = true) : better asc b a = false := by
  unfold better at *
  cases asc <;> simp only [Bool.false_eq_true, if_false, if_true, decide_eq_true_eq, decide_eq_false_iff_not, not_lt] at * <;>
    exact le_of_lt h

theorem not_better_trans {asc : Bool} {y x l : Rat} (h1 : better asc y x = false) (h2 : better asc x l = false) :
    better asc y l = false := by
  unfold better at *
  cases asc <;> simp only [Bool.false_eq_true, if_false, if_true, decide_eq_false_iff_not, not_lt] at * <;> linarith

theorem better_of_not {asc : Bool} {a b c : Rat} (h1 : better asc a b = true) (h2 : better asc c b = false) :
    better asc a c = true := by
  unfold better at *
  cases asc <;> simp only [Bool.false_eq_true, if_false, if_true, decide_eq_true_eq, decide_eq_false_iff_not, not_lt] at * <;>
    linarith

def SortedLe (asc : Bool) (ls : List Level) : Prop := ls.Pairwise (fun a b => better asc b.price a.price = false)
def SortedLt (asc : Bool) (ls : List Level) : Prop := ls.Pairwise (fun a b => better asc a.price b.price = true)

theorem insLevel_perm (asc : Bool) (l : Level) (xs : List Level) : (insLevel asc l xs).Perm (l :: xs) := by
  induction xs with
  | nil => simp [insLevel]
  | cons x xs ih =>
    unfold insLevel
    split
    · exact (List.Perm.cons x ih).trans (List.Perm.swap l x xs)
    · exact List.Perm.refl _

theorem sortSide_perm (asc : Bool) (ls : List Level) : (sortSide asc ls).Perm ls := by
  induction ls with
  | nil => simp [sortSide]
  | cons l ls ih => unfold sortSide; exact (insLevel_perm asc l _).trans (List.Perm.cons l ih)

theorem insLevel_sorted {asc : Bool} {l : Level} {xs : List Level} (h : SortedLe asc xs) :
    SortedLe asc (insLevel asc l xs) := by
  induction xs with
  | nil => simp [insLevel, SortedLe]
  | cons x xs ih =>
    unfold insLevel
    have hx := List.pairwise_cons.mp h
    split
    · rename_i hb
      apply List.pairwise_cons.mpr
      refine ⟨?_, ih hx.2⟩
      intro y hy
      have hy' := (insLevel_perm asc l xs).mem_iff.mp hy
      rcases List.mem_cons.mp hy' with rfl | hy''
      · exact better_asymm hb
      · exact hx.1 y hy''
    · rename_i hb
      have hb' : better asc x.price l.price = false := by simpa using hb
      apply List.pairwise_cons.mpr
      refine ⟨?_, h⟩
      intro y hy
      rcases List.mem_cons.mp hy with rfl | hy'
      · exact hb'
      · exact not_better_trans (hx.1 y hy') hb'

theorem sortSide_sorted (asc : Bool) (ls : List Level) : SortedLe asc (sortSide asc ls) := by
  induction ls with
  | nil => simp [sortSide, SortedLe]
  | cons l ls ih => unfold sortSide; exact insLevel_sorted ih

theorem addSize_price (cx : DCtx) (a b : Level) : (addSize cx a b).price = a.price := by
  unfold addSize; split <;> rfl

theorem addSize_size_exact (a b : Level) : (addSize DCtx.exact a b).size = a.size + b.size := by
  unfold addSize; split <;> simp

theorem sortedLe_addSize {cx : DCtx} {asc : Bool} {cur x : Level} {xs : List Level} (h : SortedLe asc (cur :: x :: xs)) :
    SortedLe asc (addSize cx cur x :: xs) := by
  have h1 := List.pairwise_cons.mp h
  have h2 := List.pairwise_cons.mp h1.2
  apply List.pairwise_cons.mpr
  refine ⟨?_, h2.2⟩
  intro y hy
  rw [addSize_price]
  exact h1.1 y (List.mem_cons_of_mem _ hy)

theorem mergeGo_prices (cx : DCtx) (cur : Level) (xs : List Level) (p : Rat) :
    p ∈ (mergeGo cx cur xs).map (·.price) ↔ p ∈ (cur :: xs).map (·.price) := by
  induction xs generalizing cur with
  | nil => simp [mergeGo]
  | cons x xs ih =>
    unfold mergeGo
    split
    · rename_i heq
      rw [ih]
      simp only [List.map_cons, List.mem_cons, addSize_price]
      constructor
      · rintro (h | h)
        · exact Or.inl h
        · exact Or.inr (Or.inr h)
      · rintro (h | h | h)
        · exact Or.inl h
        · exact Or.inl (h.trans heq.symm)
        · exact Or.inr h
    · simp only [List.map_cons, List.mem_cons]
      rw [ih]
      simp only [List.map_cons, List.mem_cons]

theorem mergeGo_strict {cx : DCtx} {asc : Bool} (xs : List Level) (cur : Level) (h : SortedLe asc (cur :: xs)) :
    SortedLt asc (mergeGo cx cur xs) ∧
    ∀ y ∈ mergeGo cx cur xs, y.price = cur.price ∨ better asc cur.price y.price = true := by
  induction xs generalizing cur with
  | nil => simp [mergeGo, SortedLt]
  | cons x xs ih =>
    unfold mergeGo
    have h1 := List.pairwise_cons.mp h
    split
    · obtain ⟨ha, hb⟩ := ih (addSize cx cur x) (sortedLe_addSize h)
      refine ⟨ha, ?_⟩
      intro y hy
      have := hb y hy
      rwa [addSize_price] at this
    · rename_i hne
      obtain ⟨ha, hb⟩ := ih x h1.2
      have hcx : better asc cur.price x.price = true := better_of_ne hne (h1.1 x List.mem_cons_self)
      have hall : ∀ y ∈ mergeGo cx x xs, better asc cur.price y.price = true := by
        intro y hy
        rcases hb y hy with e | e
        · rw [e]; exact hcx
        · exact better_trans hcx e
      refine ⟨List.pairwise_cons.mpr ⟨hall, ha⟩, ?_⟩
      intro y hy
      rcases List.mem_cons.mp hy with rfl | hy'
      · exact Or.inl rfl
      · exact Or.inr (hall y hy')

theorem mergeGo_nonneg (xs : List Level) (cur : Level) (hc : 0 ≤ cur.size) (hx : ∀ x ∈ xs, 0 ≤ x.size) :
    ∀ y ∈ mergeGo DCtx.exact cur xs, 0 ≤ y.size := by
  induction xs generalizing cur with
  | nil => intro y hy; simp only [mergeGo, List.mem_singleton] at hy; rw [hy]; exact hc
  | cons x xs ih =>
    unfold mergeGo
    have hx0 := hx x List.mem_cons_self
    have hxs : ∀ z ∈ xs, 0 ≤ z.size := fun z hz => hx z (List.mem_cons_of_mem _ hz)
    split
    · exact ih _ (by rw [addSize_size_exact]; linarith) hxs
    · intro y hy
      rcases List.mem_cons.mp hy with rfl | hy'
      · exact hc
      · exact ih x hx0 hxs y hy'

def rawAt (ls : List Level) (p : Rat) : Rat := ((ls.filter (fun l => l.price = p)).map (·.size)).sum

theorem rawAt_cons (l : Level) (ls : List Level) (p : Rat) :
    rawAt (l :: ls) p = (if l.price = p then l.size else 0) + rawAt ls p := by
  by_cases h : l.price = p <;> simp [rawAt, h]

theorem rawAt_eq_zero {ls : List Level} {p : Rat} (h : ∀ z ∈ ls, z.price ≠ p) : rawAt ls p = 0 := by
  induction ls with
  | nil => simp [rawAt]
  | cons l ls ih =>
    rw [rawAt_cons, if_neg (h l List.mem_cons_self), ih (fun z hz => h z (List.mem_cons_of_mem _ hz))]; simp

theorem rawAt_perm {a b : List Level} (h : a.Perm b) (p : Rat) : rawAt a p = rawAt b p := by
  induction h with
  | nil => rfl
  | cons x _ ih => rw [rawAt_cons, rawAt_cons, ih]
  | swap x y l => rw [rawAt_cons, rawAt_cons, rawAt_cons, rawAt_cons]; ring
  | trans _ _ ih1 ih2 => rw [ih1, ih2]

theorem rawAt_nonneg {ls : List Level} (h : ∀ l ∈ ls, 0 ≤ l.size) (p : Rat) : 0 ≤ rawAt ls p :=
  ListSum.nonneg _ _ fun l hl => h l (List.mem_filter.mp hl).1

theorem mergeGo_size {asc : Bool} (xs : List Level) (cur : Level) (h : SortedLe asc (cur :: xs)) :
    ∀ y ∈ mergeGo DCtx.exact cur xs, y.size = rawAt (cur :: xs) y.price := by
  induction xs generalizing cur with
  | nil =>
    intro y hy
    simp only [mergeGo, List.mem_singleton] at hy
    rw [hy, rawAt_cons]; simp [rawAt]
  | cons x xs ih =>
    unfold mergeGo
    have h1 := List.pairwise_cons.mp h
    split
    · rename_i heq
      intro y hy
      rw [ih _ (sortedLe_addSize h) y hy, rawAt_cons, rawAt_cons, rawAt_cons, addSize_price, addSize_size_exact, ← heq]
      split <;> ring
    · rename_i hne
      have hcx : better asc cur.price x.price = true := better_of_ne hne (h1.1 x List.mem_cons_self)
      have h2 := List.pairwise_cons.mp h1.2
      have hworse : ∀ z ∈ x :: xs, z.price ≠ cur.price := by
        intro z hz
        rcases List.mem_cons.mp hz with rfl | hz'
        · exact (better_ne hcx).symm
        · exact (better_ne (better_of_not hcx (h2.1 z hz'))).symm
      intro y hy
      rcases List.mem_cons.mp hy with rfl | hy'
      · rw [rawAt_cons, if_pos rfl, rawAt_eq_zero hworse]; ring
      · have hyp : y.price ∈ (x :: xs).map (·.price) :=
          (mergeGo_prices DCtx.exact x xs y.price).mp (List.mem_map_of_mem (f := (·.price)) hy')
        obtain ⟨z, hz, hzp⟩ := List.mem_map.mp hyp
        have hne' : ¬ cur.price = y.price := fun e => hworse z hz (hzp.trans e.symm)
        rw [ih x h1.2 y hy', rawAt_cons (l := cur), if_neg hne']; ring

theorem normSide_cases (cx : DCtx) (asc : Bool) (ls : List Level) :
    (ls = [] ∧ normSide cx asc ls = []) ∨
      ∃ l rest, (l :: rest).Perm ls ∧ SortedLe asc (l :: rest) ∧ normSide cx asc ls = mergeGo cx l rest := by
  unfold normSide
  have hp := sortSide_perm asc ls
  have hs := sortSide_sorted asc ls
  cases hl : sortSide asc ls with
  | nil => rw [hl] at hp; exact Or.inl ⟨hp.nil_eq.symm, rfl⟩
  | cons l rest => rw [hl] at hp hs; exact Or.inr ⟨l, rest, hp, hs, rfl⟩

theorem normSide_sortedLt (cx : DCtx) (asc : Bool) (ls : List Level) : SortedLt asc (normSide cx asc ls) := by
  rcases normSide_cases cx asc ls with ⟨_, h⟩ | ⟨l, rest, _, hs, h⟩ <;> rw [h]
  · exact List.Pairwise.nil
  · exact (mergeGo_strict rest l hs).1

theorem normSide_prices (cx : DCtx) (asc : Bool) (ls : List Level) (p : Rat) :
    p ∈ (normSide cx asc ls).map (·.price) ↔ p ∈ ls.map (·.price) := by
  rcases normSide_cases cx asc ls with ⟨rfl, h⟩ | ⟨l, rest, hp, _, h⟩
  · rw [h]
  · rw [h, mergeGo_prices]; exact (hp.map _).mem_iff

theorem normSide_mem_price {cx : DCtx} {asc : Bool} {ls : List Level} {l : Level} (h : l ∈ normSide cx asc ls) :
    ∃ l0 ∈ ls, l0.price = l.price :=
  List.mem_map.mp ((normSide_prices cx asc ls l.price).mp (List.mem_map_of_mem (f := (·.price)) h))

theorem normSide_nonneg {asc : Bool} {ls : List Level} (h : ∀ l ∈ ls, 0 ≤ l.size) :
    ∀ y ∈ normSide DCtx.exact asc ls, 0 ≤ y.size := by
  rcases normSide_cases DCtx.exact asc ls with ⟨_, hn⟩ | ⟨l, rest, hp, _, hn⟩ <;> rw [hn]
  · simp
  · exact mergeGo_nonneg rest l (h l (hp.mem_iff.mp List.mem_cons_self))
      (fun x hx => h x (hp.mem_iff.mp (List.mem_cons_of_mem _ hx)))

theorem normSide_size (asc : Bool) (ls : List Level) :
    ∀ y ∈ normSide DCtx.exact asc ls, y.size = rawAt ls y.price := by
  rcases normSide_cases DCtx.exact asc ls with ⟨_, hn⟩ | ⟨l, rest, hp, hs, hn⟩ <;> rw [hn]
  · simp
  · intro y hy
    rw [mergeGo_size rest l hs y hy, rawAt_perm hp]

theorem sortedLt_nodup {asc : Bool} {ls : List Level} (h : SortedLt asc ls) : PricesNodup ls := by
  unfold PricesNodup
  rw [List.nodup_iff_pairwise_ne, List.pairwise_map]
  exact List.Pairwise.imp better_ne h

theorem sortSide_fixed {asc : Bool} {ls : List Level} (h : SortedLt asc ls) : sortSide asc ls = ls := by
  induction ls with
  | nil => rfl
  | cons l ls ih =>
    have h1 := List.pairwise_cons.mp h
    unfold sortSide
    rw [ih h1.2]
    cases ls with
    | nil => rfl
    | cons x xs =>
      unfold insLevel
      rw [better_asymm (h1.1 x List.mem_cons_self)]
      simp

theorem mergeGo_fixed {cx : DCtx} {asc : Bool} (xs : List Level) (cur : Level) (h : SortedLt asc (cur :: xs)) :
    mergeGo cx cur xs = cur :: xs := by
  induction xs generalizing cur with
  | nil => rfl
  | cons x xs ih =>
    have h1 := List.pairwise_cons.mp h
    unfold mergeGo
    rw [if_neg (better_ne (h1.1 x List.mem_cons_self)), ih x h1.2]

theorem normSide_fixed {cx : DCtx} {asc : Bool} {ls : List Level} (h : SortedLt asc ls) : normSide cx asc ls = ls := by
  unfold normSide
  rw [sortSide_fixed h]
  cases ls with
  | nil => rfl
  | cons l rest => simp only [mergeSide]; exact mergeGo_fixed rest l h

theorem sortedLt_of_prices {asc : Bool} {a b : List Level} (hp : a.map (·.price) = b.map (·.price)) (h : SortedLt asc b) :
    SortedLt asc a := by
  have hb : (b.map (·.price)).Pairwise (fun x y => better asc x y = true) := List.pairwise_map.mpr h
  rw [← hp] at hb
  exact List.pairwise_map.mp hb

theorem normSide_newOrderList (cx : DCtx) (asc : Bool) (ls : List Level) (fs : List Fill) :
    normSide cx asc (newOrderList cx (normSide cx asc ls) fs) = newOrderList cx (normSide cx asc ls) fs :=
  normSide_fixed (sortedLt_of_prices (newOrderList_prices cx _ fs) (normSide_sortedLt cx asc ls))

@[simp] theorem normInstr_name (cx : DCtx) (i : Instr) : (normInstr cx i).name = i.name := rfl
@[simp] theorem normInstr_mark (cx : DCtx) (i : Instr) : (normInstr cx i).mark = i.mark := rfl
@[simp] theorem normInstr_asks (cx : DCtx) (i : Instr) : (normInstr cx i).asks = normSide cx true i.asks := rfl
@[simp] theorem normInstr_bids (cx : DCtx) (i : Instr) : (normInstr cx i).bids = normSide cx false i.bids := rfl

end Demeter.Deribit
