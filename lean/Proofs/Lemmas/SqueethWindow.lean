/-
  Which rows `get_twap_price` selects (`Demeter.Squeeth.window`) on data in time order: those stamped within the six minutes up to `now`.
  Free of Mathlib: the causality part (Proofs/C02/Markets.lean) uses it beside Proofs/C14/Window.lean.
-/
import Demeter.Squeeth
namespace Demeter.Squeeth
open Gen

theorem winStart_eq (e : Env) (now : Int) :
    winStart e now = match e.rows.head? with | some r => max r.t (now - 6) | none => now - 6 := by
  unfold winStart
  rw [sqTwapPeriod, sqTwapBack]
  have e6 : now - (((7 : Nat) : Int) - ((1 : Nat) : Int)) = now - 6 := by omega
  rw [e6]
  cases e.rows.head? with
  | none => rfl
  | some r => dsimp only; split <;> omega

/-- when no row is stamped before the first one, the clamp of the window's start to the first row excludes nothing: the window is
    the rows stamped in `[now − 6, now]`, selected by time and not by position -/
theorem window_eq_filter (e : Env) (now : Int) (hmin : ∀ r0, e.rows.head? = some r0 → ∀ r ∈ e.rows, r0.t ≤ r.t) :
    window e now = e.rows.filter (fun r => decide (now - 6 ≤ r.t) && decide (r.t ≤ now)) := by
  unfold window
  apply List.filter_congr
  intro r hr
  rw [winStart_eq]
  cases hh : e.rows.head? with
  | none => rfl
  | some r0 =>
    have hle := hmin r0 hh r hr
    dsimp only
    congr 1
    exact decide_eq_decide.mpr (by omega)

end Demeter.Squeeth
