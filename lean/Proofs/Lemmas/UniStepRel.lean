/-
  A reflexive–transitive relation that holds across the primitive transactions of the Uniswap market model
  (`_add_liquidity_by_tick`, collect, remove, swap, transfers, action records) holds across every operation,
  accepted or rejected, and across every operation list: the graded kit `GStepRel` with everything admitted.
-/
import Proofs.Lemmas.UniStepRelG
namespace Demeter.Uni
open Demeter

structure StepRel (K : Kern) (pool : Pool) (R : State → State → Prop) : Prop where
  refl : ∀ s, R s s
  trans : ∀ {a b c}, R a b → R b c → R a c
  record : ∀ s a, R s (Uni.record s a)
  addRaw : ∀ s a0 a1 lo up sq, R s (addRaw K pool s a0 a1 lo up sq).2
  collect : ∀ s lo up m0 m1 rd tu, R s (collect K pool s lo up m0 m1 rd tu).2
  remove : ∀ s lo up l c sq rd, R s (remove K pool s lo up l c sq rd).2
  swap : ∀ s a f t p log, R s (swap K pool s a f t p log).2
  transferOut : ∀ s lo up, R s (transferOut s lo up).2
  transferIn : ∀ s lo up, R s (transferIn s lo up).2

namespace StepRel
variable {K : Kern} {pool : Pool} {R : State → State → Prop} (H : StepRel K pool R)
include H

theorem toG : GStepRel K pool Allow.all (fun _ => R) :=
  { refl := H.refl
    trans := H.trans
    mono := fun _ h => h
    record := H.record
    addRaw := fun s a0 a1 lo up sq _ => H.addRaw s a0 a1 lo up sq
    collect := H.collect
    remove := fun s lo up l c sq rd _ => H.remove s lo up l c sq rd
    swap := fun s a f t p log _ => H.swap s a f t p log
    transferOut := fun _ => H.transferOut
    transferIn := fun _ => H.transferIn
    px_none := fun _ _ => trivial
    px_buy := fun _ _ _ _ => trivial
    px_sell := fun _ _ _ => trivial }

theorem optSwapFee (s : State) (c : Bool) (a : Rat) (f t : String) : R s (optSwapFee K pool s c a f t).2 :=
  H.toG.maybeSwap (optSwapFee_maybeSwap s c a f t)

theorem swapValue (s : State) (b : Bool) (v p : Rat) : R s (swapValue K pool s b v p).2 :=
  H.toG.maybeSwap (swapValue_maybeSwap s b v p)

theorem step (me : Rat) (s : State) (op : Op) : R s (step K pool me s op).2 :=
  H.toG.step me s op (Op.allowed_all op)

theorem runOps (me : Rat) (ops : List Op) (s : State) : R s (runOps K pool me s ops) :=
  H.toG.runOps me ops s (fun op _ => Op.allowed_all op)

end StepRel
end Demeter.Uni
