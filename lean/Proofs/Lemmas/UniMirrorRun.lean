/-
  The token-order mirror on whole operations and runs: the one-step law `step_mirror` (every operation but
  `add_liquidity_by_value`; caller-chosen sqrt prices mapped through the law's `ms`, caller-chosen ticks negated: `mOpS`), the economic
  run `runE` (the write-only action log stripped before every step) and the run theorem `runE_mirror`.  On a class of operations
  without caller-chosen sqrt prices `mOpS ms = mOp`, so the mirrored list and the theorem are the same (`runE_mirror_of`).
  The invariant carried along a run is that the wallet holds both pool tokens (`wrel_stepRel`).
-/
import Proofs.Lemmas.UniMirror
namespace Demeter.Uni
open Demeter

theorem keys_mirror (ps : List Pos) :
    ((ps.map mPos).filter (fun p => !p.transferred)).map (fun p => (p.lower, p.upper)) =
      ((ps.filter (fun p => !p.transferred)).map (fun p => (p.lower, p.upper))).map (fun k => (-k.2, -k.1)) := by
  rw [filter_live_map_mPos, List.map_map, List.map_map]
  rfl

theorem removeAllLoop_mirror {K K' : Kern} {pool : Pool} {ms : Nat → Nat} (hk : KernMirror K K' pool ms)
    (hne : pool.tok0 ≠ pool.tok1) : ∀ (ks : List (Int × Int)) (s : State), WalletHas pool s.wallet →
    removeAllLoop K' (mPool pool) (ks.map (fun k => (-k.2, -k.1))) (mState s) = mRes (removeAllLoop K pool ks s)
  | [], s, _ => rfl
  | (lo, up) :: ks, s, hw => by
    have hm : remove K' (mPool pool) (mState s) (-up) (-lo) none true none true = _ :=
      remove_mirror hk s lo up none true true none hw hne
    simp only [List.map_cons, removeAllLoop]
    rw [hm]
    have hw1 := ((wrel_stepRel K pool).remove s lo up none true none true).walletHas hw
    cases hr : remove K pool s lo up none true none true with
    | mk out s1 =>
      rw [hr] at hw1
      cases out with
      | error e => rfl
      | ok v => exact removeAllLoop_mirror hk hne ks s1 hw1

def mOpS (ms : Nat → Nat) : Op → Op
  | .addRaw a0 a1 lo up sq => .addRaw a1 a0 (-up) (-lo) (sq.map ms)
  | .addByTick lo up b q sq t trim => .addByTick (-up) (-lo) b q (sq.map ms) (t.map (fun x => -x)) trim
  | .remove lo up l c sq rd => .remove (-up) (-lo) l c (sq.map ms) rd
  | op => mOp op

/-- `add_liquidity_by_value` is treated in `Proofs/C09/ByValue.lean` -/
def Op.mirrorableS : Op → Bool
  | .addByValue .. => false
  | _ => true

theorem step_mirror {K K' : Kern} {pool : Pool} {ms : Nat → Nat} (hk : KernMirror K K' pool ms) (ht : TickErr K pool)
    (hne : pool.tok0 ≠ pool.tok1) (me : Rat) (s : State) (op : Op) (hm : op.mirrorableS = true)
    (hw : WalletHas pool s.wallet) :
    MirrorStep op (step K pool me s op) (step K' (mPool pool) me (mState s) (mOpS ms op)) := by
  cases op with
  | addRaw a0 a1 lo up sq =>
    simp only [step, mOpS]
    rw [addRaw_mirror hk ht s a0 a1 lo up sq hw hne]
    cases addRaw K pool s a0 a1 lo up sq with
    | mk out s1 =>
      cases out with
      | error e => exact ⟨rfl, rfl⟩
      | ok v =>
        obtain ⟨l, u, u0, u1, liq⟩ := v
        refine ⟨?_, rfl⟩
        simp only [mAddRaw, Except.map, mResult, Rat.intCast_neg]
  | addByTick lo up b q sq t trim => exact addByTick_mirror hk ht s lo up b q sq t trim hw hne
  | addByPrice lp up lt ut q b => exact addByPrice_mirror hk ht s lp up lt ut q b hw hne
  | remove lo up l c sq rd => exact Mir.ofEq (remove_mirror hk s lo up l c rd sq hw hne)
  | collect lo up m0 m1 rd tu => exact Mir.ofEq (collect_mirror hk s lo up m0 m1 rd tu hw hne)
  | removeAll =>
    simp only [step, mOpS, mOp, removeAll, mState_positions, keys_mirror]
    exact Mir.ofEq (removeAllLoop_mirror hk hne _ s hw)
  | swap a f t p log =>
    simp only [step, mOpS, mOp]
    rw [swap_mirror hk.cx]
    cases swap K pool s a f t p log with
    | mk out s1 => cases out <;> exact ⟨rfl, rfl⟩
  | buy a p => exact Mir.ofEq (buy_mirror hk.cx pool s a p)
  | sell a p => exact Mir.ofEq (sell_mirror hk.cx pool s a p)
  | evenRebalance p => exact Mir.ofEq (evenRebalance_mirror hk.cx pool s p)
  | addByValue lo up v trim o => cases hm
  | transferOut lo up => exact Mir.ofEq (transferOut_mirror s lo up)
  | transferIn lo up => exact Mir.ofEq (transferIn_mirror s lo up)

theorem mOpS_of_mirrorable (ms : Nat → Nat) (op : Op) (h : op.mirrorable = true) :
    mOpS ms op = mOp op ∧ op.mirrorableS = true := by
  cases op with
  | addRaw a0 a1 lo up sq | addByTick lo up b q sq t trim | remove lo up l c sq rd =>
    cases sq with
    | none => exact ⟨rfl, rfl⟩
    | some x => cases h
  | addByValue lo up v trim o => cases h
  | _ => exact ⟨rfl, rfl⟩

def runE (K : Kern) (pool : Pool) (me : Rat) : State → List Op → List (Except Err (List Rat)) × State
  | s, [] => ([], stripLog s)
  | s, op :: ops =>
    let r := step K pool me (stripLog s) op
    let rest := runE K pool me r.2 ops
    (r.1 :: rest.1, rest.2)

def mOutcomes : List Op → List (Except Err (List Rat)) → List (Except Err (List Rat))
  | op :: ops, r :: rs => r.map (mResult op) :: mOutcomes ops rs
  | _, _ => []

theorem runE_congr (K : Kern) (pool : Pool) (me : Rat) {a b : State} (h : stripLog a = stripLog b) (l : List Op) :
    runE K pool me a l = runE K pool me b l := by
  cases l <;> simp only [runE, h]

theorem runE_mirror {K K' : Kern} {pool : Pool} {ms : Nat → Nat} (hk : KernMirror K K' pool ms) (ht : TickErr K pool)
    (hne : pool.tok0 ≠ pool.tok1) (me : Rat) :
    ∀ (ops : List Op) (s : State), (∀ op ∈ ops, op.mirrorableS = true) → WalletHas pool s.wallet →
      (runE K' (mPool pool) me (mState s) (ops.map (mOpS ms))).1 = mOutcomes ops (runE K pool me s ops).1 ∧
      (runE K' (mPool pool) me (mState s) (ops.map (mOpS ms))).2 = mState (runE K pool me s ops).2
  | [], s, _, _ => ⟨rfl, rfl⟩
  | op :: ops, s, hm, hw => by
    have hs := step_mirror hk ht hne me (stripLog s) op (hm op (List.mem_cons_self ..)) hw
    have hw1 := ((wrel_stepRel K pool).step me (stripLog s) op).walletHas hw
    have hrec := runE_mirror hk ht hne me ops _ (fun o ho => hm o (List.mem_cons_of_mem _ ho)) hw1
    simp only [List.map_cons, runE, stripLog_mState, mOutcomes]
    rw [runE_congr K' (mPool pool) me hs.2, hs.1, hrec.1, hrec.2]
    exact ⟨rfl, rfl⟩

theorem runE_mirror_of {K K' : Kern} {pool : Pool} {ms : Nat → Nat} (hk : KernMirror K K' pool ms)
    (ht : TickErr K pool) (hne : pool.tok0 ≠ pool.tok1) (me : Rat) {P : Op → Prop}
    (hP : ∀ op, P op → mOpS ms op = mOp op ∧ op.mirrorableS = true)
    (ops : List Op) (s : State) (hm : ∀ op ∈ ops, P op) (hw : WalletHas pool s.wallet) :
    (runE K' (mPool pool) me (mState s) (ops.map mOp)).1 = mOutcomes ops (runE K pool me s ops).1 ∧
    (runE K' (mPool pool) me (mState s) (ops.map mOp)).2 = mState (runE K pool me s ops).2 := by
  rw [← List.map_congr_left (fun op h => (hP op (hm op h)).1)]
  exact runE_mirror hk ht hne me ops s (fun op h => (hP op (hm op h)).2) hw

end Demeter.Uni
