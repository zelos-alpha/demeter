/-
  GMX v1: what buying costs and selling pays per share, for every arithmetic context with a bounded relative rounding error.
  The chain from the tokens paid to the GLP credited (and back) is followed rule by rule (`UpTo`: roundings are counted, a
  `quantize(ROUND_DOWN)` and a fee only lower the value), so the same-bar round trip returns at most `a·(1+ε)¹⁷/(1−ε)`.
  Exact arithmetic is the context with `ε = 0`: value per share `⌊aum/10¹²⌋ / supply`, and the round trip returns at most `a`.
-/
import Proofs.Lemmas.GmxV1Spec
namespace Demeter.Gmx
open Demeter Demeter.GmxV1

variable {cx : NumCtx} {ε : Rat}

theorem aumC_nonneg (H : Rnd cx ε) {env : Env} (he : EnvPos env) : 0 ≤ aumC cx env :=
  quantDown0_nonneg (H.nonneg (div_nonneg he.aum (Nat.cast_nonneg _)))

theorem buy_bound_eq {x w S A : Rat} (hw : w ≠ 0) : x * w * S / A / w = x * S / A := by
  rw [div_right_comm, mul_right_comm, mul_div_cancel_right₀ _ hw]

/-- nine roundings on the way from the tokens paid to the GLP credited -/
theorem buyGlp_upTo (H : Rnd cx ε) {env : Env} (he : EnvPos env) {s s' : State} {tok : String} {dec : Nat} {a g : Rat} {an : Bool}
    (h : buyGlp cx env s tok dec a an = (.ok g, s')) :
    ∃ r, env.row? tok = some r ∧ 0 < aumC cx env ∧ UpTo ε 9 (a * (r.price / 10 ^ 30) * env.glpSupply / aumC cx env) g := by
  obtain ⟨ha, mint, fee, br, w, hadd, _, rfl, _⟩ := buyGlp_ok h
  obtain ⟨r, hr, hfee, hne, rfl⟩ := addLiquidity_ok hadd
  obtain ⟨f0, f1⟩ := H.fee he.toEnvNonneg hfee
  have hA : 0 < aumC cx env := lt_of_le_of_ne (aumC_nonneg H he) (Ne.symm hne)
  have hP := he.price r (row_mem hr)
  refine ⟨r, hr, hA, (UpTo.refl ha |> afterFee_upTo H f0 f1 |> usdgC_upTo H dec hP.le |> H.upMul he.glpSupply.le |> H.upDiv hA.le
    |> UpTo.floor |> H.upDiv (by positivity)).bound_eq (buy_bound_eq (by positivity))⟩

theorem sell_bound_eq {g w S A p d : Rat} (hw : w ≠ 0) (hS : S ≠ 0) (hp : p ≠ 0) (hd : d ≠ 0) :
    g * w / S * A / p * d / w / d = g * A / S / p := by
  field_simp

/-- eight roundings upwards on the way from the GLP redeemed to the tokens paid out, and the price's one downwards -/
theorem sellGlp_upTo (H : Rnd cx ε) {env : Env} (he : EnvPos env) {s s' : State} {tok : String} {dec : Nat} {ga out g : Rat}
    (hg : g = if ga = 0 then s.glp else ga) (h : sellGlp cx env s tok dec ga = (.ok out, s')) :
    ∃ r, env.row? tok = some r ∧ UpTo ε 8 (g * aumC cx env / env.glpSupply / (r.price / 10 ^ 30 * (1 - ε))) out := by
  obtain ⟨hg0, _, fee, br, hrem, _⟩ := sellGlp_ok hg h
  obtain ⟨r, hr, _, _, hfee, rfl⟩ := removeLiquidity_ok hrem
  obtain ⟨f0, f1⟩ := H.fee he.toEnvNonneg hfee
  have hp0 : 0 < r.price / 10 ^ 30 := div_pos (he.price r (row_mem hr)) (by positivity)
  have ppos : 0 < r.price / 10 ^ 30 * (1 - ε) := mul_pos hp0 (by linarith [H.e1])
  have plo : r.price / 10 ^ 30 * (1 - ε) ≤ cx.div r.price (Gen.gmxPricePrecision : Rat) := by
    rw [pricePrecision_cast]; exact (H.err _ hp0.le).1
  have hd : (0 : Rat) < 10 ^ dec := by positivity
  unfold adjustDecimals
  refine ⟨r, hr, (UpTo.refl hg0 |> H.upMul (by positivity) |> H.upDiv he.glpSupply.le |> H.upMul (aumC_nonneg H he) |> UpTo.floor
    |> UpTo.div_ge ppos plo |> H.up |> H.upMul hd.le |> H.upDiv (by positivity) |> afterFee_upTo H f0 f1 |> H.upDiv hd.le).bound_eq
    (sell_bound_eq (by positivity) he.glpSupply.ne' ppos.ne' hd.ne')⟩

/-- buying at `κ·S/A` GLP per token and selling at `A/S/κ` tokens per GLP, the one `j` and the other `k` roundings up, the
    selling price once rounded down -/
theorem roundtrip_of_upTo (h0 : 0 ≤ ε) (h1 : ε < 1) {j k : Nat} {a g g' out κ S A : Rat} (hκ : 0 < κ) (hS : 0 < S) (hA : 0 < A)
    (hle : g' ≤ g) (hb : UpTo ε j (a * κ * S / A) g) (hs : UpTo ε k (g' * A / S / (κ * (1 - ε))) out) :
    out ≤ a * ((1 + ε) ^ (j + k) / (1 - ε)) := by
  calc out ≤ g' * (A / S / (κ * (1 - ε)) * (1 + ε) ^ k) := hs.2.trans_eq (by ring)
    _ ≤ a * κ * S / A * (1 + ε) ^ j * (A / S / (κ * (1 - ε)) * (1 + ε) ^ k) :=
        mul_le_mul_of_nonneg_right (le_trans hle hb.2) (by positivity)
    _ = a * ((1 + ε) ^ (j + k) / (1 - ε)) := by rw [pow_add]; field_simp

theorem roundtrip_margin (H : Rnd cx ε) {env : Env} (he : EnvPos env) {s s1 s2 : State} {tok : String} {dec : Nat} {a g g' out : Rat}
    (hbuy : buyGlp cx env s tok dec a = (.ok g, s1)) (hg' : 0 < g') (hle : g' ≤ g)
    (hsell : sellGlp cx env s1 tok dec g' = (.ok out, s2)) : out ≤ a * ((1 + ε) ^ 17 / (1 - ε)) := by
  obtain ⟨r, hr, hA, hb⟩ := buyGlp_upTo H he hbuy
  obtain ⟨r', hr', hs⟩ := sellGlp_upTo (g := g') H he (by rw [if_neg hg'.ne']) hsell
  rw [hr] at hr'; cases hr'
  -- the counts are given: left to the unifier, `?j + ?k =?= 17` is tried before `hb`, `hs` are seen, which is slow
  exact roundtrip_of_upTo (j := 9) (k := 8) H.eps_nonneg (by linarith [H.e1]) (div_pos (he.price r (row_mem hr)) (by positivity))
    he.glpSupply hA hle hb hs

theorem buyGlp_value {env : Env} (he : EnvPos env) {s s' : State} {tok : String} {dec : Nat} {a g : Rat} {an : Bool}
    (h : buyGlp NumCtx.exact env s tok dec a an = (.ok g, s')) :
    ∃ r, env.row? tok = some r ∧ 0 ≤ g ∧ g * (aumU env / env.glpSupply) ≤ a * (r.price / 10 ^ 30) := by
  obtain ⟨r, hr, hA, hb⟩ := buyGlp_upTo rnd_exact he h
  obtain ⟨h0, h1⟩ := hb.exact
  rw [aumC_exact] at hA h1
  have hS := he.glpSupply
  refine ⟨r, hr, h0, ?_⟩
  calc g * (aumU env / env.glpSupply) ≤ a * (r.price / 10 ^ 30) * env.glpSupply / aumU env * (aumU env / env.glpSupply) :=
        mul_le_mul_of_nonneg_right h1 (by positivity)
    _ = _ := by field_simp

theorem sellGlp_value {env : Env} (he : EnvPos env) {s s' : State} {tok : String} {dec : Nat} {ga out g : Rat}
    (hg : g = if ga = 0 then s.glp else ga) (h : sellGlp NumCtx.exact env s tok dec ga = (.ok out, s')) :
    ∃ r, env.row? tok = some r ∧ 0 ≤ out ∧ out * (r.price / 10 ^ 30) ≤ g * (aumU env / env.glpSupply) := by
  obtain ⟨r, hr, hs⟩ := sellGlp_upTo rnd_exact he hg h
  obtain ⟨h0, h1⟩ := hs.exact
  rw [aumC_exact, sub_zero, mul_one] at h1
  have hp0 : 0 < r.price / 10 ^ 30 := div_pos (he.price r (row_mem hr)) (by positivity)
  refine ⟨r, hr, h0, ?_⟩
  rw [le_div_iff₀ hp0] at h1
  exact le_trans h1 (le_of_eq (by ring))

end Demeter.Gmx
