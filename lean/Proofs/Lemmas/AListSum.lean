/-
  Sums over the entries of a dictionary: what `d[k] = v` and `del d[k]` do to `Σ g entry`, and the algebra of
  `(l.map f).sum` over ℚ for any list (`ListSum`).
-/
import Proofs.Lemmas.AList
import Mathlib.Tactic.Ring
import Mathlib.Algebra.Order.Field.Rat
namespace Demeter.ListSum
variable {α : Type}

theorem add (f g : α → Rat) (l : List α) : (l.map fun a => f a + g a).sum = (l.map f).sum + (l.map g).sum := by
  induction l with
  | nil => simp
  | cons a l ih => simp only [List.map_cons, List.sum_cons, ih]; ring

theorem mul_right (f : α → Rat) (c : Rat) (l : List α) : (l.map fun a => f a * c).sum = (l.map f).sum * c := by
  induction l with
  | nil => simp
  | cons a l ih => simp only [List.map_cons, List.sum_cons, ih]; ring

theorem div (f : α → Rat) (c : Rat) (l : List α) : (l.map fun a => f a / c).sum = (l.map f).sum / c := by
  simp only [div_eq_mul_inv]; exact mul_right f c⁻¹ l

theorem nonneg (f : α → Rat) (l : List α) (h : ∀ a ∈ l, 0 ≤ f a) : 0 ≤ (l.map f).sum := by
  induction l with
  | nil => simp
  | cons a l ih =>
    rw [List.map_cons, List.sum_cons]
    exact add_nonneg (h a List.mem_cons_self) (ih fun b hb => h b (List.mem_cons_of_mem _ hb))

theorem le (f g : α → Rat) (l : List α) (h : ∀ a ∈ l, f a ≤ g a) : (l.map f).sum ≤ (l.map g).sum := by
  induction l with
  | nil => simp
  | cons a l ih =>
    rw [List.map_cons, List.map_cons, List.sum_cons, List.sum_cons]
    exact add_le_add (h a List.mem_cons_self) (ih fun b hb => h b (List.mem_cons_of_mem _ hb))

theorem filterMap {β : Type} (f : α → Option β) (g : β → Rat) (l : List α) :
    ((l.filterMap f).map g).sum = (l.map fun a => ((f a).map g).getD 0).sum := by
  induction l with
  | nil => rfl
  | cons a l ih => rw [List.filterMap_cons, List.map_cons, List.sum_cons, ← ih]; cases f a <;> simp

theorem filter (c : α → Bool) (f : α → Rat) (l : List α) :
    ((l.filter c).map f).sum = (l.map fun a => if c a then f a else 0).sum := by
  induction l with
  | nil => rfl
  | cons a l ih => rw [List.filter_cons, List.map_cons, List.sum_cons, ← ih]; cases c a <;> simp

end Demeter.ListSum

namespace Demeter.AList
variable {κ ν : Type} [DecidableEq κ]

/-- what the entry under `k` contributes to a sum over the entries -/
def held (g : κ × ν → Rat) (m : AList κ ν) (k : κ) : Rat := ((get? m k).map fun b => g (k, b)).getD 0

theorem held_cons (g : κ × ν → Rat) (k' : κ) (b : ν) (m : AList κ ν) (k : κ) :
    held g ((k', b) :: m) k = if k' = k then g (k, b) else held g m k := by
  unfold held; rw [get?_cons]; split <;> rfl

theorem held_of_mem (g : κ × ν → Rat) {m : AList κ ν} (hn : (m.map (·.1)).Nodup) {e : κ × ν} (h : e ∈ m) : held g m e.1 = g e := by
  unfold held; rw [get?_of_mem hn h]; rfl

/-- no assumption on the keys: `set` writes the occurrence `get?` reads -/
theorem sum_map_set (g : κ × ν → Rat) (m : AList κ ν) (k : κ) (v : ν) :
    ((set m k v).map g).sum = (m.map g).sum - held g m k + g (k, v) := by
  induction m with
  | nil => simp [set, held, get?]
  | cons e m ih =>
    obtain ⟨k', b⟩ := e
    rw [set_cons, held_cons]
    by_cases h : k' = k
    · subst h; simp only [if_true, List.map_cons, List.sum_cons]; ring
    · simp only [if_neg h, List.map_cons, List.sum_cons, ih]; ring

theorem sum_map_erase (g : κ × ν → Rat) (m : AList κ ν) (k : κ) (hn : (m.map (·.1)).Nodup) :
    ((erase m k).map g).sum = (m.map g).sum - held g m k := by
  induction m with
  | nil => simp [erase, held, get?]
  | cons e m ih =>
    obtain ⟨k', b⟩ := e
    rw [List.map_cons, List.nodup_cons] at hn
    rw [erase_cons, held_cons]
    by_cases h : k' = k
    · subst h
      rw [if_pos rfl, if_pos rfl, erase_of_not_mem_keys hn.1, List.map_cons, List.sum_cons]; ring
    · simp only [if_neg h, List.map_cons, List.sum_cons, ih hn.2]; ring
end Demeter.AList

