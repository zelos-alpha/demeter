/-
  Valuation of the Uniswap market state at a frozen status row (exact arithmetic): wallet + positions, and how the
  list operations of the model change the sum over positions.
-/
import Proofs.Lemmas.UniWallet
import Proofs.Lemmas.AssetSub
import Proofs.Lemmas.UniPositions
import Proofs.Lemmas.UniPrims
import Proofs.Lemmas.AListSum
import Mathlib.Tactic.Linarith
import Mathlib.Tactic.Ring
namespace Demeter.Uni
open Demeter

def sumAll (f : Pos → Rat) : List Pos → Rat
  | [] => 0
  | p :: ps => f p + sumAll f ps

def sumOver (f : Pos → Rat) : List Pos → Rat
  | [] => 0
  | p :: ps => (if p.transferred then 0 else f p) + sumOver f ps

theorem sumAll_eq_sum (f : Pos → Rat) (ps : List Pos) : sumAll f ps = (ps.map f).sum := by
  induction ps with
  | nil => rfl
  | cons q qs ih => rw [sumAll, ih, List.map_cons, List.sum_cons]

theorem sumAll_append (f : Pos → Rat) (l r : List Pos) : sumAll f (l ++ r) = sumAll f l + sumAll f r := by
  rw [sumAll_eq_sum, sumAll_eq_sum, sumAll_eq_sum, List.map_append, List.sum_append]

theorem sumAll_mid (f : Pos → Rat) (l r : List Pos) (p : Pos) : sumAll f (l ++ p :: r) = sumAll f (l ++ r) + f p := by
  rw [sumAll_append, sumAll_append]; simp only [sumAll]; ring

theorem sumAll_mapPos (g : Pos → Rat) {ps : List Pos} {lo up : Int} {p : Pos} (hu : UniqueKey ps lo up p) (f : Pos → Pos) :
    sumAll g (mapPos ps lo up f) = sumAll g ps - g p + g (f p) := by
  obtain ⟨l, r, rfl, hl, hr, hk⟩ := hu
  rw [mapPos_decomp l r p lo up f hl hr hk, sumAll_mid, sumAll_mid]; ring

theorem sumAll_erasePos_mapPos (g : Pos → Rat) {ps : List Pos} {lo up : Int} {p : Pos} (hu : UniqueKey ps lo up p)
    (f : Pos → Pos) (hf : (f p).hasKey lo up = true) :
    sumAll g (erasePos (mapPos ps lo up f) lo up) = sumAll g ps - g p := by
  obtain ⟨l, r, rfl, hl, hr, hk⟩ := hu
  rw [mapPos_decomp l r p lo up f hl hr hk, erasePos_decomp l r _ lo up hl hr hf, sumAll_mid]; ring

theorem sumAll_mapPos_of_inv (f : Pos → Rat) (ps : List Pos) (lo up : Int) (g : Pos → Pos) (hg : ∀ q, f (g q) = f q) :
    sumAll f (mapPos ps lo up g) = sumAll f ps := by
  rw [sumAll_eq_sum, sumAll_eq_sum, map_mapPos f _ _ _ _ (fun q _ => hg q)]

theorem sumOver_eq (f : Pos → Rat) (ps : List Pos) :
    sumOver f ps = sumAll (fun p => if p.transferred then 0 else f p) ps := by
  induction ps with
  | nil => rfl
  | cons q qs ih => simp only [sumOver, sumAll, ih]

theorem sumOver_eq_sumAll (f : Pos → Rat) (ps : List Pos) (h : ∀ p ∈ ps, p.transferred = false) :
    sumOver f ps = sumAll f ps := by
  induction ps with
  | nil => rfl
  | cons q qs ih =>
    simp only [sumOver, sumAll, h q (List.mem_cons_self ..), Bool.false_eq_true, if_false,
      ih (fun p hp => h p (List.mem_cons_of_mem _ hp))]

theorem conv_fst_add (pool : Pool) (a b c d : Rat) : (pool.conv (a + b) (c + d)).1 = (pool.conv a c).1 + (pool.conv b d).1 := by
  unfold Pool.conv; cases pool.q0 <;> rfl
theorem conv_snd_add (pool : Pool) (a b c d : Rat) : (pool.conv (a + b) (c + d)).2 = (pool.conv a c).2 + (pool.conv b d).2 := by
  unfold Pool.conv; cases pool.q0 <;> rfl

/-- value in quote token of `x0` of token0 and `x1` of token1 at base price `price` -/
def tokVal (pool : Pool) (price x0 x1 : Rat) : Rat := (pool.conv x0 x1).1 * price + (pool.conv x0 x1).2

theorem tokVal_add (pool : Pool) (price a0 a1 b0 b1 : Rat) :
    tokVal pool price (a0 + b0) (a1 + b1) = tokVal pool price a0 a1 + tokVal pool price b0 b1 := by
  unfold tokVal; rw [conv_fst_add, conv_snd_add]; ring

theorem tokVal_sub (pool : Pool) (price a0 a1 b0 b1 : Rat) :
    tokVal pool price (a0 - b0) (a1 - b1) = tokVal pool price a0 a1 - tokVal pool price b0 b1 := by
  have := tokVal_add pool price (a0 - b0) (a1 - b1) b0 b1
  simp only [sub_add_cancel] at this
  linarith

theorem tokVal_smul (pool : Pool) (price c a0 a1 : Rat) : tokVal pool price (c * a0) (c * a1) = c * tokVal pool price a0 a1 := by
  unfold tokVal Pool.conv
  cases pool.q0 <;> simp only [Bool.false_eq_true, if_false, if_true] <;> ring

theorem tokVal_zero (pool : Pool) (price : Rat) : tokVal pool price 0 0 = 0 := by
  have := tokVal_smul pool price 0 0 0
  simpa using this

theorem tokVal_mono (pool : Pool) {price a0 a1 b0 b1 : Rat} (hp : 0 ≤ price) (h0 : a0 ≤ b0) (h1 : a1 ≤ b1) :
    tokVal pool price a0 a1 ≤ tokVal pool price b0 b1 := by
  have m0 := mul_le_mul_of_nonneg_right h0 hp
  have m1 := mul_le_mul_of_nonneg_right h1 hp
  unfold tokVal Pool.conv
  cases pool.q0 <;> simp only [Bool.false_eq_true, if_false, if_true] <;> linarith

theorem tokVal_nonneg (pool : Pool) {price a0 a1 : Rat} (hp : 0 ≤ price) (h0 : 0 ≤ a0) (h1 : 0 ≤ a1) :
    0 ≤ tokVal pool price a0 a1 := by
  have := tokVal_mono pool hp h0 h1
  rwa [tokVal_zero] at this

/-- value in quote token of a position: (uncollected + liquidity amounts), base side at `price` -/
def posValue (pool : Pool) (price : Rat) (amt : Pos → Rat × Rat) (p : Pos) : Rat :=
  (pool.conv (p.pending0 + (amt p).1) (p.pending1 + (amt p).2)).1 * price +
  (pool.conv (p.pending0 + (amt p).1) (p.pending1 + (amt p).2)).2

theorem posValue_eq_tokVal (pool : Pool) (price : Rat) (amt : Pos → Rat × Rat) (p : Pos) :
    posValue pool price amt p = tokVal pool price (p.pending0 + (amt p).1) (p.pending1 + (amt p).2) := rfl

def bal (w : Wallet) (k : String) : Rat := (AList.get? w k).getD 0

def walletVal (pool : Pool) (price : Rat) (w : Wallet) : Rat := tokVal pool price (bal w pool.tok0) (bal w pool.tok1)

theorem bal_set (w : Wallet) (k k' : String) (v : Rat) : bal (AList.set w k v) k' = if k' = k then v else bal w k' :=
  (Wallet.bal_set w k k' v).trans (if_congr eq_comm rfl rfl)

theorem bal_credit (w : Wallet) (k k' : String) (a : Rat) :
    bal (Wallet.credit NumCtx.exact w k a) k' = if k' = k then bal w k + a else bal w k' :=
  (Wallet.bal_credit NumCtx.exact w k k' a).trans (if_congr eq_comm rfl rfl)

theorem bal_credit_nonneg {w : Wallet} (hw : ∀ k, 0 ≤ bal w k) {tok : String} {a : Rat} (ha : 0 ≤ a) (k : String) :
    0 ≤ bal (Wallet.credit NumCtx.exact w tok a) k := by
  rw [bal_credit]
  split
  · exact add_nonneg (hw _) ha
  · exact hw k

theorem walletVal_credit2 (pool : Pool) (price : Rat) (w : Wallet) (f0 f1 : Rat) (hne : pool.tok0 ≠ pool.tok1) :
    walletVal pool price (Wallet.credit NumCtx.exact (Wallet.credit NumCtx.exact w pool.tok0 f0) pool.tok1 f1) =
      walletVal pool price w + tokVal pool price f0 f1 := by
  unfold walletVal
  simp only [bal_credit, if_neg hne, if_neg hne.symm, if_true, tokVal_add]

theorem walletVal_bq (pool : Pool) (price : Rat) (w : Wallet) :
    walletVal pool price w = bal w pool.baseTok * price + bal w pool.quoteTok := by
  unfold walletVal tokVal Pool.conv Pool.baseTok Pool.quoteTok
  cases pool.q0 <;> rfl

theorem debit_dust {w w' : Wallet} {tok : String} {a : Rat} (hd : debit NumCtx.exact w tok a false = .ok w') :
    ∃ e : Rat, (∀ k, bal w' k = if k = tok then bal w tok - a + e else bal w k) ∧
      (e = 0 ∨ |e| < assetDust * |if bal w tok ≠ 0 then bal w tok else a|) := by
  obtain ⟨b', hs, rfl⟩ := Wallet.debit_eq (debit_ok hd)
  refine ⟨b' - (bal w tok - a), fun k => by rw [bal_set, add_sub_cancel], ?_⟩
  rcases assetSub_accepted hs with ⟨e, _⟩ | ⟨e, hb, hlt⟩
  · left; rw [e]; exact sub_self _
  · right; rw [e, zero_sub, abs_neg, if_pos (show bal w tok ≠ 0 from hb)]; exact hlt

theorem debit2_value (pool : Pool) (price : Rat) (w w2 : Wallet) (u0 u1 : Rat) (hne : pool.tok0 ≠ pool.tok1)
    (hd : debit2 NumCtx.exact w pool.tok0 u0 pool.tok1 u1 false = .ok w2) :
    ∃ e0 e1 : Rat, walletVal pool price w2 = walletVal pool price w - tokVal pool price u0 u1 + tokVal pool price e0 e1 ∧
      (e0 = 0 ∨ |e0| < assetDust * |if bal w pool.tok0 ≠ 0 then bal w pool.tok0 else u0|) ∧
      (e1 = 0 ∨ |e1| < assetDust * |if bal w pool.tok1 ≠ 0 then bal w pool.tok1 else u1|) := by
  obtain ⟨w1, h1, hd⟩ := debit2_ok hd
  obtain ⟨e0, hb0, he0⟩ := debit_dust h1
  obtain ⟨e1, hb1, he1⟩ := debit_dust hd
  have hw1 : bal w1 pool.tok1 = bal w pool.tok1 := by rw [hb0, if_neg hne.symm]
  rw [hw1] at hb1 he1
  refine ⟨e0, e1, ?_, he0, he1⟩
  unfold walletVal
  rw [hb1, hb1, if_pos rfl, if_neg hne, hb0, if_pos rfl, tokVal_add, tokVal_sub]

theorem debit_nonneg_le {w w' : Wallet} {tok : String} {a : Rat} (hd : debit NumCtx.exact w tok a false = .ok w')
    (hb : 0 ≤ bal w tok) : ∃ b' : Rat, (∀ k, bal w' k = if k = tok then b' else bal w k) ∧ 0 ≤ b' ∧
      b' ≤ bal w tok - a + assetDust * bal w tok := by
  obtain ⟨b', hs, rfl⟩ := Wallet.debit_eq (debit_ok hd)
  refine ⟨b', fun k => bal_set _ _ _ _, assetSub_nonneg _ hb hs, ?_⟩
  have := (abs_le.mp (assetSub_dust hs)).2
  rw [abs_of_nonneg (show 0 ≤ Wallet.bal w tok from hb)] at this
  show b' ≤ Wallet.bal w tok - a + assetDust * Wallet.bal w tok
  linarith

theorem debit2_bound {pool : Pool} (price : Rat) (hp : 0 ≤ price) (w w2 : Wallet) (u0 u1 : Rat) (hne : pool.tok0 ≠ pool.tok1)
    (hw : ∀ k, 0 ≤ bal w k) (hd : debit2 NumCtx.exact w pool.tok0 u0 pool.tok1 u1 false = .ok w2) :
    (∀ k, 0 ≤ bal w2 k) ∧
    walletVal pool price w2 ≤ walletVal pool price w - tokVal pool price u0 u1 + assetDust * walletVal pool price w := by
  obtain ⟨w1, h1, hd⟩ := debit2_ok hd
  obtain ⟨b0, hb0, hb0n, hb0u⟩ := debit_nonneg_le h1 (hw _)
  have hw1 : bal w1 pool.tok1 = bal w pool.tok1 := by rw [hb0, if_neg hne.symm]
  obtain ⟨b1, hb1, hb1n, hb1u⟩ := debit_nonneg_le hd (by rw [hw1]; exact hw _)
  constructor
  · intro k
    rw [hb1]
    split
    · exact hb1n
    · rw [hb0]; split
      · exact hb0n
      · exact hw k
  · unfold walletVal
    rw [hb1, hb1, if_pos rfl, if_neg hne, hb0, if_pos rfl]
    rw [hw1] at hb1u
    rw [← tokVal_smul, ← tokVal_sub, ← tokVal_add]
    exact tokVal_mono pool hp hb0u hb1u

/-- the frozen market: exact arithmetic, a status row, its sqrt price, and the kernel's amounts as a total
    function `A lower upper liquidity` that is additive in the liquidity and consistent with `new_position` -/
structure Frozen (K : Kern) (pool : Pool) (row : Row) (sqrt : Nat) (A : Int → Int → Int → Rat × Rat) : Prop where
  cx : K.cx = NumCtx.exact
  sqrt_ok : K.priceToSqrt pool row.price = .ok sqrt
  amounts : ∀ lo up l d r, K.amounts pool sqrt lo up l d = .ok r → r = A lo up l
  additive : ∀ lo up l1 l2, A lo up (l1 + l2) = ((A lo up l1).1 + (A lo up l2).1, (A lo up l1).2 + (A lo up l2).2)
  newPos : ∀ lo up a0 a1 u0 u1 L, K.newPos pool sqrt lo up a0 a1 = .ok (u0, u1, L) → A lo up L = (u0, u1)
  tokens : pool.tok0 ≠ pool.tok1

/-- net value of wallet + positions in quote token (what `get_account_status` reports on a Uniswap-only broker,
    cf. C01) -/
def netVal (pool : Pool) (row : Row) (A : Int → Int → Int → Rat × Rat) (s : State) : Rat :=
  walletVal pool row.price s.wallet + sumOver (posValue pool row.price (fun p => A p.lower p.upper p.liq)) s.positions

/-- value of the holdings of the account in this market, in quote token, at the frozen row: wallet + every position
    (a position lent to another market is still a holding of the account; `netVal`, which skips lent positions as
    `get_market_balance` does, coincides with this when nothing is lent) -/
def allVal (pool : Pool) (row : Row) (A : Int → Int → Int → Rat × Rat) (s : State) : Rat :=
  walletVal pool row.price s.wallet + sumAll (posValue pool row.price (fun p => A p.lower p.upper p.liq)) s.positions

theorem netVal_eq_allVal (pool : Pool) (row : Row) (A : Int → Int → Int → Rat × Rat) {s : State}
    (h : ∀ p ∈ s.positions, p.transferred = false) : netVal pool row A s = allVal pool row A s := by
  unfold netVal allVal; rw [sumOver_eq_sumAll _ _ h]

variable {K : Kern} {pool : Pool} {row : Row} {sqrt : Nat} {A : Int → Int → Int → Rat × Rat}

theorem Frozen.A_zero (F : Frozen K pool row sqrt A) (lo up : Int) : A lo up 0 = (0, 0) := by
  have h := F.additive lo up 0 0
  simp only [add_zero] at h
  have h1 : (A lo up 0).1 = (A lo up 0).1 + (A lo up 0).1 := congrArg Prod.fst h
  have h2 : (A lo up 0).2 = (A lo up 0).2 + (A lo up 0).2 := congrArg Prod.snd h
  ext <;> simp <;> linarith

theorem resolveSqrt_frozen (F : Frozen K pool row sqrt A) {s : State} (hrow : s.row = some row) :
    resolveSqrt K pool s none = .ok sqrt := by
  unfold resolveSqrt priceOf; simp only [hrow, F.sqrt_ok]

/-- what `__remove_liquidity` takes out of the liquidity it puts into the uncollected amounts, valued alike -/
theorem posValue_removePos (F : Frozen K pool row sqrt A) {p : Pos} {lo up : Int} (hk : p.hasKey lo up = true)
    (delta : Int) (dd : Bool) :
    posValue pool row.price (fun p => A p.lower p.upper p.liq)
        (removePos K.cx p delta dd (A lo up delta).1 (A lo up delta).2) =
      posValue pool row.price (fun p => A p.lower p.upper p.liq) p := by
  obtain ⟨hlo, hup⟩ := hasKey_eq hk
  have hadd := F.additive lo up (p.liq - delta) delta
  rw [sub_add_cancel] at hadd
  simp only [posValue_eq_tokVal, removePos, F.cx, NumCtx.exact_add, hlo, hup]
  rw [hadd]
  congr 1 <;> ring

theorem posValue_collectPos (F : Frozen K pool row sqrt A) (p : Pos) (f0 f1 : Rat) :
    posValue pool row.price (fun p => A p.lower p.upper p.liq) (collectPos K.cx p f0 f1) =
      posValue pool row.price (fun p => A p.lower p.upper p.liq) p - tokVal pool row.price f0 f1 := by
  simp only [posValue_eq_tokVal, collectPos, F.cx, NumCtx.exact_sub]
  rw [← tokVal_sub]; congr 1 <;> ring

theorem posValue_of_isDry (F : Frozen K pool row sqrt A) {q : Pos} {rd : Bool} (h : isDry q rd = true) :
    posValue pool row.price (fun p => A p.lower p.upper p.liq) q = 0 := by
  unfold isDry at h
  simp only [Bool.and_eq_true, beq_iff_eq] at h
  obtain ⟨⟨⟨z0, z1⟩, zl⟩, _⟩ := h
  rw [posValue_eq_tokVal, z0, z1]
  simp only [zl, F.A_zero, add_zero, tokVal_zero]

theorem posValue_addLiq (F : Frozen K pool row sqrt A) {p : Pos} {lo up : Int} (hk : p.hasKey lo up = true) (liq : Int) :
    posValue pool row.price (fun p => A p.lower p.upper p.liq) { p with liq := p.liq + liq } =
      posValue pool row.price (fun p => A p.lower p.upper p.liq) p + tokVal pool row.price (A lo up liq).1 (A lo up liq).2 := by
  obtain ⟨hlo, hup⟩ := hasKey_eq hk
  simp only [posValue_eq_tokVal, hlo, hup, F.additive lo up p.liq liq]
  rw [← tokVal_add]; congr 1 <;> ring

theorem posValue_mkPos (price : Rat) (lo up liq : Int) (lp upp ip : Rat) :
    posValue pool price (fun p => A p.lower p.upper p.liq) (mkPos lo up liq lp upp ip) =
      tokVal pool price (A lo up liq).1 (A lo up liq).2 := by
  simp [mkPos, posValue_eq_tokVal]

theorem sumAll_addToPositions (g : Pos → Rat) (v : Rat) {s : State} {lo up liq : Int} {ent : Option Pos}
    (hent : newEntity K pool s lo up liq sqrt = .ok ent)
    (hold : ∀ p0, findPos s.positions lo up = some p0 →
      UniqueKey s.positions lo up p0 ∧ g { p0 with liq := p0.liq + liq } = g p0 + v)
    (hnew : ∀ lp upp ip, g (mkPos lo up liq lp upp ip) = v) :
    sumAll g (addToPositions s.positions lo up liq ent) = sumAll g s.positions + v := by
  rcases newEntity_cases hent with ⟨p0, hf, rfl⟩ | ⟨_, lp, upp, ip, rfl⟩
  · obtain ⟨hu, hg⟩ := hold p0 hf
    simp only [addToPositions]
    rw [sumAll_mapPos g hu, hg]; ring
  · simp only [addToPositions]
    rw [sumAll_append]
    simp only [sumAll, add_zero, hnew]

end Demeter.Uni
