/-
  C20 — volatility, Sharpe ratio, alpha / beta and `performance_metrics` against direct recomputation from
  the net-value series.  `sqrt` and `pow` are oracle parameters (every statement is for an arbitrary `Orc` and names
  the oracle values it uses), exact rational semantics otherwise.
-/
import Proofs.Lemmas.MetricsStats
import Proofs.C20.Returns
import Proofs.C20
namespace Demeter
open Metrics

/-- days per year of the volatility, nanoseconds per second and seconds per day of `performance_metrics`, as read from the source on
    this run -/
theorem C20_stat_constants_pinned :
    Gen.metricsVolDaysPerYear = 365 ∧ Gen.metricsNsPerSec = 1000000000 ∧ Gen.metricsSecPerDay = 86400 := by
  decide +kernel

/-- **sample variance = its definition and its textbook recomputation** (`ddof = 1`): for at least two returns
    `var = Σ (r − mean)² / (n − 1) = (Σ r² − (Σ r)²/n) / (n − 1)`; fewer than two returns give nan -/
theorem C20_sample_variance_def (rs : List Rat) :
    (2 ≤ rs.length →
      sampleVar rs = .ok (sum (rs.map (fun r => (r - mean rs) * (r - mean rs))) / ((rs.length : Rat) - 1)) ∧
      sampleVar rs = .ok ((sum (rs.map (fun r => r * r)) - sum rs * sum rs / rs.length) / ((rs.length : Rat) - 1))) ∧
    (rs.length ≤ 1 → sampleVar rs = .error .nonfinite) := by
  constructor
  · intro hn
    constructor
    · rw [sampleVar, cov_of_two_le rfl hn, devProd]
      simp only [List.zipWith_self]
    · rw [sampleVar, cov_of_two_le rfl hn, devProd_eq rs rs rfl (by omega), List.zipWith_self]
  · exact cov_short rfl

/-- **volatility = sample standard deviation of the returns × sqrt(365 / interval)** -/
theorem C20_volatility_formula (o : Orc) (rs : List Rat) (interval v s q : Rat) (hi : interval ≠ 0)
    (hv : sampleVar rs = .ok v) (hs : o.sqrt v = some s) (hq : o.sqrt (365 / interval) = some q) :
    volatility o rs interval = .ok (s * q) := by
  unfold volatility stdDev
  rw [if_neg hi, hv, C20_stat_constants_pinned.1]
  simp only [hs, hq, ofOpt]

/-- the variance of the return *rates* (`pct_change`, used for the reported volatility) is the variance of the
    return *multiples* (`v / v.shift(1)`, used inside the Sharpe ratio): the reported volatility is the Sharpe denominator -/
theorem C20_volatility_rates_eq_multiples (o : Orc) (ms : List Rat) (interval : Rat) :
    volatility o (ms.map (· - 1)) interval = volatility o ms interval := by
  have h : sampleVar (ms.map (· - 1)) = sampleVar ms := by
    unfold sampleVar cov
    have e : (ms.map (· - 1)) = ms.map (· + (-1)) := List.map_congr_left fun a _ => sub_eq_add_neg a 1
    rw [e, devProd_shift, List.length_map]
  unfold volatility stdDev
  rw [h]

/-- **Sharpe ratio = (APR − risk-free) / volatility**, with the APR by end points
    `(last/first) ** (365/duration) − 1` and the volatility `std(multiples) · sqrt(365/interval)` -/
theorem C20_sharpe_formula (o : Orc) (interval duration rf x : Rat) (r : List Rat) (hp : AllPos (x :: r))
    (hi : interval ≠ 0) (hd : duration ≠ 0) (p v s q : Rat)
    (hpow : o.pow (lastOf (x :: r) / x) (365 / duration) = some p)
    (hv : sampleVar (multiplesFrom x r) = .ok v) (hs : o.sqrt v = some s) (hq : o.sqrt (365 / interval) = some q)
    (hsq : s * q ≠ 0) :
    sharpeRatio o interval duration (x :: r) rf = .ok ((p - 1 - rf) / (s * q)) := by
  have hvol := C20_volatility_formula o (multiplesFrom x r) interval v s q hi hv hs hq
  unfold sharpeRatio
  simp only [shiftRatios, allSome_ratiosFrom x r hp, annualized_of_multiples o duration x r hp, compoundOf, hd, if_false,
    daysPerYear_eq, hpow, hvol, hsq]

/-- the Sharpe ratio, like every ratio-based metric, does not change when the series is rescaled -/
theorem C20_sharpe_scale_invariant (o : Orc) (interval duration rf c : Rat) (hc : c ≠ 0) (xs : List Rat) :
    sharpeRatio o interval duration (xs.map (c * ·)) rf = sharpeRatio o interval duration xs rf := by
  unfold sharpeRatio
  rw [shiftRatios_scale c hc]

/-- **beta = Σ(p − p̄)(b − b̄) / Σ(b − b̄)²** over the two return series (the `n − 1` of `np.cov` cancels) and
    **alpha = APR(portfolio) − beta · APR(benchmark)**, both APRs by end points -/
theorem C20_alpha_beta_formula (o : Orc) (duration x y : Rat) (r t : List Rat)
    (hp : AllPos (x :: r)) (hb : AllPos (y :: t)) (hlen : r.length = t.length) (hn : 2 ≤ r.length)
    (hd : duration ≠ 0) (pa ba : Rat)
    (hpa : o.pow (lastOf (x :: r) / x) (365 / duration) = some pa)
    (hba : o.pow (lastOf (y :: t) / y) (365 / duration) = some ba)
    (hvar : devProd (multiplesFrom y t) (multiplesFrom y t) ≠ 0) :
    let beta := devProd (multiplesFrom x r) (multiplesFrom y t) / devProd (multiplesFrom y t) (multiplesFrom y t)
    alphaBeta o (x :: r) (y :: t) duration = .ok (some ((pa - 1) - beta * (ba - 1)), some beta) := by
  intro beta
  have hbeta := betaOf_formula (multiplesFrom x r) (multiplesFrom y t)
    (by rw [length_multiplesFrom, length_multiplesFrom, hlen]) (by rw [length_multiplesFrom]; omega) hvar
  rw [alphaBeta_pos o duration x y r t hp hb hlen hd _ hbeta, hpa, hba]
  rfl

/-- **beta is computed before, and independently of, the two APRs**: whatever `pow` answers — finite or overflowing to
    inf (`none`) — beta of two positive series with a non-constant benchmark is the covariance ratio; alpha is finite
    exactly when both APRs are, and nan/inf otherwise (the code returns `(inf, beta)`, not `(nan, nan)`) -/
theorem C20_beta_independent_of_apr (o : Orc) (duration x y : Rat) (r t : List Rat)
    (hp : AllPos (x :: r)) (hb : AllPos (y :: t)) (hlen : r.length = t.length) (hn : 2 ≤ r.length)
    (hd : duration ≠ 0) (hvar : devProd (multiplesFrom y t) (multiplesFrom y t) ≠ 0) :
    ∃ alpha : Val, alphaBeta o (x :: r) (y :: t) duration =
        .ok (alpha, some (devProd (multiplesFrom x r) (multiplesFrom y t) / devProd (multiplesFrom y t) (multiplesFrom y t))) ∧
      (alpha.isSome ↔ (o.pow (lastOf (x :: r) / x) (365 / duration)).isSome ∧
                      (o.pow (lastOf (y :: t) / y) (365 / duration)).isSome) := by
  have hbeta := betaOf_formula (multiplesFrom x r) (multiplesFrom y t)
    (by rw [length_multiplesFrom, length_multiplesFrom, hlen]) (by rw [length_multiplesFrom]; omega) hvar
  refine ⟨_, alphaBeta_pos o duration x y r t hp hb hlen hd _ hbeta, ?_⟩
  rw [alphaOf_isSome, Option.isSome_map, Option.isSome_map]

/-- fewer than two returns or a constant benchmark: beta **and** alpha are nan/inf (never a silently wrong number) -/
theorem C20_alpha_beta_degenerate (o : Orc) (duration x y : Rat) (r t : List Rat)
    (hp : AllPos (x :: r)) (hb : AllPos (y :: t)) (hlen : r.length = t.length) (hd : duration ≠ 0)
    (hdeg : r.length ≤ 1 ∨ devProd (multiplesFrom y t) (multiplesFrom y t) = 0) :
    alphaBeta o (x :: r) (y :: t) duration = .ok (none, none) := by
  have hbeta := betaOf_degenerate (multiplesFrom x r) (multiplesFrom y t)
    (by rw [length_multiplesFrom, length_multiplesFrom, hlen]) (by rw [length_multiplesFrom, ← hlen]; exact hdeg)
  rw [alphaBeta_pos o duration x y r t hp hb hlen hd _ hbeta, alphaOf_none]

/-- a portfolio measured against itself has beta 1 and alpha 0 -/
theorem C20_beta_of_self (o : Orc) (duration x : Rat) (r : List Rat) (hp : AllPos (x :: r)) (hn : 2 ≤ r.length)
    (hd : duration ≠ 0) (pa : Rat) (hpa : o.pow (lastOf (x :: r) / x) (365 / duration) = some pa)
    (hvar : devProd (multiplesFrom x r) (multiplesFrom x r) ≠ 0) :
    alphaBeta o (x :: r) (x :: r) duration = .ok (some 0, some 1) := by
  have h := C20_alpha_beta_formula o duration x x r r hp hp rfl hn hd pa pa hpa hpa hvar
  simp only [div_self hvar, one_mul, sub_self] at h
  exact h

/-- **every entry of `performance_metrics` is the corresponding metric function** applied to the series, to the
    interval `(t1 − t0) / 1e9 / 86400` days and the duration `(tEnd − t0 + (t1 − t0)) / 1e9 / 86400` days derived
    from the index (n · interval for a regular index); a nan/inf entry is reported as `none` -/
theorem C20_perf_entries (o : Orc) (t0 t1 tEnd : Int) (values : List Rat) (rf : Rat) (bench : Option (List Rat))
    (p : Perf) (h : performanceMetrics o t0 t1 tEnd values rf bench = .ok p) :
    p.intervalInDay = ((t1 - t0 : Int) : Rat) / 1000000000 / 86400 ∧
    p.durationInDay = ((tEnd - t0 + (t1 - t0) : Int) : Rat) / 1000000000 / 86400 ∧
    p.startVal = nth values 0 ∧ p.endVal = lastOf values ∧ p.returnValue = lastOf values - nth values 0 ∧
    soft (returnRate (nth values 0) (lastOf values)) = .ok p.returnRate ∧
    soft (annualizedReturn o .compound p.durationInDay { init := some (nth values 0), final := some (lastOf values) })
      = .ok p.annualized ∧
    soft (maxDrawDown values) = .ok p.mdd ∧
    soft (sharpeRatio o p.intervalInDay p.durationInDay values rf) = .ok p.sharpe ∧
    soft (perfVolatility o values p.intervalInDay) = .ok p.volatility ∧
    perfBench o values p.durationInDay bench = .ok (p.alpha, p.beta, p.benchRate, p.benchApr) := by
  unfold performanceMetrics at h
  split at h
  · exact absurd h (by simp)
  · simp only [] at h
    split at h
    all_goals (try (simp only [reduceCtorEq] at h))
    rename_i h1 h2 h3 h4 h5 h6
    simp only [Except.ok.injEq] at h
    subst h
    simp only [C20_stat_constants_pinned.2.1, C20_stat_constants_pinned.2.2] at h1 h2 h3 h4 h5 h6 ⊢
    simp only [lastOf, returnValue, h1, h2, h3, h4, h5, h6, and_self]

/-- for a positive series with at least two points the reported drawdown and rate of return are their definitions -/
theorem C20_perf_reports_definitions (o : Orc) (t0 t1 tEnd : Int) (values : List Rat) (rf : Rat) (bench : Option (List Rat))
    (hp : AllPos values) (p : Perf) (h : performanceMetrics o t0 t1 tEnd values rf bench = .ok p) :
    p.mdd = some (mddSpec values) ∧ p.returnRate = some ((lastOf values - nth values 0) / nth values 0) := by
  have hne : values ≠ [] := by
    intro e; subst e; simp [performanceMetrics] at h
  obtain ⟨_, _, _, _, _, hr, _, hm, _⟩ := C20_perf_entries o t0 t1 tEnd values rf bench p h
  rw [C20_mdd_code_eq_definition values hp hne] at hm
  rw [(C20_total_return_forms_agree values hp hne).2.2] at hr
  simp only [soft, Except.ok.injEq] at hm hr
  exact ⟨hm.symm, hr.symm⟩

/-- the Sharpe ratio and the volatility **as reported by `performance_metrics`** for a positive series: with
    `d`, `i` the duration and interval derived from the index, `sharpe = ((last/first)^(365/d) − 1 − rf) / volatility` and
    `volatility = std(return multiples) · sqrt(365/i)` — the reported volatility (computed from `pct_change`) is exactly
    the Sharpe denominator -/
theorem C20_perf_sharpe_and_volatility (o : Orc) (t0 t1 tEnd : Int) (x : Rat) (r : List Rat) (rf : Rat)
    (bench : Option (List Rat)) (p : Perf) (h : performanceMetrics o t0 t1 tEnd (x :: r) rf bench = .ok p)
    (hp : AllPos (x :: r)) (hi : p.intervalInDay ≠ 0) (hd : p.durationInDay ≠ 0) (pw v s q : Rat)
    (hpow : o.pow (lastOf (x :: r) / x) (365 / p.durationInDay) = some pw)
    (hv : sampleVar (multiplesFrom x r) = .ok v) (hs : o.sqrt v = some s) (hq : o.sqrt (365 / p.intervalInDay) = some q)
    (hsq : s * q ≠ 0) :
    p.sharpe = some ((pw - 1 - rf) / (s * q)) ∧ p.volatility = some (s * q) := by
  obtain ⟨_, _, _, _, _, _, _, _, hsh, hvol, _⟩ := C20_perf_entries o t0 t1 tEnd (x :: r) rf bench p h
  rw [C20_sharpe_formula o p.intervalInDay p.durationInDay rf x r hp hi hd pw v s q hpow hv hs hq hsq] at hsh
  have hvol' : perfVolatility o (x :: r) p.intervalInDay = .ok (s * q) := by
    unfold perfVolatility
    simp only [shiftRatios, allSome_ratiosFrom x r hp]
    rw [C20_volatility_rates_eq_multiples]
    exact C20_volatility_formula o (multiplesFrom x r) p.intervalInDay v s q hi hv hs hq
  rw [hvol'] at hvol
  simp only [soft, Except.ok.injEq] at hsh hvol
  exact ⟨hsh.symm, hvol.symm⟩

/-- for a regular index (`tEnd − t0 = (n − 1)·(t1 − t0)`) the duration is `n` sampling intervals, whatever the interval -/
theorem C20_perf_duration_regular_index (o : Orc) (t0 t1 tEnd : Int) (values : List Rat) (rf : Rat) (bench : Option (List Rat))
    (p : Perf) (h : performanceMetrics o t0 t1 tEnd values rf bench = .ok p)
    (hreg : tEnd - t0 = ((values.length : Int) - 1) * (t1 - t0)) :
    p.durationInDay = values.length * p.intervalInDay := by
  obtain ⟨hi, hd, _⟩ := C20_perf_entries o t0 t1 tEnd values rf bench p h
  rw [hi, hd, hreg]
  push_cast
  ring

/-- alpha/beta and the reported volatility, like the Sharpe ratio, are unchanged when the series (and the benchmark)
    are rescaled: they depend on the ratio series only -/
theorem C20_ratio_metrics_scale_invariant (o : Orc) (interval duration c c' : Rat) (hc : c ≠ 0) (hc' : c' ≠ 0)
    (xs bs : List Rat) :
    alphaBeta o (xs.map (c * ·)) (bs.map (c' * ·)) duration = alphaBeta o xs bs duration ∧
    perfVolatility o (xs.map (c * ·)) interval = perfVolatility o xs interval := by
  unfold alphaBeta perfVolatility
  rw [shiftRatios_scale c hc, shiftRatios_scale c' hc']
  exact ⟨rfl, rfl⟩

example : sampleVar [1, 2, 4] = .ok (7/3) ∧ cov [1, 2, 4] [1, 3, 2] = .ok (1/2) := by decide +kernel
example : sampleVar [1] = .error .nonfinite := by decide +kernel
example : devProd (multiplesFrom 1 [2, 3, 6]) (multiplesFrom 1 [2, 3, 6]) ≠ 0 := by decide +kernel
example : alphaBeta ⟨fun b _ => some b, fun _ => none⟩ [1, 2, 3, 6] [1, 2, 3, 6] 365 = .ok (some 0, some 1) := by decide +kernel
-- an overflowing APR (`pow` answers inf) leaves beta finite: the hypotheses of `C20_beta_independent_of_apr` with `pow = none`
example : alphaBeta ⟨fun _ _ => none, fun _ => none⟩ [1, 2, 3, 6] [1, 2, 3, 5] 365 = .ok (none, some (6/7)) := by decide +kernel
example : alphaBeta ⟨fun b _ => some b, fun _ => none⟩ [1, 2, 3, 6] [1, 2, 4, 8] 365 = .ok (none, none) := by decide +kernel

end Demeter
