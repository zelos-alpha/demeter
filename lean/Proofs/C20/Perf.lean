/-
  C20 — the benchmark entries of `performance_metrics` (alpha, beta, benchmark rate, benchmark APR) against
  direct recomputation from the two series; the default risk-free rate; and concrete instances of every
  `performance_metrics` theorem (non-vacuity).  `pow` and `sqrt` are oracle parameters as in Proofs/C20/Stats.lean.
-/
import Proofs.C20.Stats
namespace Demeter
open Metrics

theorem Metrics.perf_bench {o : Orc} {t0 t1 tEnd : Int} {values : List Rat} {rf : Rat} {bench : Option (List Rat)} {p : Perf}
    (h : performanceMetrics o t0 t1 tEnd values rf bench = .ok p) :
    perfBench o values p.durationInDay bench = .ok (p.alpha, p.beta, p.benchRate, p.benchApr) :=
  (C20_perf_entries o t0 t1 tEnd values rf bench p h).2.2.2.2.2.2.2.2.2.2

/-- **the benchmark entries of `performance_metrics`** for a positive series and a positive benchmark of the same length
    (at least two returns, benchmark returns not constant), with `d` the duration derived from the index:
    `beta = Σ(p − p̄)(b − b̄) / Σ(b − b̄)²` over the two return series, `alpha = APR(values) − beta · APR(benchmark)`,
    `benchmark rate = (b_last − b₀)/b₀`, `benchmark APR = (b_last/b₀)^(365/d) − 1` — both APRs by end points -/
theorem C20_perf_bench_entries (o : Orc) (t0 t1 tEnd : Int) (x y : Rat) (r t : List Rat) (rf : Rat) (p : Perf)
    (h : performanceMetrics o t0 t1 tEnd (x :: r) rf (some (y :: t)) = .ok p)
    (hp : AllPos (x :: r)) (hb : AllPos (y :: t)) (hlen : r.length = t.length) (hn : 2 ≤ r.length)
    (hd : p.durationInDay ≠ 0) (pa ba : Rat)
    (hpa : o.pow (lastOf (x :: r) / x) (365 / p.durationInDay) = some pa)
    (hba : o.pow (lastOf (y :: t) / y) (365 / p.durationInDay) = some ba)
    (hvar : devProd (multiplesFrom y t) (multiplesFrom y t) ≠ 0) :
    let β := devProd (multiplesFrom x r) (multiplesFrom y t) / devProd (multiplesFrom y t) (multiplesFrom y t)
    p.beta = some β ∧ p.alpha = some ((pa - 1) - β * (ba - 1)) ∧
    p.benchRate = some ((lastOf (y :: t) - y) / y) ∧ p.benchApr = some (ba - 1) := by
  intro β
  have hbench := perf_bench h
  have hab := C20_alpha_beta_formula o p.durationInDay x y r t hp hb hlen hn hd pa ba hpa hba hvar
  unfold perfBench at hbench
  simp only [hab] at hbench
  rw [perfBenchRest_pos o p.durationInDay y t hb hd, hba] at hbench
  simp only [Except.ok.injEq, Prod.mk.injEq] at hbench
  exact ⟨hbench.2.1.symm, hbench.1.symm, hbench.2.2.1.symm, hbench.2.2.2.symm⟩

/-- the same entries **whatever `pow` answers** (a minute index makes the APR exponent ~10⁵ and `pow` overflow to inf):
    beta and the benchmark rate are reported as above, alpha is finite exactly when both APRs are -/
theorem C20_perf_beta_entry_independent_of_apr (o : Orc) (t0 t1 tEnd : Int) (x y : Rat) (r t : List Rat) (rf : Rat) (p : Perf)
    (h : performanceMetrics o t0 t1 tEnd (x :: r) rf (some (y :: t)) = .ok p)
    (hp : AllPos (x :: r)) (hb : AllPos (y :: t)) (hlen : r.length = t.length) (hn : 2 ≤ r.length)
    (hd : p.durationInDay ≠ 0) (hvar : devProd (multiplesFrom y t) (multiplesFrom y t) ≠ 0) :
    p.beta = some (devProd (multiplesFrom x r) (multiplesFrom y t) / devProd (multiplesFrom y t) (multiplesFrom y t)) ∧
    p.benchRate = some ((lastOf (y :: t) - y) / y) ∧
    (p.alpha.isSome ↔ (o.pow (lastOf (x :: r) / x) (365 / p.durationInDay)).isSome ∧
                       (o.pow (lastOf (y :: t) / y) (365 / p.durationInDay)).isSome) ∧
    (p.benchApr.isSome ↔ (o.pow (lastOf (y :: t) / y) (365 / p.durationInDay)).isSome) := by
  have hbench := perf_bench h
  obtain ⟨alpha, hab, halpha⟩ := C20_beta_independent_of_apr o p.durationInDay x y r t hp hb hlen hn hd hvar
  unfold perfBench at hbench
  simp only [hab] at hbench
  rw [perfBenchRest_pos o p.durationInDay y t hb hd] at hbench
  simp only [Except.ok.injEq, Prod.mk.injEq] at hbench
  obtain ⟨e1, e2, e3, e4⟩ := hbench
  refine ⟨e2.symm, e3.symm, by rw [← e1]; exact halpha, ?_⟩
  rw [← e4, Option.isSome_map]

/-- **without a benchmark the four benchmark entries are nan** -/
theorem C20_perf_no_benchmark (o : Orc) (t0 t1 tEnd : Int) (values : List Rat) (rf : Rat) (p : Perf)
    (h : performanceMetrics o t0 t1 tEnd values rf none = .ok p) :
    p.alpha = none ∧ p.beta = none ∧ p.benchRate = none ∧ p.benchApr = none := by
  have hbench := perf_bench h
  simp only [perfBench, Except.ok.injEq, Prod.mk.injEq] at hbench
  exact ⟨hbench.1.symm, hbench.2.1.symm, hbench.2.2.1.symm, hbench.2.2.2.symm⟩

/-- the benchmark does not enter any of the other entries -/
theorem C20_perf_benchmark_only_in_benchmark_entries (o : Orc) (t0 t1 tEnd : Int) (values : List Rat) (rf : Rat)
    (bench : Option (List Rat)) (p q : Perf)
    (h : performanceMetrics o t0 t1 tEnd values rf bench = .ok p) (h' : performanceMetrics o t0 t1 tEnd values rf none = .ok q) :
    q = { p with alpha := none, beta := none, benchRate := none, benchApr := none } := by
  obtain ⟨a1, a2, a3, a4, a5, a6, a7, a8, a9, a10, _⟩ := C20_perf_entries o t0 t1 tEnd values rf bench p h
  obtain ⟨b1, b2, b3, b4, b5, b6, b7, b8, b9, b10, _⟩ := C20_perf_entries o t0 t1 tEnd values rf none q h'
  obtain ⟨c1, c2, c3, c4⟩ := C20_perf_no_benchmark o t0 t1 tEnd values rf q h'
  have ed : q.durationInDay = p.durationInDay := b2.trans a2.symm
  have ei : q.intervalInDay = p.intervalInDay := b1.trans a1.symm
  rw [ed] at b7 b9
  rw [ei] at b9 b10
  cases p
  cases q
  simp only [Perf.mk.injEq]
  exact ⟨b3.trans a3.symm, b4.trans a4.symm, ei, ed, b5.trans a5.symm, Except.ok.inj (b6.symm.trans a6),
    Except.ok.inj (b7.symm.trans a7), Except.ok.inj (b8.symm.trans a8), Except.ok.inj (b9.symm.trans a9),
    Except.ok.inj (b10.symm.trans a10), c1, c2, c3, c4⟩

/-- the signature's default `annualized_risk_free_rate=0.03`, as read from the source on this run: the double nearest to
    3/100 (`1080863910568919 / 2^55`); a call without the argument is the call with that value -/
theorem C20_perf_default_risk_free (o : Orc) (t0 t1 tEnd : Int) (values : List Rat) (bench : Option (List Rat)) :
    Gen.metricsDefaultRiskFree = 1080863910568919 / 36028797018963968 ∧
    |Gen.metricsDefaultRiskFree - 3 / 100| ≤ 1 / 2 ^ 58 ∧
    performanceMetricsOpt o t0 t1 tEnd values none bench =
      performanceMetrics o t0 t1 tEnd values (1080863910568919 / 36028797018963968) bench ∧
    ∀ rf, performanceMetricsOpt o t0 t1 tEnd values (some rf) bench = performanceMetrics o t0 t1 tEnd values rf bench := by
  have e : Gen.metricsDefaultRiskFree = 1080863910568919 / 36028797018963968 := by
    unfold Gen.metricsDefaultRiskFree; norm_num
  refine ⟨e, ?_, ?_, fun rf => rfl⟩
  · rw [e, abs_le]; constructor <;> norm_num
  · unfold performanceMetricsOpt defaultRiskFree
    rw [e]; rfl

/- Every `performance_metrics` theorem on a concrete run:
  values `[1, 2, 3, 6]`, benchmark `[1, 2, 3, 5]`, a daily index of four stamps, rf = 3/100; the oracle answers
  `pow b e = b`, `sqrt v = v` (any answers do: the theorems are for an arbitrary `Orc`). -/
namespace C20Demo
deriving instance DecidableEq for Metrics.Perf

def orc : Orc := ⟨fun b _ => some b, fun v => some v⟩
def orcInf : Orc := ⟨fun _ _ => none, fun v => some v⟩      -- every `pow` overflows
def day : Int := 86400000000000
def vals : List Rat := [1, 2, 3, 6]
def bench : List Rat := [1, 2, 3, 5]
def perf : Perf :=
  { startVal := 1, endVal := 6, intervalInDay := 1, durationInDay := 4, returnValue := 5, returnRate := some 5,
    annualized := some 5, mdd := some 0, sharpe := some (1491 / 9125), volatility := some (365 / 12),
    alpha := some (11 / 7), beta := some (6 / 7), benchRate := some 4, benchApr := some 4 }
def perfNoBench : Perf := { perf with alpha := none, beta := none, benchRate := none, benchApr := none }

theorem run : performanceMetrics orc 0 day (3 * day) vals (3 / 100) (some bench) = .ok perf := by decide +kernel
theorem runNoBench : performanceMetrics orc 0 day (3 * day) vals (3 / 100) none = .ok perfNoBench := by decide +kernel
theorem posVals : AllPos [1, 2, 3, 6] := by
  norm_num [allPos_cons, allPos_nil]
theorem posBench : AllPos [1, 2, 3, 5] := by
  norm_num [allPos_cons, allPos_nil]

example := C20_perf_entries orc 0 day (3 * day) vals (3 / 100) (some bench) perf run
example := C20_perf_entries orc 0 day (3 * day) vals (3 / 100) none perfNoBench runNoBench
example : perf.mdd = some (mddSpec vals) ∧ perf.returnRate = some ((lastOf vals - nth vals 0) / nth vals 0) :=
  C20_perf_reports_definitions orc 0 day (3 * day) vals (3 / 100) (some bench) posVals perf run
example : perfNoBench.mdd = some (mddSpec vals) ∧ perfNoBench.returnRate = some ((lastOf vals - nth vals 0) / nth vals 0) :=
  C20_perf_reports_definitions orc 0 day (3 * day) vals (3 / 100) none posVals perfNoBench runNoBench
-- pow = 6, variance of the multiples [2, 3/2, 2] = 1/12, s = 1/12, q = 365
example : perf.sharpe = some ((6 - 1 - 3 / 100) / (1 / 12 * 365)) ∧ perf.volatility = some (1 / 12 * 365) :=
  C20_perf_sharpe_and_volatility orc 0 day (3 * day) 1 [2, 3, 6] (3 / 100) (some bench) perf run posVals
    (by decide +kernel) (by decide +kernel) 6 (1 / 12) (1 / 12) 365 (by decide +kernel) (by decide +kernel) (by decide +kernel)
    (by decide +kernel) (by norm_num)
example : perfNoBench.sharpe = some ((6 - 1 - 3 / 100) / (1 / 12 * 365)) ∧ perfNoBench.volatility = some (1 / 12 * 365) :=
  C20_perf_sharpe_and_volatility orc 0 day (3 * day) 1 [2, 3, 6] (3 / 100) none perfNoBench runNoBench posVals
    (by decide +kernel) (by decide +kernel) 6 (1 / 12) (1 / 12) 365 (by decide +kernel) (by decide +kernel) (by decide +kernel)
    (by decide +kernel) (by norm_num)
example : perf.durationInDay = vals.length * perf.intervalInDay :=
  C20_perf_duration_regular_index orc 0 day (3 * day) vals (3 / 100) (some bench) perf run (by decide +kernel)
-- an irregular index (stamps 0, 1 d, …, 7 d): the duration is span + first gap = 8 d, not n · interval = 4 d
example : (performanceMetrics orc 0 day (7 * day) vals (3 / 100) none).toOption.map (fun p => (p.intervalInDay, p.durationInDay))
    = some (1, 8) := by decide +kernel
example := C20_perf_bench_entries orc 0 day (3 * day) 1 1 [2, 3, 6] [2, 3, 5] (3 / 100) perf run posVals posBench rfl
    (by decide) (by decide +kernel) 6 5 (by decide +kernel) (by decide +kernel) (by decide +kernel)
example : perf.beta = some (6 / 7) ∧ perf.alpha = some ((6 - 1) - 6 / 7 * (5 - 1)) ∧ perf.benchRate = some ((5 - 1) / 1) ∧
    perf.benchApr = some (5 - 1) := by decide +kernel
example := C20_perf_beta_entry_independent_of_apr orc 0 day (3 * day) 1 1 [2, 3, 6] [2, 3, 5] (3 / 100) perf run posVals posBench rfl
    (by decide) (by decide +kernel) (by decide +kernel)
example : (performanceMetrics orcInf 0 day (3 * day) vals (3 / 100) (some bench)).toOption.map
    (fun p => (p.beta, p.alpha, p.annualized, p.benchRate, p.benchApr)) = some (some (6 / 7), none, none, some 4, none) := by
  decide +kernel
example : perfNoBench.alpha = none ∧ perfNoBench.beta = none ∧ perfNoBench.benchRate = none ∧ perfNoBench.benchApr = none :=
  C20_perf_no_benchmark orc 0 day (3 * day) vals (3 / 100) perfNoBench runNoBench
example := C20_perf_benchmark_only_in_benchmark_entries orc 0 day (3 * day) vals (3 / 100) (some bench) perf perfNoBench run runNoBench
-- one value only: IndexError on `values.index[1]`
example : performanceMetrics orc 0 0 0 [1] (3 / 100) none = .error .index := by decide +kernel
end C20Demo

end Demeter
