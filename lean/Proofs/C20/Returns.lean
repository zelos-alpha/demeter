/-
  C20 — return series, total return and annualised return across their input forms.

  `returnMultiple`, `returnRateSeries`, `annualizedReturn` mirror calculator.py (pandas `shift`/`pct_change`/`fillna`/
  `replace`/`prod`), `pow` is an oracle parameter: the statements hold for *every* `Orc`, they only use that the same
  function is applied to equal arguments.  Exact rational semantics.
-/
import Proofs.Lemmas.MetricsReturns
namespace Demeter
open Metrics

/-- days per year used by every branch of `annualized_return`, as read from the source on this run -/
theorem C20_days_per_year_pinned : daysPerYear = 365 ∧ Gen.metricsDaysPerYear = 365 :=
  ⟨daysPerYear_eq, daysPerYear_eq⟩

/-- **return multiple series = its definition**: same length, first entry 1, then `value(t) / value(t-1)` -/
theorem C20_return_multiple_def (xs : List Rat) (hp : AllPos xs) :
    (returnMultiple xs).length = xs.length ∧
    (0 < xs.length → nth (returnMultiple xs) 0 = 1) ∧
    (∀ k, 0 < k → k < xs.length → nth (returnMultiple xs) k = nth xs k / nth xs (k - 1)) := by
  cases xs with
  | nil => simp [returnMultiple]
  | cons x r =>
    refine ⟨by simp [returnMultiple, length_multiplesFrom], fun _ => rfl, ?_⟩
    intro k hk0 hk
    obtain ⟨k, rfl⟩ := Nat.exists_eq_succ_of_ne_zero (by omega : k ≠ 0)
    simp only [returnMultiple, nth_succ_cons]
    exact nth_multiplesFrom x r hp k (by simpa using hk)

/-- **return rate series = its definition**: same length, first entry 0, then `(value(t) - value(t-1)) / value(t-1)` -/
theorem C20_return_rate_series_def (xs : List Rat) (hp : AllPos xs) :
    (returnRateSeries xs).length = xs.length ∧
    (0 < xs.length → nth (returnRateSeries xs) 0 = 0) ∧
    (∀ k, 0 < k → k < xs.length → nth (returnRateSeries xs) k = (nth xs k - nth xs (k - 1)) / nth xs (k - 1)) := by
  obtain ⟨hlen, h0, hk⟩ := C20_return_multiple_def xs hp
  rw [returnRateSeries_eq]
  refine ⟨by rw [List.length_map, hlen], fun h => ?_, fun k hk0 hkl => ?_⟩
  · rw [nth_map _ (by omega), h0 h]
    exact sub_self 1
  · rw [nth_map _ (by omega), hk k hk0 hkl, div_sub_one (ne_of_gt (nth_pos hp (by omega)))]

/-- **telescoping product**: the product of the return multiples, and of `1 + rate`, is `last / first` -/
theorem C20_product_telescopes (xs : List Rat) (hp : AllPos xs) (hne : xs ≠ []) :
    prod (returnMultiple xs) = lastOf xs / nth xs 0 ∧
    prod ((returnRateSeries xs).map (· + 1)) = lastOf xs / nth xs 0 := by
  cases xs with
  | nil => exact absurd rfl hne
  | cons x r =>
    have h1 : prod (returnMultiple (x :: r)) = lastOf (x :: r) / nth (x :: r) 0 := by
      simp only [returnMultiple, prod, one_mul, lastOf, List.length_cons, Nat.add_sub_cancel, nth_zero_cons]
      exact prod_multiplesFrom x r hp
    refine ⟨h1, ?_⟩
    rw [returnRateSeries_eq, map_sub_add_one, h1]

/-- **total return agrees across its input forms**: end points, net-value series, return-rate series -/
theorem C20_total_return_forms_agree (xs : List Rat) (hp : AllPos xs) (hne : xs ≠ []) :
    returnRate (nth xs 0) (lastOf xs) = .ok (prod (returnMultiple xs) - 1) ∧
    returnRate (nth xs 0) (lastOf xs) = .ok (prod ((returnRateSeries xs).map (· + 1)) - 1) ∧
    returnRate (nth xs 0) (lastOf xs) = .ok ((lastOf xs - nth xs 0) / nth xs 0) := by
  have h0 : 0 < nth xs 0 := nth_pos hp (List.length_pos_iff.mpr hne)
  obtain ⟨t1, t2⟩ := C20_product_telescopes xs hp hne
  unfold returnRate
  rw [if_pos h0, t1, t2]
  refine ⟨rfl, rfl, ?_⟩
  rw [div_sub_one (ne_of_gt h0)]

/-- **annualised (compound) return agrees across its three input forms**, for every `pow` oracle and every duration
    (including the rejected duration 0) -/
theorem C20_annualized_compound_forms_agree (o : Orc) (d : Rat) (xs : List Rat) (hp : AllPos xs) (hne : xs ≠ []) :
    annualizedReturn o .compound d { nets := some xs } =
      annualizedReturn o .compound d { init := some (nth xs 0), final := some (lastOf xs) } ∧
    annualizedReturn o .compound d { rates := some (returnRateSeries xs) } =
      annualizedReturn o .compound d { init := some (nth xs 0), final := some (lastOf xs) } := by
  have h0 : nth xs 0 ≠ 0 := ne_of_gt (nth_pos hp (List.length_pos_iff.mpr hne))
  obtain ⟨t1, t2⟩ := C20_product_telescopes xs hp hne
  simp only [annualizedReturn, t1, t2, h0, if_false]
  by_cases hd : d = 0
  · simp [compoundOf, hd]
  · simp [hd]

/-- the compound form is `(final / init) ** (365 / duration) - 1` -/
theorem C20_annualized_compound_formula (o : Orc) (d i f : Rat) (hd : d ≠ 0) (hi : i ≠ 0) :
    annualizedReturn o .compound d { init := some i, final := some f } =
      match o.pow (f / i) (365 / d) with
      | some p => .ok (p - 1)
      | none => .error .nonfinite := by
  rw [annualized_endpoints o hd hi, compoundOf_ne o hd]
  cases o.pow (f / i) (365 / d) <;> rfl

/-- **annualised (single-interest) return agrees across its two input forms** and is `(final - init) / init * 365 / duration` -/
theorem C20_annualized_single_forms_agree (o : Orc) (d : Rat) (hd : d ≠ 0) (xs : List Rat) (hp : AllPos xs) (hne : xs ≠ []) :
    annualizedReturn o .single d { nets := some xs } =
      annualizedReturn o .single d { init := some (nth xs 0), final := some (lastOf xs) } ∧
    annualizedReturn o .single d { nets := some xs } = .ok ((lastOf xs - nth xs 0) / nth xs 0 * 365 / d) := by
  have h0 : nth xs 0 ≠ 0 := ne_of_gt (nth_pos hp (List.length_pos_iff.mpr hne))
  have hl : xs.length ≠ 0 := fun h => hne (List.length_eq_zero_iff.mp h)
  simp only [annualizedReturn, hl, h0, hd, if_false, or_self, lastOf, daysPerYear_eq, true_and]
  congr 1
  exact div_div_eq_mul_div ..

/-- a return-rate series under single interest is refused, as is a call without any input form -/
theorem C20_annualized_rejections (o : Orc) (d : Rat) (rs : List Rat) :
    annualizedReturn o .single d { rates := some rs } = .error .demeter ∧
    annualizedReturn o .single d {} = .error .demeter ∧
    annualizedReturn o .compound d {} = .error .demeter := by
  simp [annualizedReturn]

example : AllPos [1, 11/10, 121/100] := by
  norm_num [allPos_cons, allPos_nil]
example : returnRateSeries [1, 11/10, 121/100] = [0, 1/10, 1/10] ∧ returnMultiple [1, 11/10, 121/100] = [1, 11/10, 11/10] := by
  decide +kernel
example : prod (returnMultiple [1, 11/10, 121/100]) = 121/100 := by decide +kernel
example : annualizedReturn ⟨fun b _ => some (b * b), fun _ => none⟩ .compound (365/2) { init := some 1, final := some (11/10) }
    = .ok (21/100) := by decide +kernel

end Demeter
