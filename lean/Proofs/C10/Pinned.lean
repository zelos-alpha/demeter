/-
  C10 — the amount a repayment actually pays back.

  * Out of collateral (`C10_repay_collateral_exact_pinned`): the amount asked for (`None` = the whole debt `base × variable
    index`), unless that is worth more than the collateral supply holds — then the counter-value of the whole supply
    (`repayCollateralCap`, "contract will change payback amount instead of raise an error").
  * How far `payback` may exceed the debt (`C10_repay_payback_bound`).  The code's check is
    `require((base − payback/index).quantize(1e-18) ≥ 0)`: quantize is round-half-even to 18 decimals, so an accepted call has
    `base − payback/index ≥ −1/(2·10¹⁸)`, i.e. `payback ≤ base × index + index / (2·10¹⁸)` — the exact slack, reached by
    the witness at the end of the file.  When a payment exceeds the debt (inside that slack) the entry is deleted
    (`C10_repay_overpay_removes`): at most `index × 5e-19` tokens are taken from the wallet on top of the debt.
-/
import Proofs.C10.Split
import Proofs.Lemmas.AaveQuant
namespace Demeter
open Aave

variable {env : Env}

theorem aave_quant_nonneg_bound (k : Nat) (x : Rat) (h : 0 ≤ quantHalfEven k x) : -(1 / (2 * 10 ^ k)) ≤ x := by
  have := aave_quant_err k x
  rw [abs_le] at this
  linarith [this.2]

/-- the two checks an accepted repayment (cash or collateral) went through -/
theorem aave_repay_check {base payback I rr : Rat} (hidx : 0 < I) (hpos : 0 < payback / I)
    (hrr : quantE Gen.aaveRepayRoundDigits (base - payback / I) = .ok rr) (hge : 0 ≤ rr) :
    0 < payback ∧ payback ≤ base * I + I / (2 * 10 ^ 18) := by
  obtain rfl := aave_quantE_ok_eq hrr
  have hb : -(1 / (2 * 10 ^ 18)) ≤ base - payback / I := aave_quant_nonneg_bound _ _ hge
  refine ⟨(div_pos_iff_of_pos_right hidx).1 hpos, ?_⟩
  have h2 := mul_le_mul_of_nonneg_right (show payback / I ≤ base + 1 / (2 * 10 ^ 18) by linarith) hidx.le
  rw [div_mul_cancel₀ _ hidx.ne'] at h2
  calc payback ≤ (base + 1 / (2 * 10 ^ 18)) * I := h2
    _ = base * I + I / (2 * 10 ^ 18) := by ring

/-- **the amount a cash repayment pays back is bounded by the debt plus the quantize slack**: an accepted
    `repay(tok, amount)` has `amount ≤ base × index + index / (2·10¹⁸)` (`aaveRepayRoundDigits = 18`), where `base × index`
    is the debt shown by `get_borrow(tok).amount`. -/
theorem C10_repay_payback_bound (hI : AavePosIdx env) {s s' : St} (hs : Good aaveExact env s) {tok : String}
    {amount? : Option Rat} {collTok? : Option String}
    (h : repay aaveExact env tok amount? false collTok? s = (.ok (), s')) :
    ∃ st info payback, env.statusOf tok = .ok st ∧ AList.get? s.borrows tok = some info ∧
      payback = amount?.getD (info.base * st.varIdx) ∧ 0 < payback ∧
      payback ≤ info.base * st.varIdx + st.varIdx / (2 * 10 ^ 18) ∧ Gen.aaveRepayRoundDigits = 18 := by
  obtain ⟨st, info, payback, _, _, hst, _, hg, hpay, hpos, ⟨_, hrr, hge⟩, _⟩ := repay_cash_accepted h
  obtain ⟨hpb, hle⟩ := aave_repay_check (hI tok st hst).2 hpos hrr hge
  exact ⟨st, info, payback, hst, hg, hpay, hpb, hle, rfl⟩

/-- **a payment above the debt (inside the slack) deletes the entry**: nothing negative is ever stored. -/
theorem C10_repay_overpay_removes (hI : AavePosIdx env) {s s' : St} (hs : Good aaveExact env s) {tok : String}
    {a : Rat} {collTok? : Option String}
    (h : repay aaveExact env tok (some a) false collTok? s = (.ok (), s'))
    (hover : ∀ st info, env.statusOf tok = .ok st → AList.get? s.borrows tok = some info → info.base * st.varIdx ≤ a) :
    AList.get? s'.borrows tok = none := by
  obtain ⟨st, info, payback, hst, hg, hp, _, hcase, _⟩ := C10_repay_exact hI h
  have hidx : 0 < st.varIdx := (hI tok st hst).2
  simp only [Option.getD_some] at hp
  subst hp
  rcases hcase with ⟨_, hn⟩ | ⟨hge, _⟩
  · exact hn
  · exfalso
    have h1 := hover st info hst hg
    have : info.base ≤ payback / st.varIdx := by
      rw [le_div_iff₀ hidx]; exact h1
    have := aave_minToken_pos
    linarith

/-- **repay with collateral, the amount pinned**: the wallet is not touched; with `a0` the amount asked for (`None` = the
    whole debt) and `S = cinfo.base × liquidity index` the collateral balance, the amount paid back is
    `if a0·pb/pc > S then S·pc/pb else a0`; the debt goes down by exactly that, the collateral supply by its counter-value
    `payback·pb/pc`; and the amount passes the same `exceedDebt` check (`payback ≤ debt + index/(2·10¹⁸)`). -/
theorem C10_repay_collateral_exact_pinned (hI : AavePosIdx env) {s s' : St} (hs : Good aaveExact env s) {tok : String}
    {amount? : Option Rat} {collTok? : Option String}
    (h : repay aaveExact env tok amount? true collTok? s = (.ok (), s')) :
    ∃ st cst info cinfo payback pb pc, env.statusOf tok = .ok st ∧ env.statusOf (collTok?.getD tok) = .ok cst ∧
      env.priceOf tok = .ok pb ∧ env.priceOf (collTok?.getD tok) = .ok pc ∧
      AList.get? s.borrows tok = some info ∧ AList.get? s.supplies (collTok?.getD tok) = some cinfo ∧
      payback = (if amount?.getD (info.base * st.varIdx) * pb / pc > cinfo.base * cst.liqIdx
                 then cinfo.base * cst.liqIdx * pc / pb else amount?.getD (info.base * st.varIdx)) ∧
      0 < payback ∧ payback ≤ info.base * st.varIdx + st.varIdx / (2 * 10 ^ 18) ∧
      s'.wallet = s.wallet ∧
      s'.borrows = borAfterSub s.borrows tok info (subBase aaveExact info.base (payback / st.varIdx)) ∧
      s'.supplies = supAfterSub s.supplies (collTok?.getD tok) cinfo
        (subBase aaveExact cinfo.base (payback * pb / pc / cst.liqIdx)) := by
  obtain ⟨st, cst, info, cinfo, payback, pb, pc, hst, hcst, _, hpb, hpc, _, hg, hci, hcase, hpos, ⟨_, hrr, hge⟩, k⟩ :=
    aave_repay_coll_inv h
  obtain ⟨hpb0, hle⟩ := aave_repay_check (hI tok st hst).2 hpos hrr hge
  refine ⟨st, cst, info, cinfo, payback, pb, pc, hst, hcst, hpb, hpc, hg, hci, ?_, hpb0, hle, k⟩
  rcases hcase with ⟨hgt, _, hp⟩ | ⟨hle, hp⟩
  · exact hp.trans (if_pos hgt).symm
  · exact hp.trans (if_neg hle).symm

/-- debt 4000 scaled × index 1.25 = 5000 USDC (`c10Bor` of `Proofs/C10/Split.lean`), wallet 5000 USDC: a repayment of
    exactly `5000 + 1.25/(2·10¹⁸)` — the bound of `C10_repay_payback_bound` — is accepted (round-half-even sends the scaled
    remainder `−5e-19` to `−0`), the entry disappears and the wallet goes to 0 through `Asset.sub`'s dust rule … -/
example : c10IsOk (step aaveExact c10Env c10Bor (.repay "USDC" (some (5000 + (5/4) / (2 * 10 ^ 18))) false none)).1 = true ∧
    (step aaveExact c10Env c10Bor (.repay "USDC" (some (5000 + (5/4) / (2 * 10 ^ 18))) false none)).2.borrows = [] := by
  decide +kernel
/-- … and anything more is refused -/
example : c10IsOk (step aaveExact c10Env c10Bor (.repay "USDC" (some (5000 + (5/4) / (2 * 10 ^ 18) + 1 / 10 ^ 30)) false none)).1
    = false := by decide +kernel
/-- the cap: 11 WETH of collateral (10 scaled × 1.1) are worth 11 000 USDC; asking to repay the whole 5000 USDC debt out of
    it is not capped (`a0·pb/pc = 5 ≤ 11`), the debt disappears and 5 WETH = 50/11 scaled units are taken -/
example : (step aaveExact c10Env c10Bor (.repay "USDC" none true (some "WETH"))).2.borrows = [] ∧
    (step aaveExact c10Env c10Bor (.repay "USDC" none true (some "WETH"))).2.supplies = [("WETH", ⟨10 - 50 / 11, true, 11/10⟩)] := by
  decide +kernel

end Demeter
