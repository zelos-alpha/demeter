/-
  C10 — "the wallet gives exactly `amount`" and `Asset.sub`'s tolerance.

  `WalletTook` (the wallet clause of `C10_supply_exact` / `C10_repay_exact`) admits `b' = 0 ∧ |(b − amount)/b| < 1e-5`, and that
  includes `amount > b`: `Asset.sub` (`demeter/broker/_typing.py`) sets the balance to 0 whenever the difference is within 1e-5 of
  the balance *before* it looks at the sign, so a supply / cash repayment of up to `balance × (1 + 1e-5)` is accepted, the wallet
  pays only `balance`, and the Aave position moves by the full `amount`.

  The two kernel-checked witnesses (wallet 100 / 99.9995 USDC, amount 100.0005 / debt 100) are by design of `Asset.sub`'s tolerance
  ("the amount calculated by v3_core has some acceptable error"): known findings `move:supply:overdraft-dust` /
  `move:repay:overdraft-dust`.  For `amount ≤ balance` the position is never credited with more than was paid; for
  `amount > balance` an accepted call has `amount − balance < 1e-5 × balance`: that is all that can be created per call.
-/
import Proofs.Lemmas.AaveExact
namespace Demeter
open Aave

variable {env : Env}

/-- **supply within the balance moves exactly the stated amount, and the wallet pays for all of it**: when the wallet holds
    `b ≥ amount`, the supply grows by exactly `amount` and the wallet goes to `b − amount` — or to 0 when less than 1e-5 of the
    balance would be left; either way the wallet pays at least what the position is credited with. -/
theorem C10_supply_exact_within_balance {s s' : St} {tok : String} {amount b : Rat} {coll : Bool}
    (h : supply aaveExact env tok amount coll s = (.ok (), s'))
    (hb : AList.get? s.wallet tok = some b) (hle : amount ≤ b) :
    ∃ st e b', env.statusOf tok = .ok st ∧ AList.get? s'.supplies tok = some e ∧
      e.base * st.liqIdx = ((AList.get? s.supplies tok).map (·.base)).getD 0 * st.liqIdx + amount ∧
      AList.get? s'.wallet tok = some b' ∧
      (b' = b - amount ∨ (b' = 0 ∧ b - amount < assetDust * b)) ∧ amount ≤ b - b' := by
  obtain ⟨st, e, b0, x, hst, he, hamt, _, _, hb0, hw, hd⟩ := aave_supply_moves h
  rw [hb] at hb0; cases hb0
  exact ⟨st, e, x, hst, he, hamt, by rw [hw]; exact AList.get?_set_self _ _ _, hd.within hle⟩

/-- **what an overdraft can create is bounded**: an accepted supply of more than the wallet holds empties the wallet and has
    `amount − balance < 1e-5 × balance` (`assetDust = 0.00001` as a float: its exact binary value). -/
theorem C10_supply_overdraft_bound {s s' : St} {tok : String} {amount b : Rat} {coll : Bool}
    (h : supply aaveExact env tok amount coll s = (.ok (), s'))
    (hb : AList.get? s.wallet tok = some b) (hgt : b < amount) :
    AList.get? s'.wallet tok = some 0 ∧ 0 < b ∧ amount - b < assetDust * b ∧ assetDust < 1 / 10 ^ 5 + 1 / 10 ^ 20 := by
  obtain ⟨_, _, b0, x, _, _, _, _, _, hb0, hw, hd⟩ := aave_supply_moves h
  rw [hb] at hb0; cases hb0
  obtain ⟨rfl, hbpos, hdiff⟩ := hd.over hgt
  exact ⟨by rw [hw]; exact AList.get?_set_self _ _ _, hbpos, hdiff, by linarith [assetDust_bounds.2]⟩

/-- **cash repayment within the balance**: the wallet pays at least `payback`. -/
theorem C10_repay_exact_within_balance (hI : AavePosIdx env) {s s' : St} (hs : Good aaveExact env s) {tok : String}
    {amount? : Option Rat} {collTok? : Option String} {b : Rat}
    (h : repay aaveExact env tok amount? false collTok? s = (.ok (), s'))
    (hb : AList.get? s.wallet tok = some b)
    (hle : ∀ st info, env.statusOf tok = .ok st → AList.get? s.borrows tok = some info →
      amount?.getD (info.base * st.varIdx) ≤ b) :
    ∃ st info payback b', env.statusOf tok = .ok st ∧ AList.get? s.borrows tok = some info ∧
      payback = amount?.getD (info.base * st.varIdx) ∧ AList.get? s'.wallet tok = some b' ∧
      (b' = b - payback ∨ (b' = 0 ∧ b - payback < assetDust * b)) ∧ payback ≤ b - b' := by
  obtain ⟨st, info, payback, b0, b', hst, _, hg, hp, _, hb0, h3, hd, _, _⟩ := aave_repay_cash_inv hI h
  rw [hb] at hb0; cases hb0
  exact ⟨st, info, payback, b', hst, hg, hp, by rw [h3]; exact AList.get?_set_self _ _ _,
    hd.within (hp ▸ hle st info hst hg)⟩

/-- **cash repayment above the balance**: accepted only inside the 1e-5 tolerance; the wallet is emptied. -/
theorem C10_repay_overdraft_bound (hI : AavePosIdx env) {s s' : St} (hs : Good aaveExact env s) {tok : String}
    {amount? : Option Rat} {collTok? : Option String} {b : Rat}
    (h : repay aaveExact env tok amount? false collTok? s = (.ok (), s'))
    (hb : AList.get? s.wallet tok = some b)
    (hgt : ∀ st info, env.statusOf tok = .ok st → AList.get? s.borrows tok = some info →
      b < amount?.getD (info.base * st.varIdx)) :
    ∃ st info payback, env.statusOf tok = .ok st ∧ AList.get? s.borrows tok = some info ∧
      payback = amount?.getD (info.base * st.varIdx) ∧ AList.get? s'.wallet tok = some 0 ∧ 0 < b ∧
      payback - b < assetDust * b := by
  obtain ⟨st, info, payback, b0, b', hst, _, hg, hp, _, hb0, h3, hd, _, _⟩ := aave_repay_cash_inv hI h
  rw [hb] at hb0; cases hb0
  obtain ⟨rfl, hbpos, hdiff⟩ := hd.over (hp ▸ hgt st info hst hg)
  exact ⟨st, info, payback, hst, hg, hp, by rw [h3]; exact AList.get?_set_self _ _ _, hbpos, hdiff⟩

def c10oEnv : Env :=
  { status := [("WETH", ⟨1/100, 3/100, 11/10, 12/10⟩), ("USDC", ⟨1/100, 3/100, 1, 1⟩)],
    price := [("WETH", 1000), ("USDC", 1)],
    risk := [("WETH", ⟨true, 8/10, 825/1000, 5/100, true⟩), ("USDC", ⟨true, 8/10, 85/100, 4/100, true⟩)],
    isOpen := true }

def c10oSt : St := { St.init with wallet := [("USDC", 100)] }
def c10oDebt : St :=
  { St.init with supplies := [("WETH", ⟨10, true, 1⟩)], borrows := [("USDC", ⟨100, 1⟩)], wallet := [("USDC", 999995 / 10000)] }

def c10oOk {α : Type} (r : Res α) : Bool :=
  match r with
  | .ok _ => true
  | .error _ => false

/-- **the supply is credited with more than the wallet paid** (by design of `Asset.sub`'s tolerance): wallet 100 USDC,
    `supply(USDC, 100.0005)` is accepted, the wallet goes to 0 and the supply is `100.0005 USDC` (index 1). -/
theorem C10_supply_overdraft_dust :
    AList.get? c10oSt.wallet "USDC" = some 100 ∧
    c10oOk (step aaveExact c10oEnv c10oSt (.supply "USDC" (1000005 / 10000) false)).1 = true ∧
    (step aaveExact c10oEnv c10oSt (.supply "USDC" (1000005 / 10000) false)).2.wallet = [("USDC", 0)] ∧
    (step aaveExact c10oEnv c10oSt (.supply "USDC" (1000005 / 10000) false)).2.supplies = [("USDC", ⟨1000005 / 10000, false, 1⟩)] := by
  decide +kernel

/-- **the debt goes down by more than the wallet paid**: debt 100 USDC, wallet 99.9995 USDC, `repay(USDC, None)` is accepted, the wallet
    goes to 0 and the debt disappears. -/
theorem C10_repay_overdraft_dust :
    AList.get? c10oDebt.wallet "USDC" = some (999995 / 10000) ∧ c10oDebt.borrows = [("USDC", ⟨100, 1⟩)] ∧
    c10oOk (step aaveExact c10oEnv c10oDebt (.repay "USDC" none false none)).1 = true ∧
    (step aaveExact c10oEnv c10oDebt (.repay "USDC" none false none)).2.wallet = [("USDC", 0)] ∧
    (step aaveExact c10oEnv c10oDebt (.repay "USDC" none false none)).2.borrows = [] := by
  decide +kernel

/-- the statement "the wallet pays at least what the position is credited with" **fails** without `amount ≤ balance` -/
theorem C10_fails_supply_paid_by_wallet :
    ¬ (∀ (env : Env) (s : St) (tok : String) (amount b b' : Rat) (coll : Bool),
        c10oOk (step aaveExact env s (.supply tok amount coll)).1 = true →
        AList.get? s.wallet tok = some b →
        AList.get? (step aaveExact env s (.supply tok amount coll)).2.wallet tok = some b' → amount ≤ b - b') := by
  intro hall
  have h := hall c10oEnv c10oSt "USDC" (1000005 / 10000) 100 0 false (by decide +kernel) (by decide +kernel) (by decide +kernel)
  norm_num at h

-- the within-balance theorems apply: 100 USDC in the wallet, supply 40
example : (step aaveExact c10oEnv c10oSt (.supply "USDC" 40 false)).2.wallet = [("USDC", 60)] ∧
    (step aaveExact c10oEnv c10oSt (.supply "USDC" 40 false)).2.supplies = [("USDC", ⟨40, false, 1⟩)] := by decide +kernel
/-- … and 99.9999 of 100: the remaining 0.0001 is inside the tolerance and is taken too (the wallet pays *more* than the position gets) -/
example : (step aaveExact c10oEnv c10oSt (.supply "USDC" (999999 / 10000) false)).2.wallet = [("USDC", 0)] := by decide +kernel
/-- an overdraft outside the tolerance is refused -/
example : c10oOk (step aaveExact c10oEnv c10oSt (.supply "USDC" (100 + 2 / 1000) false)).1 = false := by decide +kernel

end Demeter
