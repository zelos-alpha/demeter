/-
  C10 — ε-robust accrual for the 35-digit Decimal context.

  The exact-arithmetic theorems (`C10_supply_accrues`, …) say: supplied `a` at liquidity index `I₀`, any history that does
  not target this supply, then the balance in a bar with index `I` is `a·I/I₀`.  Here the same round trip is proved for a
  *rounding* context: every `+ − × ÷` result is rounded with relative error ≤ ε (`RndOK`).  The model performs
        base   = rnd(0 + rnd(a / I₀))            (supply: `pool_amount`, then `Decimal(0) += pool_amount`)
        amount = rnd(base · I)                    (`get_supply(...).amount`, what `withdraw(None)` pays out)
        left   = rnd(base − rnd(amount / I))      (`sub_base_amount`; below MIN_TOKEN_VALUE ⇒ the entry is deleted)
  so   `amount` is `a·I/I₀` within three roundings (`Within ε 3 3`; to first order `|amount − a·I/I₀| ≤ 4ε·a·I/I₀`,
  `Within.lin`)   and   left ≤ 3ε·(1+ε)²·a/I₀.

  The guarded 35-digit context has `RndOK … EPS35` (`aave_pyG_rndOK`, from `NumCtx.pyG_relRnd`; ε = 5·10⁻³⁵: CPython's `prec = 35`, `NumCtx.pyG` = the drivers'
  `NumCtx.py` inside the magnitude range `InRange`, identity outside), hence for the Decimal arithmetic of the code:
  withdraw-all after any number of bars returns `a·I/I₀` within 2·10⁻³⁴ relative (≪ the 10⁻¹⁸ of the property), and —
  under the explicit magnitude bound `a/I₀ ≤ 10¹⁵` scaled units — the position disappears (`C10_roundtrip_pyG`).
  The debt side has the same three roundings (borrow: `rnd(0 + rnd(a/I₀))`, `get_borrow(...).amount = rnd(base·I)`, what
  `repay(None)` takes from the wallet, `sub_base_amount`).
-/
import Proofs.C10.Accrual
import Proofs.C10.Debt
import Proofs.Lemmas.Round35Ctx
import Proofs.Lemmas.RelRnd
import Mathlib.Tactic.Positivity
namespace Demeter
open Aave Demeter.Numerics

structure Aave.RndOK (nc : NumCtx) (ε : Rat) : Prop where
  within : ∀ x : Rat, 0 ≤ x → x * (1 - ε) ≤ nc.rnd x ∧ nc.rnd x ≤ x * (1 + ε)
  nonpos : ∀ x : Rat, x ≤ 0 → nc.rnd x ≤ 0

/-- the Aave context over the guarded 35-digit Decimal arithmetic (`dpow` = libmpdec's power, irrelevant here) -/
def aavePyG : ACtx := { NumCtx.pyG with dpow := dpowNat 35 }

theorem aave_pyG_rndOK : RndOK aavePyG.toNumCtx EPS35 where
  within := NumCtx.pyG_relRnd
  nonpos := fun _ => NumCtx.pyG_rnd_nonpos

namespace Aave
variable {nc : NumCtx} {ε : Rat}

theorem RndOK.rounds (h : RndOK nc ε) (hε1 : ε ≤ 1) : Rounds nc ε := ⟨h.within, hε1⟩

theorem RndOK.between (h : RndOK nc ε) (hε : 0 ≤ ε) (hε1 : ε ≤ 1) {x lo hi : Rat} (hlo : 0 ≤ lo) (h1 : lo ≤ x) (h2 : x ≤ hi) :
    lo * (1 - ε) ≤ nc.rnd x ∧ nc.rnd x ≤ hi * (1 + ε) :=
  (h.rounds hε1).between hlo h1 h2

theorem roundtrip_amount (h : RndOK nc ε) (hε1 : ε ≤ 1) {a I0 I : Rat} (ha : 0 ≤ a) (hI0 : 0 < I0) (hI : 0 < I) :
    Within ε 2 2 (a / I0) (nc.add 0 (nc.div a I0)) ∧ Within ε 3 3 (a * I / I0) (nc.mul (nc.add 0 (nc.div a I0)) I) := by
  have hq : 0 ≤ a / I0 := div_nonneg ha hI0.le
  have R := h.rounds hε1
  have r2 : Within ε 2 2 (a / I0) (nc.add 0 (nc.div a I0)) := by
    show Within ε 2 2 (a / I0) (nc.rnd (0 + nc.div a I0))
    rw [zero_add]
    exact R.step hq (R.div ha hI0.le (.refl a))
  rw [show a * I / I0 = a / I0 * I by ring]
  exact ⟨r2, R.mul hq hI.le r2⟩

theorem roundtrip_left (h : RndOK nc ε) (hεh : ε ≤ 1 / 2) {base I : Rat} (hb : 0 ≤ base) (hI : 0 < I) :
    nc.sub base (nc.div (nc.mul base I) I) ≤ 3 * ε * base := by
  have R := h.rounds (by linarith)
  have hε := R.eps_nonneg
  have r : Within ε 2 2 base (nc.div (nc.mul base I) I) := by
    have := R.div (mul_nonneg hb hI.le) hI.le (R.mul hb hI.le (.refl base))
    rwa [mul_div_cancel_right₀ _ hI.ne'] at this
  by_cases hneg : base - nc.div (nc.mul base I) I ≤ 0
  · exact le_trans (h.nonpos _ hneg) (by positivity)
  · have hdiff : base - nc.div (nc.mul base I) I ≤ base * (2 * ε) := by
      have d1 : base * (1 - ε) ^ 2 ≤ nc.div (nc.mul base I) I := r.1
      nlinarith only [d1, mul_nonneg hb (mul_nonneg hε hε)]
    calc nc.sub base (nc.div (nc.mul base I) I)
        ≤ (base - nc.div (nc.mul base I) I) * (1 + ε) := (h.within _ (not_le.mp hneg).le).2
      _ ≤ base * (2 * ε) * (1 + ε) := mul_le_mul_of_nonneg_right hdiff (by linarith)
      _ ≤ 3 * ε * base := by nlinarith only [mul_nonneg (mul_nonneg hb hε) (by linarith : (0:ℚ) ≤ 1 - 2 * ε)]

theorem roundtrip_close {cx : ACtx} (h : RndOK cx.toNumCtx ε) (hεh : ε ≤ 1 / 2) {a I0 I : Rat}
    (ha : 0 ≤ a) (hI0 : 0 < I0) (hI : 0 < I) :
    Within ε 3 3 (a * I / I0) (cx.mul (cx.add 0 (cx.div a I0)) I) ∧
    (3 * ε * (a / I0 * (1 + ε) ^ 2) < Gen.aaveMinTokenValue →
      subBase cx (cx.add 0 (cx.div a I0)) (cx.div (cx.mul (cx.add 0 (cx.div a I0)) I) I) = 0) := by
  have hε1 : ε ≤ 1 := by linarith
  have hε := (h.rounds hε1).eps_nonneg
  obtain ⟨rb, ra⟩ := roundtrip_amount h hε1 ha hI0 hI
  refine ⟨ra, fun hsmall => ?_⟩
  unfold subBase
  rw [if_pos]
  calc cx.sub (cx.add 0 (cx.div a I0)) (cx.div (cx.mul (cx.add 0 (cx.div a I0)) I) I)
      ≤ 3 * ε * cx.add 0 (cx.div a I0) := roundtrip_left h hεh (rb.nonneg hε1 (div_nonneg ha hI0.le)) hI
    _ ≤ 3 * ε * (a / I0 * (1 + ε) ^ 2) := mul_le_mul_of_nonneg_left rb.2 (by positivity)
    _ < Gen.aaveMinTokenValue := hsmall

end Aave

theorem aave_eps35_half : EPS35 ≤ 1 / 2 := le_trans EPS35_small (by norm_num)

theorem aave_pyG_window {t x : Rat} (ht : 0 ≤ t) (h : Within EPS35 3 3 t x) : |x - t| ≤ 1 / 10 ^ 18 * t := by
  rw [mul_comm]
  exact (h.dist_le EPS35_pos.le (by unfold EPS35; norm_num) ht le_rfl).trans
    (mul_le_mul_of_nonneg_left (by unfold EPS35; norm_num) ht)

theorem aave_pyG_dust {q : Rat} (hq : q ≤ 10 ^ 15) : 3 * EPS35 * (q * (1 + EPS35) ^ 2) < Gen.aaveMinTokenValue := by
  have h0 := EPS35_pos
  have e2 : 3 * EPS35 * ((10:ℚ) ^ 15 * (1 + EPS35) ^ 2) < Gen.aaveMinTokenValue := by
    unfold EPS35 Gen.aaveMinTokenValue; norm_num
  have : 3 * EPS35 * (q * (1 + EPS35) ^ 2) ≤ 3 * EPS35 * ((10:ℚ) ^ 15 * (1 + EPS35) ^ 2) :=
    mul_le_mul_of_nonneg_left (mul_le_mul_of_nonneg_right hq (by positivity)) (by positivity)
  linarith

theorem aave_roundtrip_supply {cx : ACtx} {ε : Rat} (hR : RndOK cx.toNumCtx ε) (hε1 : ε ≤ 1 / 2)
    {env0 env : Env} {s0 s1 s2 s3 : St} {tok : String} {a : Rat} {coll : Bool}
    (hI0 : AavePosIdx env0) (hI : AavePosIdx env)
    (hnew : AList.get? s0.supplies tok = none)
    (hsup : supply cx env0 tok a coll s0 = (.ok (), s1))
    (hkept : AList.get? s2.supplies tok = AList.get? s1.supplies tok)
    (hw : withdraw cx env tok none s2 = (.ok (), s3)) :
    ∃ st0 st x, env0.statusOf tok = .ok st0 ∧ env.statusOf tok = .ok st ∧
      s3.wallet = Wallet.credit cx.toNumCtx s2.wallet tok x ∧
      a * st.liqIdx / st0.liqIdx * (1 - ε) ^ 3 ≤ x ∧ x ≤ a * st.liqIdx / st0.liqIdx * (1 + ε) ^ 3 ∧
      (3 * ε * (a / st0.liqIdx * (1 + ε) ^ 2) < Gen.aaveMinTokenValue → AList.get? s3.supplies tok = none) := by
  obtain ⟨st0, hst0, hapos, hs1⟩ := aave_supply_fresh hnew hsup
  obtain ⟨st, info, amount, nb, _, hst, _, hg, hamt, _, _, hnb, k1, _, k3, _⟩ := withdraw_accepted hw
  rw [hkept, hs1] at hg
  cases hg
  simp only [Option.getD_none] at hamt
  obtain ⟨xa, hclr⟩ := roundtrip_close hR hε1 hapos.le (hI0 tok st0 hst0).1 (hI tok st hst).1
  rw [← hamt] at xa hclr
  refine ⟨st0, st, amount, hst0, hst, k3, xa.1, xa.2, fun hsmall => ?_⟩
  rw [k1, hnb, hclr hsmall, supAfterSub, AList.get?_eraseOrSet_self, if_pos rfl]

theorem aave_roundtrip_supply_pyG {env0 env : Env} {s0 s1 s2 s3 : St} {tok : String} {a : Rat} {coll : Bool}
    (hI0 : AavePosIdx env0) (hI : AavePosIdx env)
    (hnew : AList.get? s0.supplies tok = none)
    (hsup : supply aavePyG env0 tok a coll s0 = (.ok (), s1))
    (hkept : AList.get? s2.supplies tok = AList.get? s1.supplies tok)
    (hw : withdraw aavePyG env tok none s2 = (.ok (), s3)) :
    ∃ st0 st x, env0.statusOf tok = .ok st0 ∧ env.statusOf tok = .ok st ∧
      s3.wallet = Wallet.credit NumCtx.pyG s2.wallet tok x ∧
      |x - a * st.liqIdx / st0.liqIdx| ≤ 1 / 10 ^ 18 * (a * st.liqIdx / st0.liqIdx) ∧
      (a / st0.liqIdx ≤ 10 ^ 15 → AList.get? s3.supplies tok = none) := by
  obtain ⟨st0, st, x, h1, h2, h3, xl, xh, hdel⟩ :=
    aave_roundtrip_supply aave_pyG_rndOK aave_eps35_half hI0 hI hnew hsup hkept hw
  obtain ⟨_, _, hapos, _⟩ := aave_supply_fresh hnew hsup
  have ht : 0 ≤ a * st.liqIdx / st0.liqIdx :=
    div_nonneg (mul_nonneg hapos.le (hI tok st h2).1.le) (hI0 tok st0 h1).1.le
  exact ⟨st0, st, x, h1, h2, h3, aave_pyG_window ht ⟨xl, xh⟩, fun hq => hdel (aave_pyG_dust hq)⟩

/-- **ε-robust accrual round trip** (any arithmetic context with relative rounding error ≤ ε ≤ 1/2): supply `a` of a
    token not yet supplied in a bar with liquidity index `I₀`; then ANY history of bars and operations that does not target
    this supply; then `withdraw(None)` in a bar with index `I`.  The wallet is credited with `x`,
    `|x − a·I/I₀| ≤ ((1+ε)³ − 1)·a·I/I₀`, and what is left of the scaled balance before the dust rule is at most
    `3ε(1+ε)²·a/I₀` — so the entry is deleted as soon as that is below MIN_TOKEN_VALUE. -/
theorem C10_roundtrip_robust {cx : ACtx} {ε : Rat} (hR : RndOK cx.toNumCtx ε) (hε : 0 ≤ ε) (hε1 : ε ≤ 1 / 2)
    {env0 env : Env} {s0 s1 s3 : St} {tok : String} {a : Rat} {coll : Bool}
    (hI0 : AavePosIdx env0) (hI : AavePosIdx env)
    (hnew : AList.get? s0.supplies tok = none)
    (hsup : supply cx env0 tok a coll s0 = (.ok (), s1))
    (hist : List (Env × Op)) (hun : ∀ p ∈ hist, ¬ TouchesSupply tok p.2)
    (hgood : Good cx env (runHist cx s1 hist))
    (hw : withdraw cx env tok none (runHist cx s1 hist) = (.ok (), s3)) :
    ∃ st0 st x, env0.statusOf tok = .ok st0 ∧ env.statusOf tok = .ok st ∧
      s3.wallet = Wallet.credit cx.toNumCtx (runHist cx s1 hist).wallet tok x ∧
      a * st.liqIdx / st0.liqIdx * (1 - ε) ^ 3 ≤ x ∧ x ≤ a * st.liqIdx / st0.liqIdx * (1 + ε) ^ 3 ∧
      (3 * ε * (a / st0.liqIdx * (1 + ε) ^ 2) < Gen.aaveMinTokenValue → AList.get? s3.supplies tok = none) :=
  aave_roundtrip_supply hR hε1 hI0 hI hnew hsup (C10_supply_untouched_hist hist s1 hun) hw

/-- **the round trip under CPython's 35-digit Decimal arithmetic** (`NumCtx.pyG`, ε = 5·10⁻³⁵: `NumCtx.pyG_relRnd`,
    stated as `Num_pyG_rnd` in `Proofs/Numerics.lean`): the amount returned by withdraw-all after any untouched history is `a·I/I₀` within
    10⁻¹⁸ relative (in fact 2·10⁻³⁴), and for positions up to 10¹⁵ scaled units the entry disappears. -/
theorem C10_roundtrip_pyG {env0 env : Env} {s0 s1 s3 : St} {tok : String} {a : Rat} {coll : Bool}
    (hI0 : AavePosIdx env0) (hI : AavePosIdx env)
    (hnew : AList.get? s0.supplies tok = none)
    (hsup : supply aavePyG env0 tok a coll s0 = (.ok (), s1))
    (hist : List (Env × Op)) (hun : ∀ p ∈ hist, ¬ TouchesSupply tok p.2)
    (hgood : Good aavePyG env (runHist aavePyG s1 hist))
    (hw : withdraw aavePyG env tok none (runHist aavePyG s1 hist) = (.ok (), s3)) :
    ∃ st0 st x, env0.statusOf tok = .ok st0 ∧ env.statusOf tok = .ok st ∧
      s3.wallet = Wallet.credit NumCtx.pyG (runHist aavePyG s1 hist).wallet tok x ∧
      |x - a * st.liqIdx / st0.liqIdx| ≤ 1 / 10 ^ 18 * (a * st.liqIdx / st0.liqIdx) ∧
      (a / st0.liqIdx ≤ 10 ^ 15 → AList.get? s3.supplies tok = none) :=
  aave_roundtrip_supply_pyG hI0 hI hnew hsup (C10_supply_untouched_hist hist s1 hun) hw

theorem aave_roundtrip_debt {cx : ACtx} {ε : Rat} (hR : RndOK cx.toNumCtx ε) (hε1 : ε ≤ 1 / 2)
    {env0 env : Env} {s0 s1 s2 s3 : St} {tok : String} {a : Rat} {c : Option String}
    (hI0 : AavePosIdx env0) (hI : AavePosIdx env)
    (hnew : AList.get? s0.borrows tok = none)
    (hbor : borrow cx env0 tok (some a) s0 = (.ok (), s1))
    (hkept : AList.get? s2.borrows tok = AList.get? s1.borrows tok)
    (hr : repay cx env tok none false c s2 = (.ok (), s3)) :
    ∃ st0 st x, env0.statusOf tok = .ok st0 ∧ env.statusOf tok = .ok st ∧
      Wallet.debit cx.toNumCtx s2.wallet tok x false = .ok s3.wallet ∧
      a * st.varIdx / st0.varIdx * (1 - ε) ^ 3 ≤ x ∧ x ≤ a * st.varIdx / st0.varIdx * (1 + ε) ^ 3 ∧
      (3 * ε * (a / st0.varIdx * (1 + ε) ^ 2) < Gen.aaveMinTokenValue → AList.get? s3.borrows tok = none) := by
  obtain ⟨st0, hst0, hapos, hs1⟩ := aave_borrow_fresh hnew hbor
  obtain ⟨st, info, payback, w', _, hst, _, hg, hamt, _, _, hw, _, k2, k3, _⟩ := repay_cash_accepted hr
  rw [hkept, hs1] at hg
  cases hg
  simp only [Option.getD_none] at hamt
  obtain ⟨xa, hclr⟩ := roundtrip_close hR hε1 hapos.le (hI0 tok st0 hst0).2 (hI tok st hst).2
  rw [← hamt] at xa hclr
  refine ⟨st0, st, payback, hst0, hst, by rw [k3]; exact hw, xa.1, xa.2, fun hsmall => ?_⟩
  rw [k2, hclr hsmall, borAfterSub, AList.get?_eraseOrSet_self, if_pos rfl]

theorem aave_roundtrip_debt_pyG {env0 env : Env} {s0 s1 s2 s3 : St} {tok : String} {a : Rat} {c : Option String}
    (hI0 : AavePosIdx env0) (hI : AavePosIdx env)
    (hnew : AList.get? s0.borrows tok = none)
    (hbor : borrow aavePyG env0 tok (some a) s0 = (.ok (), s1))
    (hkept : AList.get? s2.borrows tok = AList.get? s1.borrows tok)
    (hr : repay aavePyG env tok none false c s2 = (.ok (), s3)) :
    ∃ st0 st x, env0.statusOf tok = .ok st0 ∧ env.statusOf tok = .ok st ∧
      Wallet.debit NumCtx.pyG s2.wallet tok x false = .ok s3.wallet ∧
      |x - a * st.varIdx / st0.varIdx| ≤ 1 / 10 ^ 18 * (a * st.varIdx / st0.varIdx) ∧
      (a / st0.varIdx ≤ 10 ^ 15 → AList.get? s3.borrows tok = none) := by
  obtain ⟨st0, st, x, h1, h2, h3, xl, xh, hdel⟩ :=
    aave_roundtrip_debt aave_pyG_rndOK aave_eps35_half hI0 hI hnew hbor hkept hr
  obtain ⟨_, _, hapos, _⟩ := aave_borrow_fresh hnew hbor
  have ht : 0 ≤ a * st.varIdx / st0.varIdx :=
    div_nonneg (mul_nonneg hapos.le (hI tok st h2).2.le) (hI0 tok st0 h1).2.le
  exact ⟨st0, st, x, h1, h2, h3, aave_pyG_window ht ⟨xl, xh⟩, fun hq => hdel (aave_pyG_dust hq)⟩

/-- **ε-robust accrual round trip on the debt side** (any arithmetic context with relative rounding error ≤ ε ≤ 1/2): borrow
    `a` of a token not yet borrowed in a bar with variable borrow index `I₀`; then ANY history of bars and operations that
    does not target this debt; then `repay(token)` (`payback_amount=None`, cash) in a bar with index `I`.  The wallet is
    debited by `x` (`subtract_from_balance(x)`), `|x − a·I/I₀| ≤ ((1+ε)³ − 1)·a·I/I₀`, and what is left of the scaled debt before
    the dust rule is at most `3ε(1+ε)²·a/I₀` — so the debt entry is deleted as soon as that is below MIN_TOKEN_VALUE. -/
theorem C10_debt_roundtrip_robust {cx : ACtx} {ε : Rat} (hR : RndOK cx.toNumCtx ε) (hε : 0 ≤ ε) (hε1 : ε ≤ 1 / 2)
    {env0 env : Env} {s0 s1 s3 : St} {tok : String} {a : Rat} {c : Option String}
    (hI0 : AavePosIdx env0) (hI : AavePosIdx env)
    (hnew : AList.get? s0.borrows tok = none)
    (hbor : borrow cx env0 tok (some a) s0 = (.ok (), s1))
    (hist : List (Env × Op)) (hun : ∀ p ∈ hist, ¬ TouchesBorrow tok p.2)
    (hgood : Good cx env (runHist cx s1 hist))
    (hr : repay cx env tok none false c (runHist cx s1 hist) = (.ok (), s3)) :
    ∃ st0 st x, env0.statusOf tok = .ok st0 ∧ env.statusOf tok = .ok st ∧
      Wallet.debit cx.toNumCtx (runHist cx s1 hist).wallet tok x false = .ok s3.wallet ∧
      a * st.varIdx / st0.varIdx * (1 - ε) ^ 3 ≤ x ∧ x ≤ a * st.varIdx / st0.varIdx * (1 + ε) ^ 3 ∧
      (3 * ε * (a / st0.varIdx * (1 + ε) ^ 2) < Gen.aaveMinTokenValue → AList.get? s3.borrows tok = none) :=
  aave_roundtrip_debt hR hε1 hI0 hI hnew hbor (C10_debt_untouched_hist hist s1 hun) hr

/-- **the debt round trip under CPython's 35-digit Decimal arithmetic** (`NumCtx.pyG`, ε = 5·10⁻³⁵): the amount a full
    repayment takes from the wallet after any untouched history is `a·I/I₀` within 10⁻¹⁸ relative (in fact 2·10⁻³⁴), and for
    debts up to 10¹⁵ scaled units the entry disappears. -/
theorem C10_debt_roundtrip_pyG {env0 env : Env} {s0 s1 s3 : St} {tok : String} {a : Rat} {c : Option String}
    (hI0 : AavePosIdx env0) (hI : AavePosIdx env)
    (hnew : AList.get? s0.borrows tok = none)
    (hbor : borrow aavePyG env0 tok (some a) s0 = (.ok (), s1))
    (hist : List (Env × Op)) (hun : ∀ p ∈ hist, ¬ TouchesBorrow tok p.2)
    (hgood : Good aavePyG env (runHist aavePyG s1 hist))
    (hr : repay aavePyG env tok none false c (runHist aavePyG s1 hist) = (.ok (), s3)) :
    ∃ st0 st x, env0.statusOf tok = .ok st0 ∧ env.statusOf tok = .ok st ∧
      Wallet.debit NumCtx.pyG (runHist aavePyG s1 hist).wallet tok x false = .ok s3.wallet ∧
      |x - a * st.varIdx / st0.varIdx| ≤ 1 / 10 ^ 18 * (a * st.varIdx / st0.varIdx) ∧
      (a / st0.varIdx ≤ 10 ^ 15 → AList.get? s3.borrows tok = none) :=
  aave_roundtrip_debt_pyG hI0 hI hnew hbor (C10_debt_untouched_hist hist s1 hun) hr

example : RndOK aavePyG.toNumCtx (5 / 10 ^ 35) := aave_pyG_rndOK

/-- 1000 tokens supplied at index 1.1, read at index 1.21: CPython prints 1100.0000000000000000000000000000000 for
    `Decimal(1000)/Decimal('1.1')*Decimal('1.21')`, the exact value is 1100 -/
example : NumCtx.py.mul (NumCtx.py.add 0 (NumCtx.py.div 1000 (11/10))) (121/100) = 1100 := by decide +kernel

/-- 5000 tokens borrowed at borrow index 1.25, repaid in full at index 1.5: the exact value 6000 -/
example : NumCtx.py.mul (NumCtx.py.add 0 (NumCtx.py.div 5000 (5/4))) (3/2) = 6000 := by decide +kernel

end Demeter
