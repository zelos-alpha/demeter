/-
  C10 — a debt equals the amount borrowed × borrow-index ratio, whatever happens in between.
-/
import Proofs.Lemmas.AaveHist
namespace Demeter
open Aave

/-- **an operation that does not target `tok`'s debt leaves that entry exactly as it is** — in any bar, any
    arithmetic, accepted or rejected. -/
theorem C10_debt_untouched {cx : ACtx} {tok : String} (op : Op) (h : ¬ TouchesBorrow tok op) (env : Env) (s : St) :
    AList.get? (step cx env s op).2.borrows tok = AList.get? s.borrows tok :=
  step_debt_untouched h env s

theorem C10_debt_untouched_hist {cx : ACtx} {tok : String} (hist : List (Env × Op)) :
    ∀ (s : St), (∀ p ∈ hist, ¬ TouchesBorrow tok p.2) →
      AList.get? (runHist cx s hist).borrows tok = AList.get? s.borrows tok :=
  runHist_keeps (fun s => AList.get? s.borrows tok) (fun _ hist => ∀ p ∈ hist, ¬ TouchesBorrow tok p.2)
    (fun s env op _ h => ⟨C10_debt_untouched op (h (env, op) (List.mem_cons_self ..)) env s,
      fun q hq => h q (List.mem_cons_of_mem _ hq)⟩) hist

/-- **a debt equals the amount borrowed × borrow index now / borrow index at borrowing time**, regardless of how
    many bars or other operations lie between. -/
theorem C10_debt_accrues {env0 : Env} {s0 s1 : St} {tok : String} {a : Rat}
    (hnew : AList.get? s0.borrows tok = none)
    (h : borrow aaveExact env0 tok (some a) s0 = (.ok (), s1))
    (hist : List (Env × Op)) (hun : ∀ p ∈ hist, ¬ TouchesBorrow tok p.2) (I : Rat) :
    ∃ st0 e, env0.statusOf tok = .ok st0 ∧ AList.get? (runHist aaveExact s1 hist).borrows tok = some e ∧
      e.base * I = a * I / st0.varIdx :=
  aave_debt_accrues_of_kept hnew h (C10_debt_untouched_hist hist s1 hun) I

end Demeter
