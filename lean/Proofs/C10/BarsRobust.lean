/-
  C10 — the ε-robust / 35-digit **round trips through the bars of a run**: the round trips of
  `Proofs/C10/Robust.lean` with histories that may contain the `update()` of every bar, as long as it cannot liquidate
  (closed market, or coherent state whose health factor — risk model on the projected portfolio, in the SAME arithmetic
  context `cx` — is not in (0, 1); `C12_sm_no_liquidation_unless_below_one` holds for every context).
-/
import Proofs.C10.Robust
import Proofs.C10.Bars
namespace Demeter
open Aave

/-- **ε-robust supply round trip through bars**: as `C10_roundtrip_robust`, the history may contain non-liquidating `update()`s. -/
theorem C10_roundtrip_robust_through_bars {cx : ACtx} {ε : Rat} (hR : RndOK cx.toNumCtx ε) (hε1 : ε ≤ 1 / 2)
    {env0 env : Env} {s0 s1 s3 : St} {tok : String} {a : Rat} {coll : Bool}
    (hI0 : AavePosIdx env0) (hI : AavePosIdx env)
    (hnew : AList.get? s0.supplies tok = none)
    (hsup : supply cx env0 tok a coll s0 = (.ok (), s1))
    (hist : List (Env × Op)) (hbars : C10SupplyBarsCx cx tok s1 hist)
    (hw : withdraw cx env tok none (runHist cx s1 hist) = (.ok (), s3)) :
    ∃ st0 st x, env0.statusOf tok = .ok st0 ∧ env.statusOf tok = .ok st ∧
      s3.wallet = Wallet.credit cx.toNumCtx (runHist cx s1 hist).wallet tok x ∧
      a * st.liqIdx / st0.liqIdx * (1 - ε) ^ 3 ≤ x ∧ x ≤ a * st.liqIdx / st0.liqIdx * (1 + ε) ^ 3 ∧
      (3 * ε * (a / st0.liqIdx * (1 + ε) ^ 2) < Gen.aaveMinTokenValue → AList.get? s3.supplies tok = none) :=
  aave_roundtrip_supply hR hε1 hI0 hI hnew hsup (C10_supply_untouched_through_bars_cx hist s1 hbars) hw

/-- **35-digit supply round trip through bars** (`NumCtx.pyG`): withdraw-all returns `a·I/I₀` within 10⁻¹⁸ relative. -/
theorem C10_roundtrip_pyG_through_bars {env0 env : Env} {s0 s1 s3 : St} {tok : String} {a : Rat} {coll : Bool}
    (hI0 : AavePosIdx env0) (hI : AavePosIdx env)
    (hnew : AList.get? s0.supplies tok = none)
    (hsup : supply aavePyG env0 tok a coll s0 = (.ok (), s1))
    (hist : List (Env × Op)) (hbars : C10SupplyBarsCx aavePyG tok s1 hist)
    (hgood : Good aavePyG env (runHist aavePyG s1 hist))
    (hw : withdraw aavePyG env tok none (runHist aavePyG s1 hist) = (.ok (), s3)) :
    ∃ st0 st x, env0.statusOf tok = .ok st0 ∧ env.statusOf tok = .ok st ∧
      s3.wallet = Wallet.credit NumCtx.pyG (runHist aavePyG s1 hist).wallet tok x ∧
      |x - a * st.liqIdx / st0.liqIdx| ≤ 1 / 10 ^ 18 * (a * st.liqIdx / st0.liqIdx) ∧
      (a / st0.liqIdx ≤ 10 ^ 15 → AList.get? s3.supplies tok = none) :=
  aave_roundtrip_supply_pyG hI0 hI hnew hsup (C10_supply_untouched_through_bars_cx hist s1 hbars) hw

/-- **ε-robust debt round trip through bars** -/
theorem C10_debt_roundtrip_robust_through_bars {cx : ACtx} {ε : Rat} (hR : RndOK cx.toNumCtx ε) (hε1 : ε ≤ 1 / 2)
    {env0 env : Env} {s0 s1 s3 : St} {tok : String} {a : Rat} {c : Option String}
    (hI0 : AavePosIdx env0) (hI : AavePosIdx env)
    (hnew : AList.get? s0.borrows tok = none)
    (hbor : borrow cx env0 tok (some a) s0 = (.ok (), s1))
    (hist : List (Env × Op)) (hbars : C10DebtBarsCx cx tok s1 hist)
    (hr : repay cx env tok none false c (runHist cx s1 hist) = (.ok (), s3)) :
    ∃ st0 st x, env0.statusOf tok = .ok st0 ∧ env.statusOf tok = .ok st ∧
      Wallet.debit cx.toNumCtx (runHist cx s1 hist).wallet tok x false = .ok s3.wallet ∧
      a * st.varIdx / st0.varIdx * (1 - ε) ^ 3 ≤ x ∧ x ≤ a * st.varIdx / st0.varIdx * (1 + ε) ^ 3 ∧
      (3 * ε * (a / st0.varIdx * (1 + ε) ^ 2) < Gen.aaveMinTokenValue → AList.get? s3.borrows tok = none) :=
  aave_roundtrip_debt hR hε1 hI0 hI hnew hbor (C10_debt_untouched_through_bars_cx hist s1 hbars) hr

/-- **35-digit debt round trip through bars** -/
theorem C10_debt_roundtrip_pyG_through_bars {env0 env : Env} {s0 s1 s3 : St} {tok : String} {a : Rat} {c : Option String}
    (hI0 : AavePosIdx env0) (hI : AavePosIdx env)
    (hnew : AList.get? s0.borrows tok = none)
    (hbor : borrow aavePyG env0 tok (some a) s0 = (.ok (), s1))
    (hist : List (Env × Op)) (hbars : C10DebtBarsCx aavePyG tok s1 hist)
    (hgood : Good aavePyG env (runHist aavePyG s1 hist))
    (hr : repay aavePyG env tok none false c (runHist aavePyG s1 hist) = (.ok (), s3)) :
    ∃ st0 st x, env0.statusOf tok = .ok st0 ∧ env.statusOf tok = .ok st ∧
      Wallet.debit NumCtx.pyG (runHist aavePyG s1 hist).wallet tok x false = .ok s3.wallet ∧
      |x - a * st.varIdx / st0.varIdx| ≤ 1 / 10 ^ 18 * (a * st.varIdx / st0.varIdx) ∧
      (a / st0.varIdx ≤ 10 ^ 15 → AList.get? s3.borrows tok = none) :=
  aave_roundtrip_debt_pyG hI0 hI hnew hbor (C10_debt_untouched_through_bars_cx hist s1 hbars) hr

-- the exact-arithmetic run of `Proofs/C10/Bars.lean` is also a run in this sense (context `aaveExact`)

example : C10DebtBarsCx aaveExact "USDC" c10bS2 [(c10bEnv0, .read .healthFactor), (c10bEnv0, .update)] := by
  have hE0 := c10b_envOK c10bEnv0 (Or.inl rfl)
  have g0 : Good aaveExact c10bEnv0 c10bSt := good_init_wallet _
  have g1 := C13_step_coherent hE0.1 hE0.2 _ g0 (.supply "WETH" 11 true) (by simp)
  have g2 := C13_step_coherent hE0.1 hE0.2 _ g1 (.borrow "USDC" (some 5000)) (by simp)
  have g3 := C13_step_coherent hE0.1 hE0.2 _ g2 (.read .healthFactor) (by simp)
  exact ⟨Or.inl (by simp [TouchesBorrow]), Or.inr ⟨rfl, Or.inr ⟨g3, rfl, by decide +kernel⟩⟩, trivial⟩

end Demeter
