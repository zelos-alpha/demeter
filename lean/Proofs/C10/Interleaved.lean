/-
  C10 — the **interleaved accrual formula**.

  `C10_supply_accrues` covers one fresh position that is never touched again.  Here the position may be supplied to and
  withdrawn from any number of times, in bars with different indices, with anything else in between:

      get_supply(tok).amount  now  =  Σ_j a_j · I_now / I_j  −  Σ_k w_k · I_now / I_k

  where `a_j` / `w_k` are the amounts of the *accepted* `supply(tok, ·)` / `withdraw(tok, ·)` calls (`None` = the balance shown at
  that moment) and `I_j`, `I_k` the liquidity index of the bar they were made in.  The ledger `c10SupEvents` is read off the
  run: which calls were accepted is the model's own answer, the amounts and indices are the call's argument and the bar's data.

  The dust rule of `sub_base_amount` is an explicit hypothesis (`C10NoDustSnap`): an accepted withdrawal leaves a scaled
  remainder that is 0 or at least `MIN_TOKEN_VALUE` — otherwise the entry is deleted and up to `MIN_TOKEN_VALUE × I` tokens
  vanish from the sum.  Steps admitted (`C10SupLedgerStep`): any operation that does not target `tok`'s supply (other tokens,
  borrow, cash repay, reads, bar changes; accepted or rejected), `update()` that cannot liquidate (`C10QuietUpdate`),
  `supply(tok, ·)` (accepted or rejected, any state), `withdraw(tok, ·)` in a coherent state (accepted or rejected).
  `change_collateral(tok, ·)` is a ledger step that contributes nothing (`aave_changeCollateral_base`: accepted, rejected or
  raising, it never changes the scaled balance).  Not covered: `repay(…, repay_with_collateral)` paid out of `tok`'s supply and
  an `update()` that liquidates.  The same statement for debts (`borrow` / cash `repay`) is `C10_debt_interleaved`.

  Proof: an admitted step moves the scaled balance
  in one of three ways (`aave_supBase_move`, `aave_borBase_move`), which without a dust snap is the step's ledger line (`LedgerEq`);
  a relation that holds of every step and composes along `++` holds of the run (`runHist_rel`).
-/
import Proofs.C10.Bars
namespace Demeter
open Aave

def C10NoDustSnap (tok : String) (env : Env) (s : St) (a? : Option Rat) : Prop :=
  c10Accepted (step aaveExact env s (.withdraw tok a?)).1 = true →
    c10SupBase tok s - (a?.getD (c10SupBase tok s * c10LiqIdx env tok)) / c10LiqIdx env tok < Gen.aaveMinTokenValue →
    c10SupBase tok s - (a?.getD (c10SupBase tok s * c10LiqIdx env tok)) / c10LiqIdx env tok = 0

def C10SupLedgerStep (tok : String) (env : Env) (s : St) (op : Op) : Prop :=
  ¬ TouchesSupply tok op ∨ (op = .update ∧ C10QuietUpdate env s) ∨ (∃ a c, op = .supply tok a c) ∨
  (∃ a?, op = .withdraw tok a? ∧ Good aaveExact env s ∧ C10NoDustSnap tok env s a?) ∨
  (∃ c, op = .changeCollateral tok c)

def C10SupLedgerRun (tok : String) : St → List (Env × Op) → Prop
  | _, [] => True
  | s, (env, op) :: rest => C10SupLedgerStep tok env s op ∧ C10SupLedgerRun tok (step aaveExact env s op).2 rest

/-- **the interleaved formula, from any start state**: scaled balance now × `I` = scaled balance at the start × `I` +
    `Σ ±amount · I / index` over the accepted supplies / withdrawals of the history. -/
theorem C10_supply_interleaved_from {tok : String} (hist : List (Env × Op)) :
    ∀ (s : St), C10SupLedgerRun tok s hist → ∀ I : Rat,
      c10SupBase tok (runHist aaveExact s hist) * I = c10SupBase tok s * I + c10Ledger (c10SupEvents tok s hist) I :=
  runHist_rel (c10SupBase tok) (c10SupEvent tok) (c10SupEvents tok) (C10SupLedgerRun tok) LedgerEq (fun _ => rfl)
    (fun _ _ _ _ => rfl) LedgerEq.nil LedgerEq.append (fun _ _ _ _ h =>
      ⟨(aave_supBase_move (fun hq => (aave_quietUpdateCx_positions hq).1) (fun _ hw hacc _ _ => hw.2 hacc) h.1).ledger, h.2⟩) hist

/-- **the interleaved accrual formula**: starting without a supply of `tok`, after any admitted history the balance
    `get_supply(tok).amount = base × I_now` is `Σ_j a_j · I_now / I_j − Σ_k w_k · I_now / I_k` over the accepted supplies and
    withdrawals of `tok`, whatever the indices did in between. -/
theorem C10_supply_interleaved {tok : String} {s : St} (hnew : AList.get? s.supplies tok = none)
    (hist : List (Env × Op)) (hrun : C10SupLedgerRun tok s hist) (I : Rat) :
    c10SupBase tok (runHist aaveExact s hist) * I = c10Ledger (c10SupEvents tok s hist) I := by
  rw [C10_supply_interleaved_from hist s hrun I]
  unfold c10SupBase; rw [hnew]; simp

/-- the dust rule does not fire on an accepted cash repayment (this rules out a payment above the debt inside the quantize
    slack, `C10_repay_payback_bound`: there the remainder is negative, the entry is deleted and the sum would be off by it) -/
def C10NoDebtDustSnap (tok : String) (env : Env) (s : St) (a? : Option Rat) (c : Option String) : Prop :=
  c10Accepted (step aaveExact env s (.repay tok a? false c)).1 = true →
    c10BorBase tok s - (a?.getD (c10BorBase tok s * c10VarIdx env tok)) / c10VarIdx env tok < Gen.aaveMinTokenValue →
    c10BorBase tok s - (a?.getD (c10BorBase tok s * c10VarIdx env tok)) / c10VarIdx env tok = 0

/-- Not covered: `borrow(tok, None)` (the amount is the helper's `get_max_borrow_amount`),
    `repay(tok, …, repay_with_collateral=True)` (amount capped, see `C10_repay_collateral_exact_pinned`), a liquidating `update()`. -/
def C10BorLedgerStep (tok : String) (env : Env) (s : St) (op : Op) : Prop :=
  ¬ TouchesBorrow tok op ∨ (op = .update ∧ C10QuietUpdate env s) ∨ (∃ a, op = .borrow tok (some a)) ∨
  (∃ a? c, op = .repay tok a? false c ∧ Good aaveExact env s ∧ AavePosIdx env ∧ C10NoDebtDustSnap tok env s a? c)

def C10BorLedgerRun (tok : String) : St → List (Env × Op) → Prop
  | _, [] => True
  | s, (env, op) :: rest => C10BorLedgerStep tok env s op ∧ C10BorLedgerRun tok (step aaveExact env s op).2 rest

theorem C10_debt_interleaved_from {tok : String} (hist : List (Env × Op)) :
    ∀ (s : St), C10BorLedgerRun tok s hist → ∀ I : Rat,
      c10BorBase tok (runHist aaveExact s hist) * I = c10BorBase tok s * I + c10Ledger (c10BorEvents tok s hist) I :=
  runHist_rel (c10BorBase tok) (c10BorEvent tok) (c10BorEvents tok) (C10BorLedgerRun tok) LedgerEq (fun _ => rfl)
    (fun _ _ _ _ => rfl) LedgerEq.nil LedgerEq.append (fun _ _ _ _ h =>
      ⟨(aave_borBase_move (fun hq => (aave_quietUpdateCx_positions hq).2) (fun _ _ hw => hw.2.2) h.1).ledger, h.2⟩) hist

/-- **the interleaved formula for a debt**: `get_borrow(tok).amount = base × I_now = Σ_j b_j · I_now / I_j − Σ_k p_k · I_now / I_k`
    over the accepted borrows and cash repayments of `tok` (variable borrow index). -/
theorem C10_debt_interleaved {tok : String} {s : St} (hnew : AList.get? s.borrows tok = none)
    (hist : List (Env × Op)) (hrun : C10BorLedgerRun tok s hist) (I : Rat) :
    c10BorBase tok (runHist aaveExact s hist) * I = c10Ledger (c10BorEvents tok s hist) I := by
  rw [C10_debt_interleaved_from hist s hrun I]
  unfold c10BorBase; rw [hnew]; simp

/-- the `Good` that `withdraw` / `update()` steps ask for may be assumed: it is what C13 proves of the state reached -/
def C10SupLedgerRunOK (tok : String) : Env → St → List (Env × Op) → Prop
  | _, _, [] => True
  | env, s, (env', op) :: rest =>
      C10BarDiscipline env env' s op ∧ ((op = .newBar ∨ Good aaveExact env' s) → C10SupLedgerStep tok env' s op) ∧
      C10SupLedgerRunOK tok env' (step aaveExact env' s op).2 rest

def C10BorLedgerRunOK (tok : String) : Env → St → List (Env × Op) → Prop
  | _, _, [] => True
  | env, s, (env', op) :: rest =>
      C10BarDiscipline env env' s op ∧ ((op = .newBar ∨ Good aaveExact env' s) → C10BorLedgerStep tok env' s op) ∧
      C10BorLedgerRunOK tok env' (step aaveExact env' s op).2 rest

/-- **the interleaved accrual formula over a whole run**: start from a coherent state (e.g. the empty market) without a supply
    of `tok`; no coherence hypothesis inside the run. -/
theorem C10_supply_interleaved_run {env0 : Env} {tok : String} {s : St} (hE : EnvOK env0) (hP : EnvPos env0)
    (hs : Good aaveExact env0 s) (hnew : AList.get? s.supplies tok = none)
    (hist : List (Env × Op)) (hrun : C10SupLedgerRunOK tok env0 s hist) (I : Rat) :
    c10SupBase tok (runHist aaveExact s hist) * I = c10Ledger (c10SupEvents tok s hist) I :=
  C10_supply_interleaved hnew hist (aave_run_of_runOK (RunOK := C10SupLedgerRunOK tok) (fun _ => trivial)
    (fun _ _ _ _ h1 h2 => ⟨h1, h2⟩) (fun _ _ _ _ _ h => h) hist env0 s hE hP hs hrun) I

theorem C10_debt_interleaved_run {env0 : Env} {tok : String} {s : St} (hE : EnvOK env0) (hP : EnvPos env0)
    (hs : Good aaveExact env0 s) (hnew : AList.get? s.borrows tok = none)
    (hist : List (Env × Op)) (hrun : C10BorLedgerRunOK tok env0 s hist) (I : Rat) :
    c10BorBase tok (runHist aaveExact s hist) * I = c10Ledger (c10BorEvents tok s hist) I :=
  C10_debt_interleaved hnew hist (aave_run_of_runOK (RunOK := C10BorLedgerRunOK tok) (fun _ => trivial)
    (fun _ _ _ _ h1 h2 => ⟨h1, h2⟩) (fun _ _ _ _ _ h => h) hist env0 s hE hP hs hrun) I

-- 11 WETH supplied at index 1.1, a bar later (index 1.21) 12.1 more, then 6.05 withdrawn

def c10iSt : St := { St.init with wallet := [("WETH", 30), ("USDC", 0)] }
def c10iHist : List (Env × Op) :=
  [(c10bEnv0, .supply "WETH" 11 true), (c10bEnv0, .update), (c10bEnv1, .newBar), (c10bEnv1, .supply "WETH" (121/10) true),
   (c10bEnv1, .supply "WETH" 1000 true), (c10bEnv1, .read .healthFactor), (c10bEnv1, .withdraw "WETH" (some (605/100)))]

theorem c10i_good_init (env : Env) : Good aaveExact env c10iSt := good_init_wallet _

theorem c10i_covers :
    Covers c10bEnv1 (step aaveExact c10bEnv0 (step aaveExact c10bEnv0 c10iSt (.supply "WETH" 11 true)).2 .update).2.supplies ∧
    Covers c10bEnv1 (step aaveExact c10bEnv0 (step aaveExact c10bEnv0 c10iSt (.supply "WETH" 11 true)).2 .update).2.borrows := by
  have h1 : keys (step aaveExact c10bEnv0 (step aaveExact c10bEnv0 c10iSt (.supply "WETH" 11 true)).2 .update).2.supplies = ["WETH"] := by
    decide +kernel
  have h2 : keys (step aaveExact c10bEnv0 (step aaveExact c10bEnv0 c10iSt (.supply "WETH" 11 true)).2 .update).2.borrows = [] := by
    decide +kernel
  constructor
  · intro k hk
    rw [h1] at hk
    exact c10b_hasData k (Or.inl (List.mem_singleton.mp hk))
  · intro k hk
    rw [h2] at hk
    exact absurd hk List.not_mem_nil

theorem c10i_hfOutside : C10HfOutside c10bEnv0 (step aaveExact c10bEnv0 c10iSt (.supply "WETH" 11 true)).2 := by
  unfold C10HfOutside; decide +kernel

/-- the ledger read off the run: two deposits and one withdrawal (the 1000 WETH supply is refused: the wallet holds 30) -/
example : c10SupEvents "WETH" c10iSt c10iHist = [(11, 11/10), (121/10, 121/100), (-(605/100), 121/100)] := by decide +kernel
example : C10SupLedgerRun "WETH" c10iSt c10iHist := by
  have hE0 := c10b_envOK c10bEnv0 (Or.inl rfl)
  have hE1 := c10b_envOK c10bEnv1 (Or.inr rfl)
  have g0 := c10i_good_init c10bEnv0
  have g1 := C13_step_coherent hE0.1 hE0.2 _ g0 (.supply "WETH" 11 true) (by simp)
  have g2 := C13_step_coherent hE0.1 hE0.2 _ g1 .update (by simp)
  have g3 := C13_newBar_coherent (env' := c10bEnv1) _ g2 c10i_covers.1 c10i_covers.2
  have g4 := C13_step_coherent hE1.1 hE1.2 _ g3 (.supply "WETH" (121/10) true) (by simp)
  have g5 := C13_step_coherent hE1.1 hE1.2 _ g4 (.supply "WETH" 1000 true) (by simp)
  have g6 := C13_step_coherent hE1.1 hE1.2 _ g5 (.read .healthFactor) (by simp)
  refine ⟨Or.inr (Or.inr (Or.inl ⟨_, _, rfl⟩)), Or.inr (Or.inl ⟨rfl, Or.inr ⟨g1, rfl, c10i_hfOutside⟩⟩),
    Or.inl (by simp [TouchesSupply]), Or.inr (Or.inr (Or.inl ⟨_, _, rfl⟩)), Or.inr (Or.inr (Or.inl ⟨_, _, rfl⟩)),
    Or.inl (by simp [TouchesSupply]), Or.inr (Or.inr (Or.inr (Or.inl ⟨_, rfl, g6, ?_⟩))), trivial⟩
  intro _ hlt
  exact absurd hlt (by decide +kernel)
example : C10SupLedgerRunOK "WETH" c10bEnv0 c10iSt c10iHist := by
  have hE1 := c10b_envOK c10bEnv1 (Or.inr rfl)
  refine ⟨rfl, fun _ => Or.inr (Or.inr (Or.inl ⟨_, _, rfl⟩)), rfl,
    fun hg => Or.inr (Or.inl ⟨rfl, Or.inr ⟨hg.resolve_left (by simp), rfl, c10i_hfOutside⟩⟩),
    ⟨hE1.1, hE1.2, c10i_covers.1, c10i_covers.2⟩, fun _ => Or.inl (by simp [TouchesSupply]),
    rfl, fun _ => Or.inr (Or.inr (Or.inl ⟨_, _, rfl⟩)), rfl, fun _ => Or.inr (Or.inr (Or.inl ⟨_, _, rfl⟩)),
    rfl, fun _ => Or.inl (by simp [TouchesSupply]),
    rfl, fun hg => Or.inr (Or.inr (Or.inr (Or.inl ⟨_, rfl, hg.resolve_left (by simp), ?_⟩))), trivial⟩
  intro _ hlt
  exact absurd hlt (by decide +kernel)
/-- scaled 10 + 10 − 5 = 15, i.e. 18.15 WETH at index 1.21 -/
example : c10Ledger (c10SupEvents "WETH" c10iSt c10iHist) (121/100) = 1815/100 ∧
    c10SupBase "WETH" (runHist aaveExact c10iSt c10iHist) * (121/100) = 1815/100 := by decide +kernel

example : C10SupLedgerStep "WETH" c10bEnv0 c10bS1 (.changeCollateral "WETH" false) ∧
    (step aaveExact c10bEnv0 c10bS1 (.changeCollateral "WETH" false)).2.supplies = [("WETH", ⟨10, false, 11/10⟩)] ∧
    c10SupBase "WETH" (step aaveExact c10bEnv0 c10bS1 (.changeCollateral "WETH" false)).2 = 10 :=
  ⟨Or.inr (Or.inr (Or.inr (Or.inr ⟨_, rfl⟩))), by decide +kernel, by decide +kernel⟩

end Demeter
