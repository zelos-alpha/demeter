/-
  C10 — accrual: a supplied balance follows the liquidity index, whatever happens to other positions in
  between.  An operation that does not target the entry leaves it alone by the frame rule (`Aave.step_supply_untouched`).
-/
import Proofs.Lemmas.AaveHist
namespace Demeter
open Aave

/-- **an operation that does not target `tok`'s supply leaves that entry exactly as it is** — in any bar, any
    arithmetic, accepted or rejected (reads, operations on other tokens, borrow, cash repay, bar change). -/
theorem C10_supply_untouched {cx : ACtx} {tok : String} (op : Op) (h : ¬ TouchesSupply tok op) (env : Env) (s : St) :
    AList.get? (step cx env s op).2.supplies tok = AList.get? s.supplies tok :=
  step_supply_untouched h env s

theorem C10_supply_untouched_hist {cx : ACtx} {tok : String} (hist : List (Env × Op)) :
    ∀ (s : St), (∀ p ∈ hist, ¬ TouchesSupply tok p.2) →
      AList.get? (runHist cx s hist).supplies tok = AList.get? s.supplies tok :=
  runHist_keeps (fun s => AList.get? s.supplies tok) (fun _ hist => ∀ p ∈ hist, ¬ TouchesSupply tok p.2)
    (fun s env op _ h => ⟨C10_supply_untouched op (h (env, op) (List.mem_cons_self ..)) env s,
      fun q hq => h q (List.mem_cons_of_mem _ hq)⟩) hist

/-- **a supplied balance equals amount × index now / index at supply time, regardless of how many bars or other
    operations lie between**: supply `a` of a token not yet supplied in a bar with liquidity index `I₀`; let any
    history of bars and operations follow that does not target this supply (other tokens, borrows, cash repayments,
    reads, bar changes — accepted or rejected); in a bar with index `I` the scaled entry is still `a / I₀`, i.e. the
    balance `get_supply(tok).amount = base × I` is `a × I / I₀`. -/
theorem C10_supply_accrues {env0 : Env} {s0 s1 : St} {tok : String} {a : Rat} {coll : Bool}
    (hnew : AList.get? s0.supplies tok = none)
    (h : supply aaveExact env0 tok a coll s0 = (.ok (), s1))
    (hist : List (Env × Op)) (hun : ∀ p ∈ hist, ¬ TouchesSupply tok p.2) (I : Rat) :
    ∃ st0 e, env0.statusOf tok = .ok st0 ∧ AList.get? (runHist aaveExact s1 hist).supplies tok = some e ∧
      e.base * I = a * I / st0.liqIdx :=
  aave_supply_accrues_of_kept hnew h (C10_supply_untouched_hist hist s1 hun) I

end Demeter
