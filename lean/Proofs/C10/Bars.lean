/-
  C10 — accrual **through the bars of a real run**.

  `C10_supply_accrues` / `C10_debt_accrues` exclude every `update()` (`TouchesSupply tok .update = True`), but the
  Actuator calls `update()` at the end of every bar.  Here `(env, .update)` steps are allowed
    * when the market is closed (`write_func` refuses the call before anything is read: `C04_aave_closed_noop`), or
    * in a coherent state (`Good`, what C13 proves of every reachable state) whose health factor — the risk model's
      figure of the projected portfolio, exact arithmetic — is **not in (0, 1)**: then `update()` liquidates nothing
      (`C12_sm_no_liquidation_unless_below_one`) and the positions are exactly what they were.
  `C10_*_accrues_through_run` discharges the `Good` side conditions from C13 for histories whose bars have complete,
  non-zero data (`EnvOK`, `EnvPos`) and begin with `newBar` (`set_market_status`) covering the tokens held.
-/
import Proofs.C10.Accrual
import Proofs.C10.Debt
import Proofs.C04.Aave
import Proofs.C12.Refine
import Proofs.Fixtures.Aave
import Proofs.C13
import Proofs.Lemmas.AaveWF
namespace Demeter
open Aave

def c10IsOk' {α : Type} (r : Res α) : Bool :=
  match r with
  | .ok _ => true
  | .error _ => false

def C10HfOutside (env : Env) (s : St) : Prop :=
  ((AaveRisk.healthFactor aaveExact.toNumCtx (proj env s)).gtB 0 &&
   (AaveRisk.healthFactor aaveExact.toNumCtx (proj env s)).ltB Gen.arHfLiqThreshold) = false

/-- an `update()` that cannot liquidate -/
def C10QuietUpdate (env : Env) (s : St) : Prop :=
  env.isOpen = false ∨ (Good aaveExact env s ∧ env.isOpen = true ∧ C10HfOutside env s)

/-- `C10QuietUpdate env s` unfolds to `C10QuietUpdateCx aaveExact env s`, and is used as such -/
def C10QuietUpdateCx (cx : ACtx) (env : Env) (s : St) : Prop :=
  env.isOpen = false ∨ (Good cx env s ∧ env.isOpen = true ∧
    ((AaveRisk.healthFactor cx.toNumCtx (proj env s)).gtB 0 &&
     (AaveRisk.healthFactor cx.toNumCtx (proj env s)).ltB Gen.arHfLiqThreshold) = false)

theorem aave_quietUpdateCx_positions {cx : ACtx} {env : Env} {s : St} (h : C10QuietUpdateCx cx env s) :
    (step cx env s .update).2.supplies = s.supplies ∧ (step cx env s .update).2.borrows = s.borrows := by
  rcases h with hclosed | ⟨hs, hopen, hout⟩
  · rw [C04_aave_closed_noop (cx := cx) s hclosed .update nofun nofun]
    exact ⟨rfl, rfl⟩
  · show (unitM (liquidate cx env) s).2.supplies = _ ∧ (unitM (liquidate cx env) s).2.borrows = _
    rw [aave_unitM_snd]
    obtain ⟨s', hl, h1, h2, _⟩ := C12_sm_no_liquidation_unless_below_one hs hopen hout
    rw [hl]
    exact ⟨h1, h2⟩

def C10SupplyBarsCx (cx : ACtx) (tok : String) : St → List (Env × Op) → Prop
  | _, [] => True
  | s, (env, op) :: rest =>
      (¬ TouchesSupply tok op ∨ (op = .update ∧ C10QuietUpdateCx cx env s)) ∧
      C10SupplyBarsCx cx tok (step cx env s op).2 rest

def C10DebtBarsCx (cx : ACtx) (tok : String) : St → List (Env × Op) → Prop
  | _, [] => True
  | s, (env, op) :: rest =>
      (¬ TouchesBorrow tok op ∨ (op = .update ∧ C10QuietUpdateCx cx env s)) ∧
      C10DebtBarsCx cx tok (step cx env s op).2 rest

theorem C10_supply_untouched_through_bars_cx {cx : ACtx} {tok : String} (hist : List (Env × Op)) :
    ∀ (s : St), C10SupplyBarsCx cx tok s hist →
      AList.get? (runHist cx s hist).supplies tok = AList.get? s.supplies tok :=
  runHist_keeps (fun s => AList.get? s.supplies tok) (C10SupplyBarsCx cx tok) (fun s env op _ h => by
    refine ⟨?_, h.2⟩
    rcases h.1 with hn | ⟨rfl, hq⟩
    · exact C10_supply_untouched op hn env s
    · rw [(aave_quietUpdateCx_positions hq).1]) hist

theorem C10_debt_untouched_through_bars_cx {cx : ACtx} {tok : String} (hist : List (Env × Op)) :
    ∀ (s : St), C10DebtBarsCx cx tok s hist →
      AList.get? (runHist cx s hist).borrows tok = AList.get? s.borrows tok :=
  runHist_keeps (fun s => AList.get? s.borrows tok) (C10DebtBarsCx cx tok) (fun s env op _ h => by
    refine ⟨?_, h.2⟩
    rcases h.1 with hn | ⟨rfl, hq⟩
    · exact C10_debt_untouched op hn env s
    · rw [(aave_quietUpdateCx_positions hq).2]) hist

/-- C10, exact arithmetic: the supply entry of `tok` in `AaveV3Market` (scaled balance, collateral flag) is what it was after a
    run of bars none of whose steps targets it, the bar-end `update()` included as long as it liquidates nothing. -/
theorem C10_supply_untouched_through_bars {tok : String} (hist : List (Env × Op)) :
    ∀ (s : St), C10SupplyBarsCx aaveExact tok s hist →
      AList.get? (runHist aaveExact s hist).supplies tok = AList.get? s.supplies tok :=
  C10_supply_untouched_through_bars_cx hist

/-- C10, exact arithmetic: the same of the debt entry of `tok` (scaled debt), which no step of the run targets. -/
theorem C10_debt_untouched_through_bars {tok : String} (hist : List (Env × Op)) :
    ∀ (s : St), C10DebtBarsCx aaveExact tok s hist →
      AList.get? (runHist aaveExact s hist).borrows tok = AList.get? s.borrows tok :=
  C10_debt_untouched_through_bars_cx hist

/-- **a supplied balance equals amount × index now / index at supply time through the bars of a run**: as
    `C10_supply_accrues`, but the history may contain the `update()` of every bar as long as it does not liquidate
    (market closed, or coherent state with health factor outside (0, 1)). -/
theorem C10_supply_accrues_through_bars {env0 : Env} {s0 s1 : St} {tok : String} {a : Rat} {coll : Bool}
    (hnew : AList.get? s0.supplies tok = none)
    (h : supply aaveExact env0 tok a coll s0 = (.ok (), s1))
    (hist : List (Env × Op)) (hbars : C10SupplyBarsCx aaveExact tok s1 hist) (I : Rat) :
    ∃ st0 e, env0.statusOf tok = .ok st0 ∧ AList.get? (runHist aaveExact s1 hist).supplies tok = some e ∧
      e.base * I = a * I / st0.liqIdx :=
  aave_supply_accrues_of_kept hnew h (C10_supply_untouched_through_bars hist s1 hbars) I

/-- **a debt equals amount borrowed × borrow index now / borrow index then through the bars of a run.** -/
theorem C10_debt_accrues_through_bars {env0 : Env} {s0 s1 : St} {tok : String} {a : Rat}
    (hnew : AList.get? s0.borrows tok = none)
    (h : borrow aaveExact env0 tok (some a) s0 = (.ok (), s1))
    (hist : List (Env × Op)) (hbars : C10DebtBarsCx aaveExact tok s1 hist) (I : Rat) :
    ∃ st0 e, env0.statusOf tok = .ok st0 ∧ AList.get? (runHist aaveExact s1 hist).borrows tok = some e ∧
      e.base * I = a * I / st0.varIdx :=
  aave_debt_accrues_of_kept hnew h (C10_debt_untouched_through_bars hist s1 hbars) I

def C10BarDiscipline (env env' : Env) (s : St) (op : Op) : Prop :=
  if op = .newBar then EnvOK env' ∧ EnvPos env' ∧ Covers env' s.supplies ∧ Covers env' s.borrows else env' = env

/-- along a run that keeps the bar discipline from a coherent state every step may assume `Good` (C13) -/
theorem aave_run_of_runOK {Step : Env → St → Op → Prop} {RunOK : Env → St → List (Env × Op) → Prop}
    {Run : St → List (Env × Op) → Prop} (hnil : ∀ s, Run s [])
    (hcons : ∀ s env op rest, Step env s op → Run (step aaveExact env s op).2 rest → Run s ((env, op) :: rest))
    (hok : ∀ env s env' op rest, RunOK env s ((env', op) :: rest) → C10BarDiscipline env env' s op ∧
      ((op = .newBar ∨ Good aaveExact env' s) → Step env' s op) ∧ RunOK env' (step aaveExact env' s op).2 rest)
    (hist : List (Env × Op)) :
    ∀ (env : Env) (s : St), EnvOK env → EnvPos env → Good aaveExact env s → RunOK env s hist → Run s hist := by
  induction hist with
  | nil => intro _ s _ _ _ _; exact hnil s
  | cons p rest ih =>
    intro env s hE hP hs h
    obtain ⟨hd, hstep, hrest⟩ := hok env s p.1 p.2 rest h
    unfold C10BarDiscipline at hd
    by_cases hop : p.2 = .newBar
    · rw [if_pos hop] at hd
      refine hcons s p.1 p.2 rest (hstep (Or.inl hop)) (ih p.1 _ hd.1 hd.2.1 ?_ hrest)
      rw [hop]
      exact C13_newBar_coherent s hs hd.2.2.1 hd.2.2.2
    · rw [if_neg hop] at hd
      subst hd
      exact hcons s p.1 p.2 rest (hstep (Or.inr hs)) (ih p.1 _ hE hP (C13_step_coherent hE hP s hs p.2 hop) hrest)

/-- a history as the Actuator produces it, seen from a state coherent for bar `env`; the first clause is
    `C10BarDiscipline env env' s op` unfolded; `sup` selects `tok`'s supply (`true`) or debt (`false`) -/
def C10RunOK (sup : Bool) (tok : String) : Env → St → List (Env × Op) → Prop
  | _, _, [] => True
  | env, s, (env', op) :: rest =>
      (if op = .newBar then EnvOK env' ∧ EnvPos env' ∧ Covers env' s.supplies ∧ Covers env' s.borrows else env' = env) ∧
      (if op = .update then env'.isOpen = false ∨ C10HfOutside env' s
       else if sup then ¬ TouchesSupply tok op else ¬ TouchesBorrow tok op) ∧
      C10RunOK sup tok env' (step aaveExact env' s op).2 rest

theorem aave_runOK_bars {sup : Bool} {tok : String} (hist : List (Env × Op)) :
    ∀ (env : Env) (s : St), EnvOK env → EnvPos env → Good aaveExact env s → C10RunOK sup tok env s hist →
      if sup then C10SupplyBarsCx aaveExact tok s hist else C10DebtBarsCx aaveExact tok s hist := by
  have hstep : ∀ {env' : Env} {s : St} {op : Op},
      (if op = .update then env'.isOpen = false ∨ C10HfOutside env' s
        else if sup then ¬ TouchesSupply tok op else ¬ TouchesBorrow tok op) →
      (op = .newBar ∨ Good aaveExact env' s) →
      (if sup then ¬ TouchesSupply tok op else ¬ TouchesBorrow tok op) ∨ (op = .update ∧ C10QuietUpdate env' s) := by
    intro env' s op h2 hg
    by_cases hop : op = .update
    · subst hop
      rw [if_pos rfl] at h2
      refine Or.inr ⟨rfl, ?_⟩
      rcases h2 with hc | ho
      · exact Or.inl hc
      · cases hopen : env'.isOpen with
        | false => exact Or.inl hopen
        | true => exact Or.inr ⟨hg.resolve_left (by simp), hopen, ho⟩
    · rw [if_neg hop] at h2
      exact Or.inl h2
  cases sup with
  | true =>
    exact aave_run_of_runOK (RunOK := C10RunOK true tok) (Run := C10SupplyBarsCx aaveExact tok) (fun _ => trivial)
      (fun _ _ _ _ h1 h2 => ⟨h1, h2⟩) (fun _ _ _ _ _ h => ⟨h.1, hstep h.2.1, h.2.2⟩) hist
  | false =>
    exact aave_run_of_runOK (RunOK := C10RunOK false tok) (Run := C10DebtBarsCx aaveExact tok) (fun _ => trivial)
      (fun _ _ _ _ h1 h2 => ⟨h1, h2⟩) (fun _ _ _ _ _ h => ⟨h.1, hstep h.2.1, h.2.2⟩) hist

/-- **supply accrual over a whole run**: start coherent (`Good`, e.g. the empty market), supply `a` of a token not yet
    supplied; then any number of bars — each entered by `newBar`, with any reads / operations that do not target this
    supply and the bar's `update()` — during which the account's health factor is never in (0, 1) when `update()` runs:
    the scaled entry is still `a / I₀`.  No coherence hypothesis inside the run: C13 provides it. -/
theorem C10_supply_accrues_through_run {env0 : Env} {s0 s1 : St} {tok : String} {a : Rat} {coll : Bool}
    (hE : EnvOK env0) (hP : EnvPos env0) (hs : Good aaveExact env0 s0)
    (hnew : AList.get? s0.supplies tok = none)
    (h : supply aaveExact env0 tok a coll s0 = (.ok (), s1))
    (hist : List (Env × Op)) (hrun : C10RunOK true tok env0 s1 hist) (I : Rat) :
    ∃ st0 e, env0.statusOf tok = .ok st0 ∧ AList.get? (runHist aaveExact s1 hist).supplies tok = some e ∧
      e.base * I = a * I / st0.liqIdx := by
  have hs1 : Good aaveExact env0 s1 := by
    have := C13_step_coherent hE hP s0 hs (.supply tok a coll) (by simp)
    rwa [show (step aaveExact env0 s0 (.supply tok a coll)).2 = s1 from congrArg Prod.snd (aave_unitM_ok h)] at this
  exact C10_supply_accrues_through_bars hnew h hist (aave_runOK_bars (sup := true) hist env0 s1 hE hP hs1 hrun) I

/-- **debt accrual over a whole run** -/
theorem C10_debt_accrues_through_run {env0 : Env} {s0 s1 : St} {tok : String} {a : Rat}
    (hE : EnvOK env0) (hP : EnvPos env0) (hs : Good aaveExact env0 s0)
    (hnew : AList.get? s0.borrows tok = none)
    (h : borrow aaveExact env0 tok (some a) s0 = (.ok (), s1))
    (hist : List (Env × Op)) (hrun : C10RunOK false tok env0 s1 hist) (I : Rat) :
    ∃ st0 e, env0.statusOf tok = .ok st0 ∧ AList.get? (runHist aaveExact s1 hist).borrows tok = some e ∧
      e.base * I = a * I / st0.varIdx := by
  have hs1 : Good aaveExact env0 s1 := by
    have := C13_step_coherent hE hP s0 hs (.borrow tok (some a)) (by simp)
    rwa [show (step aaveExact env0 s0 (.borrow tok (some a))).2 = s1 from congrArg Prod.snd (aave_unitM_ok h)] at this
  exact C10_debt_accrues_through_bars hnew h hist (aave_runOK_bars (sup := false) hist env0 s1 hE hP hs1 hrun) I

-- two bars of a run with a debt, `update()` at the end of each, health factor 1.815 / ≈ 1.497

def c10bEnv0 : Env :=
  { status := [("WETH", ⟨1/100, 3/100, 11/10, 12/10⟩), ("USDC", ⟨1/100, 3/100, 1, 5/4⟩)],
    price := [("WETH", 1000), ("USDC", 1)],
    risk := [("WETH", ⟨true, 8/10, 825/1000, 5/100, true⟩), ("USDC", ⟨true, 8/10, 85/100, 4/100, true⟩)],
    isOpen := true }
def c10bEnv1 : Env :=
  { c10bEnv0 with status := [("WETH", ⟨1/100, 3/100, 121/100, 13/10⟩), ("USDC", ⟨1/100, 3/100, 11/10, 3/2⟩)],
                  price := [("WETH", 900), ("USDC", 1)] }
def c10bSt : St := { St.init with wallet := [("WETH", 11), ("USDC", 0)] }
def c10bS1 : St := (step aaveExact c10bEnv0 c10bSt (.supply "WETH" 11 true)).2
def c10bS2 : St := (step aaveExact c10bEnv0 c10bS1 (.borrow "USDC" (some 5000))).2
def c10bHist : List (Env × Op) :=
  [(c10bEnv0, .read .healthFactor), (c10bEnv0, .update), (c10bEnv1, .newBar), (c10bEnv1, .supply "USDC" 10 false),
   (c10bEnv1, .update)]

theorem c10b_envOK (env : Env) (h : env = c10bEnv0 ∨ env = c10bEnv1) : EnvOK env ∧ EnvPos env := by
  rcases h with rfl | rfl
  · exact envOKB_sound (by decide +kernel)
  · exact envOKB_sound (by decide +kernel)

theorem c10b_hasData (k : String) (hk : k = "WETH" ∨ k = "USDC") : HasData c10bEnv1 k := by
  rcases hk with rfl | rfl <;> exact ⟨⟨_, rfl⟩, ⟨_, rfl⟩, ⟨_, rfl⟩⟩

example : c10IsOk' (borrow aaveExact c10bEnv0 "USDC" (some 5000) c10bS1).1 = true := by decide +kernel
example : C10RunOK false "USDC" c10bEnv0 c10bS2 c10bHist := by
  have hcov : ∀ (s : St), (keys s.supplies = ["WETH"] ∨ keys s.supplies = ["WETH", "USDC"]) → keys s.borrows = ["USDC"] →
      Covers c10bEnv1 s.supplies ∧ Covers c10bEnv1 s.borrows := by
    intro s h1 h2
    constructor
    · intro k hk
      rcases h1 with h1 | h1 <;> rw [h1] at hk <;> simp at hk
      · exact c10b_hasData k (Or.inl hk)
      · exact c10b_hasData k hk
    · intro k hk; rw [h2] at hk; simp at hk; exact c10b_hasData k (Or.inr hk)
  refine ⟨rfl, by simp [TouchesBorrow], ?_⟩
  refine ⟨rfl, Or.inr (by unfold C10HfOutside; decide +kernel), ?_⟩
  refine ⟨⟨(c10b_envOK _ (Or.inr rfl)).1, (c10b_envOK _ (Or.inr rfl)).2, ?_⟩, by simp [TouchesBorrow], ?_⟩
  · exact hcov _ (Or.inl (by decide +kernel)) (by decide +kernel)
  refine ⟨rfl, by simp [TouchesBorrow], ?_⟩
  exact ⟨rfl, Or.inr (by unfold C10HfOutside; decide +kernel), trivial⟩
/-- scaled debt 5000 / 1.25 = 4000 after both bars, i.e. 6000 USDC at index 1.5 -/
example : (runHist aaveExact c10bS2 c10bHist).borrows = [("USDC", ⟨4000, 5/4⟩)] := by decide +kernel
/-- an `update()` that does liquidate (health factor 0.9075 in (0, 1)) is not admitted -/
example : ¬ C10HfOutside c11rEnv c12rSt := by unfold C10HfOutside; decide +kernel

end Demeter
