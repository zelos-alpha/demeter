/-
  C10 — the interleaved formula **with the dust rule as an explicit term**.

  `C10_supply_interleaved` assumes that no accepted withdrawal leaves a scaled remainder in (0, MIN_TOKEN_VALUE)
  (`C10NoDustSnap`).  Without that hypothesis each accepted withdrawal may delete the entry and drop a scaled remainder
  `0 ≤ r < MIN_TOKEN_VALUE`; so with `n` = number of accepted withdrawals of `tok` in the history

      Σ a_j·I/I_j − Σ w_k·I/I_k − n · MIN_TOKEN_VALUE · I   ≤   get_supply(tok).amount   ≤   Σ a_j·I/I_j − Σ w_k·I/I_k .

  (`MIN_TOKEN_VALUE · I` is below 1e-18 × index tokens per withdrawal: `C10_min_token_value`.)
-/
import Proofs.C10.Bars
namespace Demeter
open Aave

def C10SupLedgerStepD (tok : String) (env : Env) (s : St) (op : Op) : Prop :=
  ¬ TouchesSupply tok op ∨ (op = .update ∧ C10QuietUpdate env s) ∨ (∃ a c, op = .supply tok a c) ∨
  (∃ a?, op = .withdraw tok a? ∧ Good aaveExact env s ∧ AavePosIdx env) ∨ (∃ c, op = .changeCollateral tok c)

def C10SupLedgerRunD (tok : String) : St → List (Env × Op) → Prop
  | _, [] => True
  | s, (env, op) :: rest => C10SupLedgerStepD tok env s op ∧ C10SupLedgerRunD tok (step aaveExact env s op).2 rest

/-- **the interleaved formula with the dust term**: for a non-negative index `I`, the balance `base × I` lies between the ledger
    sum minus `n · MIN_TOKEN_VALUE · I` and the ledger sum, `n` the number of accepted withdrawals of `tok`. -/
theorem C10_supply_interleaved_dust_bound {tok : String} (hist : List (Env × Op)) :
    ∀ (s : St), C10SupLedgerRunD tok s hist → ∀ I : Rat, 0 ≤ I →
      c10SupBase tok (runHist aaveExact s hist) * I ≤ c10SupBase tok s * I + c10Ledger (c10SupEvents tok s hist) I ∧
      c10SupBase tok s * I + c10Ledger (c10SupEvents tok s hist) I
        - Gen.aaveMinTokenValue * (c10Withdrawals (c10SupEvents tok s hist) : Rat) * I
        ≤ c10SupBase tok (runHist aaveExact s hist) * I := by
  intro s h I hI
  -- an accepted withdrawal took `0 < a ≤ base · index`, so it leaves a non-negative scaled remainder
  obtain ⟨a1, a2⟩ := runHist_rel (c10SupBase tok) (c10SupEvent tok) (c10SupEvents tok) (C10SupLedgerRunD tok) LedgerDust
    (fun _ => rfl) (fun _ _ _ _ => rfl) LedgerDust.nil LedgerDust.append (fun _ _ _ _ h =>
      ⟨(aave_supBase_move (fun hq => (aave_quietUpdateCx_positions hq).1) (fun _ hw _ hpos hle =>
        ⟨hpos, sub_nonneg.mpr ((div_le_iff₀ (c10LiqIdx_pos hw.2 tok)).mpr hle)⟩) h.1).dust, h.2⟩) hist s h
  rw [c10Ledger_scale _ I]
  have m1 := mul_le_mul_of_nonneg_right a1 hI
  have m2 := mul_le_mul_of_nonneg_right a2 hI
  constructor <;> linarith

-- the dust rule fires: 1 token supplied at index 1, then all but 5e-19 withdrawn: the entry disappears, the ledger says 5e-19
def c10dEnv : Env :=
  { status := [("USDC", ⟨1/100, 3/100, 1, 1⟩)], price := [("USDC", 1)], risk := [("USDC", ⟨true, 8/10, 85/100, 4/100, true⟩)],
    isOpen := true }
def c10dSt : St := { St.init with wallet := [("USDC", 1)] }
def c10dHist : List (Env × Op) :=
  [(c10dEnv, .supply "USDC" 1 false), (c10dEnv, .withdraw "USDC" (some (1 - 5 / 10 ^ 19)))]

example : (runHist aaveExact c10dSt c10dHist).supplies = [] ∧
    c10Ledger (c10SupEvents "USDC" c10dSt c10dHist) 1 = 5 / 10 ^ 19 ∧ c10Withdrawals (c10SupEvents "USDC" c10dSt c10dHist) = 1 := by
  decide +kernel

end Demeter
