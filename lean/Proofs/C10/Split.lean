/-
  C10 — splitting or merging supplies, borrows, withdrawals and repayments (cash or out of collateral) changes
  nothing (exact arithmetic: the positions are *equal*; under CPython's 35-digit rounding the harness measures the
  difference, ≤ 1e-18).  For cash repayments the wallet is part of the statement: it gives the same total, up to the 1e-5
  dust rule of `Asset.sub`, which may snap one run to 0 and not the other.
-/
import Proofs.C10
namespace Demeter
open Aave

variable {env : Env}

/-- **supply(a) ; supply(b) = supply(a + b)** on the positions. -/
theorem C10_supply_split {s s1 s2 s12 : St} {tok : String} {a b : Rat} {coll : Bool}
    (h1 : supply aaveExact env tok a coll s = (.ok (), s1))
    (h2 : supply aaveExact env tok b coll s1 = (.ok (), s2))
    (h12 : supply aaveExact env tok (a + b) coll s = (.ok (), s12)) :
    s2.supplies = s12.supplies ∧ s2.borrows = s12.borrows := by
  obtain ⟨st, _, _, _, hst, _, _, _, e1, b1, _⟩ := supply_accepted h1
  obtain ⟨st', _, _, _, hst', _, _, _, e2, b2, _⟩ := supply_accepted h2
  obtain ⟨st'', _, _, _, hst'', _, _, _, e12, b12, _⟩ := supply_accepted h12
  rw [hst] at hst' hst''; cases hst'; cases hst''
  refine ⟨?_, by rw [b2, b1, b12]⟩
  rw [e2, e12, e1, AList.get?_set_self, AList.set_set]
  simp only [aaveExact_div]
  rw [aave_supplyEntry_two]

/-- **borrow(a) ; borrow(b) = borrow(a + b)** on the positions. -/
theorem C10_borrow_split {s s1 s2 s12 : St} {tok : String} {a b : Rat}
    (h1 : borrow aaveExact env tok (some a) s = (.ok (), s1))
    (h2 : borrow aaveExact env tok (some b) s1 = (.ok (), s2))
    (h12 : borrow aaveExact env tok (some (a + b)) s = (.ok (), s12)) :
    s2.borrows = s12.borrows ∧ s2.supplies = s12.supplies := by
  obtain ⟨a', st, _, _, ha, hst, _, p1, e1, _⟩ := borrow_accepted h1
  obtain ⟨b', st', _, _, hb, hst', _, p2, e2, _⟩ := borrow_accepted h2
  obtain ⟨ab', st'', _, _, hab, hst'', _, p12, e12, _⟩ := borrow_accepted h12
  rw [hst] at hst' hst''; cases hst'; cases hst''
  obtain rfl := ha a rfl
  obtain rfl := hb b rfl
  obtain rfl := hab _ rfl
  refine ⟨?_, by rw [p2, p1, p12]⟩
  rw [e2, e12, e1, AList.get?_set_self, AList.set_set]
  simp only [aaveExact_div]
  rw [aave_borrowEntry_two]

/-- **withdraw(a) ; withdraw(b) = withdraw(a + b)** on the positions (all three accepted). -/
theorem C10_withdraw_split {s s1 s2 s12 : St} (hs : Good aaveExact env s) {tok : String} {a b : Rat}
    (h1 : withdraw aaveExact env tok (some a) s = (.ok (), s1))
    (h2 : withdraw aaveExact env tok (some b) s1 = (.ok (), s2))
    (h12 : withdraw aaveExact env tok (some (a + b)) s = (.ok (), s12)) :
    s2.supplies = s12.supplies ∧ s2.borrows = s12.borrows := by
  obtain ⟨st, info, _, nb, _, hst, _, hg, rfl, _, _, hnb, e1, b1, _⟩ := withdraw_accepted h1
  obtain ⟨st', info1, _, nb1, _, hst', _, hg1, rfl, _, _, hnb1, e2, b2, _⟩ := withdraw_accepted h2
  obtain ⟨st'', info12, _, nb12, _, hst'', _, hg12, rfl, _, _, hnb12, e12, b12, _⟩ := withdraw_accepted h12
  rw [hst] at hst' hst''; cases hst'; cases hst''
  rw [hg] at hg12; cases hg12
  refine ⟨?_, by rw [b2, b1, b12]⟩
  simp only [Option.getD_some, aaveExact_div] at hnb hnb1 hnb12
  subst hnb
  -- the first withdrawal left the entry in place (otherwise the second one would have raised)
  obtain ⟨hne, hinfo1⟩ := AList.eraseOrSet_found (e1 ▸ hg1)
  rw [e2, e12, e1, hnb1, hnb12, hinfo1, add_div]
  exact aave_supAfterSub_two _ _ _ _ _ hne

/-- the common core of the repay splits; the amounts may be `None` = "the whole debt at that moment" -/
theorem aave_repay_split_core (hI : AavePosIdx env) {s s1 s2 s12 : St} {tok : String}
    {a1 a2 a12 : Option Rat} {c1 c2 c12 : Option String}
    (h1 : repay aaveExact env tok a1 false c1 s = (.ok (), s1))
    (h2 : repay aaveExact env tok a2 false c2 s1 = (.ok (), s2))
    (h12 : repay aaveExact env tok a12 false c12 s = (.ok (), s12))
    (hsum : ∀ info st info1, AList.get? s.borrows tok = some info → env.statusOf tok = .ok st → st.varIdx ≠ 0 →
      AList.get? s1.borrows tok = some info1 →
      info1.base = info.base - a1.getD (info.base * st.varIdx) / st.varIdx →
      a1.getD (info.base * st.varIdx) + a2.getD (info1.base * st.varIdx) = a12.getD (info.base * st.varIdx)) :
    ∃ st info p, env.statusOf tok = .ok st ∧ AList.get? s.borrows tok = some info ∧ p = a12.getD (info.base * st.varIdx) ∧
    s2.borrows = s12.borrows ∧ s2.supplies = s12.supplies ∧
      ((info.base - p / st.varIdx < Gen.aaveMinTokenValue ∧
          AList.get? s2.borrows tok = none ∧ AList.get? s12.borrows tok = none) ∨
       (Gen.aaveMinTokenValue ≤ info.base - p / st.varIdx ∧ ∃ e, AList.get? s2.borrows tok = some e ∧
          AList.get? s12.borrows tok = some e ∧ e.base * st.varIdx = info.base * st.varIdx - p)) ∧
    WalletTook s.wallet s2.wallet tok p ∧ WalletTook s.wallet s12.wallet tok p ∧
    (∃ b0 x2 x12, AList.get? s.wallet tok = some b0 ∧ s2.wallet = AList.set s.wallet tok x2 ∧
      s12.wallet = AList.set s.wallet tok x12 ∧ DebitEnds b0 p x2 ∧ DebitEnds b0 p x12 ∧
      (x2 ≠ x12 → 0 < b0 ∧ |b0 - p| < assetDust * b0)) := by
  obtain ⟨st, info, pa, b0, x1, hst, hidx, hg, epa, hapos, g0, q1, d1, p1, e1⟩ := aave_repay_cash_inv hI h1
  obtain ⟨st', info1, pb, b1, x2, hst', _, hg1, epb, hbpos, g1, q2, d2, p2, e2⟩ := aave_repay_cash_inv hI h2
  obtain ⟨st'', info12, pab, b0', x12, hst'', _, hg12, epab, _, g0', q12, d12, p12, e12⟩ := aave_repay_cash_inv hI h12
  rw [hst] at hst' hst''; cases hst'; cases hst''
  rw [hg] at hg12; cases hg12
  rw [g0] at g0'; cases g0'
  rw [q1, AList.get?_set_self] at g1; cases g1
  have hnz : st.varIdx ≠ 0 := hidx.ne'
  -- the first repayment left the entry in place (otherwise the second one would have raised)
  obtain ⟨hne, hinfo1⟩ := AList.eraseOrSet_found (e1 ▸ hg1)
  have hadd : pa + pb = pab := by
    rw [epa, epb, epab]
    exact hsum info st info1 hg hst hnz hg1 (by rw [hinfo1, ← epa]; exact aave_subBase_ne_zero hne)
  have hbor : s2.borrows = s12.borrows := by
    rw [e2, e12, e1, hinfo1, ← hadd, add_div]
    exact aave_borAfterSub_two _ _ _ _ _ hne
  have d2' : DebitEnds b0 pab x2 := hadd ▸ d1.two hapos hbpos d2
  have ew2 : s2.wallet = AList.set s.wallet tok x2 := by rw [q2, q1, AList.set_set]
  refine ⟨st, info, pab, hst, hg, epab, hbor, by rw [p2, p1, p12], ?_, ?_, ?_,
    ⟨b0, x2, x12, g0, ew2, q12, d2', d12, d2'.differ d12⟩⟩
  · rw [hbor, e12]
    rcases aave_borAfterSub_cases s.borrows tok info pab st.varIdx hnz with ⟨h, g⟩ | ⟨h, e, g, he⟩
    · exact Or.inl ⟨h, g, g⟩
    · exact Or.inr ⟨h, e, g, g, he⟩
  · rw [ew2]; exact aave_walletTook_of_set g0 d2'
  · rw [q12]; exact aave_walletTook_of_set g0 d12

/-- **repay(a) ; repay(b) = repay(a + b)** (cash; all three accepted; coherent start state; positive indices): the same debts
    afterwards (the entry is gone in both runs when the scaled remainder `base − (a+b)/I` is below `MIN_TOKEN_VALUE`, otherwise
    it holds the amount `base·I − (a+b)` in both), supplies untouched, and the wallet gave `a + b` in both runs: the token's
    balance becomes `b₀ − (a+b)`, or 0 under `Asset.sub`'s dust rule (`DebitEnds`); the two runs can differ there only inside
    that dust, `|b₀ − (a+b)| < 1e-5·b₀`. -/
theorem C10_repay_split (hI : AavePosIdx env) {s s1 s2 s12 : St} (hs : Good aaveExact env s) {tok : String} {a b : Rat}
    {c1 c2 c12 : Option String}
    (h1 : repay aaveExact env tok (some a) false c1 s = (.ok (), s1))
    (h2 : repay aaveExact env tok (some b) false c2 s1 = (.ok (), s2))
    (h12 : repay aaveExact env tok (some (a + b)) false c12 s = (.ok (), s12)) :
    s2.borrows = s12.borrows ∧ s2.supplies = s12.supplies ∧
    (∃ st info, env.statusOf tok = .ok st ∧ AList.get? s.borrows tok = some info ∧
      ((info.base - (a + b) / st.varIdx < Gen.aaveMinTokenValue ∧
          AList.get? s2.borrows tok = none ∧ AList.get? s12.borrows tok = none) ∨
       (Gen.aaveMinTokenValue ≤ info.base - (a + b) / st.varIdx ∧ ∃ e, AList.get? s2.borrows tok = some e ∧
          AList.get? s12.borrows tok = some e ∧ e.base * st.varIdx = info.base * st.varIdx - (a + b)))) ∧
    WalletTook s.wallet s2.wallet tok (a + b) ∧ WalletTook s.wallet s12.wallet tok (a + b) ∧
    (∃ b0 x2 x12, AList.get? s.wallet tok = some b0 ∧ s2.wallet = AList.set s.wallet tok x2 ∧
      s12.wallet = AList.set s.wallet tok x12 ∧ DebitEnds b0 (a + b) x2 ∧ DebitEnds b0 (a + b) x12 ∧
      (x2 ≠ x12 → 0 < b0 ∧ |b0 - (a + b)| < assetDust * b0)) := by
  obtain ⟨st, info, p, hst, hg, hp, r1, r2, r3, r4, r5, r6⟩ :=
    aave_repay_split_core hI h1 h2 h12 (fun _ _ _ _ _ _ _ _ => by simp only [Option.getD_some])
  simp only [Option.getD_some] at hp
  subst hp
  exact ⟨r1, r2, ⟨st, info, hst, hg, r3⟩, r4, r5, r6⟩

/-- **repay(a) ; repay(None) = repay(None)**: paying `a` and then "everything that is left" is paying the whole debt at once —
    the debt entry is gone in both runs, supplies untouched, and the wallet gave the whole debt `base·I` in both (up to
    `Asset.sub`'s dust rule, as in `C10_repay_split`). -/
theorem C10_repay_split_rest (hI : AavePosIdx env) {s s1 s2 s12 : St} (hs : Good aaveExact env s) {tok : String} {a : Rat}
    {c1 c2 c12 : Option String}
    (h1 : repay aaveExact env tok (some a) false c1 s = (.ok (), s1))
    (h2 : repay aaveExact env tok none false c2 s1 = (.ok (), s2))
    (h12 : repay aaveExact env tok none false c12 s = (.ok (), s12)) :
    s2.borrows = s12.borrows ∧ s2.supplies = s12.supplies ∧
    AList.get? s2.borrows tok = none ∧ AList.get? s12.borrows tok = none ∧
    (∃ st info, env.statusOf tok = .ok st ∧ AList.get? s.borrows tok = some info ∧
      WalletTook s.wallet s2.wallet tok (info.base * st.varIdx) ∧ WalletTook s.wallet s12.wallet tok (info.base * st.varIdx) ∧
      (∃ b0 x2 x12, AList.get? s.wallet tok = some b0 ∧ s2.wallet = AList.set s.wallet tok x2 ∧
        s12.wallet = AList.set s.wallet tok x12 ∧ DebitEnds b0 (info.base * st.varIdx) x2 ∧
        DebitEnds b0 (info.base * st.varIdx) x12 ∧
        (x2 ≠ x12 → 0 < b0 ∧ |b0 - info.base * st.varIdx| < assetDust * b0))) := by
  obtain ⟨st, info, p, hst, hg, hp, r1, r2, _, r4, r5, r6⟩ :=
    aave_repay_split_core hI h1 h2 h12 (fun info st info1 _ _ hnz _ hb => by
      simp only [Option.getD_some, Option.getD_none] at hb ⊢
      rw [hb, sub_mul, div_mul_cancel₀ _ hnz]; ring)
  simp only [Option.getD_none] at hp
  subst hp
  have g12 := C10_full_repay_removes hs h12
  exact ⟨r1, r2, r1 ▸ g12, g12, st, info, hst, hg, r4, r5, r6⟩

/-- **repay-with-collateral(a) ; repay-with-collateral(b) = repay-with-collateral(a + b)** (same collateral token, all three
    accepted, coherent start state, exact arithmetic): the same debts, the same supplies (also when a repayment is capped by
    what the collateral supply holds: then the pieces `a` and `S·pc/pb − a` add up to the capped whole, and when the dust rule
    of `sub_base_amount` deletes the debt or the collateral entry at the end), and the wallet is never touched. -/
theorem C10_repay_collateral_split {s s1 s2 s12 : St} (hs : Good aaveExact env s) {tok : String} {a b : Rat}
    {ct : Option String}
    (h1 : repay aaveExact env tok (some a) true ct s = (.ok (), s1))
    (h2 : repay aaveExact env tok (some b) true ct s1 = (.ok (), s2))
    (h12 : repay aaveExact env tok (some (a + b)) true ct s = (.ok (), s12)) :
    s2.borrows = s12.borrows ∧ s2.supplies = s12.supplies ∧ s2.wallet = s.wallet ∧ s12.wallet = s.wallet := by
  obtain ⟨st, cst, info, cinfo, p1, pb, pc, hst, hcst, hcnz, hpb, hpc, hpcnz, hg, hci, c1, _, _, w1, e1b, e1s⟩ :=
    aave_repay_coll_inv h1
  obtain ⟨st', cst', info1, cinfo1, p2, pb', pc', hst', hcst', _, hpb', hpc', _, hg1, hci1, c2, _, _, w2, e2b, e2s⟩ :=
    aave_repay_coll_inv h2
  obtain ⟨st'', cst'', info', cinfo', p12, pb'', pc'', hst'', hcst'', _, hpb'', hpc'', _, hg', hci', c12, _, _, w12, e12b, e12s⟩ :=
    aave_repay_coll_inv h12
  rw [hst] at hst' hst''; cases hst'; cases hst''
  rw [hcst] at hcst' hcst''; cases hcst'; cases hcst''
  rw [hpb] at hpb' hpb''; cases hpb'; cases hpb''
  rw [hpc] at hpc' hpc''; cases hpc'; cases hpc''
  rw [hg] at hg'; cases hg'
  rw [hci] at hci'; cases hci'
  simp only [Option.getD_some] at c1 c2 c12
  -- after the first repayment both entries are still there (the second call found them)
  obtain ⟨hcnb1, hcinfo1⟩ := AList.eraseOrSet_found (e1s ▸ hci1)
  obtain ⟨hnb1, hinfo1⟩ := AList.eraseOrSet_found (e1b ▸ hg1)
  -- so the first repayment was not capped: a capped one takes the whole collateral supply
  have hp1 : a = p1 := by
    rcases c1 with ⟨_, hpbnz, e⟩ | ⟨_, e⟩
    · exfalso
      apply hcnb1
      rw [e, div_mul_cancel₀ _ hpbnz, mul_div_cancel_right₀ _ hpcnz]
      exact aave_subBase_full _ hcnz
    · exact e.symm
  subst hp1
  -- and left the collateral balance `S − a·pb/pc`, against which the second one is capped
  have hS1 : cinfo1.base * cst.liqIdx = cinfo.base * cst.liqIdx - a * pb / pc := by
    rw [hcinfo1]
    show subBase aaveExact cinfo.base (a * pb / pc / cst.liqIdx) * cst.liqIdx = _
    rw [aave_subBase_ne_zero hcnb1, sub_mul, div_mul_cancel₀ _ hcnz]
  have hsum : a + p2 = p12 := CappedAt.two hpcnz (hS1 ▸ c2) c12
  refine ⟨?_, ?_, w2.trans w1, w12⟩
  · rw [e2b, e12b, e1b, hinfo1, ← hsum, add_div]
    exact aave_borAfterSub_two _ _ _ _ _ hnb1
  · rw [e2s, e12s, e1s, hcinfo1, ← hsum, add_mul, add_div, add_div]
    exact aave_supAfterSub_two _ _ _ _ _ hcnb1

def c10Env : Env :=
  { status := [("WETH", ⟨1/100, 3/100, 11/10, 12/10⟩), ("USDC", ⟨1/100, 3/100, 1, 5/4⟩)],
    price := [("WETH", 1000), ("USDC", 1)],
    risk := [("WETH", ⟨true, 8/10, 825/1000, 5/100, true⟩), ("USDC", ⟨true, 8/10, 85/100, 4/100, true⟩)],
    isOpen := true }

def c10St : St := { St.init with wallet := [("WETH", 11), ("USDC", 0)] }

def c10IsOk {α : Type} (r : Res α) : Bool :=
  match r with
  | .ok _ => true
  | .error _ => false

-- supply 11 WETH at index 1.1: scaled 10; borrow 5000 USDC at borrow index 1.25: scaled 4000
example : c10IsOk (step aaveExact c10Env c10St (.supply "WETH" 11 true)).1 = true := by decide +kernel
example : (step aaveExact c10Env c10St (.supply "WETH" 11 true)).2.supplies = [("WETH", ⟨10, true, 11/10⟩)] := by
  decide +kernel
example : (step aaveExact c10Env (step aaveExact c10Env c10St (.supply "WETH" 11 true)).2 (.borrow "USDC" (some 5000))).2.borrows
    = [("USDC", ⟨4000, 5/4⟩)] := by decide +kernel
example : (step aaveExact c10Env (step aaveExact c10Env c10St (.supply "WETH" 4 true)).2 (.supply "WETH" 7 true)).2.supplies
    = (step aaveExact c10Env c10St (.supply "WETH" 11 true)).2.supplies := by decide +kernel
example : (step aaveExact c10Env (step aaveExact c10Env c10St (.supply "WETH" 11 true)).2 (.withdraw "WETH" none)).2.supplies = [] := by
  decide +kernel
example : (step aaveExact c10Env (step aaveExact c10Env c10St (.supply "WETH" 11 true)).2 (.withdraw "WETH" none)).2.wallet
    = [("WETH", 11), ("USDC", 0)] := by decide +kernel

def c10Bor : St := (step aaveExact c10Env (step aaveExact c10Env c10St (.supply "WETH" 11 true)).2 (.borrow "USDC" (some 5000))).2
def c10Rep (s : St) (a : Rat) : St := (step aaveExact c10Env s (.repay "USDC" (some a) false none)).2
def c10RepC (s : St) (a : Rat) : St := (step aaveExact c10Env s (.repay "USDC" (some a) true (some "WETH"))).2
example : c10IsOk (step aaveExact c10Env c10Bor (.repay "USDC" (some 2000) false none)).1 = true := by decide +kernel
example : (c10Rep (c10Rep c10Bor 2000) 3000).borrows = [] ∧ (c10Rep c10Bor 5000).borrows = [] ∧
    (c10Rep (c10Rep c10Bor 2000) 3000).wallet = (c10Rep c10Bor 5000).wallet := by decide +kernel
example : (c10Rep (c10Rep c10Bor 1000) 1500).borrows = [("USDC", ⟨2000, 5/4⟩)] ∧
    (c10Rep c10Bor 2500).borrows = [("USDC", ⟨2000, 5/4⟩)] := by decide +kernel
example : (step aaveExact c10Env (c10Rep c10Bor 1000) (.repay "USDC" none false none)).2.core.borrows = [] := by decide +kernel
-- out of collateral: 1100 + 2200 = 3300 USDC cost 3.3 WETH = 3 scaled units of the 10 supplied
example : c10IsOk (step aaveExact c10Env c10Bor (.repay "USDC" (some 1100) true (some "WETH"))).1 = true := by decide +kernel
example : (c10RepC (c10RepC c10Bor 1100) 2200).supplies = [("WETH", ⟨7, true, 11/10⟩)] ∧
    (c10RepC c10Bor 3300).supplies = [("WETH", ⟨7, true, 11/10⟩)] ∧
    (c10RepC (c10RepC c10Bor 1100) 2200).borrows = (c10RepC c10Bor 3300).borrows := by decide +kernel

end Demeter
