/-
  C06 — tick ⇄ sqrt-price conversions: the protocol's boundary values, the floor tick (it exists, it is unique, and
  `sqrt_price_x96_to_tick` returns it) and the laws of `nearest_usable_tick`.  `C06_floor_of_mono` and `C06_floor_unique` take strict monotonicity
  (`MonoAll`, Proofs/Lemmas/TickOfSqrt.lean) as a hypothesis; Proofs/C06/Full.lean proves it (`C06_strict_mono`) and states the
  first without it (`C06_floor`).
-/
import Proofs.Lemmas.TickOfSqrt
namespace Demeter
open Gen

-- the protocol's boundary values: the literals are those of the property, the table is the source's
theorem C06_boundary_zero : sqrtAt 0 = 2 ^ 96 := by decide +kernel
theorem C06_boundary_min : sqrtAt (-887272) = 4295128739 := by decide +kernel
theorem C06_boundary_max : sqrtAt 887272 = 1461446703485210103287273052203988822378723970342 := by decide +kernel
theorem C06_tick_bound : tickBound = 887272 := by decide

/-- a floor tick exists for every sqrt price in the valid range -/
theorem C06_floor_exists (x : Nat) (h1 : sqrtAt minTick ≤ x) (h2 : x < sqrtAt maxTick) :
    ∃ t, minTick ≤ t ∧ t < maxTick ∧ sqrtAt t ≤ x ∧ x < sqrtAt (t + 1) := by
  have key : ∀ n : Nat, x < sqrtAt (minTick + n) →
      ∃ t, minTick ≤ t ∧ t < minTick + n ∧ sqrtAt t ≤ x ∧ x < sqrtAt (t + 1) := by
    intro n
    induction n with
    | zero => intro h; simp at h; omega
    | succ n ih =>
      intro h
      by_cases hx : x < sqrtAt (minTick + n)
      · obtain ⟨t, a, b, c, d⟩ := ih hx
        exact ⟨t, a, by omega, c, d⟩
      · refine ⟨minTick + n, by omega, by omega, by omega, ?_⟩
        have : minTick + (n : Int) + 1 = minTick + ((n + 1 : Nat) : Int) := by omega
        rw [this]; exact h
  have hn : minTick + ((maxTick - minTick).toNat : Int) = maxTick := by
    unfold minTick maxTick; omega
  obtain ⟨t, a, b, c, d⟩ := key (maxTick - minTick).toNat (by rw [hn]; exact h2)
  exact ⟨t, a, by omega, c, d⟩

/-- whatever integer the float logarithm produced, the conversion returns the greatest tick whose
    sqrt price does not exceed `x` — negative ticks included — as long as the estimate is within `fuel`. -/
theorem C06_floor_of_mono (hm : MonoAll) (fuel : Nat) (est : Int) (x : Nat) (ts : Int)
    (h1 : minTick ≤ ts) (h2 : ts < maxTick) (h3 : sqrtAt ts ≤ x) (h4 : x < sqrtAt (ts + 1))
    (hf : (clampTick est - ts).natAbs ≤ fuel) :
    tickOfSqrt fuel est x = ts :=
  tickOfSqrt_eq hm fuel est x ts h1 (by omega) (Or.inr h3) (Or.inr h4) hf

theorem C06_floor_unique (hm : MonoAll) (x : Nat) (s t : Int)
    (hs1 : minTick ≤ s) (hs2 : s < maxTick) (hs3 : sqrtAt s ≤ x) (hs4 : x < sqrtAt (s + 1))
    (ht1 : minTick ≤ t) (ht2 : t < maxTick) (ht3 : sqrtAt t ≤ x) (ht4 : x < sqrtAt (t + 1)) : s = t := by
  by_cases h : s < t
  · have := mono_le hm (s + 1) t (by omega) (by omega) (by omega); omega
  · by_cases h' : t < s
    · have := mono_le hm (t + 1) s (by omega) (by omega) (by omega); omega
    · omega

/-- the result is a multiple of the spacing -/
theorem C06_nearest_usable_multiple (t : Int) (sp : Nat) : ∃ k : Int, nearestUsable t sp = k * sp := by
  unfold nearestUsable
  simp only []
  split
  · exact ⟨roundDivHalfEven t sp + 1, by rw [Int.add_mul]; omega⟩
  · split
    · exact ⟨roundDivHalfEven t sp - 1, by rw [Int.sub_mul]; omega⟩
    · exact ⟨_, rfl⟩

/-- nearest: when no end-of-range correction applies the result is within half a spacing of the input -/
theorem C06_nearest_usable_near (t : Int) (sp : Nat) (hsp : 0 < sp)
    (hin : minTick ≤ roundDivHalfEven t sp * sp ∧ roundDivHalfEven t sp * sp ≤ maxTick) :
    2 * (nearestUsable t sp - t).natAbs ≤ sp := by
  unfold nearestUsable
  rw [if_neg (by omega), if_neg (by omega)]
  exact roundDiv_near t sp hsp

/-- inside the valid range: for an input tick in range and a spacing not larger than the range the result
    is in range -/
theorem C06_nearest_usable_in_range (t : Int) (sp : Nat) (hsp : 0 < sp) (hsp2 : sp ≤ 887272)
    (ht : minTick ≤ t ∧ t ≤ maxTick) :
    minTick ≤ nearestUsable t sp ∧ nearestUsable t sp ≤ maxTick := by
  have hn := roundDiv_near t sp hsp
  unfold nearestUsable
  simp only []
  unfold minTick maxTick tickBound at *
  split
  · omega
  · split <;> omega

example : nearestUsable 25 10 = 20 ∧ nearestUsable (-887272) 60 = -887220 ∧ nearestUsable 35 10 = 40 := by decide
example : tickOfSqrt 64 (-3) (sqrtAt (-5) + 1) = -5 := by decide +kernel
example : sqrtAt (-5) ≤ sqrtAt (-5) + 1 ∧ sqrtAt (-5) + 1 < sqrtAt (-4) := by decide +kernel

end Demeter
