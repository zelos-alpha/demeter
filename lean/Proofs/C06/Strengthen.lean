/-
  C06 (f) at the ends of the range, and C06 (e) at the proved rounding error of the 35-digit arithmetic.

  * `nearest_usable_tick` returns a multiple of the spacing at least as close to the input as every multiple inside the valid
    range, also when the end-of-range correction applies; evaluated within half a spacing of ±887272 for the spacings 10, 60, 200.
  * The 35-digit round trips hold for any positive `Decimal(10 ** e)`, in particular for the binary64 value CPython computes
    when `e < 0` (`facPy`), provided libm `pow` returned a positive finite double (automatic for `d0 ≥ d1`); on the
    float-logarithm route `LgSound pyGTn 10⁻⁹` is the single libm assumption.  (`pyGTnFac fac`, Proofs/Lemmas/Round35Tick.lean,
    is the 35-digit context with `Decimal(10 ** e)` given by `fac`.)
-/
import Proofs.C06.InverseLog
import Proofs.C06.Inverse
import Proofs.Lemmas.Round35Tick
namespace Demeter
open Gen TickInv Numerics

theorem mul_step_le (k r : Int) (sp : Nat) (h : k + 1 ≤ r) : k * (sp : Int) + sp ≤ r * sp := by
  have : (k + 1) * (sp : Int) ≤ r * sp := Int.mul_le_mul_of_nonneg_right h (Int.natCast_nonneg _)
  rw [Int.add_mul, Int.one_mul] at this
  exact this

/-- no multiple of the spacing inside the valid range is closer to the input than the result — whether or
    not the end-of-range correction applied. -/
theorem C06_nearest_usable_nearest (t : Int) (sp : Nat) (hsp : 0 < sp) (k : Int)
    (hk1 : minTick ≤ k * sp) (hk2 : k * sp ≤ maxTick) :
    (nearestUsable t sp - t).natAbs ≤ (k * sp - t).natAbs := by
  have hn := roundDiv_near t sp hsp
  unfold nearestUsable
  simp only []
  generalize roundDivHalfEven t sp = r at hn ⊢
  rcases Int.lt_trichotomy k r with hlt | heq | hgt
  · have s1 := mul_step_le k r sp (by omega)
    split
    · omega
    · split <;> omega
  · subst heq
    rw [if_neg (by omega), if_neg (by omega)]
  · have s1 := mul_step_le r k sp (by omega)
    split
    · omega
    · split <;> omega

/-- the result is itself such a multiple (in range) whenever the input tick is in range and the spacing is at most 887272 -/
theorem C06_nearest_usable_spec (t : Int) (sp : Nat) (hsp : 0 < sp) (hsp2 : sp ≤ 887272) (ht : minTick ≤ t ∧ t ≤ maxTick) :
    (∃ k : Int, nearestUsable t sp = k * sp) ∧ minTick ≤ nearestUsable t sp ∧ nearestUsable t sp ≤ maxTick ∧
    ∀ k : Int, minTick ≤ k * sp → k * sp ≤ maxTick → (nearestUsable t sp - t).natAbs ≤ (k * sp - t).natAbs :=
  ⟨C06_nearest_usable_multiple t sp, (C06_nearest_usable_in_range t sp hsp hsp2 ht).1,
    (C06_nearest_usable_in_range t sp hsp hsp2 ht).2, fun k a b => C06_nearest_usable_nearest t sp hsp k a b⟩

/-- within half a spacing of ±887272 for the protocol's spacings: the nearest multiple lies outside the range and the result is
    the last multiple inside it -/
theorem C06_nearest_usable_ends :
    nearestUsable 887272 10 = 887270 ∧ nearestUsable (-887272) 10 = -887270 ∧ nearestUsable 887268 10 = 887270 ∧
    nearestUsable 887272 60 = 887220 ∧ nearestUsable (-887272) 60 = -887220 ∧ nearestUsable 887251 60 = 887220 ∧
    nearestUsable (-887251) 60 = -887220 ∧ nearestUsable 887250 60 = 887220 ∧
    nearestUsable 887272 200 = 887200 ∧ nearestUsable (-887272) 200 = -887200 ∧ nearestUsable 887201 200 = 887200 := by
  decide

/-- the round trip through the integer-corrected conversion under 35-digit arithmetic, for every positive `Decimal(10 ** e)`
    (the theorem does not depend on how well `10 ** negative` approximates a power of ten) -/
theorem C06_inverse_x96_round35_fac (fac : Int → Rat) (hfac : ∀ e, 0 < fac e) (t : Int) (h1 : minTick ≤ t) (h2 : t ≤ maxTick)
    (d0 d1 : Nat) (q0 : Bool) (fuel : Nat) (est : Int) (hf : (clampTick est - t).natAbs + 1 ≤ fuel) :
    ∃ p r, tickToPrice (pyGTnFac fac) t d0 d1 q0 = .ok p ∧ priceToTickX96 (pyGTnFac fac) fuel est p d0 d1 q0 = .ok r ∧
      t - 1 ≤ r ∧ r ≤ t :=
  C06_inverse_x96 (pyGTnFac fac) EPS35 (pyGTnFac_approx fac hfac) t h1 h2 d0 d1 q0 fuel est hf

/-- with CPython's own `Decimal(10 ** (d0 − d1))` (`facPy`: exact for `d0 ≥ d1`, else the binary64
    value of libm's `10.0 ** negative`), provided that value is positive (i.e. not underflowed to 0, not `inf/nan`) -/
theorem C06_inverse_x96_round35_facPy (t : Int) (h1 : minTick ≤ t) (h2 : t ≤ maxTick)
    (d0 d1 : Nat) (hfac : 0 < facPy ((d0 : Int) - d1)) (q0 : Bool) (fuel : Nat) (est : Int)
    (hf : (clampTick est - t).natAbs + 1 ≤ fuel) :
    ∃ p r, tickToPrice (pyGTnFac facPy) t d0 d1 q0 = .ok p ∧ priceToTickX96 (pyGTnFac facPy) fuel est p d0 d1 q0 = .ok r ∧
      t - 1 ≤ r ∧ r ≤ t := by
  set fac' : Int → Rat := fun e => if e = (d0 : Int) - d1 then facPy e else 1 with hfac'
  have hpos : ∀ e, 0 < fac' e := by
    intro e; simp only [hfac']; split
    · rename_i he; rw [he]; exact hfac
    · norm_num
  obtain ⟨p, r, a, b, c, d⟩ := C06_inverse_x96_round35_fac fac' hpos t h1 h2 d0 d1 q0 fuel est hf
  obtain ⟨k1, k2, _⟩ := tickPrice_congr (pyGTnFac facPy) (pyGTnFac fac') rfl rfl rfl d0 d1
    (by show facPy _ = fac' _; simp only [hfac', if_true]) q0
  exact ⟨p, r, by rw [k1]; exact a, by rw [k2]; exact b, c, d⟩

/-- for `d0 ≥ d1` no assumption is left -/
theorem C06_inverse_x96_round35_facPy_ge (t : Int) (h1 : minTick ≤ t) (h2 : t ≤ maxTick)
    (d0 d1 : Nat) (hd : d1 ≤ d0) (q0 : Bool) (fuel : Nat) (est : Int) (hf : (clampTick est - t).natAbs + 1 ≤ fuel) :
    ∃ p r, tickToPrice (pyGTnFac facPy) t d0 d1 q0 = .ok p ∧ priceToTickX96 (pyGTnFac facPy) fuel est p d0 d1 q0 = .ok r ∧
      t - 1 ≤ r ∧ r ≤ t :=
  C06_inverse_x96_round35_facPy t h1 h2 d0 d1 (facPy_pos_of_nonneg _ (by omega)) q0 fuel est hf

/-- `base_unit_price_to_tick ∘ tick_to_base_unit_price ∈ {t − 1, t}` under the 35-digit half-even arithmetic of the model
    (rounding error proved, Proofs/Numerics.lean), given ONE assumption about libm: `math.floor(math.log(y, SQRT_1p0001))` is
    the floor logarithm of its argument perturbed by at most 10⁻⁹ relative (`LgSound`; evaluated on every observed call by
    harness/c06.py against a 60-digit reference). -/
theorem C06_inverse_log_round35 (hl : LgSound pyGTn (1 / 10 ^ 9))
    (t : Int) (h1 : minTick ≤ t) (h2 : t ≤ maxTick) (d0 d1 : Nat) (q0 : Bool) :
    ∃ p r, tickToPrice pyGTn t d0 d1 q0 = .ok p ∧ priceToTick pyGTn p d0 d1 q0 = .ok r ∧ t - 1 ≤ r ∧ r ≤ t :=
  C06_inverse_log pyGTn EPS35 pyGTn_approx (hl.congr rfl (by norm_num)) t h1 h2 d0 d1 q0

/-- … and with any positive `Decimal(10 ** e)` (`LgSound` mentions only `lg`, which `pyGTnFac` does not change) -/
theorem C06_inverse_log_round35_fac (fac : Int → Rat) (hfac : ∀ e, 0 < fac e) (hl : LgSound pyGTn (1 / 10 ^ 9))
    (t : Int) (h1 : minTick ≤ t) (h2 : t ≤ maxTick) (d0 d1 : Nat) (q0 : Bool) :
    ∃ p r, tickToPrice (pyGTnFac fac) t d0 d1 q0 = .ok p ∧ priceToTick (pyGTnFac fac) p d0 d1 q0 = .ok r ∧
      t - 1 ≤ r ∧ r ≤ t :=
  C06_inverse_log (pyGTnFac fac) EPS35 (pyGTnFac_approx fac hfac) (hl.congr (pyGTnFac_lg fac) (by norm_num)) t h1 h2 d0 d1 q0

example : ∃ k : Int, minTick ≤ k * (60 : Nat) ∧ k * (60 : Nat) ≤ maxTick := ⟨-14787, by decide, by decide⟩
example : ∀ e, 0 < (fun e : Int => (10 : Rat) ^ e) e := fun e => zpow_pos (by norm_num) e

end Demeter
