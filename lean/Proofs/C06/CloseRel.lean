/-
  C06 (c), relative form — `C06_close_rel`: on the whole tick range `(sqrtAt t / 2^96)²` is within `(1 ± 2⁻³⁰)²` of
  `1.0001^t` (rational statement with an integer power of 10001/10000).  Derived from the integer closeness theorems
  C06_close_nonpos / C06_close_pos of Proofs/C06/Close.lean.
-/
import Proofs.C06.Close
import Proofs.Lemmas.TickCloseField
import Proofs.Lemmas.TickInv
import Mathlib.Tactic.Linarith
import Mathlib.Tactic.Positivity
import Mathlib.Tactic.Ring
import Mathlib.Tactic.NormNum
import Mathlib.Algebra.Order.Field.Rat
import Mathlib.Data.Rat.Cast.Order
namespace Demeter
open Gen TickClose TickInv

namespace TickClose

theorem rho_pow_le (a : Nat) (h : a ≤ 887272) : rho ^ a ≤ 2 ^ 129 := by
  have h1 : rho ^ a ≤ rho ^ 887272 := pow_le_pow_right₀ (le_of_lt one_lt_rho) h
  have h2 : (10001 : Rat) ^ 887272 ≤ 2 ^ 129 * 10000 ^ 887272 := by
    exact_mod_cast (by decide +kernel : 10001 ^ 887272 ≤ 2 ^ 129 * 10000 ^ 887272)
  have h3 : rho ^ 887272 ≤ 2 ^ 129 := by
    unfold rho
    rw [div_pow, div_le_iff₀ (by positivity)]
    exact h2
  exact le_trans h1 h3

/-- a bracket `(s − 1 − b)² < w²·R < (s + 1 + b)²` whose slack `1 + b` is at most `s·κ` is a relative one:
    `s(1 − κ) ≤ s − 1 − b` and `s + 1 + b ≤ s(1 + κ)`, squared and divided by `w²` -/
theorem rel_of_bracket {w W κ : ℚ} (hw : 0 < w) (hW : w ^ 2 = W) (hκ0 : 0 ≤ κ) (hκ1 : κ ≤ 1) ⦃s R b : ℚ⦄
    (hk : 1 + b ≤ s * κ) (hb : 0 ≤ b) (f1 : (s - 1 - b) ^ 2 < W * R) (f2 : W * R < (s + 1 + b) ^ 2) :
    (s / w * (1 - κ)) ^ 2 ≤ R ∧ R ≤ (s / w * (1 + κ)) ^ 2 := by
  have hs : 0 < s := pos_of_mul_pos_left (lt_of_lt_of_le (add_pos_of_pos_of_nonneg one_pos hb) hk) hκ0
  have hW0 : 0 < W := hW ▸ pow_pos hw 2
  have e : ∀ c : ℚ, (s / w * c) ^ 2 = (s * c) ^ 2 / W := fun c => by rw [div_mul_eq_mul_div, div_pow, hW]
  rw [e, e, div_le_iff₀ hW0, le_div_iff₀ hW0, mul_comm R]
  constructor
  · have hle : s * (1 - κ) ≤ s - 1 - b := by linarith only [hk]
    exact le_trans (pow_le_pow_left₀ (mul_nonneg hs.le (sub_nonneg.2 hκ1)) hle 2) f1.le
  · have hle : s + 1 + b ≤ s * (1 + κ) := by linarith only [hk]
    exact le_trans f2.le (pow_le_pow_left₀ (by positivity) hle 2)

/-- a slack `β ≤ B` with `H·β < (s + 1 + β)²` is at most `s/m` once `4m²·B ≤ H`: otherwise `1 < β` (as
    `m ≤ L ≤ s < β·m`), so `s + 1 + β ≤ 2m·β`, and `H·β < (2m·β)²` would force `H < 4m²·β ≤ 4m²·B`.  For the positive
    ticks `β = 1.0001^a/2^29 ≤ 2^100`, `m = 2^58`, `L = 2^96`, `H = 2^221`. -/
theorem slack_le {s β m L B H : ℚ} (hm : 2 ≤ m) (hmL : m ≤ L) (hH : 4 * m ^ 2 * B ≤ H)
    (hβ : 0 < β) (hβB : β ≤ B) (hs : L ≤ s) (f2 : H * β < (s + 1 + β) ^ 2) : β * m ≤ s := by
  by_contra hcon
  have hcon : s < β * m := lt_of_not_ge hcon
  have hm0 : 0 ≤ m := le_trans zero_le_two hm
  have hs0 : 0 ≤ s := hm0.trans (hmL.trans hs)
  have hb1 : 1 < β := lt_of_mul_lt_mul_right (lt_of_le_of_lt (by rw [one_mul]; exact hmL.trans hs) hcon) hm0
  have hb2 : s + 1 + β ≤ 2 * m * β := by linarith only [hcon, hb1, mul_le_mul_of_nonneg_right hm hβ.le]
  have hb3 : (2 * m * β) ^ 2 ≤ H * β := by
    calc (2 * m * β) ^ 2 = 4 * m ^ 2 * β * β := by ring
      _ ≤ 4 * m ^ 2 * B * β := mul_le_mul_of_nonneg_right (mul_le_mul_of_nonneg_left hβB (by positivity)) hβ.le
      _ ≤ H * β := mul_le_mul_of_nonneg_right hH hβ.le
  exact lt_irrefl _ (lt_of_lt_of_le f2 ((pow_le_pow_left₀ (by positivity) hb2 2).trans hb3))

theorem slack_rel {s β L m κ : ℚ} (hL : 0 < L) (hm : 0 < m) (hκ : 1 / L + 1 / m ≤ κ) (hs : L ≤ s)
    (hβ : β * m ≤ s) : 1 + β ≤ s * κ :=
  calc 1 + β ≤ s / L + s / m := add_le_add ((one_le_div₀ hL).2 hs) ((le_div_iff₀ hm).2 hβ)
    _ = s * (1 / L + 1 / m) := by ring
    _ ≤ s * κ := mul_le_mul_of_nonneg_left hκ (hL.le.trans hs)

end TickClose

/-- `(S·(1−2⁻³⁰))² ≤ 1.0001^t ≤ (S·(1+2⁻³⁰))²`, `S = sqrtAt t / 2^96`. -/
theorem C06_close_rel (t : Int) (h1 : minTick ≤ t) (h2 : t ≤ maxTick) :
    ((sqrtAt t : Rat) / 2 ^ 96 * (1 - 1 / 2 ^ 30)) ^ 2 ≤ rho ^ t ∧
    rho ^ t ≤ ((sqrtAt t : Rat) / 2 ^ 96 * (1 + 1 / 2 ^ 30)) ^ 2 := by
  have hmin := sqrtAt_ge_min t h1 h2
  have rel := rel_of_bracket (w := 2 ^ 96) (W := 2 ^ 192) (κ := 1 / 2 ^ 30) (by norm_num) (by norm_num) (by norm_num)
    (by norm_num)
  rcases tick_cases h1 h2 with ⟨a, ha, rfl⟩ | ⟨a, ha0, ha, rfl⟩
  · obtain ⟨c0, c1, c2⟩ := C06_close_nonpos a ha
    obtain ⟨f1, f2⟩ := close_nonpos_field (K := ℚ) _ _ _ (by positivity) c0 c1 c2
    rw [show rho ^ (-(a : Int)) = _ from ratio_zpow_neg a]
    -- the slack is the unit alone (`β = 0`), and `s` is at least the protocol minimum
    have hk : (1 : ℚ) + 0 ≤ (sqrtAt (-(a : Int)) : ℚ) * (1 / 2 ^ 30) :=
      slack_rel (L := 4295128739) (m := 2 ^ 58) (by norm_num) (by norm_num) (by norm_num) (by exact_mod_cast hmin)
        (by rw [zero_mul]; exact Nat.cast_nonneg _)
    exact rel hk (le_refl 0) (by rw [sub_zero]; exact f1) (by rw [add_zero]; exact f2)
  · obtain ⟨g0, g1, g2⟩ := C06_close_pos a ha0 ha
    obtain ⟨_, f1, f2⟩ := close_pos_field (K := ℚ) _ _ _ (by positivity) g0 g1 g2
    clear g0 g1 g2
    have hs96 : (2 : ℚ) ^ 96 ≤ (sqrtAt (a : Int) : ℚ) := by exact_mod_cast sqrtAt_pos_ge a ha0 ha
    have e : rho ^ ((a : Nat) : Int) = ((10001 ^ a : Nat) : ℚ) / ((10000 ^ a : Nat) : ℚ) :=
      (zpow_natCast _ _).trans (ratio_pow a)
    have hR129 := rho_pow_le a ha
    rw [← zpow_natCast, e] at hR129
    rw [e]
    generalize ((10001 ^ a : Nat) : ℚ) / ((10000 ^ a : Nat) : ℚ) = R at *
    generalize (sqrtAt (a : Int) : ℚ) = s at *
    have hR : 0 < R := by
      have : 0 < rho ^ ((a : Nat) : Int) := zpow_pos rho_pos _
      rwa [e] at this
    have hβ : 0 < R / 2 ^ 29 := div_pos hR (by norm_num)
    have fA : R / 2 ^ 29 * 2 ^ 58 ≤ s :=
      slack_le (L := 2 ^ 96) (B := 2 ^ 129 / 2 ^ 29) (H := 2 ^ 221) (by norm_num) (by norm_num) (by norm_num) hβ
        (div_le_div_of_nonneg_right hR129 (by norm_num)) hs96 (lt_of_eq_of_lt (by ring) f2)
    have hk : 1 + R / 2 ^ 29 ≤ s * (1 / 2 ^ 30) :=
      slack_rel (L := 2 ^ 96) (m := 2 ^ 58) (by norm_num) (by norm_num) (by norm_num) hs96 fA
    exact rel hk hβ.le f1 f2

end Demeter
