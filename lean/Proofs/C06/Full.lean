/-
  C06 (b), (e) — the relative gap between neighbouring ticks, strict monotonicity for all 1 774 545 ticks, and with it the
  unconditional forms of the floor theorems of Proofs/C06.lean: for any fuel that covers the distance to the estimate, and
  with fuel 1 774 544 (= MAX_TICK − MIN_TICK, the most the loops of `sqrt_price_x96_to_tick` can need) for every estimate on the
  whole range `[sqrtAt MIN, sqrtAt MAX)`.

  Gap and monotonicity are consequences of closeness (`C06_close_rel`): `s(t)` and `s(t+1)` are within a factor `1 ± 2⁻³⁰`
  of `2^96·1.0001^(t/2)` and `2^96·1.0001^((t+1)/2)`, whose ratio is `√1.0001 = 1.00004999…`.
-/
import Proofs.C06
import Proofs.C06.CloseRel
import Mathlib.Tactic.Linarith
import Mathlib.Tactic.Positivity
import Mathlib.Tactic.Ring
import Mathlib.Tactic.NormNum
namespace Demeter
open Gen TickClose TickInv

namespace TickClose

/-- `s/w` and `s'/w` are `√x` and `√(x·ρ)` up to the factors `lo` and `hi`, so `s'/s ≥ √ρ·lo/hi`; `num` puts `g/G` below
    that. -/
theorem gap_of_close {s s' w x ρ lo hi g G : ℚ} (hw : 0 < w) (hs' : 0 ≤ s') (hρ : 0 ≤ ρ) (hhi : 0 < hi) (hG : 0 ≤ G)
    (hl : (s / w * lo) ^ 2 ≤ x) (hh : x * ρ ≤ (s' / w * hi) ^ 2) (num : (g * hi) ^ 2 ≤ ρ * (lo * G) ^ 2) :
    g * s ≤ G * s' := by
  have h : (g * s * (hi / w)) ^ 2 ≤ (G * s' * (hi / w)) ^ 2 :=
    calc _ = (s / w) ^ 2 * (g * hi) ^ 2 := by ring
      _ ≤ (s / w) ^ 2 * (ρ * (lo * G) ^ 2) := mul_le_mul_of_nonneg_left num (sq_nonneg _)
      _ = G ^ 2 * ((s / w * lo) ^ 2 * ρ) := by ring
      _ ≤ G ^ 2 * (s' / w * hi) ^ 2 :=
        mul_le_mul_of_nonneg_left ((mul_le_mul_of_nonneg_right hl hρ).trans hh) (sq_nonneg G)
      _ = _ := by ring
  exact le_of_mul_le_mul_right ((le_abs_self _).trans (abs_le_of_sq_le_sq h (by positivity))) (div_pos hhi hw)

theorem tick_gap_rat (t : Int) (h1 : minTick ≤ t) (h2 : t < maxTick) :
    (100004 : ℚ) * sqrtAt t ≤ 100000 * sqrtAt (t + 1) := by
  have hlo := (C06_close_rel t h1 (by omega)).1
  have hhi := (C06_close_rel (t + 1) (by omega) (by omega)).2
  rw [zpow_add_one₀ (ne_of_gt rho_pos)] at hhi
  have num : ((100004 : ℚ) * (1 + 1 / 2 ^ 30)) ^ 2 ≤ rho * ((1 - 1 / 2 ^ 30) * 100000) ^ 2 := by
    unfold rho; norm_num
  exact gap_of_close (pow_pos two_pos 96) (Nat.cast_nonneg _) rho_pos.le (by norm_num) (by norm_num) hlo hhi num

end TickClose

/-- `1.00004·sqrtAt t ≤ sqrtAt (t+1)` on the whole range (the ideal ratio is `√1.0001 = 1.00004999…`). -/
theorem C06_tick_gap (t : Int) (h1 : minTick ≤ t) (h2 : t < maxTick) :
    100004 * sqrtAt t ≤ 100000 * sqrtAt (t + 1) := by
  exact_mod_cast tick_gap_rat t h1 h2

theorem C06_strict_mono : MonoAll := by
  intro t h1 h2
  have hg := C06_tick_gap t h1 h2
  have hm := sqrtAt_pos_all t
  omega

theorem C06_floor (fuel : Nat) (est : Int) (x : Nat) (ts : Int)
    (h1 : minTick ≤ ts) (h2 : ts < maxTick) (h3 : sqrtAt ts ≤ x) (h4 : x < sqrtAt (ts + 1))
    (hf : (clampTick est - ts).natAbs ≤ fuel) : tickOfSqrt fuel est x = ts :=
  C06_floor_of_mono C06_strict_mono fuel est x ts h1 h2 h3 h4 hf

/-- 1 774 544 iterations always suffice, whatever the estimate -/
theorem C06_floor_any_estimate (est : Int) (x : Nat) (ts : Int)
    (h1 : minTick ≤ ts) (h2 : ts < maxTick) (h3 : sqrtAt ts ≤ x) (h4 : x < sqrtAt (ts + 1)) :
    tickOfSqrt 1774544 est x = ts := by
  apply C06_floor 1774544 est x ts h1 h2 h3 h4
  have := clampTick_range est
  unfold minTick maxTick tickBound at *
  omega

theorem C06_floor_total (est : Int) (x : Nat) (h1 : sqrtAt minTick ≤ x) (h2 : x < sqrtAt maxTick) :
    minTick ≤ tickOfSqrt 1774544 est x ∧ tickOfSqrt 1774544 est x < maxTick ∧
    sqrtAt (tickOfSqrt 1774544 est x) ≤ x ∧ x < sqrtAt (tickOfSqrt 1774544 est x + 1) := by
  obtain ⟨t, a, b, c, d⟩ := C06_floor_exists x h1 h2
  rw [C06_floor_any_estimate est x t a b c d]
  exact ⟨a, b, c, d⟩

theorem tickOfSqrt_floor (fuel : Nat) (est : Int) (x : Nat) (ts : Int)
    (h1 : minTick ≤ ts) (h2 : ts ≤ maxTick) (h3 : sqrtAt ts ≤ x) (h4 : ts < maxTick → x < sqrtAt (ts + 1))
    (hf : (clampTick est - ts).natAbs ≤ fuel) : tickOfSqrt fuel est x = ts :=
  tickOfSqrt_eq C06_strict_mono fuel est x ts h1 h2 (Or.inr h3)
    (by by_cases h : ts < maxTick; exacts [Or.inr (h4 h), Or.inl (by omega)]) hf

theorem tickOfSqrt_below (fuel : Nat) (est : Int) (x : Nat) (hx : x < sqrtAt minTick)
    (hf : (clampTick est - minTick).natAbs ≤ fuel) : tickOfSqrt fuel est x = minTick :=
  tickOfSqrt_eq C06_strict_mono fuel est x minTick (le_refl _) (by decide) (Or.inl rfl)
    (Or.inr (Nat.lt_trans hx (C06_strict_mono minTick (le_refl _) (by decide)))) hf

/-- a sqrt price within `2·10⁻⁸` relative of `sqrtAt t` (and one unit of truncation below) converts to `t − 1` or `t`:
    neighbouring sqrt prices are `4·10⁻⁵` apart (`C06_tick_gap`) -/
theorem tickOfSqrt_near (t : Int) (h1 : minTick ≤ t) (h2 : t ≤ maxTick) (X : Nat)
    (xl : (sqrtAt t : Rat) * (1 - 2 / 100000000) - 1 < X) (xu : (X : Rat) ≤ sqrtAt t * (1 + 2 / 100000000))
    (fuel : Nat) (est : Int) (hf : (clampTick est - t).natAbs + 1 ≤ fuel) :
    t - 1 ≤ tickOfSqrt fuel est X ∧ tickOfSqrt fuel est X ≤ t := by
  have hsq : (4295128739 : Rat) ≤ (sqrtAt t : Rat) := by exact_mod_cast sqrtAt_ge_min t h1 h2
  have hnext : t < maxTick → X < sqrtAt (t + 1) := by
    intro hlt
    have : (X : Rat) < (sqrtAt (t + 1) : Rat) := by linarith only [tick_gap_rat t h1 hlt, xu, hsq]
    exact_mod_cast this
  by_cases hge : sqrtAt t ≤ X
  · have := tickOfSqrt_floor fuel est X t h1 h2 hge hnext (by omega)
    omega
  · by_cases hmn : t = minTick
    · have hb := tickOfSqrt_below fuel est X (by rw [← hmn]; omega) (by rw [← hmn]; omega)
      omega
    · have hgq := tick_gap_rat (t - 1) (by omega) (by omega)
      rw [Int.sub_add_cancel] at hgq
      have hprev : sqrtAt (t - 1) ≤ X := by
        have : (sqrtAt (t - 1) : Rat) < (X : Rat) := by linarith only [hgq, xl, hsq]
        exact le_of_lt (by exact_mod_cast this)
      have := tickOfSqrt_floor fuel est X (t - 1) (by omega) (by omega) hprev
        (fun _ => by rw [Int.sub_add_cancel]; omega) (by omega)
      omega

example : tickOfSqrt 1774544 887272 (sqrtAt (-887272) + 1) = -887272 :=
  C06_floor_any_estimate _ _ _ (by decide) (by decide) (by omega) (by decide +kernel)
example : 100004 * sqrtAt 5 ≤ 100000 * sqrtAt 6 ∧ ¬ (100006 * sqrtAt 5 ≤ 100000 * sqrtAt 6) := by decide +kernel

end Demeter
