/-
  C06 (e), price → tick → price through the float-logarithm route `base_unit_price_to_tick`.

  Under the single libm assumption `LgSound tn 10⁻⁹` (Proofs/Lemmas/TickInv.lean) the tick `r = base_unit_price_to_tick(p)` of any
  positive price brackets that price up to the perturbation allowed for the logarithm (10⁻⁹ on the sqrt price), the closeness of the
  integer sqrt prices to `1.0001^(t/2)` (2⁻³⁰, `C06_close_rel`) and nine Decimal roundings (ten and fifteen when q0 = true):

      q0 = false:   price(r) ≤ p·(1 + 2·10⁻⁸)     and   p·(1 − 2·10⁻⁸) ≤ price(r+1)
      q0 = true :   p·(1 − 2·10⁻⁸) ≤ price(r)     and   price(r+1) ≤ p·(1 + 2·10⁻⁸)

  whenever `r` and `r + 1` are valid ticks (the float route does not clamp).  `C06_inverse_converse_log_round35` is the instance
  for the 35-digit context (there the factors of `C06_inverse_converse_log_factors` give ≈ 4·10⁻⁹; stated with the same 2·10⁻⁸).
-/
import Proofs.C06.CloseRel
import Proofs.Lemmas.TickInvBracket
import Proofs.Lemmas.TickInvDemo
import Proofs.Lemmas.Round35Tick
namespace Demeter
open Gen TickInv Numerics

/-- the bracket with the error factors kept symbolic (the closeness `2⁻³⁰` of the integer sqrt prices taken as `10⁻⁹`) -/
theorem C06_inverse_converse_log_factors (tn : TickNum) (ε : Rat) (h : Approx tn ε) (hl : LgSound tn (1 / 1000000000))
    (p : Rat) (hp : 0 < p) (d0 d1 : Nat) (q0 : Bool) :
    ∃ r, priceToTick tn p d0 d1 q0 = .ok r ∧
      (minTick ≤ r → r < maxTick → ∃ pl ph, tickToPrice tn r d0 d1 q0 = .ok pl ∧ tickToPrice tn (r + 1) d0 d1 q0 = .ok ph ∧
        0 < pl ∧ 0 < ph ∧
        (q0 = false → pl * (1 - 1 / 1000000000) ^ 2 ≤ p * ((1 + ε) ^ 9 * (1 + 1 / 1000000000) ^ 2) ∧
                      p * ((1 - ε) ^ 9 * (1 - 1 / 1000000000) ^ 2) ≤ ph * (1 + 1 / 1000000000) ^ 2) ∧
        (q0 = true → p * ((1 - 1 / 1000000000) ^ 2 * (1 - ε) ^ 6) ≤ pl * ((1 + ε) ^ 4 * (1 + 1 / 1000000000) ^ 2) ∧
                     ph * ((1 - ε) ^ 4 * (1 - 1 / 1000000000) ^ 2) ≤ p * ((1 + 1 / 1000000000) ^ 2 * (1 + ε) ^ 11))) := by
  obtain ⟨sp, esp, hsp, K⟩ := prices_of_sqrt_bracket h p hp d0 d1 q0
  obtain ⟨lg1, lg2⟩ := hl sp hsp
  refine ⟨tn.lg sp, priceToTick_ok esp hsp, fun r1 r2 => ?_⟩
  -- closeness turns the powers of 1.0001 that bracket `sp` into sqrt prices
  obtain ⟨cl0, _⟩ := C06_close_rel (tn.lg sp) r1 (by omega)
  obtain ⟨_, cu1⟩ := C06_close_rel (tn.lg sp + 1) (by omega) (by omega)
  rw [← q96Rat_eq] at cl0 cu1
  have hS : ∀ t, 0 ≤ (sqrtAt t : Rat) / q96Rat := fun t => by rw [q96Rat_eq]; positivity
  exact K _ _ _ _ _ r1 r2
    (le_trans (le_trans (pow_le_pow_left₀ (mul_nonneg (hS _) (by norm_num)) (mul_le_mul_of_nonneg_left (by norm_num) (hS _)) 2) cl0) lg1)
    (le_trans (le_of_lt lg2)
      (le_trans cu1 (pow_le_pow_left₀ (mul_nonneg (hS _) (by norm_num)) (mul_le_mul_of_nonneg_left (by norm_num) (hS _)) 2)))

private theorem le_mul_of_mul_le_mul_of_le {x y a b d : Rat} (ha : 0 < a) (hy : 0 ≤ y) (h : x * a ≤ y * b) (k : b ≤ d * a) : x ≤ y * d :=
  le_of_mul_le_mul_right (by rw [mul_assoc]; exact le_trans h (mul_le_mul_of_nonneg_left k hy)) ha

private theorem mul_le_of_mul_le_mul_of_le {x y a b d : Rat} (ha : 0 < a) (hy : 0 ≤ y) (h : y * b ≤ x * a) (k : d * a ≤ b) : y * d ≤ x :=
  le_of_mul_le_mul_right (by rw [mul_assoc]; exact le_trans (mul_le_mul_of_nonneg_left k hy) h) ha

/-- any arithmetic with relative error ≤ ε ≤ 10⁻⁹ per operation:
    the bracket holds to 2·10⁻⁸ relative. -/
theorem C06_inverse_converse_log (tn : TickNum) (ε : Rat) (h : Approx tn ε) (hl : LgSound tn (1 / 1000000000))
    (p : Rat) (hp : 0 < p) (d0 d1 : Nat) (q0 : Bool) :
    ∃ r, priceToTick tn p d0 d1 q0 = .ok r ∧
      (minTick ≤ r → r < maxTick → ∃ pl ph, tickToPrice tn r d0 d1 q0 = .ok pl ∧ tickToPrice tn (r + 1) d0 d1 q0 = .ok ph ∧
        (q0 = false → pl ≤ p * (1 + 2 / 10 ^ 8) ∧ p * (1 - 2 / 10 ^ 8) ≤ ph) ∧
        (q0 = true → p * (1 - 2 / 10 ^ 8) ≤ pl ∧ ph ≤ p * (1 + 2 / 10 ^ 8))) := by
  -- with `ε` at its largest, `10⁻⁹`, each bound of the bracket is `m` factors `1 + 10⁻⁹` against `n` factors `1 − 10⁻⁹`, `m + n ≤ 19`
  obtain ⟨r, e, f⟩ := C06_inverse_converse_log_factors tn _ (h.mono h.eps_small le_rfl) hl p hp d0 d1 q0
  refine ⟨r, e, fun r1 r2 => ?_⟩
  obtain ⟨pl, ph, a, b, -, -, c, d⟩ := f r1 r2
  have R := pow_eps_ratio_small (ε := 1 / 1000000000) (by norm_num) le_rfl
  have hU : ∀ n : Nat, (0 : Rat) < (1 + 1 / 1000000000) ^ n := fun n => by positivity
  have hD : ∀ n : Nat, (0 : Rat) < (1 - 1 / 1000000000) ^ n := fun n => pow_pos (by norm_num) n
  simp only [← pow_add] at c d
  rw [show (10 : Rat) ^ 8 = 100000000 by norm_num]
  exact ⟨pl, ph, a, b,
    fun hq0 => ⟨le_mul_of_mul_le_mul_of_le (hD 2) hp.le (c hq0).1 (R 11 2 (by norm_num)).2,
                mul_le_of_mul_le_mul_of_le (hU 2) hp.le (c hq0).2 (R 2 11 (by norm_num)).1⟩,
    fun hq0 => ⟨mul_le_of_mul_le_mul_of_le (hU 6) hp.le (d hq0).1 (R 6 8 (by norm_num)).1,
                le_mul_of_mul_le_mul_of_le (hD 6) hp.le (d hq0).2 (R 13 6 (by norm_num)).2⟩⟩

/-- the 35-digit instance (ε = 5·10⁻³⁵ proved; `LgSound pyGTn 10⁻⁹` the single libm assumption; any positive `Decimal(10**e)`) -/
theorem C06_inverse_converse_log_round35 (fac : Int → Rat) (hfac : ∀ e, 0 < fac e) (hl : LgSound pyGTn (1 / 10 ^ 9))
    (p : Rat) (hp : 0 < p) (d0 d1 : Nat) (q0 : Bool) :
    ∃ r, priceToTick (pyGTnFac fac) p d0 d1 q0 = .ok r ∧
      (minTick ≤ r → r < maxTick → ∃ pl ph, tickToPrice (pyGTnFac fac) r d0 d1 q0 = .ok pl ∧
        tickToPrice (pyGTnFac fac) (r + 1) d0 d1 q0 = .ok ph ∧
        (q0 = false → pl ≤ p * (1 + 2 / 10 ^ 8) ∧ p * (1 - 2 / 10 ^ 8) ≤ ph) ∧
        (q0 = true → p * (1 - 2 / 10 ^ 8) ≤ pl ∧ ph ≤ p * (1 + 2 / 10 ^ 8))) :=
  C06_inverse_converse_log (pyGTnFac fac) EPS35 (pyGTnFac_approx fac hfac) (hl.congr (pyGTnFac_lg fac) (by norm_num)) p hp d0 d1 q0

example : ∃ tn, Approx tn (1 / 1000000000) ∧ LgSound tn (1 / 1000000000) := ⟨demoTn, demo_approx, demo_lg⟩

end Demeter
