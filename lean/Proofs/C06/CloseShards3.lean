import Proofs.Lemmas.ClosePred
namespace Demeter.TickClose

theorem close_shard_24 : closeShard 24 = true := by decide +kernel
theorem close_shard_25 : closeShard 25 = true := by decide +kernel
theorem close_shard_26 : closeShard 26 = true := by decide +kernel
theorem close_shard_27 : closeShard 27 = true := by decide +kernel
theorem close_shard_28 : closeShard 28 = true := by decide +kernel
theorem close_shard_29 : closeShard 29 = true := by decide +kernel
theorem close_shard_30 : closeShard 30 = true := by decide +kernel
theorem close_shard_31 : closeShard 31 = true := by decide +kernel

end Demeter.TickClose
