/-
  C06 (c) — CLOSENESS of `get_sqrt_ratio_at_tick` to `√(1.0001^tick)·2^96`, for every tick in [−887272, 887272].

  The rounded-down product `L` of the certified 192-bit constants `⌊2^192·(10000/10001)^(2^i/2)⌋` selected by the bits of
  `a = |tick|` encloses the ideal value, `L²·10001^a ≤ 2^384·10000^a ≤ (L+40)²·10001^a` (Proofs/C06/CloseCert.lean,
  Proofs/Lemmas/TickEnc.lean).  What is evaluated, for every `a ≤ 887272`, is `closeLeaf`: three comparisons of the model's
  Q128.128 ratio `r` of tick `−a` with `L`, by a walk down the tree of the bits of `a` that carries `r` and `L`
  (Proofs/C06/CloseShards0…3.lean; the walk is sound by Proofs/Lemmas/CloseWalk.lean).  They say that `r` is within 5 units
  of its ideal value `R` (`L ≤ R·2^64 ≤ L+40`) and that `⌈r/2^32⌉ − 1` lies below `R/2^32`.  The second is the strict bound
  `< 1` on the side where it depends on the low 32 bits of `r`, a fact about each tick by itself; everything else is an
  argument (Proofs/Lemmas/TickCloseSound.lean): the other side for tick ≤ 0, the protocol minimum (the ideal value falls
  with `a`, so one certificate for the last tick will do), and both sides for tick > 0, whose value is the rounded-up
  reciprocal of `r` and whose allowance `β` is what 8 units of error in `r` do to that reciprocal.
  No `native_decide`, no real numbers.
  Monotonicity and the gap between neighbouring ticks are consequences and need no evaluation.

  The statements are integer inequalities.  With  x := 1.0001^(tick/2)  (so x² = (10001/10000)^tick) and
  I := x·2^96  the ideal value, they read, for s = sqrtAt tick:
    tick = −a ≤ 0 :   (s−1)² < 2^192·(10000/10001)^a = I² < (s+1)²                     ⟺  |s − I| < 1
    tick =  a > 0 :   with β := 8·I·x/2^128 = (10001/10000)^a / 2^29:
                       β ≤ s − 1,  (s−1−β)² < I² = 2^192·(10001/10000)^a < (s+1+β)²       ⟺  |s − I| < 1 + β
  each multiplied by the positive denominators (`10001^a`, resp. `(2^29·10000^a)²`).
  Proofs/C06/CloseReal.lean restates them with `Real.sqrt`.
-/
import Proofs.C06.CloseCert
import Proofs.C06.CloseShards0
import Proofs.C06.CloseShards1
import Proofs.C06.CloseShards2
import Proofs.C06.CloseShards3
import Proofs.Lemmas.CloseWalk
import Proofs.Lemmas.TickCloseSound
import Proofs.Lemmas.TickUp32
import Mathlib.Tactic.NormNum
namespace Demeter
open Gen TickClose

namespace TickClose

theorem closeShard_all : ∀ k, k < 32 → closeShard k = true
  | 0, _ => close_shard_00
  | 1, _ => close_shard_01
  | 2, _ => close_shard_02
  | 3, _ => close_shard_03
  | 4, _ => close_shard_04
  | 5, _ => close_shard_05
  | 6, _ => close_shard_06
  | 7, _ => close_shard_07
  | 8, _ => close_shard_08
  | 9, _ => close_shard_09
  | 10, _ => close_shard_10
  | 11, _ => close_shard_11
  | 12, _ => close_shard_12
  | 13, _ => close_shard_13
  | 14, _ => close_shard_14
  | 15, _ => close_shard_15
  | 16, _ => close_shard_16
  | 17, _ => close_shard_17
  | 18, _ => close_shard_18
  | 19, _ => close_shard_19
  | 20, _ => close_shard_20
  | 21, _ => close_shard_21
  | 22, _ => close_shard_22
  | 23, _ => close_shard_23
  | 24, _ => close_shard_24
  | 25, _ => close_shard_25
  | 26, _ => close_shard_26
  | 27, _ => close_shard_27
  | 28, _ => close_shard_28
  | 29, _ => close_shard_29
  | 30, _ => close_shard_30
  | 31, _ => close_shard_31
  | k + 32, h => absurd h (by omega)

/-- the shards are the subtrees below the five low bits -/
theorem closeLeaf_all (a : Nat) (h : a ≤ 887272) :
    closeLeaf (stepFold a closeSteps (tickStartEven, encStartEven)).1
      (stepFold a closeSteps (tickStartEven, encStartEven)).2 = true := by
  have hsplit := List.take_append_drop 5 closeSteps
  have hexp : a % 2 ^ 5 + maskSum a ((closeSteps.drop 5).map (·.1)) = a := by
    have h20 := maskSum_pow2 a 20
    rw [← closeSteps_masks, ← hsplit, List.map_append, maskSum_append,
      show (closeSteps.take 5).map (·.1) = (List.range 5).map (2 ^ ·) by decide, maskSum_pow2] at h20
    omega
  have hs := closeWalk_sound a _ _ _ _ (closeShard_all (a % 2 ^ 5) (Nat.mod_lt _ (by decide)))
    (by simp only [Nat.sub_eq, tickBound]; omega)
  rw [Prod.mk.eta] at hs
  rw [← hsplit, stepFold_append, stepFold_low a 5 (closeSteps.take 5) _ (by decide)]
  exact hs

/-- what the evaluation establishes about `|tick| = a`, and all that the rest of this file uses of it: the enclosure `l` of the
    ideal value, the three comparisons of `closeLeaf` between `l` and the model's ratio of tick `−a`, and that `l + 40` is above
    the ideal value of the last tick, `4295128738.16…·2^96` -/
theorem tick_facts (a : Nat) (h : a ≤ 887272) : ∃ l, Enc a l 40 ∧
    up32 (tickRatio (-(a : Int))) * 2 ^ 96 < l + 2 ^ 96 ∧ l + 40 ≤ (tickRatio (-(a : Int)) + 5) * 2 ^ 64 ∧
    tickRatio (-(a : Int)) * 2 ^ 64 ≤ l + 2 * 2 ^ 64 ∧ 4295128738 * 2 ^ 96 + 5 * 2 ^ 64 + 1 ≤ l + 40 := by
  have henc : Enc a _ 40 := enc_bracket_of_cert closeSteps_cert a (by omega)
  have hleaf := closeLeaf_spec (closeLeaf_all a h)
  rw [stepFold_closeSteps_fst] at hleaf
  exact ⟨_, henc, hleaf.1, hleaf.2.1, hleaf.2.2, enc_hi_ge henc h enc_last⟩

/-- `r ≤ 2^128 + 2` (from `r·2^64 ≤ l + 2·2^64`, `l ≤ 2^192`), and the round-up of the reciprocal is antitone in `r` -/
theorem sqrtAt_pos_ge (a : Nat) (h0 : 0 < a) (h : a ≤ 887272) : 2 ^ 96 ≤ sqrtAt a := by
  obtain ⟨l, henc, -, -, w2, -⟩ := tick_facts a h
  have hle := henc.le
  rw [sqrtAt_up, tickRatio_of_pos a h0]
  calc 2 ^ 96 = up32 (tickUintMax / (2 ^ 128 + 2)) := by decide
    _ ≤ _ := up32_mono (Nat.div_le_div_left (by omega) (tickRatio_pos _))

theorem sqrtAt_ge_min (t : Int) (h1 : minTick ≤ t) (h2 : t ≤ maxTick) : 4295128739 ≤ sqrtAt t := by
  rcases tick_cases h1 h2 with ⟨a, ha, rfl⟩ | ⟨a, ha0, ha, rfl⟩
  · -- `n·2^96 ≥ r·2^64 ≥ l + 40 − 5·2^64`, and `l + 40` is above the ideal value of the last tick
    obtain ⟨l, -, -, w1, -, hc⟩ := tick_facts a ha
    have hn := up32_le (tickRatio (-(a : Int)))
    rw [sqrtAt_up]
    omega
  · exact Nat.le_trans (by decide) (sqrtAt_pos_ge a ha0 ha)

end TickClose

/-- `|sqrtAt(−a) − 2^96·√(1.0001^(−a))| < 1`, i.e. on squares and with the denominator
    `10001^a` cleared:  `(s−1)² < 2^192·(10000/10001)^a < (s+1)²`. -/
theorem C06_close_nonpos (a : Nat) (h : a ≤ 887272) :
    1 ≤ sqrtAt (-(a : Int)) ∧
    (sqrtAt (-(a : Int)) - 1) ^ 2 * 10001 ^ a < 2 ^ 192 * 10000 ^ a ∧
    2 ^ 192 * 10000 ^ a < (sqrtAt (-(a : Int)) + 1) ^ 2 * 10001 ^ a := by
  obtain ⟨l, ⟨lo, hi, _⟩, pt, w1, -, -⟩ := tick_facts a h
  have hr := up32_le (tickRatio (-(a : Int)))
  have hn : 1 ≤ sqrtAt (-(a : Int)) := sqrtAt_pos_all _
  rw [sqrtAt_up] at hn ⊢
  generalize up32 (tickRatio (-(a : Int))) = n at pt hr hn ⊢
  have h1 : (n - 1) * 2 ^ 96 < l := by rw [Nat.sub_one_mul]; omega
  -- `(n+1)·2^96 ≥ r·2^64 + 2^96 = (r+5)·2^64 + (2^96 − 5·2^64)`
  have h2 : l + 40 < (n + 1) * 2 ^ 96 := by omega
  have e384 : (2 : Nat) ^ 384 = (2 ^ 96) ^ 2 * 2 ^ 192 := by rw [← Nat.pow_mul, ← Nat.pow_add]
  rw [e384] at lo hi
  exact ⟨hn, neg_g n l (l + 40) (2 ^ 96) (2 ^ 192) _ _ (Nat.pow_pos (by decide)) h1 h2 lo hi⟩

/-- `|sqrtAt a − I| < 1 + β` with `I = 2^96·√(1.0001^a)`, `β = 8·I·1.0001^(a/2)/2^128
    = (10001/10000)^a/2^29`; on squares and multiplied by `(2^29·10000^a)²`:
    `β ≤ s−1`,  `(s−1−β)² < I²`,  `I² < (s+1+β)²`  where `I² = 2^192·(10001/10000)^a`. -/
theorem C06_close_pos (a : Nat) (h0 : 0 < a) (h : a ≤ 887272) :
    10001 ^ a + 2 ^ 29 * 10000 ^ a ≤ sqrtAt a * 2 ^ 29 * 10000 ^ a ∧
    (sqrtAt a * 2 ^ 29 * 10000 ^ a - 2 ^ 29 * 10000 ^ a - 10001 ^ a) ^ 2 < 2 ^ 250 * 10001 ^ a * 10000 ^ a ∧
    2 ^ 250 * 10001 ^ a * 10000 ^ a < (sqrtAt a * 2 ^ 29 * 10000 ^ a + 2 ^ 29 * 10000 ^ a + 10001 ^ a) ^ 2 := by
  obtain ⟨l, henc, -, w1, w2, hc⟩ := tick_facts a h
  rw [sqrtAt_up, tickRatio_of_pos a h0]
  -- `hc`: `2^128 ≤ l`, so `2^64 ≤ r + 5` by `w1`
  have hr : 9 ≤ tickRatio (-(a : Int)) := by omega
  obtain ⟨a1, a2⟩ := up32_recip tickUintMax _ (by decide) (tickRatio_pos _)
  obtain ⟨lo, hi, hle⟩ := henc
  generalize up32 (tickUintMax / tickRatio (-(a : Int))) = p at a1 a2 ⊢
  -- `p = 0` would need `2^224 < r`
  have hp : 1 ≤ p := Nat.pos_of_ne_zero (by rintro rfl; omega)
  have hl : 2 ^ 128 ≤ l := by omega
  exact close_pos_sound p _ l 40 (10001 ^ a) (10000 ^ a) (2 ^ 29) (2 ^ 64) (2 ^ 221) (2 ^ 224) (2 ^ 384) (2 ^ 250)
    (by norm_num) (by norm_num) (by norm_num) (by positivity) (by positivity) (by norm_num)
    (by decide +kernel) (by norm_num) hr hp a1 a2 w1 w2 (Nat.le_trans (by norm_num) hl) (Nat.le_trans hle (by norm_num)) lo hi

example : (sqrtAt (-1) - 1) ^ 2 * 10001 ^ 1 < 2 ^ 192 * 10000 ^ 1 ∧ 2 ^ 192 * 10000 ^ 1 < (sqrtAt (-1) + 1) ^ 2 * 10001 ^ 1 :=
  (C06_close_nonpos 1 (by decide)).2
-- the statement determines the value: of `sqrtAt (-1) + 1` it is false
example : ¬ ((sqrtAt (-1) + 1 - 1) ^ 2 * 10001 ^ 1 < 2 ^ 192 * 10000 ^ 1 ∧ 2 ^ 192 * 10000 ^ 1 < (sqrtAt (-1) + 1 + 1) ^ 2 * 10001 ^ 1) := by
  decide +kernel

end Demeter
