/-
  Reciprocity of the sqrt prices at ±a: `|s(−a)·s(a) − 2^192| ≤ 2·max(s(−a), s(a))`.
  A fact about the two round-ups `⌈r/2^32⌉` and `⌈⌊(2^256−1)/r⌋/2^32⌉` of any ratio `r > 0` (Proofs/Lemmas/TickUp32.lean); the
  table enters only through `r > 0`.  (No Mathlib import here: C09 restates the statement, and `2 ^ 192` has to elaborate in both places
  with core Lean's instances.)
-/
import Proofs.Lemmas.TickUp32
import Proofs.Lemmas.TickUnroll
namespace Demeter
open Gen TickClose

/-- `n = ⌈r/K⌉` and `(p − 1)·r < K·W < (p + 1)·r` (`up_recip`: `p` is the rounded-up reciprocal of `r`)  ⟹  `|n·p − W| ≤ n + p`:
    `K·n·p ≤ (r + K)·p < K·W + r + K·p ≤ K·(W + n + p)`  and  `K·W < (p + 1)·r ≤ K·(n·p + n)` -/
theorem recip_core (K W r n p : Nat) (n1 : r ≤ n * K) (n2 : n * K < r + K) (a1 : p * r < K * W + r) (a2 : K * W < p * r + r) :
    n * p ≤ W + (n + p) ∧ W ≤ n * p + n := by
  have h1 : n * K * p ≤ (r + K) * p := Nat.mul_le_mul_right p (Nat.le_of_lt n2)
  have h2 : p * r ≤ p * (n * K) := Nat.mul_le_mul_left p n1
  rw [Nat.add_mul, Nat.mul_comm r p, show n * K * p = K * (n * p) by ac_rfl] at h1
  rw [show p * (n * K) = K * (n * p) by ac_rfl] at h2
  rw [Nat.mul_comm n K] at n1
  constructor
  · refine Nat.le_of_lt_succ (Nat.lt_of_mul_lt_mul_left (a := K) ?_)
    simp only [Nat.succ_eq_add_one, Nat.mul_add, Nat.mul_one]
    omega
  · refine Nat.le_of_lt_succ (Nat.lt_of_mul_lt_mul_left (a := K) ?_)
    simp only [Nat.succ_eq_add_one, Nat.mul_add, Nat.mul_one]
    omega

/-- `|s(−a)·s(a) − 2^192| ≤ 2·max(s(−a), s(a))`; `h` is the property's range, the proof holds for every `a > 0` -/
theorem C06_reciprocity (a : Nat) (h : a ≤ 887272) (h0 : 0 < a) :
    sqrtAt (-(a : Int)) * sqrtAt a ≤ 2 ^ 192 + 2 * max (sqrtAt (-(a : Int))) (sqrtAt a) ∧
    2 ^ 192 ≤ sqrtAt (-(a : Int)) * sqrtAt a + 2 * max (sqrtAt (-(a : Int))) (sqrtAt a) := by
  rw [sqrtAt_up, sqrtAt_up, tickRatio_of_pos a h0]
  obtain ⟨a1, a2⟩ := up32_recip tickUintMax _ (by decide) (tickRatio_pos (-(a : Int)))
  obtain ⟨c1, c2⟩ := recip_core (2 ^ 32) (2 ^ 192) _ _ _ (up32_le _) (up32_lt _) a1 a2
  generalize up32 (tickRatio (-(a : Int))) = n at *
  generalize up32 _ = p at *
  have hmax := Nat.le_max_left n p
  have hmax' := Nat.le_max_right n p
  constructor <;> omega

end Demeter
