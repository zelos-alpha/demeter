import Proofs.Lemmas.ClosePred
namespace Demeter.TickClose

theorem close_shard_08 : closeShard 8 = true := by decide +kernel
theorem close_shard_09 : closeShard 9 = true := by decide +kernel
theorem close_shard_10 : closeShard 10 = true := by decide +kernel
theorem close_shard_11 : closeShard 11 = true := by decide +kernel
theorem close_shard_12 : closeShard 12 = true := by decide +kernel
theorem close_shard_13 : closeShard 13 = true := by decide +kernel
theorem close_shard_14 : closeShard 14 = true := by decide +kernel
theorem close_shard_15 : closeShard 15 = true := by decide +kernel

end Demeter.TickClose
