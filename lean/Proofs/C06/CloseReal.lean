/-
  C06 (c) in the words of the property: for every tick in [−887272, 887272]

      | get_sqrt_ratio_at_tick(tick) − √(1.0001^tick)·2^96 |  <  1                          (tick ≤ 0)
      | get_sqrt_ratio_at_tick(tick) − I |  <  1 + 8·I·√(1.0001^tick)/2^128,  I = √(1.0001^tick)·2^96   (tick > 0)

  over the real numbers (`Real.sqrt`), as corollaries of the integer theorems C06_close_nonpos / C06_close_pos.
-/
import Proofs.C06.Close
import Proofs.Lemmas.TickCloseField
import Mathlib.Analysis.Real.Sqrt
import Mathlib.Tactic.Linarith
import Mathlib.Tactic.Positivity
import Mathlib.Tactic.Ring
import Mathlib.Tactic.NormNum
namespace Demeter
open Gen TickClose

namespace TickClose

theorem abs_sub_sqrt_lt {s e x : ℝ} (he : 0 < e) (hs : e ≤ s) (h1 : (s - e) ^ 2 < x) (h2 : x < (s + e) ^ 2) :
    |s - Real.sqrt x| < e := by
  have b1 := (Real.lt_sqrt (sub_nonneg.2 hs)).2 h1
  have b2 := (Real.sqrt_lt' (by linarith only [he, hs])).2 h2
  exact abs_sub_lt_iff.2 ⟨by linarith only [b1], by linarith only [b2]⟩

theorem sqrt_mul_two_pow_96 (R : ℝ) : Real.sqrt R * 2 ^ 96 = Real.sqrt (2 ^ 192 * R) := by
  have h192 : (2 : ℝ) ^ 192 = (2 ^ 96) ^ 2 := by rw [← pow_mul]
  rw [h192, Real.sqrt_mul (by positivity), Real.sqrt_sq (by positivity), mul_comm]

theorem ratio_real : (1.0001 : ℝ) = 10001 / 10000 := by norm_num

end TickClose

theorem C06_close_real_nonpos (a : Nat) (h : a ≤ 887272) :
    |(sqrtAt (-(a : Int)) : ℝ) - Real.sqrt ((1.0001 : ℝ) ^ (-(a : Int))) * 2 ^ 96| < 1 := by
  obtain ⟨c0, c1, c2⟩ := C06_close_nonpos a h
  obtain ⟨l1, l2⟩ := close_nonpos_field (K := ℝ) _ _ _ (by positivity) c0 c1 c2
  rw [ratio_real, ratio_zpow_neg, sqrt_mul_two_pow_96]
  exact abs_sub_sqrt_lt zero_lt_one (by exact_mod_cast c0) l1 l2

/-- the allowed error is one unit plus the relative `8·1.0001^(tick/2)/2^128` of the ideal value -/
theorem C06_close_real_pos (a : Nat) (h0 : 0 < a) (h : a ≤ 887272) :
    |(sqrtAt (a : Int) : ℝ) - Real.sqrt ((1.0001 : ℝ) ^ a) * 2 ^ 96|
      < 1 + 8 * (Real.sqrt ((1.0001 : ℝ) ^ a) * 2 ^ 96) * Real.sqrt ((1.0001 : ℝ) ^ a) / 2 ^ 128 := by
  obtain ⟨g0, g1, g2⟩ := C06_close_pos a h0 h
  obtain ⟨f0, f1, f2⟩ := close_pos_field (K := ℝ) _ _ _ (by positivity) g0 g1 g2
  clear g0 g1 g2
  have hR : (0 : ℝ) < ((10001 ^ a : Nat) : ℝ) / ((10000 ^ a : Nat) : ℝ) := by positivity
  rw [ratio_real, ratio_pow]
  generalize ((10001 ^ a : Nat) : ℝ) / ((10000 ^ a : Nat) : ℝ) = R at *
  generalize (sqrtAt (a : Int) : ℝ) = s at *
  have eb : 8 * (Real.sqrt R * 2 ^ 96) * Real.sqrt R / 2 ^ 128 = R / 2 ^ 29 := by
    calc 8 * (Real.sqrt R * 2 ^ 96) * Real.sqrt R / 2 ^ 128
        = Real.sqrt R * Real.sqrt R / 2 ^ 29 := by ring
      _ = R / 2 ^ 29 := by rw [Real.mul_self_sqrt (le_of_lt hR)]
  rw [eb, sqrt_mul_two_pow_96]
  rw [sub_sub] at f1
  rw [add_assoc] at f2
  exact abs_sub_sqrt_lt (by positivity) (by linarith only [f0]) f1 f2

end Demeter
