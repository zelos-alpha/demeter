/-
  C06 (e) for the drivers' own arithmetic: the ε-robust inverse theorem instantiated with the *proved* rounding
  error of the model's `round35`/`dsqrt35`/`dpowNat 35 · 2` (Proofs/Numerics.lean), instead of an assumed ε.
  `pyGTn` (Proofs/Lemmas/Round35Tick.lean lists its components) is `TickNum.py` inside a magnitude guard, with the exact `10^e` for
  `Decimal(10 ** e)` at `e < 0` (with CPython's binary64 value there: `C06_inverse_x96_round35_facPy`, Proofs/C06/Strengthen.lean);
  that the numbers the tick helpers produce stay inside the guard is not proved.
-/
import Proofs.C06.Inverse
import Proofs.Lemmas.Round35Tick
namespace Demeter
open TickInv Numerics

/-- the price↔tick round trip through the integer-corrected conversion lands in {t−1, t} under the 35-digit
    half-even Decimal arithmetic of the model (relative error 5·10⁻³⁵ per operation — proved, not assumed) -/
theorem C06_inverse_x96_round35 (t : Int) (h1 : minTick ≤ t) (h2 : t ≤ maxTick)
    (d0 d1 : Nat) (q0 : Bool) (fuel : Nat) (est : Int) (hf : (clampTick est - t).natAbs + 1 ≤ fuel) :
    ∃ p r, tickToPrice pyGTn t d0 d1 q0 = .ok p ∧ priceToTickX96 pyGTn fuel est p d0 d1 q0 = .ok r ∧
      t - 1 ≤ r ∧ r ≤ t :=
  C06_inverse_x96 pyGTn EPS35 pyGTn_approx t h1 h2 d0 d1 q0 fuel est hf

/-- the rounding error is the one the property's Decimal context has: ε = 5·10⁻³⁵ -/
theorem C06_round35_eps : EPS35 = 5 / 10 ^ 35 := rfl

end Demeter
