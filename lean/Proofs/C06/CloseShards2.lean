import Proofs.Lemmas.ClosePred
namespace Demeter.TickClose

theorem close_shard_16 : closeShard 16 = true := by decide +kernel
theorem close_shard_17 : closeShard 17 = true := by decide +kernel
theorem close_shard_18 : closeShard 18 = true := by decide +kernel
theorem close_shard_19 : closeShard 19 = true := by decide +kernel
theorem close_shard_20 : closeShard 20 = true := by decide +kernel
theorem close_shard_21 : closeShard 21 = true := by decide +kernel
theorem close_shard_22 : closeShard 22 = true := by decide +kernel
theorem close_shard_23 : closeShard 23 = true := by decide +kernel

end Demeter.TickClose
