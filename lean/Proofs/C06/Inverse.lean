/-
  C06 (e) — the price ⇄ tick helpers of demeter/uniswap/helper.py are mutually inverse to within one tick, for both
  token orientations and all decimals (model: Demeter/TickPrice.lean): tick → price → sqrt price x96 → tick returns the
  tick exactly under exact arithmetic (`rnd = id`, `x ** 2 = x·x`, `sqrt (y·y) = y`), and lands in {t − 1, t} under ANY
  arithmetic whose operations have relative error ≤ ε ≤ 10⁻⁹ (CPython's Decimal context: 5·10⁻³⁵), for every float
  estimate `est` inside `sqrt_price_x96_to_tick`.  The float-logarithm route `base_unit_price_to_tick` is in
  Proofs/C06/InverseLog.lean.
-/
import Proofs.C06.Full
import Proofs.Lemmas.TickInvChain
import Proofs.Lemmas.TickInvDemo
namespace Demeter
open Gen TickInv TickClose

/-- under exact arithmetic tick → `tick_to_base_unit_price` → `base_unit_price_to_sqrt_price_x96` gives back
    `get_sqrt_ratio_at_tick(t)` exactly, and `sqrt_price_x96_to_tick` of that gives back `t`, whatever the float
    estimate inside it was. -/
theorem C06_inverse_exact (tn : TickNum) (h : Exact tn) (t : Int) (h1 : minTick ≤ t) (h2 : t ≤ maxTick)
    (d0 d1 : Nat) (q0 : Bool) (fuel : Nat) (est : Int) (hf : (clampTick est - t).natAbs ≤ fuel) :
    ∃ p, tickToPrice tn t d0 d1 q0 = .ok p ∧
      priceToSqrtX96 tn p d0 d1 q0 = .ok (sqrtAt t : Int) ∧
      priceToTickX96 tn fuel est p d0 d1 q0 = .ok t := by
  have hq := q96Rat_pos
  have hs := sqrtAt_pos_all t
  have hsq : (0 : Rat) < (sqrtAt t : Rat) := by exact_mod_cast hs
  set s := sqrtAt t
  have hF := h.fac_pos ((d0 : Int) - d1)
  set S : Rat := (s : Rat) / q96Rat with hS
  have hSpos : 0 < S := div_pos hsq hq
  have hpool : tn.cx.mul (tn.sq (fromX96 tn s)) (tn.fac ((d0 : Int) - d1)) = S * S * tn.fac ((d0 : Int) - d1) := by
    simp only [fromX96, NumCtx.mul, NumCtx.div, h.rnd, h.sq, hS]
  -- the price is the oriented pool price `S·S·F`; orienting it again and dividing by `F` leaves the square `S·S`
  obtain ⟨p, hp1, hpi⟩ := h.invIf_invIf q0 (x := S * S * tn.fac ((d0 : Int) - d1)) (by positivity)
  have hdiv : tn.cx.div (S * S * tn.fac ((d0 : Int) - d1)) (tn.fac ((d0 : Int) - d1)) = S * S := by
    rw [NumCtx.div, h.rnd, mul_div_cancel_right₀ _ hF.ne']
  have hp2 : priceToSqrt tn p d0 d1 q0 = .ok S := by
    rw [priceToSqrt_of_invIf hpi (by rw [hdiv]; positivity), hdiv, h.sqrt S hSpos.le]
  rw [← hpool] at hp1
  have hx : toX96 tn S = (s : Int) := by
    have e2 : S * q96Rat = (s : Rat) := by rw [hS]; exact div_mul_cancel₀ _ (ne_of_gt hq)
    simp only [toX96, NumCtx.mul, h.rnd, e2]
    exact truncInt_int s
  refine ⟨p, ?_, ?_, ?_⟩
  · rw [tickToPrice_of_range tn t h1 h2]; exact hp1
  · simp only [priceToSqrtX96, hp2, hx]
  · simp only [priceToTickX96, priceToSqrtX96, hp2, hx, Int.toNat_natCast]
    congr 1
    exact tickOfSqrt_floor fuel est s t h1 h2 (Nat.le_refl _)
      (fun hlt => C06_strict_mono t h1 hlt) hf

/-- through the integer-corrected conversion, any arithmetic with relative error ≤ ε ≤ 10⁻⁹ per operation: in {t − 1, t} -/
theorem C06_inverse_x96 (tn : TickNum) (ε : Rat) (h : Approx tn ε) (t : Int) (h1 : minTick ≤ t) (h2 : t ≤ maxTick)
    (d0 d1 : Nat) (q0 : Bool) (fuel : Nat) (est : Int) (hf : (clampTick est - t).natAbs + 1 ≤ fuel) :
    ∃ p r, tickToPrice tn t d0 d1 q0 = .ok p ∧ priceToTickX96 tn fuel est p d0 d1 q0 = .ok r ∧
      t - 1 ≤ r ∧ r ≤ t := by
  have h0 := h.eps_nonneg
  have he := h.eps_small
  have hs := sqrtAt_pos_all t
  obtain ⟨p, x, e1, e2, x0, xl, xu⟩ := roundtrip_x96 h (sqrtAt t) hs d0 d1 q0
  obtain ⟨X, hX⟩ : ∃ X : Nat, x = (X : Int) := ⟨x.toNat, by omega⟩
  subst hX
  rw [Int.cast_natCast] at xl xu
  have hs0 : (0 : Rat) ≤ (sqrtAt t : Rat) := Nat.cast_nonneg _
  have xuN := le_trans xu (mul_le_mul_of_nonneg_left (pow_eps_small h0 he 17 (by norm_num)).2 hs0)
  have xlN := lt_of_le_of_lt (sub_le_sub_right (mul_le_mul_of_nonneg_left (pow_eps_small h0 he 16 (by norm_num)).1 hs0) 1) xl
  exact ⟨p, tickOfSqrt fuel est X, by rw [tickToPrice_of_range tn t h1 h2]; exact e1, by
    simp only [priceToTickX96, e2, Int.toNat_natCast], tickOfSqrt_near t h1 h2 X xlN xuN fuel est hf⟩

example : ∃ tn, Exact tn ∧ Approx tn (1 / 1000000000) := ⟨demoTn, demo_exact, demo_approx⟩
example : ∃ p, tickToPrice demoTn (-200000) 6 18 true = .ok p ∧
    priceToTickX96 demoTn 64 (-199990) p 6 18 true = .ok (-200000) := by
  obtain ⟨p, a, _, c⟩ := C06_inverse_exact demoTn demo_exact (-200000) (by decide) (by decide) 6 18 true 64 (-199990) (by decide)
  exact ⟨p, a, c⟩

end Demeter
