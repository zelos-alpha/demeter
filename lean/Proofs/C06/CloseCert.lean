/-
  C06 (c): kernel-checked certificates for the twenty enclosure constants of `closeSteps`
  (`encC i = ⌊2^192·(10000/10001)^(2^i/2)⌋`, `encTable_consts`):   c² · 10001^(2^i) ≤ 2^384 · 10000^(2^i) ≤ (c+1)² · 10001^(2^i)
  and `c + 1 ≤ 2^192` (`Cert`, Proofs/Lemmas/TickEnc.lean).
  The largest operands (i = 19) have ≈ 2.1 million decimal digits; `Nat.pow`/`Nat.mul`/`Nat.ble` on literals are
  GMP-accelerated in the kernel (`decide +kernel`, no `native_decide`).
-/
import Proofs.Lemmas.TickEnc
namespace Demeter.TickClose
open Demeter Gen

theorem closeSteps_cert : ∀ s ∈ closeSteps, Cert s.1 s.2.2 := by decide +kernel

theorem encTable_masks : encTable.map (·.1) = (List.range 19).map (fun i => 2 ^ (i + 1)) := by decide +kernel
theorem encTable_consts : encStartOdd :: encTable.map (·.2) = encC := by decide +kernel

/-- `2^192·(10000/10001)^(887272/2)`, the ideal value of the last tick, is `4295128738.16…·2^96` -/
theorem enc_last : (4295128738 * 2 ^ 96 + 5 * 2 ^ 64 + 1) ^ 2 * 10001 ^ 887272 ≤ 2 ^ 384 * 10000 ^ 887272 := by
  decide +kernel

end Demeter.TickClose
