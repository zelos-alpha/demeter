/-
  C06 (e), second half — `base_unit_price_to_tick` ends in `math.floor(math.log(sqrt_price, SQRT_1p0001))`, a libm
  computation that is NOT corrected by integer comparisons.  It is modelled as the oracle `tn.lg`; the theorem is proved
  under the hypothesis `LgSound tn δ` ("the result is the floor logarithm to base √1.0001 of the argument perturbed by at
  most δ = 10⁻⁹ relative" — stated on squares with integer powers of 10001/10000, no real numbers; true of IEEE doubles
  with a wide margin, and evaluated on every observed call by harness/c06.py).
  The integer sqrt prices enter through `C06_close_rel`: `(sqrtAt t / 2^96)²` is within `(1 ± 2⁻³⁰)²` of `1.0001^t`.
-/
import Proofs.C06.CloseRel
import Proofs.Lemmas.TickInvChain
import Proofs.Lemmas.TickInvDemo
namespace Demeter
open Gen TickInv TickClose

theorem TickInv.le_of_rho_sq {a b : Int} {S P Q F G : Rat} (hS : 0 < S) (hP : 0 ≤ P) (hG : 0 ≤ G) (h1 : rho ^ a ≤ P ^ 2)
    (hPF : P ≤ S * F) (hQG : S * G ≤ Q) (h2 : Q ^ 2 ≤ rho ^ b) (n : F ^ 2 < G ^ 2 * rho) : a ≤ b := by
  have : rho ^ a < rho ^ (b + 1) := by
    rw [zpow_add_one₀ rho_pos.ne']
    calc rho ^ a ≤ P ^ 2 := h1
      _ ≤ (S * F) ^ 2 := pow_le_pow_left₀ hP hPF 2
      _ = S ^ 2 * F ^ 2 := mul_pow S F 2
      _ < S ^ 2 * (G ^ 2 * rho) := mul_lt_mul_of_pos_left n (pow_pos hS 2)
      _ = (S * G) ^ 2 * rho := by ring
      _ ≤ Q ^ 2 * rho := mul_le_mul_of_nonneg_right (pow_le_pow_left₀ (mul_nonneg hS.le hG) hQG 2) rho_pos.le
      _ ≤ rho ^ b * rho := mul_le_mul_of_nonneg_right h2 rho_pos.le
  exact Int.lt_add_one_iff.1 ((zpow_lt_zpow_iff_right₀ one_lt_rho).1 this)

/-- `base_unit_price_to_tick ∘ tick_to_base_unit_price`:
    in {t − 1, t} for every tick, both orientations, all decimals — given relative error ≤ ε ≤ 10⁻⁹ per Decimal
    operation and a floor logarithm that is accurate up to a relative perturbation 10⁻⁹ of its argument. -/
theorem C06_inverse_log (tn : TickNum) (ε : Rat) (h : Approx tn ε) (hl : LgSound tn (1 / 1000000000))
    (t : Int) (h1 : minTick ≤ t) (h2 : t ≤ maxTick) (d0 d1 : Nat) (q0 : Bool) :
    ∃ p r, tickToPrice tn t d0 d1 q0 = .ok p ∧ priceToTick tn p d0 d1 q0 = .ok r ∧ t - 1 ≤ r ∧ r ≤ t := by
  have h0 := h.eps_nonneg
  have he := h.eps_small
  have hs := sqrtAt_pos_all t
  obtain ⟨cl, cu⟩ := C06_close_rel t h1 h2
  set s := sqrtAt t
  obtain ⟨p, y, e1, e2, r⟩ := roundtrip_sqrt h s hs d0 d1 q0
  rw [q96Rat_eq] at r
  set S : Rat := (s : Rat) / 2 ^ 96 with hS
  have hSpos : 0 < S := by positivity
  have hy : 0 < y := r.pos h.eps_lt_one hSpos
  obtain ⟨l1, l2⟩ := hl y hy
  obtain ⟨yl, yu⟩ := r.loosen hSpos.le (pow_eps_small h0 he 15 (by norm_num)).1 (pow_eps_small h0 he 16 (by norm_num)).2
  refine ⟨p, tn.lg y, by rw [tickToPrice_of_range tn t h1 h2]; exact e1, priceToTick_ok e2 hy, ?_, ?_⟩
  · -- ρ^t ≤ (S(1+2⁻³⁰))² < ρ·(S(1−2·10⁻⁸)(1−10⁻⁹))² ≤ ρ·(y(1−10⁻⁹))² < ρ^(r+2)
    have := le_of_rho_sq hSpos (mul_nonneg hSpos.le (by norm_num)) (by norm_num) cu le_rfl
      (by rw [← mul_assoc]; exact mul_le_mul_of_nonneg_right yl (by norm_num)) l2.le
      (show (1 + 1 / 2 ^ 30 : Rat) ^ 2 < ((1 - 2 / 100000000) * (1 - 1 / 1000000000)) ^ 2 * rho by unfold rho; norm_num)
    omega
  · -- ρ^r ≤ (y(1+10⁻⁹))² ≤ (S(1+2·10⁻⁸)(1+10⁻⁹))² < (S(1−2⁻³⁰))²·ρ ≤ ρ^(t+1)
    exact le_of_rho_sq hSpos (mul_nonneg hy.le (by norm_num)) (by norm_num) l1
      (by rw [← mul_assoc]; exact mul_le_mul_of_nonneg_right yu (by norm_num)) le_rfl cl
      (show ((1 + 2 / 100000000 : Rat) * (1 + 1 / 1000000000)) ^ 2 < (1 - 1 / 2 ^ 30) ^ 2 * rho by unfold rho; norm_num)

example : ∃ tn, Approx tn (1 / 1000000000) ∧ LgSound tn (1 / 1000000000) := ⟨demoTn, demo_approx, demo_lg⟩
example : ∃ p r, tickToPrice demoTn 887272 18 6 false = .ok p ∧ priceToTick demoTn p 18 6 false = .ok r ∧
    887271 ≤ r ∧ r ≤ 887272 := by
  obtain ⟨p, r, a, b, c, d⟩ := C06_inverse_log demoTn _ demo_approx demo_lg 887272 (by decide) (by decide) 18 6 false
  exact ⟨p, r, a, b, by omega, d⟩

end Demeter
