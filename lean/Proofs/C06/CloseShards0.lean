import Proofs.Lemmas.ClosePred
namespace Demeter.TickClose

theorem close_shard_00 : closeShard 0 = true := by decide +kernel
theorem close_shard_01 : closeShard 1 = true := by decide +kernel
theorem close_shard_02 : closeShard 2 = true := by decide +kernel
theorem close_shard_03 : closeShard 3 = true := by decide +kernel
theorem close_shard_04 : closeShard 4 = true := by decide +kernel
theorem close_shard_05 : closeShard 5 = true := by decide +kernel
theorem close_shard_06 : closeShard 6 = true := by decide +kernel
theorem close_shard_07 : closeShard 7 = true := by decide +kernel

end Demeter.TickClose
