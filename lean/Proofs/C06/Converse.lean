/-
  C06 (e), the other direction: price → tick → price.

  `C06_inverse_x96` shows tick → price → tick ∈ {t − 1, t}.  Conversely, for EVERY positive price `p` whose sqrt price
  `x = base_unit_price_to_sqrt_price_x96(p)` lies in the protocol's range, the tick `r = sqrt_price_x96_to_tick(x)` (whatever
  the float estimate inside was) is one whose price interval contains `p` up to the rounding of the Decimal chain:

      token0 is base (q0 = false):   price(r) ≤ p·(1+ε)¹¹          and   p·(1−ε)¹¹ ≤ price(r+1)
      token0 is quote (q0 = true):   p·(1−ε)⁶ ≤ price(r)·(1+ε)⁶    and   price(r+1)·(1−ε)⁶ ≤ p·(1+ε)¹¹      (prices fall with the tick)

  i.e. `tick_to_base_unit_price(tick_of(p))` and `p` are within one tick step (a factor 1.0001) of one another, up to eleven
  roundings.  The bracket itself is `prices_of_sqrt_bracket` (Proofs/Lemmas/TickInvBracket.lean), applied to the floor tick of
  `x`.  `C06_inverse_converse_round35` instantiates ε with the proved 5·10⁻³⁵ of the 35-digit context and bounds the
  factors by 1 ± 10⁻³³.
-/
import Proofs.C06.Inverse
import Proofs.Lemmas.TickInvBracket
import Proofs.Lemmas.TickInvDemo
import Proofs.Lemmas.Round35Tick
namespace Demeter
open Gen TickInv Numerics

/-- the tick returned for any in-range price brackets that price up to eleven roundings -/
theorem C06_inverse_converse (tn : TickNum) (ε : Rat) (h : Approx tn ε) (p : Rat) (hp : 0 < p) (d0 d1 : Nat) (q0 : Bool)
    (est : Int) (x : Int) (hx : priceToSqrtX96 tn p d0 d1 q0 = .ok x)
    (hlo : (sqrtAt minTick : Int) ≤ x) (hhi : x < (sqrtAt maxTick : Int)) :
    ∃ r pl ph, priceToTickX96 tn 1774544 est p d0 d1 q0 = .ok r ∧ minTick ≤ r ∧ r < maxTick ∧
      tickToPrice tn r d0 d1 q0 = .ok pl ∧ tickToPrice tn (r + 1) d0 d1 q0 = .ok ph ∧ 0 < pl ∧ 0 < ph ∧
      (q0 = false → pl ≤ p * (1 + ε) ^ 11 ∧ p * (1 - ε) ^ 11 ≤ ph) ∧
      (q0 = true → p * (1 - ε) ^ 6 ≤ pl * (1 + ε) ^ 6 ∧ ph * (1 - ε) ^ 6 ≤ p * (1 + ε) ^ 11) := by
  have hs := h.one_sub_pos
  have hq := q96Rat_pos
  obtain ⟨sp, esp, hsp, K⟩ := prices_of_sqrt_bracket h p hp d0 d1 q0
  have hx' : x = toX96 tn sp := by
    simp only [priceToSqrtX96, esp] at hx
    injection hx with hx; exact hx.symm
  -- `x = ⌊rnd(sp·2^96)⌋` and `sqrtAt r ≤ x < sqrtAt (r+1)`: one rounding and one truncation between `sp` and the bracket
  have hz0 : 0 ≤ sp * q96Rat := mul_nonneg hsp.le hq.le
  obtain ⟨z1, z2⟩ := h.rnd _ hz0
  obtain ⟨t1, t2, t3⟩ := truncInt_bounds _ (h.rounds.nonneg hz0)
  rw [show truncInt (tn.cx.rnd (sp * q96Rat)) = x from hx'.symm] at t1 t2 t3
  obtain ⟨X, hX⟩ : ∃ X : Nat, x = (X : Int) := ⟨x.toNat, by omega⟩
  subst hX
  have t1' : (X : Rat) ≤ tn.cx.rnd (sp * q96Rat) := by exact_mod_cast t1
  have t2' : tn.cx.rnd (sp * q96Rat) < (X : Rat) + 1 := by exact_mod_cast t2
  obtain ⟨r1, r2, r3, r4⟩ := C06_floor_total est X (by exact_mod_cast hlo) (by exact_mod_cast hhi)
  generalize hr : tickOfSqrt 1774544 est X = r at r1 r2 r3 r4
  have hsr : ((sqrtAt r : Nat) : Rat) ≤ (X : Rat) := by exact_mod_cast r3
  have hsr1 : (X : Rat) + 1 ≤ ((sqrtAt (r + 1) : Nat) : Rat) := by exact_mod_cast (by omega : X + 1 ≤ sqrtAt (r + 1))
  have a1 : (sqrtAt r : Rat) / q96Rat * 1 ≤ sp * (1 + ε) := by
    rw [mul_one, div_le_iff₀ hq]; linarith only [hsr, t1', z2]
  have a2 : sp * (1 - ε) ≤ (sqrtAt (r + 1) : Rat) / q96Rat * 1 := by
    rw [mul_one, le_div_iff₀ hq]; linarith only [hsr1, t2', z1]
  obtain ⟨pl, ph, epl, eph, hpl, hph, f, g⟩ := K r 1 1 (1 + ε) (1 - ε) r1 r2
    (pow_le_pow_left₀ (by positivity) a1 2) (pow_le_pow_left₀ (mul_nonneg hsp.le hs.le) a2 2)
  simp only [one_pow, mul_one, one_mul, ← pow_add] at f g
  exact ⟨r, pl, ph, by simp only [priceToTickX96, hx, Int.toNat_natCast, hr], r1, r2, epl, eph, hpl, hph, f, g⟩

/-- under the 35-digit arithmetic of the model (rounding error proved): with δ = 10⁻³³,
    `price(r)·(1−δ) ≤ p·(1+δ)`-style brackets in both orientations, for any positive `Decimal(10 ** e)`. -/
theorem C06_inverse_converse_round35 (fac : Int → Rat) (hfac : ∀ e, 0 < fac e) (p : Rat) (hp : 0 < p) (d0 d1 : Nat) (q0 : Bool)
    (est : Int) (x : Int) (hx : priceToSqrtX96 (pyGTnFac fac) p d0 d1 q0 = .ok x)
    (hlo : (sqrtAt minTick : Int) ≤ x) (hhi : x < (sqrtAt maxTick : Int)) :
    ∃ r pl ph, priceToTickX96 (pyGTnFac fac) 1774544 est p d0 d1 q0 = .ok r ∧ minTick ≤ r ∧ r < maxTick ∧
      tickToPrice (pyGTnFac fac) r d0 d1 q0 = .ok pl ∧ tickToPrice (pyGTnFac fac) (r + 1) d0 d1 q0 = .ok ph ∧
      (q0 = false → pl ≤ p * (1 + 1 / 10 ^ 33) ∧ p * (1 - 1 / 10 ^ 33) ≤ ph) ∧
      (q0 = true → p * (1 - 1 / 10 ^ 33) ≤ pl * (1 + 1 / 10 ^ 33) ∧ ph * (1 - 1 / 10 ^ 33) ≤ p * (1 + 1 / 10 ^ 33)) := by
  obtain ⟨r, pl, ph, a, b, c, d, e, hpl, hph, f, g⟩ :=
    C06_inverse_converse _ _ (pyGTnFac_approx fac hfac) p hp d0 d1 q0 est x hx hlo hhi
  obtain ⟨k1, k2, k3, k4⟩ : (1 + EPS35) ^ 11 ≤ 1 + 1 / 10 ^ 33 ∧ 1 - 1 / 10 ^ 33 ≤ (1 - EPS35) ^ 11 ∧
      (1 + EPS35) ^ 6 ≤ 1 + 1 / 10 ^ 33 ∧ 1 - 1 / 10 ^ 33 ≤ (1 - EPS35) ^ 6 := by
    unfold EPS35; norm_num
  refine ⟨r, pl, ph, a, b, c, d, e, fun hq0 => ?_, fun hq0 => ?_⟩
  · obtain ⟨u, l⟩ := f hq0
    exact ⟨le_trans u (mul_le_mul_of_nonneg_left k1 (le_of_lt hp)),
           le_trans (mul_le_mul_of_nonneg_left k2 (le_of_lt hp)) l⟩
  · obtain ⟨l, u⟩ := g hq0
    exact ⟨le_trans (mul_le_mul_of_nonneg_left k4 (le_of_lt hp)) (le_trans l (mul_le_mul_of_nonneg_left k3 (le_of_lt hpl))),
           le_trans (mul_le_mul_of_nonneg_left k4 (le_of_lt hph)) (le_trans u (mul_le_mul_of_nonneg_left k1 (le_of_lt hp)))⟩

example : ∃ tn, Approx tn (1 / 1000000000) := ⟨demoTn, demo_approx⟩
example : (sqrtAt minTick : Int) ≤ 2 ^ 96 ∧ (2 ^ 96 : Int) < sqrtAt maxTick := by decide +kernel
/-- all hypotheses hold together for a concrete price (the price of tick −200000, token0 = quote), and the conclusion follows -/
example : ∃ p r, 0 < p ∧ priceToTickX96 demoTn 1774544 0 p 6 18 true = .ok r ∧ minTick ≤ r ∧ r < maxTick := by
  obtain ⟨p, a, b, _⟩ := C06_inverse_exact demoTn demo_exact (-200000) (by decide) (by decide) 6 18 true 64 (-199990) (by decide)
  have hp : 0 < p := by
    obtain ⟨_, pr, epr, hpr, _⟩ := tickToPrice_rel demo_approx (-200000) (by decide) (by decide) 6 18 true
    rw [a] at epr; injection epr with epr; subst epr
    exact hpr
  have l1 : sqrtAt minTick ≤ sqrtAt (-200000) := by decide +kernel
  have l2 : sqrtAt (-200000) < sqrtAt maxTick := by decide +kernel
  obtain ⟨r, _, _, c, d, e, _⟩ := C06_inverse_converse demoTn _ demo_approx p hp 6 18 true 0 _ b
    (by exact_mod_cast l1) (by exact_mod_cast l2)
  exact ⟨p, r, hp, c, d, e⟩

end Demeter
