/-
  C15 — option orders fill best-first at displayed sizes; cash, fee, position exact; fills shrink the
  visible book until refresh; equity; no short sale.

  Model: Demeter/Deribit.lean (the repaired code: /repo commits 763165f 4fb272a 1e18c04 53b904d a92046a).
  `∀ cx` theorems hold for every Decimal rounding and every float semantics; theorems about sums and
  cash are stated for `DCtx.exact` (Decimal arithmetic exact, book floats read as reals).
-/
import Proofs.Lemmas.DeribitDeal
import Proofs.Fixtures.Deribit
namespace Demeter
open Demeter.Deribit

def Deribit.nonEmpty (ls : List Level) : List Level := ls.filter (fun l => l.size ≠ 0)

theorem Deribit.nonEmpty_cons (l : Level) (ls : List Level) :
    Deribit.nonEmpty (l :: ls) = if l.size = 0 then Deribit.nonEmpty ls else l :: Deribit.nonEmpty ls := by
  by_cases h : l.size = 0 <;> simp [Deribit.nonEmpty, h]

/-- the constants the property names, as extracted from the source -/
theorem C15_constants :
    ethCfg.tradeFee = 3 / 10000 ∧ btcCfg.tradeFee = 3 / 10000 ∧ maxFeeRate = 125 / 1000 ∧
    ethCfg.tradeExp = 0 ∧ ethCfg.feeExp = -6 ∧ btcCfg.tradeExp = -1 ∧ btcCfg.feeExp = -8 ∧ matchErr = 1 / 1000 :=
  ⟨rfl, rfl, maxFeeRate_eq, rfl, rfl, rfl, rfl, matchErr_eq⟩

/-- **best-first at displayed sizes** (every arithmetic context): the fills of a market order sit, in
    order, on an initial segment of the non-empty levels in book order; each fill carries its level's
    printed price and takes no more than the level's printed size. -/
theorem C15_market_fills_prefix (cx : DCtx) (rem : Rat) (ls : List Level) :
    List.Forall₂ (fun (f : Fill) (l : Level) => f.price = cx.reprD l.price ∧ f.amount ≤ cx.reprD l.size)
      (deductMarket cx rem ls) ((Deribit.nonEmpty ls).take (deductMarket cx rem ls).length) := by
  induction ls generalizing rem with
  | nil => simp [deductMarket, Deribit.nonEmpty]
  | cons l ls ih =>
    unfold deductMarket
    by_cases h0 : l.size = 0
    · simp only [Deribit.nonEmpty_cons, h0, if_true]
      exact ih rem
    · simp only [Deribit.nonEmpty_cons, h0, if_false]
      split
      · simp
      · simp only [List.length_cons, List.take_succ_cons]
        exact List.Forall₂.cons ⟨rfl, min_le_left _ _⟩ (ih _)

/-- a level is left before it is exhausted only by the last fill: every fill but the last takes the
    whole printed size of its level (contexts whose rounding maps 0 to 0). -/
theorem C15_market_consumes_level_before_next (cx : DCtx) (h0 : cx.num.rnd 0 = 0) (rem : Rat) (ls : List Level) :
    ∀ i, i + 1 < (deductMarket cx rem ls).length →
      ((deductMarket cx rem ls)[i]?).map (·.amount) = ((Deribit.nonEmpty ls)[i]?).map (fun l => cx.reprD l.size) := by
  induction ls generalizing rem with
  | nil => intro i hi; simp [deductMarket] at hi
  | cons l ls ih =>
    intro i hi
    unfold deductMarket at hi ⊢
    by_cases hz : l.size = 0
    · simp only [Deribit.nonEmpty_cons, hz, if_true] at hi ⊢
      exact ih rem i hi
    · simp only [Deribit.nonEmpty_cons, hz, if_false] at hi ⊢
      split at hi
      · simp at hi
      · rename_i hc
        split
        · rename_i hc'; exact absurd hc' hc
        · cases i with
          | zero =>
            simp only [List.getElem?_cons_zero, Option.map_some, Option.some.injEq]
            have hr : cx.num.sub rem (min (cx.reprD l.size) rem) ≠ 0 := fun h => hc (Or.inr h)
            rcases min_choice (cx.reprD l.size) rem with h | h
            · exact h
            · exfalso; apply hr; rw [h]; simp [NumCtx.sub, h0]
          | succ j =>
            simp only [List.length_cons, Nat.add_lt_add_iff_right] at hi
            simpa using ih _ j hi

/-- **fills exactly the requested amount** (exact arithmetic): with non-negative displayed sizes and
    `0 ≤ amount ≤ Σ sizes` (what `check_transaction` guarantees) the fills add up to the amount. -/
theorem C15_market_fill_total (ls : List Level) (amount : Rat) (hs : ∀ l ∈ ls, 0 ≤ l.size)
    (h0 : 0 ≤ amount) (hle : amount ≤ sizeSum ls) :
    fillSum (deductMarket DCtx.exact amount ls) = amount :=
  fillSum_deductMarket DCtx.exact floatSane_exact ls amount hs h0 hle

/-- **limit order**: fills only at levels whose printed price is the matched price, each for the whole amount -/
theorem C15_limit_fills_only_at_level (cx : DCtx) (p a : Rat) (ls : List Level) :
    deductLimit cx p a ls = (ls.filter (fun l => p = cx.reprD l.price)).map (fun _ => ⟨p, a⟩) :=
  deductLimit_eq_filter cx p a ls

/-- with distinct printed prices a limit order is one fill of the whole amount at the matched level -/
theorem C15_limit_single_fill (cx : DCtx) (a : Rat) (ls : List Level) (l : Level) (hl : l ∈ ls)
    (hd : (ls.map (fun l => cx.reprD l.price)).Nodup) :
    deductLimit cx (cx.reprD l.price) a ls = [⟨cx.reprD l.price, a⟩] :=
  deductLimit_single cx a ls l hl hd

/-- **price cap relative to mark (buy)**: with `max_mark_price_multiple = m` every fill comes from a level of the
    normalised asks (best first, one level per price — its price is a price of the raw data) strictly below `m × mark` -/
theorem C15_buy_cap_excludes_worse (cx : DCtx) (c : TokenCfg) (s s' : DState) (r : Req) (m : Rat)
    (fills : List Fill) (fee : Rat) (hm : r.mult = some m)
    (h : buy cx c s r = (.ok (.trade fills fee), s')) :
    ∃ ins, findInstr s.book r.name = some ins ∧
      ∀ f ∈ fills, ∃ l ∈ normSide cx true ins.asks, l.price < cx.num.mul m ins.mark ∧ f.price = cx.reprD l.price ∧
        ∃ l0 ∈ ins.asks, l0.price = l.price := by
  obtain ⟨d, rfl, rfl, rfl⟩ := trade_deal (isBuy := true) h
  refine ⟨d.ins, d.find, fun f hf => ?_⟩
  obtain ⟨l, hl, hp⟩ := d.fill_level hf
  simp only [d.avail_buy, availAsks, hm, normInstr_asks, normInstr_mark] at hl
  obtain ⟨hl1, hl2⟩ := List.mem_filter.mp hl
  exact ⟨l, hl1, of_decide_eq_true hl2, hp, normSide_mem_price hl1⟩

/-- **price floor relative to mark (sell)**: every fill comes from a bid strictly above `mark / m` -/
theorem C15_sell_cap_excludes_worse (cx : DCtx) (c : TokenCfg) (s s' : DState) (r : Req) (m : Rat)
    (fills : List Fill) (fee : Rat) (hm : r.mult = some m)
    (h : sell cx c s r = (.ok (.trade fills fee), s')) :
    ∃ ins, findInstr s.book r.name = some ins ∧ m ≠ 0 ∧
      ∀ f ∈ fills, ∃ l ∈ normSide cx false ins.bids, cx.num.div ins.mark m < l.price ∧ f.price = cx.reprD l.price ∧
        ∃ l0 ∈ ins.bids, l0.price = l.price := by
  obtain ⟨d, rfl, rfl, rfl⟩ := trade_deal (isBuy := false) h
  obtain ⟨hm0, hav⟩ := availBids_cap (hm ▸ d.avail_sell)
  refine ⟨d.ins, d.find, hm0, fun f hf => ?_⟩
  obtain ⟨l, hl, hp⟩ := d.fill_level hf
  obtain ⟨hl1, hl2⟩ := List.mem_filter.mp (hav ▸ hl)
  exact ⟨l, hl1, of_decide_eq_true hl2, hp, normSide_mem_price hl1⟩

/-- level count and prices of a side never change when fills are written back (every context) -/
theorem C15_book_prices_kept (cx : DCtx) (old : List Level) (fs : List Fill) :
    (newOrderList cx old fs).map (·.price) = old.map (·.price) :=
  newOrderList_prices cx old fs

namespace Deribit

-- the size the first level at price `p` shows (no distinctness of prices is asked)
def sizeAt (ls : List Level) (p : Rat) : Option Rat := (ls.find? (fun l => l.price = p)).map (·.size)

theorem sizeAt_applyFill (x : Fill) (ls : List Level) (p : Rat) :
    sizeAt (applyFill DCtx.exact x ls) p =
      if p = x.price then (sizeAt ls p).map (fun s => s - x.amount) else sizeAt ls p := by
  induction ls with
  | nil => simp [applyFill, sizeAt]
  | cons l ls ih =>
    unfold applyFill
    simp only [exact_toF, exact_fsub]
    by_cases hx : x.price = l.price
    · simp only [hx, if_true]
      by_cases hp : p = l.price
      · simp [sizeAt, hp]
      · have hp' : ¬ l.price = p := fun h => hp h.symm
        simp [sizeAt, hp, hp']
    · simp only [hx, if_false]
      by_cases hp : l.price = p
      · have : ¬ p = x.price := fun h => hx (h ▸ hp.symm)
        simp [sizeAt, hp, this]
      · simp only [sizeAt] at ih ⊢
        simp only [List.find?_cons, hp, decide_false]
        exact ih

end Deribit

/-- **the visible book after a fill is the old book minus the fills** (exact arithmetic): at every
    price the displayed size drops by exactly what the fills took there. -/
theorem C15_book_after_fill (old : List Level) (fs : List Fill) (p : Rat) :
    sizeAt (newOrderList DCtx.exact old fs) p = (sizeAt old p).map (fun s => s - taken fs p) := by
  unfold newOrderList
  induction fs generalizing old with
  | nil => simp [taken]
  | cons f fs ih =>
    simp only [List.foldl_cons]
    rw [ih, sizeAt_applyFill, taken_cons]
    by_cases hp : p = f.price
    · rw [if_pos hp, if_pos hp.symm]
      cases sizeAt old p <;> simp; ring
    · rw [if_neg hp, if_neg (Ne.symm hp), zero_add]

/-- **equity = cash + positions at mark** (exact arithmetic) whenever `get_market_balance` values the holdings afresh:
    on an open bar (timestamp on the hourly grid), and on any bar when no cached valuation exists (never valued yet, or a
    trade has dropped the cache) -/
theorem C15_equity (c : TokenCfg) (s : DState) (hg : s.onGrid = true ∨ s.cache = none) :
    ∃ b, (getMarketBalance DCtx.exact c s).1 = .ok (.balance (some b)) ∧
      b.netValue = s.cash + Deribit.markValue c s.book s.positions ∧ b.cash = s.cash ∧
      b.premium = Deribit.markValue c s.book s.positions := by
  rw [gmb_fresh DCtx.exact c s hg]
  exact ⟨_, rfl, Deribit.freshBalance_spec c s⟩

/-- **cost of a buy** (exact arithmetic): cash drops by Σ price × size plus the fee, the fee is
    `round(min(trade_fee_rate × contracts, 12.5 % × premium))`, cash stays non-negative, and the filled
    amount is the request rounded to the contract step. -/
theorem C15_buy_cost (c : TokenCfg) (s s' : DState) (r : Req) (fills : List Fill) (fee : Rat)
    (h : buy DCtx.exact c s r = (.ok (.trade fills fee), s')) :
    s'.cash = s.cash - (fillCost fills + fee) ∧ 0 ≤ s'.cash ∧
    fee = roundDec c.feeExp (min (c.tradeFee * roundDec c.tradeExp r.amount) (maxFeeRate * fillCost fills)) ∧
    s'.wallet = s.wallet := by
  obtain ⟨d, rfl, rfl, rfl⟩ := trade_deal (isBuy := true) h
  refine ⟨by rw [d.after_cash, sgn_true]; ring, d.buy_covered, d.fee_exact, rfl⟩

/-- **proceeds of a sell** (exact arithmetic) -/
theorem C15_sell_proceeds (c : TokenCfg) (s s' : DState) (r : Req) (fills : List Fill) (fee : Rat)
    (h : sell DCtx.exact c s r = (.ok (.trade fills fee), s')) :
    s'.cash = s.cash + (fillCost fills - fee) ∧
    fee = roundDec c.feeExp (min (c.tradeFee * roundDec c.tradeExp r.amount) (maxFeeRate * fillCost fills)) ∧
    s'.wallet = s.wallet := by
  obtain ⟨d, rfl, rfl, rfl⟩ := trade_deal (isBuy := false) h
  exact ⟨by rw [d.after_cash, sgn_false]; ring, d.fee_exact, rfl⟩

/-- **a market buy fills exactly the requested amount rounded to the contract step** (exact arithmetic,
    non-negative displayed sizes) -/
theorem C15_buy_market_fills_rounded_amount (c : TokenCfg) (s s' : DState) (r : Req) (fills : List Fill) (fee : Rat)
    (hb : BookInv s.book) (hp : r.priceTok = none ∧ r.priceUsd = none)
    (h : buy DCtx.exact c s r = (.ok (.trade fills fee), s')) :
    fillSum fills = roundDec c.tradeExp r.amount := by
  obtain ⟨d, rfl, rfl, rfl⟩ := trade_deal (isBuy := true) h
  exact (d.exact_fills hb).1


/-- **a market sell fills exactly the requested amount rounded to the contract step** -/
theorem C15_sell_market_fills_rounded_amount (c : TokenCfg) (s s' : DState) (r : Req) (fills : List Fill) (fee : Rat)
    (hb : BookInv s.book) (hp : r.priceTok = none ∧ r.priceUsd = none)
    (h : sell DCtx.exact c s r = (.ok (.trade fills fee), s')) :
    fillSum fills = roundDec c.tradeExp r.amount := by
  obtain ⟨d, rfl, rfl, rfl⟩ := trade_deal (isBuy := false) h
  exact (d.exact_fills hb).1

/-- **contracts that are not held cannot be sold**: a sell without a position, or for more than the
    holding, is rejected and nothing changes; an accepted sell leaves `held − sold ≥ 0`. -/
theorem C15_no_short_sale (cx : DCtx) (c : TokenCfg) (s : DState) (r : Req) :
    (AList.get? s.positions r.name = none → ∃ e, sell cx c s r = (.error e, s)) ∧
    (∀ p ck, AList.get? s.positions r.name = some p → checkTx cx c s.book r false = .ok ck → p.amount < ck.amount →
        ∃ e, sell cx c s r = (.error e, s)) ∧
    (∀ res s', sell cx c s r = (.ok res, s') → ∃ p, AList.get? s.positions r.name = some p ∧
        ∃ ck, checkTx cx c s.book r false = .ok ck ∧ ck.amount ≤ p.amount) := by
  -- a sell that is not rejected is a deal, and a deal on the bid side has the holding (`funds`)
  have hdeal : (∀ d : Deal cx c false s r, False) → ∃ e, sell cx c s r = (.error e, s) := fun hno =>
    (trade_cases cx c false s r).resolve_right (fun ⟨d⟩ => hno d)
  refine ⟨fun hnone => hdeal fun d => ?_, fun p ck hp hck hlt => hdeal fun d => ?_, ?_⟩
  · obtain ⟨p, hp, _⟩ := d.newPos_sell
    rw [hnone] at hp; cases hp
  · obtain ⟨p', hp', hle, _⟩ := d.newPos_sell
    rw [hp] at hp'; cases hp'
    rw [d.checked] at hck; cases hck
    exact absurd hlt (not_lt.mpr hle)
  · intro res s' h
    obtain ⟨d, _, _⟩ := trade_ok (isBuy := false) h
    obtain ⟨p, hp, hle, _⟩ := d.newPos_sell
    exact ⟨p, hp, _, d.checked, hle⟩

/-- after an accepted sell (exact arithmetic) the holding is `held − sold`; the position disappears exactly
    when nothing is left -/
theorem C15_sell_position (c : TokenCfg) (s s' : DState) (r : Req) (res : Res)
    (h : sell DCtx.exact c s r = (.ok res, s')) :
    ∃ p, AList.get? s.positions r.name = some p ∧ 0 ≤ p.amount - roundDec c.tradeExp r.amount ∧
      (p.amount - roundDec c.tradeExp r.amount = 0 → s'.positions = AList.erase s.positions r.name) ∧
      (p.amount - roundDec c.tradeExp r.amount ≠ 0 → ∃ p', s'.positions = AList.set s.positions r.name p' ∧
          p'.amount = p.amount - roundDec c.tradeExp r.amount ∧ p'.sellAmt = p.sellAmt + roundDec c.tradeExp r.amount) := by
  obtain ⟨d, _, rfl⟩ := trade_ok (isBuy := false) h
  obtain ⟨p, hp, hle, hpos⟩ := d.after_positions_sell
  have ha : (soldPosition DCtx.exact p (roundDec c.tradeExp r.amount) (avgPrice DCtx.exact d.fills)).amount =
      p.amount - roundDec c.tradeExp r.amount := rfl
  rw [ha] at hpos
  refine ⟨p, hp, by linarith, fun h0 => ?_, fun hne => ?_⟩
  · rw [hpos, if_pos h0.le]
  · rw [hpos, if_neg (fun hle0 => hne (le_antisymm hle0 (by linarith)))]
    exact ⟨_, rfl, rfl, rfl⟩

/-- **size-weighted average buy price** (exact arithmetic): after a buy the position's average buy price is
    `(old avg × old bought + Σ price × size) / (old bought + filled)` and amounts grow by the filled amount -/
theorem C15_buy_position (c : TokenCfg) (s s' : DState) (r : Req) (fills : List Fill) (fee : Rat)
    (h : buy DCtx.exact c s r = (.ok (.trade fills fee), s')) (hfs : fillSum fills = roundDec c.tradeExp r.amount) :
    ∃ p', AList.get? s'.positions r.name = some p' ∧
      match AList.get? s.positions r.name with
      | none => p'.amount = fillSum fills ∧ p'.buyAmt = fillSum fills ∧ p'.avgBuy = fillCost fills / fillSum fills ∧
                p'.sellAmt = 0 ∧ p'.name = r.name
      | some p => p'.amount = p.amount + fillSum fills ∧ p'.buyAmt = p.buyAmt + fillSum fills ∧
                (p.buyAmt + fillSum fills ≠ 0 →
                  p'.avgBuy = (p.avgBuy * p.buyAmt + fillCost fills) / (p.buyAmt + fillSum fills)) := by
  obtain ⟨d, rfl, rfl, rfl⟩ := trade_deal (isBuy := true) h
  have hca : d.ck.amount = fillSum d.fills := d.ck_amount.trans hfs.symm
  have hpos : fillSum d.fills ≠ 0 := hfs ▸ d.amount_pos.ne'
  have havg := avgPrice_exact d.fills hpos
  refine ⟨boughtPosition DCtx.exact (AList.get? s.positions r.name) r d.ck (avgPrice DCtx.exact d.fills),
    by rw [d.after_positions_buy]; exact AList.get?_set_self _ _ _, ?_⟩
  cases hg : AList.get? s.positions r.name with
  | none =>
    simp only [boughtPosition]
    exact ⟨hca, hca, havg, trivial, trivial⟩
  | some p =>
    simp only [boughtPosition, exact_num, NumCtx.exact_add]
    refine ⟨by rw [hca], by rw [hca], ?_⟩
    intro hne
    rw [hca]
    exact avgPrice_fills_lot d.fills p.avgBuy p.buyAmt hpos hne

/-- **size-weighted average sell price** (exact arithmetic): a position that survives a sell carries
    `(old avg × old sold + Σ price × size) / (old sold + filled)` as its average sell price -/
theorem C15_sell_avg_price (c : TokenCfg) (s s' : DState) (r : Req) (fills : List Fill) (fee : Rat)
    (h : sell DCtx.exact c s r = (.ok (.trade fills fee), s')) (hfs : fillSum fills = roundDec c.tradeExp r.amount) :
    ∃ p, AList.get? s.positions r.name = some p ∧
      (p.amount - fillSum fills ≤ 0 → s'.positions = AList.erase s.positions r.name) ∧
      (¬ p.amount - fillSum fills ≤ 0 → ∃ p', AList.get? s'.positions r.name = some p' ∧
        p'.amount = p.amount - fillSum fills ∧ p'.sellAmt = p.sellAmt + fillSum fills ∧
        (p.sellAmt + fillSum fills ≠ 0 →
          p'.avgSell = (p.avgSell * p.sellAmt + fillCost fills) / (p.sellAmt + fillSum fills))) := by
  obtain ⟨d, rfl, rfl, rfl⟩ := trade_deal (isBuy := false) h
  obtain ⟨p, hp, _, hps⟩ := d.after_positions_sell
  have ha : (soldPosition DCtx.exact p (roundDec c.tradeExp r.amount) (avgPrice DCtx.exact d.fills)).amount =
      p.amount - fillSum d.fills := by rw [hfs]; rfl
  rw [ha] at hps
  refine ⟨p, hp, fun hle => ?_, fun hgt => ?_⟩
  · rw [hps, if_pos hle]
  · refine ⟨soldPosition DCtx.exact p (roundDec c.tradeExp r.amount) (avgPrice DCtx.exact d.fills), ?_, ha, ?_, ?_⟩
    · rw [hps, if_neg hgt]; exact AList.get?_set_self _ _ _
    · simp only [soldPosition, exact_num, NumCtx.exact_add, hfs]
    · intro hne
      simp only [soldPosition]
      rw [← hfs]
      exact avgPrice_fills_lot d.fills p.avgSell p.sellAmt (hfs ▸ d.amount_pos.ne') hne

/-- **no fill, no change**: an order that raises leaves cash, positions, visible book, wallet and action
    log exactly as they were (every context) -/
theorem C15_rejected_order_changes_nothing (cx : DCtx) (c : TokenCfg) (s s' : DState) (r : Req) (e : Err) :
    (buy cx c s r = (.error e, s') → s' = s) ∧ (sell cx c s r = (.error e, s') → s' = s) :=
  ⟨trade_err (isBuy := true), trade_err (isBuy := false)⟩

/-- trades are accepted only while `market.is_open` -/
theorem C15_trades_need_open_market (cx : DCtx) (c : TokenCfg) (s : DState) (r : Req) (h : s.flagOpen = false) :
    buy cx c s r = (.error (.demeter "market-closed"), s) ∧ sell cx c s r = (.error (.demeter "market-closed"), s) :=
  closed_gate cx c s r h


/-- the book an accepted buy leaves (what the following orders of the bar are checked against) is the old book with the
    asks of that instrument rewritten: the normalised side (best first, one level per price) minus the fills -/
theorem C15_buy_book (cx : DCtx) (c : TokenCfg) (s s' : DState) (r : Req) (fills : List Fill) (fee : Rat)
    (h : buy cx c s r = (.ok (.trade fills fee), s')) :
    ∃ ins, findInstr s.book r.name = some ins ∧
      s'.book = setAsks s.book r.name (newOrderList cx (normSide cx true ins.asks) fills) := by
  obtain ⟨d, rfl, rfl, rfl⟩ := trade_deal (isBuy := true) h
  exact ⟨d.ins, d.find, rfl⟩

-- 9.5 contracts round (half up) to 10: 5 @ 0.0285 then 5 @ 0.029; fee = min(0.0003·10, 0.125·0.2875) = 0.003
example : (buy DCtx.exact ethCfg Deribit.exState (Deribit.exReq (19 / 2) none)).1 =
    .ok (.trade [⟨57 / 2000, 5⟩, ⟨29 / 1000, 5⟩] (3 / 1000)) := by decide +kernel
example : (buy DCtx.exact ethCfg Deribit.exState (Deribit.exReq (19 / 2) none)).2.cash =
    100 - (5 * (57 / 2000) + 5 * (29 / 1000) + 3 / 1000) := by decide +kernel
-- the following order sees 0 / 600 / 197: 601 more contracts take 600 @ 0.029 and 1 @ 0.0295
example : (step DCtx.exact ethCfg (runOps DCtx.exact ethCfg Deribit.exState [.buy (Deribit.exReq (19 / 2) none)])
      (.buy (Deribit.exReq 601 none))).1 = .ok (.trade [⟨29 / 1000, 600⟩, ⟨59 / 2000, 1⟩] (1803 / 10000)) := by decide +kernel
-- a limit price within 0.1 % (`matchErr`) of a level fills at the level's price
example : (buy DCtx.exact ethCfg Deribit.exState (Deribit.exReq 7 (some (29005 / 1000000)))).1 =
    .ok (.trade [⟨29 / 1000, 7⟩] (21 / 10000)) := by decide +kernel
example : (sell DCtx.exact ethCfg (buy DCtx.exact ethCfg Deribit.exState (Deribit.exReq 10 none)).2 (Deribit.exReq 10 none)).1 =
    .ok (.trade [⟨28 / 1000, 10⟩] (3 / 1000)) := by decide +kernel
example : (sell DCtx.exact ethCfg (buy DCtx.exact ethCfg Deribit.exState (Deribit.exReq 10 none)).2 (Deribit.exReq 11 none)).1 =
    .error (.demeter "exceeds-holding") := by decide +kernel
example : BookNonneg Deribit.exState.book := by
  intro i hi; simp [Deribit.exState] at hi; subst hi; simp [Deribit.exInstr]
example : Deribit.exState.onGrid = true := by decide +kernel
-- a closed minute of the hour (00:01) without a cached valuation: the second alternative of `C15_equity`
example : ({ Deribit.exState with now := 361 } : DState).onGrid = false ∧ ({ Deribit.exState with now := 361 } : DState).cache = none := by
  decide +kernel

end Demeter
