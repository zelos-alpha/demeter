/-
  C07 — the property's clauses on the driven function `getLiquidity` / `getAmounts` / `newPosition`, in TOKEN amounts and on
  TICKS (MIN/MAX tick included), and the 35-digit theorems in all price regimes (below / on a bound / inside / above).
-/
import Proofs.C07.Wei
import Proofs.C07.Maximal
import Proofs.Lemmas.LiqRound
namespace Demeter
open Numerics

/-- what `get_liquidity` returns under the guards the code has (valid ordered ticks, non-negative representable amounts) -/
theorem C07_getLiquidity_spec (cx : NumCtx) (s : Nat) (ta tb : Int) (a0 a1 : Rat) (d0 d1 : Nat)
    (h1 : minTick ≤ ta) (h2 : ta < tb) (h3 : tb ≤ maxTick) (ha0 : 0 ≤ a0) (ha1 : 0 ≤ a1)
    (hr0 : cx.rnd (a0 * ((pow10 d0 : Nat) : Rat)) = a0 * ((pow10 d0 : Nat) : Rat))
    (hr1 : cx.rnd (a1 * ((pow10 d1 : Nat) : Rat)) = a1 * ((pow10 d1 : Nat) : Rat)) :
    ∃ w0 w1 : Nat,
      (w0 : Rat) ≤ a0 * ((pow10 d0 : Nat) : Rat) ∧ a0 * ((pow10 d0 : Nat) : Rat) < (w0 : Rat) + 1 ∧
      (w1 : Rat) ≤ a1 * ((pow10 d1 : Nat) : Rat) ∧ a1 * ((pow10 d1 : Nat) : Rat) < (w1 : Rat) + 1 ∧
      getLiquidity cx s ta tb a0 a1 d0 d1 = some ((getLiquidityWei s (sqrtAt ta) (sqrtAt tb) w0 w1 : Nat) : Int) := by
  obtain ⟨p0, l0, u0⟩ := C07_toWei_le cx a0 d0 ha0 hr0
  obtain ⟨p1, l1, u1⟩ := C07_toWei_le cx a1 d1 ha1 hr1
  have hb := C07_tick_bounds ta tb h1 h2 h3
  obtain ⟨w0, hw0⟩ := Int.eq_ofNat_of_zero_le p0
  obtain ⟨w1, hw1⟩ := Int.eq_ofNat_of_zero_le p1
  rw [hw0] at l0 u0
  rw [hw1] at l1 u1
  exact ⟨w0, w1, by exact_mod_cast l0, by exact_mod_cast u0, by exact_mod_cast l1, by exact_mod_cast u1,
    getLiquidity_of_wei cx s ta tb a0 a1 d0 d1 (by omega) hw0 hw1⟩

/-- **no over-spend, token amounts, ticks**: the liquidity `get_liquidity` mints needs (exact semantics of `get_amounts`,
    token units) no more than either offered amount — in all three price regimes, MIN/MAX tick included. -/
theorem C07_getLiquidity_no_overspend (cx : NumCtx) (s : Nat) (ta tb : Int) (a0 a1 : Rat) (d0 d1 : Nat)
    (h1 : minTick ≤ ta) (h2 : ta < tb) (h3 : tb ≤ maxTick) (ha0 : 0 ≤ a0) (ha1 : 0 ≤ a1)
    (hr0 : cx.rnd (a0 * ((pow10 d0 : Nat) : Rat)) = a0 * ((pow10 d0 : Nat) : Rat))
    (hr1 : cx.rnd (a1 * ((pow10 d1 : Nat) : Rat)) = a1 * ((pow10 d1 : Nat) : Rat)) :
    ∃ L : Nat, getLiquidity cx s ta tb a0 a1 d0 d1 = some (L : Int) ∧
      (amountsWei s (sqrtAt ta) (sqrtAt tb) L).1 / ((pow10 d0 : Nat) : Rat) ≤ a0 ∧
      (amountsWei s (sqrtAt ta) (sqrtAt tb) L).2 / ((pow10 d1 : Nat) : Rat) ≤ a1 := by
  obtain ⟨w0, w1, l0, _, l1, _, hg⟩ := C07_getLiquidity_spec cx s ta tb a0 a1 d0 d1 h1 h2 h3 ha0 ha1 hr0 hr1
  have hb := C07_tick_bounds ta tb h1 h2 h3
  obtain ⟨n0, n1⟩ := C07_no_overspend s (sqrtAt ta) (sqrtAt tb) w0 w1 hb.1 hb.2.1
  refine ⟨_, hg, ?_, ?_⟩
  · rw [div_le_iff₀ (pow10_cast_pos d0)]; exact le_trans n0 l0
  · rw [div_le_iff₀ (pow10_cast_pos d1)]; exact le_trans n1 l1

/-- … as `V3CoreLib.new_position` reports it (exact context): `token0_used ≤ offered0 ∧ token1_used ≤ offered1` -/
theorem C07_newPosition_no_overspend_exact (s : Nat) (ta tb : Int) (a0 a1 : Rat) (d0 d1 : Nat)
    (h1 : minTick ≤ ta) (h2 : ta < tb) (h3 : tb ≤ maxTick) (ha0 : 0 ≤ a0) (ha1 : 0 ≤ a1) :
    ∃ u0 u1 L, newPosition NumCtx.exact s ta tb a0 a1 d0 d1 = some (u0, u1, L) ∧ 0 ≤ L ∧ u0 ≤ a0 ∧ u1 ≤ a1 := by
  obtain ⟨L, hg, n0, n1⟩ := C07_getLiquidity_no_overspend NumCtx.exact s ta tb a0 a1 d0 d1 h1 h2 h3 ha0 ha1 rfl rfl
  have hb := C07_tick_bounds ta tb h1 h2 h3
  refine ⟨_, _, (L : Int), by unfold newPosition; rw [hg], Int.natCast_nonneg _, ?_⟩
  simp only [Int.toNat_natCast, getAmounts]; rw [getAmountsS_exact _ _ _ _ _ _ hb.2.1]; exact ⟨n0, n1⟩

/-- real-valued maximal liquidity for `x` wei (a rational: `a·10^d`) of token0 / token1 -/
def realMax0R (sa sb : Nat) (x : Rat) : Rat := x * sa * sb / (Q96 * ((sb : Rat) - sa))
def realMax1R (sa sb : Nat) (x : Rat) : Rat := x * Q96 / ((sb : Rat) - sa)

theorem realMax0R_nat (sa sb a : Nat) : realMax0R sa sb (a : Rat) = realMax0 sa sb a := rfl
theorem realMax1R_nat (sa sb a : Nat) : realMax1R sa sb (a : Rat) = realMax1 sa sb a := rfl

/-- liquidity bought by one wei of token0 / token1 on `[sa, sb]` -/
def perWei0 (sa sb : Nat) : Rat := (sa : Rat) * sb / (Q96 * ((sb : Rat) - sa))
def perWei1 (sa sb : Nat) : Rat := (Q96 : Rat) / ((sb : Rat) - sa)

/-- the real-valued maximum is linear in the offer, so the less than one wei that `to_wei` truncates costs less than
    the liquidity of one wei -/
theorem realMax0R_step (sa sb : Nat) (h : sa < sb) (x : Rat) (w : Nat) (hx : x < (w : Rat) + 1) :
    realMax0R sa sb x ≤ realMax0 sa sb w + perWei0 sa sb := by
  have hd : (0 : Rat) < (sb : Rat) - sa := sub_pos.2 (by exact_mod_cast h)
  have hp : 0 ≤ perWei0 sa sb :=
    div_nonneg (mul_nonneg (Nat.cast_nonneg sa) (Nat.cast_nonneg sb)) (mul_pos Q96_cast_pos hd).le
  have e : ∀ y : Rat, realMax0R sa sb y = y * perWei0 sa sb := fun y => by unfold realMax0R perWei0; ring
  rw [← realMax0R_nat, e, e]
  have := mul_le_mul_of_nonneg_right hx.le hp
  linarith

theorem realMax1R_step (sa sb : Nat) (h : sa < sb) (x : Rat) (w : Nat) (hx : x < (w : Rat) + 1) :
    realMax1R sa sb x ≤ realMax1 sa sb w + perWei1 sa sb := by
  have hd : (0 : Rat) < (sb : Rat) - sa := sub_pos.2 (by exact_mod_cast h)
  have hp : 0 ≤ perWei1 sa sb := div_nonneg Q96_cast_pos.le hd.le
  have e : ∀ y : Rat, realMax1R sa sb y = y * perWei1 sa sb := fun y => by unfold realMax1R perWei1; ring
  rw [← realMax1R_nat, e, e]
  have := mul_le_mul_of_nonneg_right hx.le hp
  linarith

theorem slack_step {R R' L c w X p : Rat} (r : R ≤ R' + p) (m : R' - L < c + w) (q : w ≤ X) : R - L < c + X + p := by
  linarith

/-- **maximality in token amounts, on ticks**: with `X0 = a0·10^d0`, `X1 = a1·10^d1` the offered amounts in (fractional) wei,
    the liquidity `get_liquidity` mints is short of the real-valued maximum by less than the property's slack
    `1 + X0/(sb − lo)` plus the liquidity of the (less than) one wei that `to_wei` truncates. -/
theorem C07_getLiquidity_maximal (cx : NumCtx) (s : Nat) (ta tb : Int) (a0 a1 : Rat) (d0 d1 : Nat)
    (h1 : minTick ≤ ta) (h2 : ta < tb) (h3 : tb ≤ maxTick) (ha0 : 0 ≤ a0) (ha1 : 0 ≤ a1)
    (hr0 : cx.rnd (a0 * ((pow10 d0 : Nat) : Rat)) = a0 * ((pow10 d0 : Nat) : Rat))
    (hr1 : cx.rnd (a1 * ((pow10 d1 : Nat) : Rat)) = a1 * ((pow10 d1 : Nat) : Rat)) :
    let sa := sqrtAt ta
    let sb := sqrtAt tb
    let X0 := a0 * ((pow10 d0 : Nat) : Rat)
    let X1 := a1 * ((pow10 d1 : Nat) : Rat)
    ∃ L : Nat, getLiquidity cx s ta tb a0 a1 d0 d1 = some (L : Int) ∧
      (s ≤ sa → realMax0R sa sb X0 - L < 1 + X0 / ((sb : Rat) - sa) + perWei0 sa sb) ∧
      (sa < s → s < sb → min (realMax0R s sb X0) (realMax1R sa s X1) - L
          < 1 + X0 / ((sb : Rat) - s) + max (perWei0 s sb) (perWei1 sa s)) ∧
      (sb ≤ s → realMax1R sa sb X1 - L < 1 + perWei1 sa sb) := by
  intro sa sb X0 X1
  obtain ⟨w0, w1, l0, u0, l1, u1, hg⟩ := C07_getLiquidity_spec cx s ta tb a0 a1 d0 d1 h1 h2 h3 ha0 ha1 hr0 hr1
  have hab : sa < sb := (C07_tick_bounds ta tb h1 h2 h3).2.1
  obtain ⟨m1, m2, m3⟩ := C07_maximal_regimes s sa sb w0 w1 hab
  have q : ∀ lo : Nat, lo < sb → (w0 : Rat) / ((sb : Rat) - lo) ≤ X0 / ((sb : Rat) - lo) := fun lo hlo =>
    div_le_div_of_nonneg_right l0 (sub_nonneg.2 (by exact_mod_cast hlo.le))
  refine ⟨_, hg, fun hs => ?_, fun c1 c2 => ?_, fun hs => ?_⟩
  · exact slack_step (realMax0R_step sa sb hab X0 w0 u0) (m1 hs) (q sa hab)
  · have r0 := realMax0R_step s sb c2 X0 w0 u0
    have r1 := realMax1R_step sa s c1 X1 w1 u1
    have k0 := le_max_left (perWei0 s sb) (perWei1 sa s)
    have k1 := le_max_right (perWei0 s sb) (perWei1 sa s)
    have hmin : min (realMax0R s sb X0) (realMax1R sa s X1)
        ≤ min (realMax0 s sb w0) (realMax1 sa s w1) + max (perWei0 s sb) (perWei1 sa s) :=
      (min_le_min (r0.trans (add_le_add_right k0 _)) (r1.trans (add_le_add_right k1 _))).trans_eq (min_add_add_right _ _ _)
    exact slack_step hmin (m2 c1 c2) (q s c2)
  · linarith only [realMax1R_step sa sb hab X1 w1 u1, m3 hs]

theorem amountsWei_nonneg (s sa sb l : Nat) : 0 ≤ (amountsWei s sa sb l).1 ∧ 0 ≤ (amountsWei s sa sb l).2 :=
  C07_nonneg s sa sb l

/-- **35-digit amounts, every regime**: below the range, on either bound, inside and above, the Decimals `get_amounts`
    reports are within 10⁻³⁰ relative of the exact amounts `amountsWei / 10^decimals` (zero stays the literal zero). -/
theorem C07_amounts_round35 (s sa sb l d0 d1 : Nat) (h : sa < sb) :
    let c0 := (amountsWei s sa sb l).1 / ((pow10 d0 : Nat) : Rat)
    let c1 := (amountsWei s sa sb l).2 / ((pow10 d1 : Nat) : Rat)
    c0 * (1 - 1 / 10 ^ 30) ≤ (getAmountsS NumCtx.pyG s sa sb l d0 d1).1 ∧
    (getAmountsS NumCtx.pyG s sa sb l d0 d1).1 ≤ c0 * (1 + 1 / 10 ^ 30) ∧
    c1 * (1 - 1 / 10 ^ 30) ≤ (getAmountsS NumCtx.pyG s sa sb l d0 d1).2 ∧
    (getAmountsS NumCtx.pyG s sa sb l d0 d1).2 ≤ c1 * (1 + 1 / 10 ^ 30) :=
  getAmountsS_round35 s sa sb l d0 d1 h

/-- below the range and on its lower bound (`s ≤ sa`): token0 side = `L·(2⁹⁶/sa − 2⁹⁶/sb)/10^d0` to 10⁻³⁰, token1 = 0 -/
theorem C07_closed_form_round35_below (s sa sb l d0 d1 : Nat) (h0 : 0 < sa) (h : sa < sb) (hs : s ≤ sa) :
    let c0 := (l : Rat) * ((Q96 : Rat) / sa - (Q96 : Rat) / sb) / ((pow10 d0 : Nat) : Rat)
    c0 * (1 - 1 / 10 ^ 30) ≤ (getAmountsS NumCtx.pyG s sa sb l d0 d1).1 ∧
    (getAmountsS NumCtx.pyG s sa sb l d0 d1).1 ≤ c0 * (1 + 1 / 10 ^ 30) ∧
    (getAmountsS NumCtx.pyG s sa sb l d0 d1).2 = 0 := by
  intro c0
  obtain ⟨a1, a2, _, _⟩ := getAmountsS_round35 s sa sb l d0 d1 h
  rw [amountsWei_below hs, amount0Wei_closed h0 h.le] at a1 a2
  exact ⟨a1, a2, (C07_one_sided_any_ctx NumCtx.pyG s sa sb l d0 d1 h).1 hs⟩

/-- above the range and on its upper bound (`sb ≤ s`): token1 side = `L·(sb − sa)/2⁹⁶/10^d1` to 10⁻³⁰, token0 = 0 -/
theorem C07_closed_form_round35_above (s sa sb l d0 d1 : Nat) (h0 : 0 < sa) (h : sa < sb) (hs : sb ≤ s) :
    let c1 := (l : Rat) * ((sb : Rat) / Q96 - (sa : Rat) / Q96) / ((pow10 d1 : Nat) : Rat)
    c1 * (1 - 1 / 10 ^ 30) ≤ (getAmountsS NumCtx.pyG s sa sb l d0 d1).2 ∧
    (getAmountsS NumCtx.pyG s sa sb l d0 d1).2 ≤ c1 * (1 + 1 / 10 ^ 30) ∧
    (getAmountsS NumCtx.pyG s sa sb l d0 d1).1 = 0 := by
  intro c1
  obtain ⟨_, _, b1, b2⟩ := getAmountsS_round35 s sa sb l d0 d1 h
  rw [amountsWei_above h hs, amount1Wei_closed h.le] at b1 b2
  exact ⟨b1, b2, (C07_one_sided_any_ctx NumCtx.pyG s sa sb l d0 d1 h).2 hs⟩

/-- **no over-spend in the code's own arithmetic, every regime** (wei offers) -/
theorem C07_no_overspend_round35_all (s sa sb a0 a1 d0 d1 : Nat) (h0 : 0 < sa) (h : sa < sb) :
    let L := getLiquidityWei s sa sb a0 a1
    (getAmountsS NumCtx.pyG s sa sb L d0 d1).1 ≤ (a0 : Rat) / ((pow10 d0 : Nat) : Rat) * (1 + 1 / 10 ^ 30) ∧
    (getAmountsS NumCtx.pyG s sa sb L d0 d1).2 ≤ (a1 : Rat) / ((pow10 d1 : Nat) : Rat) * (1 + 1 / 10 ^ 30) :=
  getAmountsS_no_overspend_round35 s sa sb a0 a1 d0 d1 h0 h

/-- **no over-spend, end to end under 35-digit arithmetic**: for ANY non-negative offered token amounts (no
    representability assumption: `to_wei`'s own rounding is included — four roundings of 5·10⁻³⁵ in all) and valid ticks, the
    Decimals `get_amounts` reports for the liquidity `get_liquidity` minted exceed the offers by at most 10⁻³⁰ relative. -/
theorem C07_getLiquidity_no_overspend_round35 (s : Nat) (ta tb : Int) (a0 a1 : Rat) (d0 d1 : Nat)
    (h1 : minTick ≤ ta) (h2 : ta < tb) (h3 : tb ≤ maxTick) (ha0 : 0 ≤ a0) (ha1 : 0 ≤ a1) :
    ∃ L : Nat, getLiquidity NumCtx.pyG s ta tb a0 a1 d0 d1 = some (L : Int) ∧
      (getAmounts NumCtx.pyG s ta tb L d0 d1).1 ≤ a0 * (1 + 1 / 10 ^ 30) ∧
      (getAmounts NumCtx.pyG s ta tb L d0 d1).2 ≤ a1 * (1 + 1 / 10 ^ 30) := by
  obtain ⟨_, _, k⟩ := liqRound_eps35
  have t0 := toWei_up NumCtx.pyG_rounds a0 d0 ha0
  have t1 := toWei_up NumCtx.pyG_rounds a1 d1 ha1
  have hb := C07_tick_bounds ta tb h1 h2 h3
  obtain ⟨w0, hw0⟩ := Int.eq_ofNat_of_zero_le (Int.cast_nonneg_iff.1 t0.1)
  obtain ⟨w1, hw1⟩ := Int.eq_ofNat_of_zero_le (Int.cast_nonneg_iff.1 t1.1)
  rw [hw0, Int.cast_natCast] at t0
  rw [hw1, Int.cast_natCast] at t1
  obtain ⟨u0, u1⟩ := getAmountsS_no_overspend NumCtx.pyG_rounds s (sqrtAt ta) (sqrtAt tb) w0 w1 d0 d1 hb.1 hb.2.1
  -- one rounding in `to_wei`, three in `get_amounts`: four in all against the offer `a·10^d / 10^d = a`
  have r0 := (t0.div_const _ (pow10_cast_pos d0).le).trans EPS35_pos.le u0
  have r1 := (t1.div_const _ (pow10_cast_pos d1).le).trans EPS35_pos.le u1
  rw [mul_div_cancel_right₀ _ (pow10_cast_pos d0).ne'] at r0
  rw [mul_div_cancel_right₀ _ (pow10_cast_pos d1).ne'] at r1
  exact ⟨_, getLiquidity_of_wei _ s ta tb a0 a1 d0 d1 (by omega) hw0 hw1,
    r0.loosen ha0 k, r1.loosen ha1 k⟩

-- non-vacuity: the full range MIN..MAX tick, price at tick 0, 1000 USDC (6 decimals) and 1 ETH (18 decimals)
example : ∃ u0 u1 L, newPosition NumCtx.exact (2 ^ 96) (-887272) 887272 1000 1 6 18 = some (u0, u1, L) ∧ 0 ≤ L ∧
    u0 ≤ 1000 ∧ u1 ≤ 1 :=
  C07_newPosition_no_overspend_exact _ _ _ _ _ _ _ (by decide) (by decide) (by decide) (by norm_num) (by norm_num)
example : getLiquidity NumCtx.exact (2 ^ 96) (-887272) 887272 1000 1 6 18 = some 1000000000 := by decide +kernel

end Demeter
