/-
  C07 — the position-amount clauses on TICKS: `getAmounts cx s ta tb l d0 d1` is the model of
  `get_amounts(sqrt_price_x96, tickA, tickB, liquidity, decimal0, decimal1)`; the theorems of Proofs/C07.lean take sqrt prices
  `sa < sb`.  For valid ticks `MIN_TICK ≤ ta < tb ≤ MAX_TICK` (either order of the arguments: `C07_getAmounts_tick_order`) the
  hypotheses follow from the monotonicity of `sqrtAt` (`C07_tick_bounds`), so every clause holds on ticks, MIN/MAX included.
-/
import Proofs.C07.Token
namespace Demeter

theorem C07_getAmounts_exact_ticks (s : Nat) (ta tb : Int) (l d0 d1 : Nat)
    (h1 : minTick ≤ ta) (h2 : ta < tb) (h3 : tb ≤ maxTick) :
    getAmounts NumCtx.exact s ta tb l d0 d1 =
      ((amountsWei s (sqrtAt ta) (sqrtAt tb) l).1 / ((pow10 d0 : Nat) : Rat),
       (amountsWei s (sqrtAt ta) (sqrtAt tb) l).2 / ((pow10 d1 : Nat) : Rat)) := by
  unfold getAmounts
  exact getAmountsS_exact _ _ _ _ _ _ (C07_tick_bounds ta tb h1 h2 h3).2.1

/-- **one-sidedness on ticks, in every arithmetic context**: only token0 at or below the lower tick's sqrt price, only token1
    at or above the upper tick's -/
theorem C07_one_sided_ticks (cx : NumCtx) (s : Nat) (ta tb : Int) (l d0 d1 : Nat)
    (h1 : minTick ≤ ta) (h2 : ta < tb) (h3 : tb ≤ maxTick) :
    (s ≤ sqrtAt ta → (getAmounts cx s ta tb l d0 d1).2 = 0) ∧ (sqrtAt tb ≤ s → (getAmounts cx s ta tb l d0 d1).1 = 0) := by
  unfold getAmounts
  exact C07_one_sided_any_ctx cx s _ _ l d0 d1 (C07_tick_bounds ta tb h1 h2 h3).2.1

/-- both tokens strictly inside the range (exact semantics), non-negative everywhere -/
theorem C07_both_inside_ticks (s : Nat) (ta tb : Int) (l d0 d1 : Nat)
    (h1 : minTick ≤ ta) (h2 : ta < tb) (h3 : tb ≤ maxTick) :
    (0 ≤ (getAmounts NumCtx.exact s ta tb l d0 d1).1 ∧ 0 ≤ (getAmounts NumCtx.exact s ta tb l d0 d1).2) ∧
    (sqrtAt ta < s → s < sqrtAt tb → 0 < l →
      0 < (getAmounts NumCtx.exact s ta tb l d0 d1).1 ∧ 0 < (getAmounts NumCtx.exact s ta tb l d0 d1).2) := by
  rw [C07_getAmounts_exact_ticks s ta tb l d0 d1 h1 h2 h3]
  have hb := C07_tick_bounds ta tb h1 h2 h3
  have n := C07_nonneg s (sqrtAt ta) (sqrtAt tb) l
  refine ⟨⟨div_nonneg n.1 (le_of_lt (pow10_cast_pos d0)), div_nonneg n.2 (le_of_lt (pow10_cast_pos d1))⟩, fun c1 c2 hl => ?_⟩
  obtain ⟨p0, p1⟩ := C07_both_inside s (sqrtAt ta) (sqrtAt tb) l c1 c2 hl hb.1
  exact ⟨div_pos p0 (pow10_cast_pos d0), div_pos p1 (pow10_cast_pos d1)⟩

/-- monotone in the price on ticks: token0 non-increasing, token1 non-decreasing, across the range bounds -/
theorem C07_mono_price_ticks (s s' : Nat) (ta tb : Int) (l d0 d1 : Nat)
    (h1 : minTick ≤ ta) (h2 : ta < tb) (h3 : tb ≤ maxTick) (hss : s ≤ s') :
    (getAmounts NumCtx.exact s' ta tb l d0 d1).1 ≤ (getAmounts NumCtx.exact s ta tb l d0 d1).1 ∧
    (getAmounts NumCtx.exact s ta tb l d0 d1).2 ≤ (getAmounts NumCtx.exact s' ta tb l d0 d1).2 := by
  rw [C07_getAmounts_exact_ticks s ta tb l d0 d1 h1 h2 h3, C07_getAmounts_exact_ticks s' ta tb l d0 d1 h1 h2 h3]
  have hb := C07_tick_bounds ta tb h1 h2 h3
  obtain ⟨m0, m1⟩ := C07_mono_price s s' (sqrtAt ta) (sqrtAt tb) l hb.1 hb.2.1 hss
  exact ⟨div_le_div_of_nonneg_right m0 (le_of_lt (pow10_cast_pos d0)),
         div_le_div_of_nonneg_right m1 (le_of_lt (pow10_cast_pos d1))⟩

theorem C07_linear_ticks (s : Nat) (ta tb : Int) (l k d0 d1 : Nat)
    (h1 : minTick ≤ ta) (h2 : ta < tb) (h3 : tb ≤ maxTick) :
    getAmounts NumCtx.exact s ta tb (k * l) d0 d1 =
      ((k : Rat) * (getAmounts NumCtx.exact s ta tb l d0 d1).1, (k : Rat) * (getAmounts NumCtx.exact s ta tb l d0 d1).2) := by
  rw [C07_getAmounts_exact_ticks s ta tb (k * l) d0 d1 h1 h2 h3, C07_getAmounts_exact_ticks s ta tb l d0 d1 h1 h2 h3,
    C07_linear]
  simp only [mul_div_assoc]

/-- the Decimals reported under 35-digit arithmetic agree with the exact amounts to 10⁻³⁰ relative, on ticks, every regime -/
theorem C07_amounts_round35_ticks (s : Nat) (ta tb : Int) (l d0 d1 : Nat)
    (h1 : minTick ≤ ta) (h2 : ta < tb) (h3 : tb ≤ maxTick) :
    let c := getAmounts NumCtx.exact s ta tb l d0 d1
    c.1 * (1 - 1 / 10 ^ 30) ≤ (getAmounts NumCtx.pyG s ta tb l d0 d1).1 ∧
    (getAmounts NumCtx.pyG s ta tb l d0 d1).1 ≤ c.1 * (1 + 1 / 10 ^ 30) ∧
    c.2 * (1 - 1 / 10 ^ 30) ≤ (getAmounts NumCtx.pyG s ta tb l d0 d1).2 ∧
    (getAmounts NumCtx.pyG s ta tb l d0 d1).2 ≤ c.2 * (1 + 1 / 10 ^ 30) := by
  intro c
  have hc : c = _ := C07_getAmounts_exact_ticks s ta tb l d0 d1 h1 h2 h3
  have hb := C07_tick_bounds ta tb h1 h2 h3
  rw [hc]
  exact C07_amounts_round35 s (sqrtAt ta) (sqrtAt tb) l d0 d1 hb.2.1

-- non-vacuity: the full range MIN_TICK..MAX_TICK
example : (getAmounts NumCtx.exact (sqrtAt (-887272)) (-887272) 887272 (10 ^ 12) 6 18).2 = 0 :=
  (C07_one_sided_ticks NumCtx.exact _ _ _ _ _ _ (by decide) (by decide) (by decide)).1 (Nat.le_refl _)
example : (getAmounts NumCtx.exact (sqrtAt 887272) (-887272) 887272 (10 ^ 12) 6 18).1 = 0 :=
  (C07_one_sided_ticks NumCtx.exact _ _ _ _ _ _ (by decide) (by decide) (by decide)).2 (Nat.le_refl _)

end Demeter
