/-
  C07 — maximality of the minted liquidity, in all three price regimes (wei level; Proofs/C07/Token.lean lifts it to
  `get_liquidity` on token amounts and ticks), and the converse: one more unit of liquidity over-spends.
-/
import Proofs.C07
namespace Demeter

/-- **maximality inside the range**: short of the real-valued maximum by less than one unit plus
    offered token0 / sqrt-price span -/
theorem C07_maximal_in_range (s sa sb a0 a1 : Nat) (h1 : sa < s) (h2 : s < sb) :
    min (realMax0 s sb a0) (realMax1 sa s a1) - (getLiquidityWei s sa sb a0 a1 : Rat)
      < 1 + (a0 : Rat) / ((sb : Rat) - s) := by
  rw [getLiquidityWei_inside s sa sb a0 a1 h1 h2]
  have m0 := C07_maximal0 s sb a0 h2
  have m1 := C07_maximal1 sa s a1 h1
  have hq : (0 : Rat) ≤ (a0 : Rat) / ((sb : Rat) - s) :=
    div_nonneg (Nat.cast_nonneg a0) (sub_nonneg.2 (by exact_mod_cast h2.le))
  rcases Nat.le_total (liqForAmount0 s sb a0) (liqForAmount1 sa s a1) with hc | hc
  · rw [Nat.min_eq_left hc]
    exact lt_of_le_of_lt (sub_le_sub_right (min_le_left _ _) _) m0
  · rw [Nat.min_eq_right hc]
    exact lt_of_le_of_lt (sub_le_sub_right (min_le_right _ _) _) (lt_of_lt_of_le m1 (le_add_of_nonneg_right hq))

/-- **maximality, all regimes**: below the range only token0 counts, above it only token1, inside both -/
theorem C07_maximal_regimes (s sa sb a0 a1 : Nat) (h : sa < sb) :
    (s ≤ sa → realMax0 sa sb a0 - (getLiquidityWei s sa sb a0 a1 : Rat) < 1 + (a0 : Rat) / ((sb : Rat) - sa)) ∧
    (sa < s → s < sb → min (realMax0 s sb a0) (realMax1 sa s a1) - (getLiquidityWei s sa sb a0 a1 : Rat)
        < 1 + (a0 : Rat) / ((sb : Rat) - s)) ∧
    (sb ≤ s → realMax1 sa sb a1 - (getLiquidityWei s sa sb a0 a1 : Rat) < 1) := by
  refine ⟨fun hs => ?_, fun h1 h2 => C07_maximal_in_range s sa sb a0 a1 h1 h2, fun hs => ?_⟩
  · rw [getLiquidityWei_below s sa sb a0 a1 h hs]; exact C07_maximal0 sa sb a0 h
  · rw [getLiquidityWei_above s sa sb a0 a1 h hs]; exact C07_maximal1 sa sb a1 h

/-- **`L + 1` over-spends** (up to the slack): one more unit of liquidity than `get_liquidity` mints needs more token1 than
    offered, or more token0 than `a0·(1 − 2⁹⁶/(lo·sb))` where `lo` is the lower sqrt price of the token0 leg. -/
theorem C07_succ_overspends (s sa sb a0 a1 : Nat) (h0 : 0 < sa) (h : sa < sb) :
    let L := getLiquidityWei s sa sb a0 a1
    (s ≤ sa → (a0 : Rat) * (1 - (Q96 : Rat) / ((sa : Rat) * sb)) < (amountsWei s sa sb (L + 1)).1) ∧
    (sa < s → s < sb → ((a0 : Rat) * (1 - (Q96 : Rat) / ((s : Rat) * sb)) < (amountsWei s sa sb (L + 1)).1 ∨
                        (a1 : Rat) < (amountsWei s sa sb (L + 1)).2)) ∧
    (sb ≤ s → (a1 : Rat) < (amountsWei s sa sb (L + 1)).2) := by
  intro L
  refine ⟨fun hs => ?_, fun h1 h2 => ?_, fun hs => ?_⟩
  · rw [amountsWei_below hs, show L = _ from getLiquidityWei_below s sa sb a0 a1 h hs]
    exact liq0_succ_overspends sa sb a0 h0 h
  · rw [amountsWei_inside h1 h2, show L = _ from getLiquidityWei_inside s sa sb a0 a1 h1 h2]
    rcases Nat.le_total (liqForAmount0 s sb a0) (liqForAmount1 sa s a1) with hc | hc
    · left; rw [Nat.min_eq_left hc]; exact liq0_succ_overspends s sb a0 (by omega) h2
    · right; rw [Nat.min_eq_right hc]; exact liq1_succ_overspends sa s a1 h1
  · rw [amountsWei_above h hs, show L = _ from getLiquidityWei_above s sa sb a0 a1 h hs]
    exact liq1_succ_overspends sa sb a1 h

/-- the factor cannot be dropped: at the lowest ticks `mul_div(sqrtA, sqrtB, 2**96)` is 0, so `get_liquidity_for_amount0`
    mints nothing whatever is offered, and `L + 1 = 1` needs far less than the offered token0 -/
theorem C07_succ_not_strict :
    getLiquidityWei 4295128739 4295128739 4295343490 (10 ^ 18) 0 = 0 ∧
    (amountsWei 4295128739 4295128739 4295343490 1).1 < ((10 ^ 18 : Nat) : Rat) := by
  refine ⟨by decide +kernel, ?_⟩
  unfold amountsWei
  rw [if_pos (Nat.le_refl _), amount0Wei_of_le (by decide)]
  unfold Q96
  norm_num

example : min (realMax0 (3 * 2 ^ 95) (2 * 2 ^ 96) 1000000) (realMax1 (2 ^ 96) (3 * 2 ^ 95) 1000000)
    - (getLiquidityWei (3 * 2 ^ 95) (2 ^ 96) (2 * 2 ^ 96) 1000000 1000000 : Rat) < 1 + (1000000 : Nat) / (((2 * 2 ^ 96 : Nat) : Rat) - (3 * 2 ^ 95 : Nat)) :=
  C07_maximal_in_range _ _ _ _ _ (by decide) (by decide)
example : getLiquidityWei (3 * 2 ^ 95) (2 ^ 96) (2 * 2 ^ 96) 1000000 1000000 = 2000000 := by decide +kernel

end Demeter
