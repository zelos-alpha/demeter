/-
  C07 — the round trip on what the code runs.  `C07_roundtrip` (Proofs/C07.lean) is about `LiqMath.newPosition/closePosition`; the
  Uniswap market calls them through the kernel.  `Uni.newPosStd` (= `V3CoreLib.new_position`) is `LiqMath.newPosition` behind the
  tick assertion, so every `C07_` theorem about `getLiquidity`/`getAmounts` is about the kernel the Uniswap driver executes.
-/
import Proofs.Lemmas.UniKernelStd
namespace Demeter
open Uni

namespace C07RT

theorem getAmounts_rounded (cx : NumCtx) (hr : cx.rnd 0 = 0) (hi : ∀ x, cx.rnd (cx.rnd x) = cx.rnd x)
    (s : Nat) (ta tb : Int) (l d0 d1 : Nat) :
    cx.rnd (getAmounts cx s ta tb l d0 d1).1 = (getAmounts cx s ta tb l d0 d1).1 ∧
    cx.rnd (getAmounts cx s ta tb l d0 d1).2 = (getAmounts cx s ta tb l d0 d1).2 := by
  unfold getAmounts getAmountsS getAmount0 getAmount1 NumCtx.div
  simp only []
  split
  · exact ⟨hi _, hr⟩
  · split
    · exact ⟨hi _, hi _⟩
    · exact ⟨hr, hi _⟩

end C07RT
open C07RT

/-- **the driven kernel is the LiqMath model**: `Uni.newPosStd` succeeds exactly when both ticks pass the assertion and
    `newPosition` returns a value with non-negative liquidity — and then with the same value. -/
theorem C07_kernel_newPos_eq (cx : NumCtx) (pool : Pool) (s : Nat) (ta tb : Int) (a0 a1 : Rat) (u0 u1 : Rat) (L : Nat) :
    newPosStd cx pool s ta tb a0 a1 = .ok (u0, u1, (L : Int)) ↔
      (tickOk ta = true ∧ tickOk tb = true ∧ newPosition cx s ta tb a0 a1 pool.d0 pool.d1 = some (u0, u1, (L : Int))) := by
  rw [newPosStd_eq_ok_iff, newPosition_eq_some_iff, Int.toNat_natCast]
  constructor
  · rintro ⟨ha, hb, hl, hu⟩
    exact ⟨ha, hb, hl, (amountsGen_nat_ok hu).symm⟩
  · rintro ⟨ha, hb, hl, hu⟩
    exact ⟨ha, hb, hl, by rw [amountsGen_nat cx s ta tb L _ _ ha hb, hu]⟩

/-- **round trip on the driven kernel**: `get_token_amounts` of the liquidity `new_position` minted, at the same sqrt price,
    is exactly `(token0_used, token1_used)` — including the `liquidity == 0` shortcut of `get_token_amounts`. -/
theorem C07_roundtrip_kernel (cx : NumCtx) (hr : cx.rnd 0 = 0) (pool : Pool) (s : Nat) (ta tb : Int) (a0 a1 : Rat)
    (u0 u1 : Rat) (L : Nat) (h : newPosStd cx pool s ta tb a0 a1 = .ok (u0, u1, (L : Int))) :
    tokenAmountsStd cx pool s ta tb (L : Int) false = .ok (u0, u1) :=
  tokenAmountsStd_newPos cx hr h

end Demeter
