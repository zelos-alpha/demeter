/-
  C07 — the function the code runs and the drivers tie, `getLiquidity cx s ta tb (a0 a1 : Rat) d0 d1` (token amounts,
  ticks), against `getLiquidityWei` (wei, sqrt prices).  Valid ordered ticks give the hypotheses `0 < sa`, `sa < sb` of
  Proofs/C07.lean (`C07_tick_bounds`, from `C06_strict_mono`); `to_wei` truncates as long as the Decimal product is exact (at most 35 significant digits) and
  can round up beyond that (`C07_toWei_rounds_up_beyond35`); `get_liquidity` then IS `getLiquidityWei` on the converted
  amounts, its `ZeroDivisionError` being exactly `ta = tb`.
-/
import Proofs.Lemmas.LiqMath
import Proofs.C06.Full
import Proofs.Lemmas.Num
namespace Demeter

/-- ticks in the valid range, in order, give sqrt prices `0 < sa < sb` inside the protocol's bounds -/
theorem C07_tick_bounds (ta tb : Int) (h1 : minTick ≤ ta) (h2 : ta < tb) (h3 : tb ≤ maxTick) :
    0 < sqrtAt ta ∧ sqrtAt ta < sqrtAt tb ∧ 4295128739 ≤ sqrtAt ta ∧
    sqrtAt tb ≤ 1461446703485210103287273052203988822378723970342 := by
  have hlt := mono_lt C06_strict_mono ta tb h1 h2 h3
  have hmin := mono_le C06_strict_mono minTick ta (Int.le_refl _) h1 (by omega)
  have hmax := mono_le C06_strict_mono tb maxTick (by omega) h3 (Int.le_refl _)
  have e0 : sqrtAt minTick = 4295128739 := C06_boundary_min
  have e1 : sqrtAt maxTick = 1461446703485210103287273052203988822378723970342 := C06_boundary_max
  exact ⟨sqrtAt_pos_all ta, hlt, by omega, by omega⟩

theorem sqrtAt_inj (ta tb : Int) (ha : minTick ≤ ta ∧ ta ≤ maxTick) (hb : minTick ≤ tb ∧ tb ≤ maxTick) :
    sqrtAt ta = sqrtAt tb ↔ ta = tb := by
  constructor
  · intro h
    by_contra hne
    rcases Int.lt_or_gt_of_ne hne with hl | hl
    · have := mono_lt C06_strict_mono ta tb ha.1 hl hb.2; omega
    · have := mono_lt C06_strict_mono tb ta hb.1 hl ha.2; omega
  · intro h; rw [h]

/-- the tick arguments may come in either order (`if sqrtA > sqrtB: swap`) -/
theorem C07_getLiquidity_tick_order (cx : NumCtx) (s : Nat) (ta tb : Int) (a0 a1 : Rat) (d0 d1 : Nat) :
    getLiquidity cx s tb ta a0 a1 d0 d1 = getLiquidity cx s ta tb a0 a1 d0 d1 := by
  unfold getLiquidity
  rw [sortPair_comm]

theorem C07_getAmounts_tick_order (cx : NumCtx) (s : Nat) (ta tb : Int) (l d0 d1 : Nat) :
    getAmounts cx s tb ta l d0 d1 = getAmounts cx s ta tb l d0 d1 := by
  unfold getAmounts getAmountsS
  rw [sortPair_comm]

/-- `to_wei` truncates toward zero; when the Decimal product `amount * 10**decimals` is representable (≤ 35 significant
    digits: the context does not round it) the result is the floor of the exact product, hence never above it. -/
theorem C07_toWei_le (cx : NumCtx) (a : Rat) (d : Nat) (ha : 0 ≤ a)
    (hr : cx.rnd (a * ((pow10 d : Nat) : Rat)) = a * ((pow10 d : Nat) : Rat)) :
    0 ≤ toWei cx a d ∧ ((toWei cx a d : Int) : Rat) ≤ a * ((pow10 d : Nat) : Rat) ∧
    a * ((pow10 d : Nat) : Rat) < ((toWei cx a d : Int) : Rat) + 1 := by
  obtain ⟨b1, b2, b3⟩ := truncInt_bounds _ (mul_nonneg ha (pow10_cast_pos d).le)
  unfold toWei NumCtx.mul
  rw [hr]
  exact ⟨b3, b1, b2⟩

theorem toWei_nonneg (cx : NumCtx) (hc : ∀ x : Rat, 0 ≤ x → 0 ≤ cx.rnd x) (a : Rat) (d : Nat) (ha : 0 ≤ a) :
    0 ≤ toWei cx a d :=
  toWei_zero_le cx hc a d ha

/-- **beyond 35 digits `to_wei` can exceed the offered amount**: `to_wei(Decimal('0.' + '9'*37), 6) = 1000000` although
    the offer is `999999.999…` wei — the product is rounded up to `1000000` before `int()`.  How far it can exceed: one
    rounding (`toWei_up`, Proofs/Lemmas/LiqRound.lean), inside the property's `10⁻³⁰`. -/
theorem C07_toWei_rounds_up_beyond35 :
    toWei NumCtx.py (1 - 1 / 10 ^ 37) 6 = 1000000 ∧
    ¬ (((toWei NumCtx.py (1 - 1 / 10 ^ 37) 6 : Int) : Rat) ≤ (1 - 1 / 10 ^ 37) * ((pow10 6 : Nat) : Rat)) := by
  have h : toWei NumCtx.py (1 - 1 / 10 ^ 37) 6 = 1000000 := by decide +kernel
  refine ⟨h, ?_⟩
  rw [h]; unfold pow10; norm_num

/-- **`get_liquidity` (the driven, tied function) computes `getLiquidityWei`** of the sqrt prices of the two ticks and the
    converted amounts, whenever it does not raise: the two ticks have different sqrt prices (else `ZeroDivisionError`,
    model `none`) and the amounts convert to non-negative wei. -/
theorem C07_getLiquidity_wei (cx : NumCtx) (s : Nat) (ta tb : Int) (a0 a1 : Rat) (d0 d1 : Nat)
    (hne : sqrtAt ta ≠ sqrtAt tb) (h0 : 0 ≤ toWei cx a0 d0) (h1 : 0 ≤ toWei cx a1 d1) :
    getLiquidity cx s ta tb a0 a1 d0 d1 =
      some ((getLiquidityWei s (sqrtAt ta) (sqrtAt tb) (toWei cx a0 d0).toNat (toWei cx a1 d1).toNat : Nat) : Int) :=
  getLiquidity_of_wei cx s ta tb a0 a1 d0 d1 hne (Int.toNat_of_nonneg h0).symm (Int.toNat_of_nonneg h1).symm

/-- `get_liquidity` raises `ZeroDivisionError` (model: `none`) exactly when the two valid ticks coincide -/
theorem C07_getLiquidity_none_iff (cx : NumCtx) (s : Nat) (ta tb : Int) (a0 a1 : Rat) (d0 d1 : Nat)
    (ha : minTick ≤ ta ∧ ta ≤ maxTick) (hb : minTick ≤ tb ∧ tb ≤ maxTick) :
    getLiquidity cx s ta tb a0 a1 d0 d1 = none ↔ ta = tb :=
  (getLiquidity_eq_none_iff cx s ta tb a0 a1 d0 d1).trans (sqrtAt_inj ta tb ha hb)

end Demeter
