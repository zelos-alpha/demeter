/-
  C07 — the amounts in the code's own 35-digit arithmetic (`NumCtx.pyG`, ε = 5·10⁻³⁵): inside the range the Decimals
  `get_amounts` reports agree with the closed-form Uniswap v3 formulas to 10⁻³⁰ relative (the property's figure) and exceed the
  offered amounts by at most that.  Both are the enclosure of Proofs/Lemmas/LiqRound.lean (every context with relative
  rounding error ≤ ε; `C07_amount0_rounded`, `C07_amount1_rounded` state it for the single amounts) at that ε.  (The liquidity
  itself is integer arithmetic: no rounding.)
-/
import Proofs.Lemmas.LiqRound
namespace Demeter

open Numerics

/-- **`get_amount0` against the exact amount, any rounding**: in a context whose Decimal operations round with relative error
    ≤ ε, the token0 amount `get_amount0` reports for liquidity `l` on `[sa, sb]` (three rounded quotients) lies within
    `(1 ± ε)³` of the exact `amount0Wei / 10^decimals`. -/
theorem C07_amount0_rounded (cx : NumCtx) (ε : Rat) (h : RelRnd cx ε) (hε0 : 0 ≤ ε) (hε1 : ε ≤ 1)
    (sa sb l d : Nat) (h0 : 0 < sa) (hab : sa < sb) :
    amount0Wei sa sb l / ((pow10 d : Nat) : Rat) * (1 - ε) ^ 3 ≤ getAmount0 cx sa sb l d ∧
    getAmount0 cx sa sb l d ≤ amount0Wei sa sb l / ((pow10 d : Nat) : Rat) * (1 + ε) ^ 3 :=
  getAmount0_within ⟨h, hε1⟩ sa sb l d

/-- **`get_amount1` against the exact amount, any rounding**: the token1 amount `get_amount1` reports (two rounded
    quotients) lies within `(1 ± ε)²` of the exact `amount1Wei / 10^decimals`. -/
theorem C07_amount1_rounded (cx : NumCtx) (ε : Rat) (h : RelRnd cx ε) (hε0 : 0 ≤ ε) (hε1 : ε ≤ 1)
    (sa sb l d : Nat) (hab : sa < sb) :
    amount1Wei sa sb l / ((pow10 d : Nat) : Rat) * (1 - ε) ^ 2 ≤ getAmount1 cx sa sb l d ∧
    getAmount1 cx sa sb l d ≤ amount1Wei sa sb l / ((pow10 d : Nat) : Rat) * (1 + ε) ^ 2 :=
  getAmount1_within ⟨h, hε1⟩ sa sb l d

/-- the arithmetic demeter's Decimals run in (35 significant digits, half-even) rounds every non-negative result with
    relative error at most 5·10⁻³⁵: the ε at which the two enclosures above are read below -/
theorem C07_pyG_relRnd : RelRnd NumCtx.pyG EPS35 := NumCtx.pyG_relRnd

/-- **Agreement with the closed form to 10⁻³⁰ relative, in the code's own 35-digit arithmetic.**  Inside the range
    (`sa < s < sb`) the Decimals `get_amounts` reports for liquidity `L` differ from `L·(2⁹⁶/s − 2⁹⁶/sb)/10^d0` and
    `L·(s − sa)/2⁹⁶/10^d1` by at most 10⁻³⁰ of those values. -/
theorem C07_closed_form_round35 (s sa sb l d0 d1 : Nat) (h0 : 0 < sa) (h1 : sa < s) (h2 : s < sb) :
    let c0 := (l : Rat) * ((Q96 : Rat) / s - (Q96 : Rat) / sb) / ((pow10 d0 : Nat) : Rat)
    let c1 := (l : Rat) * ((s : Rat) / Q96 - (sa : Rat) / Q96) / ((pow10 d1 : Nat) : Rat)
    c0 * (1 - 1 / 10 ^ 30) ≤ (getAmountsS NumCtx.pyG s sa sb l d0 d1).1 ∧
    (getAmountsS NumCtx.pyG s sa sb l d0 d1).1 ≤ c0 * (1 + 1 / 10 ^ 30) ∧
    c1 * (1 - 1 / 10 ^ 30) ≤ (getAmountsS NumCtx.pyG s sa sb l d0 d1).2 ∧
    (getAmountsS NumCtx.pyG s sa sb l d0 d1).2 ≤ c1 * (1 + 1 / 10 ^ 30) := by
  intro c0 c1
  have hr := getAmountsS_round35 s sa sb l d0 d1 (by omega)
  rw [amountsWei_inside h1 h2, amount0Wei_closed (by omega) h2.le, amount1Wei_closed h1.le] at hr
  exact hr

/-- **No over-spend in the code's own arithmetic** (inside the range; the one-sided cases have one literal zero and the
    same bound on the other side): the Decimal amounts reported for the minted liquidity exceed the offered amounts
    (`a0`, `a1` in wei) by at most 10⁻³⁰ relative — three, resp. two, roundings of 5·10⁻³⁵. -/
theorem C07_no_overspend_round35 (s sa sb a0 a1 d0 d1 : Nat) (h0 : 0 < sa) (h1 : sa < s) (h2 : s < sb) :
    let L := getLiquidityWei s sa sb a0 a1
    (getAmountsS NumCtx.pyG s sa sb L d0 d1).1 ≤ (a0 : Rat) / ((pow10 d0 : Nat) : Rat) * (1 + 1 / 10 ^ 30) ∧
    (getAmountsS NumCtx.pyG s sa sb L d0 d1).2 ≤ (a1 : Rat) / ((pow10 d1 : Nat) : Rat) * (1 + 1 / 10 ^ 30) :=
  getAmountsS_no_overspend_round35 s sa sb a0 a1 d0 d1 h0 (by omega)

/-- non-vacuity: a position of liquidity 10¹⁸ in [2⁹⁶, 2·2⁹⁶] at price 1.5·2⁹⁶ meets the hypotheses -/
example : (0 : Nat) < 2 ^ 96 ∧ 2 ^ 96 < 3 * 2 ^ 95 ∧ 3 * 2 ^ 95 < 2 * 2 ^ 96 := by decide

end Demeter
