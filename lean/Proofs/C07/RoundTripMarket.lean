/-
  C07 — the round trip on the `UniLpMarket` state machine: add, then remove with
  collect at an unchanged sqrt price, returns and credits exactly `token0_used` / `token1_used`.
-/
import Proofs.Lemmas.UniPrims
import Proofs.Lemmas.UniWallet
import Proofs.Lemmas.UniKernelStd
import Proofs.Lemmas.Round35Ctx
import Proofs.Lemmas.UniPositions
namespace Demeter
open Uni

namespace C07RT

theorem mkPos_key (lo up liq : Int) (a b c : Rat) : (mkPos lo up liq a b c).hasKey lo up = true :=
  (hasKey_iff _ lo up).mpr rfl

end C07RT
open C07RT

/-- **round trip on the market state machine.**  `_add_liquidity_by_tick` creates a new position `(lo, up)` and reports
    `(token0_used, token1_used, liquidity)`; `remove_liquidity(position, collect=True)` at the same sqrt price (the
    `sqrt_price_x96` argument omitted or given, the same in both calls; the market row is not changed by the add) then
    returns exactly `(token0_used, token1_used)` (as base/quote) and the wallet it leaves is the wallet after the add credited
    with exactly `token0_used` of token0 and `token1_used` of token1. -/
theorem C07_roundtrip_market_price (cx : NumCtx) (sq : Rat → Rat) (hr : cx.rnd 0 = 0) (hi : ∀ x, cx.rnd (cx.rnd x) = cx.rnd x)
    (pool : Pool) (s s1 : State) (a0 a1 : Rat) (lo up : Int) (sq? : Option Nat) (rd : Bool)
    (lo' up' : Int) (u0 u1 : Rat) (L : Int)
    (hnew : findPos s.positions lo up = none)
    (hadd : addRaw (Kern.std cx sq) pool s a0 a1 lo up sq? = (.ok (lo', up', u0, u1, L), s1)) :
    ∃ s3, remove (Kern.std cx sq) pool s1 lo up none true sq? rd =
            (.ok [(pool.conv u0 u1).1, (pool.conv u0 u1).2], s3) ∧
      s3.wallet = Wallet.credit cx (Wallet.credit cx s1.wallet pool.tok0 u0) pool.tok1 u1 ∧
      s3.isOpen = s1.isOpen := by
  obtain ⟨x, ent, w2, ok, rfl⟩ := addRaw_accepted hadd
  obtain ⟨lp, upp, ip, rfl⟩ : ∃ lp upp ip, ent = some (mkPos lo up L lp upp ip) := by
    rcases newEntity_cases ok.entity with ⟨q, hq, _⟩ | ⟨_, h⟩
    · rw [hnew] at hq; cases hq
    · exact h
  have hnp' : newPosStd cx pool x lo up a0 a1 = .ok (u0, u1, L) := ok.newPos
  -- what `new_position` reports is already rounded, so paying it into uncollected amounts of 0 rounds nothing away
  have hrnd := amountsGen_rounded cx hr hi (u := (u0, u1)) (newPosStd_eq_ok_iff.1 hnp').2.2.2
  have hadd0 : cx.add 0 u0 = u0 := by unfold NumCtx.add; rw [zero_add]; exact hrnd.1
  have hadd1 : cx.add 0 u1 = u1 := by unfold NumCtx.add; rw [zero_add]; exact hrnd.2
  have hfind : ∀ p : Pos, p.hasKey lo up = true → findPos (s.positions ++ [p]) lo up = some p := fun p hp => by
    rw [findPos_append_one, hnew]; exact if_pos hp
  have hWH : WalletHas pool w2 := ⟨has_debit2 ok.debit _ (Or.inr (Or.inl rfl)), has_debit2 ok.debit _ (Or.inr (Or.inr rfl))⟩
  obtain ⟨bb, hbb⟩ := balanceOf_of_has hWH.base
  obtain ⟨qb, hqb⟩ := balanceOf_of_has hWH.quote
  set K := Kern.std cx sq
  set p0 := mkPos lo up L lp upp ip
  set s1 := markUpdate { s with wallet := w2, positions := addToPositions s.positions lo up L (some p0) }
  -- the same sqrt price also when `sq? = none`: the add left the row as it was
  have hrem := removeNoCollect_ok (K := K) (pool := pool) (s := s1) (l := none) (sq := sq?) (p := p0) rfl
    (hfind p0 (mkPos_key ..)) rfl ok.isOpen ok.resolved (tokenAmountsStd_newPos cx hr hnp') hbb hqb
  set p1 := removePos K.cx p0 L false u0 u1
  set s2 := record (removeCore K s1 lo up p0 L false u0 u1) (removeAct pool p1 L u0 u1 bb qb)
  have hpos2 : s2.positions = s.positions ++ [p1] :=
    mapPos_decomp s.positions [] p0 lo up _ (fun q hq => by simpa using List.find?_eq_none.mp hnew q hq)
      (fun _ h => nomatch h) (mkPos_key ..)
  have hWHc : WalletHas pool (collectWallet K.cx pool s2.wallet true (capAt none p1.pending0) (capAt none p1.pending1)) := by
    unfold collectWallet; rw [if_pos rfl]
    exact ⟨has_credit _ _ _ _ _ (Or.inl (has_credit _ _ _ _ _ (Or.inl hWH.1))), has_credit _ _ _ _ _ (Or.inr rfl)⟩
  obtain ⟨bb2, hbb2⟩ := balanceOf_of_has hWHc.base
  obtain ⟨qb2, hqb2⟩ := balanceOf_of_has hWHc.quote
  have hcol := collect_ok (K := K) (pool := pool) (s := s2) (lo := lo) (up := up) (m0 := none) (m1 := none) (rd := rd) (p := p1)
    rfl rfl (by rw [hpos2]; exact hfind p1 (mkPos_key lo up L lp upp ip)) rfl ok.isOpen hbb2 hqb2
  rw [show capAt none p1.pending0 = u0 from hadd0, show capAt none p1.pending1 = u1 from hadd1] at hcol
  refine ⟨collectFinish K pool s2 lo up p1 u0 u1 rd true bb2 qb2, ?_, ?_, ?_⟩
  · unfold remove
    rw [hrem]
    exact hcol
  · rw [collectFinish_wallet]; unfold collectWallet; rw [if_pos rfl]; rfl
  · unfold collectFinish
    split <;> rfl

/-- **round trip on the market state machine, sqrt price given.**  `_add_liquidity_by_tick` with `sqrt_price_x96 = x` creates a
    new position `(lo, up)` and reports `(token0_used, token1_used, liquidity)`; `remove_liquidity(position, collect=True)` with
    the same `x` then returns exactly `(token0_used, token1_used)` (as base/quote) and credits the wallet with exactly those. -/
theorem C07_roundtrip_market (cx : NumCtx) (sq : Rat → Rat) (hr : cx.rnd 0 = 0) (hi : ∀ x, cx.rnd (cx.rnd x) = cx.rnd x)
    (pool : Pool) (s s1 : State) (a0 a1 : Rat) (lo up : Int) (x : Nat) (rd : Bool)
    (lo' up' : Int) (u0 u1 : Rat) (L : Int)
    (hnew : findPos s.positions lo up = none)
    (hadd : addRaw (Kern.std cx sq) pool s a0 a1 lo up (some x) = (.ok (lo', up', u0, u1, L), s1)) :
    ∃ s3, remove (Kern.std cx sq) pool s1 lo up none true (some x) rd =
            (.ok [(pool.conv u0 u1).1, (pool.conv u0 u1).2], s3) ∧
      s3.wallet = Wallet.credit cx (Wallet.credit cx s1.wallet pool.tok0 u0) pool.tok1 u1 ∧
      s3.isOpen = s1.isOpen :=
  C07_roundtrip_market_price cx sq hr hi pool s s1 a0 a1 lo up (some x) rd lo' up' u0 u1 L hnew hadd

/-- the round trip under 35-digit arithmetic (`** 2` as libmpdec computes it) -/
theorem C07_roundtrip_market_round35 (pool : Pool) (s s1 : State) (a0 a1 : Rat) (lo up : Int) (x : Nat) (rd : Bool)
    (lo' up' : Int) (u0 u1 : Rat) (L : Int) (hnew : findPos s.positions lo up = none)
    (hadd : addRaw (Kern.std NumCtx.pyG (fun x => dpowNat 35 x 2)) pool s a0 a1 lo up (some x) = (.ok (lo', up', u0, u1, L), s1)) :
    ∃ s3, remove (Kern.std NumCtx.pyG (fun x => dpowNat 35 x 2)) pool s1 lo up none true (some x) rd =
            (.ok [(pool.conv u0 u1).1, (pool.conv u0 u1).2], s3) ∧
      s3.wallet = Wallet.credit NumCtx.pyG (Wallet.credit NumCtx.pyG s1.wallet pool.tok0 u0) pool.tok1 u1 ∧
      s3.isOpen = s1.isOpen :=
  C07_roundtrip_market NumCtx.pyG _ NumCtx.pyG_rnd_zero NumCtx.pyG_rnd_idem pool s s1 a0 a1 lo up x rd lo' up' u0 u1 L hnew hadd

-- non-vacuity: a 1000 USDC / 1 ETH add over the full range of a spacing-60 pool at tick 0 succeeds

def C07RT.demoPool : Pool :=
  { tok0 := "usdc", tok1 := "eth", d0 := 6, d1 := 18, feeRate := 3 / 1000, spacing := 60, q0 := true, decFac := 1 / 10 ^ 12 }

def C07RT.demoState : State :=
  { positions := [], lastTick := none, row := none, ts := none, isOpen := true, hasUpdate := false,
    wallet := [("usdc", 5000), ("eth", 3)], allowNeg := false, actions := [] }

example : (match (addRaw (Kern.std NumCtx.exact (fun x => x * x)) C07RT.demoPool C07RT.demoState 1000 1 (-887220) 887220 (some (2 ^ 96))).1 with
    | .ok v => decide (v.2.2.2.2 = 1000000000)
    | .error _ => false) = true := by decide +kernel
example : findPos C07RT.demoState.positions (-887220) 887220 = none := rfl

end Demeter
