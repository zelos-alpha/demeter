/-
  C14, the `update` loop over all vaults — a vault at or above 1.5× is never touched, every vault below 1.5× is
  handed to `liquidate` with the entry and status it had when `update` started: liquidating one vault does not
  change another (they never share an LP position — the reachable-state invariant `Once` of C01).  Every context.
-/
import Proofs.Lemmas.SqueethOnce
namespace Demeter
namespace Squeeth
open Gen

/-- `liquidate(k)` touches vault `k` and the position that vault holds; no other vault holds that position -/
theorem liquidateOp_other (cx : NumCtx) (e : Env) (s : State) (h : Once s) (k vk : Nat) (hk : vk ≠ k) :
    AList.get? (liquidateOp cx e s k).st.vaults vk = AList.get? s.vaults vk ∧
    vaultStatus cx e (liquidateOp cx e s k).st vk = vaultStatus cx e s vk := by
  obtain ⟨fv, fp⟩ := (liquidateOp_edit (K := (· = k)) (Q := fun q => ∃ v, AList.get? s.vaults k = some v ∧ v.nft = some q) cx e s k rfl
    fun v q hv hn => ⟨v, hv, hn⟩).frame
  refine ⟨fv vk hk, vaultStatus_congr cx e s _ vk (fv vk hk) fun v q hv hn => fp q ?_⟩
  rintro ⟨w, hw, hq⟩
  exact hk (h.inj vk k v w q hv hw hn hq)

theorem updateGo_other (cx : NumCtx) (e : Env) (ks : List Nat) (s : State) (h : Once s) (vk : Nat)
    (hvk : vk ∉ ks ∨ ∃ d, vaultStatus cx e s vk = .ok (true, d)) :
    Once (updateGo (liquidateOp cx e) cx e ks s).st ∧
    AList.get? (updateGo (liquidateOp cx e) cx e ks s).st.vaults vk = AList.get? s.vaults vk ∧
    vaultStatus cx e (updateGo (liquidateOp cx e) cx e ks s).st vk = vaultStatus cx e s vk := by
  refine updateGo_pres (P := fun t => Once t ∧ AList.get? t.vaults vk = AList.get? s.vaults vk ∧
    vaultStatus cx e t vk = vaultStatus cx e s vk) _ cx e ks (fun t k dk hk hst ht => ?_) s ⟨h, rfl, rfl⟩
  -- `liquidate` is only called on a vault of the list that is below 1.5×, so not on `vk`
  have hne : vk ≠ k := by
    rintro rfl
    rcases hvk with hvk | ⟨d, hs⟩
    · exact hvk hk
    · rw [ht.2.2, hs] at hst; cases hst
  obtain ⟨fv, fs⟩ := liquidateOp_other cx e t ht.1 k vk hne
  exact ⟨liquidateOp_once cx e t k ht.1, fv.trans ht.2.1, fs.trans ht.2.2⟩

end Squeeth

open Squeeth

/-- **`update` never touches a vault that is at or above 1.5×** — wherever it stands in the loop, whatever happens to
    the other vaults (liquidated, LP redeemed, or an exception ending the loop): its entry and its status are the same
    afterwards.  (`Once`: the reachable-state invariant of C01 — no two vaults share an LP position.) -/
theorem C14_update_leaves_safe_vaults_alone (cx : NumCtx) (e : Env) (ks : List Nat) (s : State) (h : Once s) (vk : Nat) (d : Bool)
    (hs : vaultStatus cx e s vk = .ok (true, d)) :
    AList.get? (updateGo (liquidateOp cx e) cx e ks s).st.vaults vk = AList.get? s.vaults vk ∧
    vaultStatus cx e (updateGo (liquidateOp cx e) cx e ks s).st vk = .ok (true, d) := by
  obtain ⟨_, hv, hst⟩ := updateGo_other cx e ks s h vk (Or.inr ⟨d, hs⟩)
  exact ⟨hv, hst.trans hs⟩

/-- **`update` liquidates every vault that is below 1.5×**: if the loop completes, each unsafe vault `vk` was handed to
    `liquidate` in a state `t` in which it and its status were still as at the start of `update`, that call was
    accepted, and what it left in the vault is what `update` leaves there -/
theorem C14_update_liquidates_unsafe_vaults (cx : NumCtx) (e : Env) (ks : List Nat) (s : State) (h : Once s) (hnd : ks.Nodup)
    (vk : Nat) (hmem : vk ∈ ks) (d : Bool) (hs : vaultStatus cx e s vk = .ok (false, d))
    (hok : (updateGo (liquidateOp cx e) cx e ks s).err = none) :
    ∃ t, Once t ∧ AList.get? t.vaults vk = AList.get? s.vaults vk ∧ vaultStatus cx e t vk = .ok (false, d) ∧
      (liquidateOp cx e t vk).err = none ∧
      AList.get? (updateGo (liquidateOp cx e) cx e ks s).st.vaults vk = AList.get? (liquidateOp cx e t vk).st.vaults vk := by
  obtain ⟨pre, post, rfl⟩ := List.append_of_mem hmem
  have hnot : vk ∉ pre ++ post := (List.nodup_cons.mp (List.nodup_middle.mp hnd)).1
  -- cut the loop at `vk`: the part before passes it by, the part after does not come back to it (`updateGo_other`, twice)
  obtain ⟨ht, hv, hst⟩ := updateGo_other cx e pre s h vk (Or.inl fun hm => hnot (List.mem_append_left _ hm))
  rw [updateGo_append] at hok ⊢
  obtain ⟨_, h2, e2⟩ := Res.andThen_ok hok
  rw [e2]
  generalize (updateGo (liquidateOp cx e) cx e pre s).st = t at ht hv hst h2 ⊢
  rw [hs] at hst
  simp only [updateGo, hst, Bool.false_eq_true, if_false] at h2 ⊢
  obtain ⟨h1, _, e3⟩ := Res.andThen_ok h2
  rw [e3]
  exact ⟨t, ht, hv, hst, h1,
    (updateGo_other cx e post _ (liquidateOp_once cx e t vk ht) vk (Or.inl fun hm => hnot (List.mem_append_right _ hm))).2.1⟩

end Demeter
