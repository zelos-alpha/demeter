/-
  C14, TWAP window — which rows of `self.data` enter `get_twap_price` (the geometric mean itself is the oracle
  `Env.mean`): on data in time order, whatever the spacing, the rows stamped in `[now − 6, now]`, at most seven of them; on
  one-minute data the trailing seven points ending at the current bar, fewer at the start of the data; the spot value
  when the market status carries no timestamp.
-/
import Proofs.Lemmas.SqueethWindow
import Proofs.Lemmas.Squeeth
import Mathlib.Tactic.NormNum
namespace Demeter
open Squeeth Gen

/-- the generated constants are the numbers the property names: 7 points, 0.5 ETH, 3/2, 2 %, 10 %, 1e4, halves -/
theorem C14_constants :
    sqTwapPeriod = 7 ∧ sqTwapBack = 1 ∧ sqMinDeposit = 1 / 2 ∧ sqCrNum = 3 ∧ sqCrDen = 2 ∧
    sqReduceDebtBounty = 2 / 100 ∧ sqLiquidationBounty = 1 / 10 ∧ sqIndexScale = 10000 ∧ sqLiqDivisor = 2 :=
  ⟨rfl, rfl, sqMinDeposit_eq, sqCrNum_eq, sqCrDen_eq, sqReduceDebtBounty_eq, rfl, sqIndexScale_eq, rfl⟩

namespace Squeeth
def minuteGrid (t0 : Int) : List Row → Prop
  | [] => True
  | r :: rest => r.t = t0 ∧ minuteGrid (t0 + 1) rest

def ascendingFrom (a : Int) : List Row → Prop
  | [] => True
  | r :: rest => a ≤ r.t ∧ ascendingFrom (r.t + 1) rest

theorem minuteGrid_ascending (l : List Row) (t0 : Int) (hg : minuteGrid t0 l) : ascendingFrom t0 l := by
  induction l generalizing t0 with
  | nil => trivial
  | cons r rest ih => exact ⟨hg.1.ge, by rw [hg.1]; exact ih (t0 + 1) hg.2⟩

theorem filter_ascending_length (l : List Row) (a lo b : Int) (h : ascendingFrom a l) :
    (l.filter (fun r => decide (lo ≤ r.t) && decide (r.t ≤ b))).length ≤ (b - max lo a + 1).toNat := by
  induction l generalizing a with
  | nil => simp
  | cons r rest ih =>
    obtain ⟨h0, hr⟩ := h
    have hrest := ih (r.t + 1) hr
    by_cases hin : lo ≤ r.t ∧ r.t ≤ b
    · simp only [List.filter, hin.1, hin.2, decide_true, Bool.and_self, List.length_cons]
      omega
    · have hf : (decide (lo ≤ r.t) && decide (r.t ≤ b)) = false := by simpa using hin
      simp only [List.filter, hf]
      omega

theorem ascendingFrom_mono (l : List Row) (a a' : Int) (h : ascendingFrom a l) (ha : a' ≤ a) : ascendingFrom a' l := by
  cases l with
  | nil => trivial
  | cons r rest => exact ⟨by have := h.1; omega, h.2⟩

theorem ascendingFrom_le_mem (l : List Row) (c : Int) (h : ascendingFrom c l) : ∀ x ∈ l, c ≤ x.t := by
  induction l generalizing c with
  | nil => intro x hx; cases hx
  | cons y ys ih =>
    intro x hx
    rcases List.mem_cons.mp hx with hxy | hx
    · rw [hxy]; exact h.1
    · have := ih (y.t + 1) h.2 x hx
      have := h.1
      omega

theorem filter_eq_drop_take {α : Type} (p : α → Bool) (l : List α) (n m : Nat)
    (h1 : ∀ x ∈ l.take n, ¬ p x = true) (h2 : ∀ x ∈ (l.drop n).take m, p x = true) (h3 : ∀ x ∈ (l.drop n).drop m, ¬ p x = true) :
    l.filter p = (l.drop n).take m := by
  conv_lhs => rw [← List.take_append_drop n l, ← List.take_append_drop m (l.drop n)]
  rw [List.filter_append, List.filter_append, List.filter_eq_nil_iff.mpr h1, List.filter_eq_self.mpr h2, List.filter_eq_nil_iff.mpr h3,
    List.nil_append, List.append_nil]

theorem minuteGrid_drop (l : List Row) (t0 : Int) (n : Nat) (hg : minuteGrid t0 l) : minuteGrid (t0 + n) (l.drop n) := by
  induction n generalizing l t0 with
  | zero => simpa using hg
  | succ n ih =>
    cases l with
    | nil => trivial
    | cons r rest =>
      have := ih rest (t0 + 1) hg.2
      rw [List.drop_succ_cons]
      convert this using 1
      omega

theorem minuteGrid_take_lt (l : List Row) (t0 : Int) (n : Nat) (hg : minuteGrid t0 l) : ∀ x ∈ l.take n, x.t < t0 + n := by
  induction n generalizing l t0 with
  | zero => intro x hx; simp at hx
  | succ n ih =>
    cases l with
    | nil => intro x hx; simp at hx
    | cons r rest =>
      intro x hx
      rw [List.take_succ_cons] at hx
      rcases List.mem_cons.mp hx with rfl | hx
      · have := hg.1; omega
      · have := ih rest (t0 + 1) hg.2 x hx
        push_cast; omega

theorem filter_grid_window (l : List Row) (t0 a b : Int) (hg : minuteGrid t0 l) :
    l.filter (fun r => decide (a ≤ r.t) && decide (r.t ≤ b)) = (l.drop (a - t0).toNat).take (b - max a t0 + 1).toNat := by
  have ge : ∀ (l : List Row) t0, minuteGrid t0 l → ∀ x ∈ l, t0 ≤ x.t := fun l t0 h => ascendingFrom_le_mem l t0 (minuteGrid_ascending l t0 h)
  have hd := minuteGrid_drop l t0 (a - t0).toNat hg
  refine filter_eq_drop_take _ l _ _ (fun x hx => ?_) (fun x hx => ?_) (fun x hx => ?_)
  · have h1 := minuteGrid_take_lt l t0 _ hg x hx
    have h2 := ge l t0 hg x (List.mem_of_mem_take hx)
    simp only [Bool.and_eq_true, decide_eq_true_eq]
    omega
  · have h1 := minuteGrid_take_lt _ _ _ hd x hx
    have h2 := ge _ _ hd x (List.mem_of_mem_take hx)
    simp only [Bool.and_eq_true, decide_eq_true_eq]
    omega
  · have h2 := ge _ _ (minuteGrid_drop _ _ (b - max a t0 + 1).toNat hd) x hx
    simp only [Bool.and_eq_true, decide_eq_true_eq]
    omega

theorem ascending_head_le (l : List Row) (a : Int) (h : ascendingFrom a l) (r0 : Row) (h0 : l.head? = some r0) :
    ∀ r ∈ l, r0.t ≤ r.t := by
  cases l with
  | nil => cases h0
  | cons y ys =>
    cases h0
    exact ascendingFrom_le_mem _ _ ⟨le_rfl, h.2⟩

end Squeeth
open Squeeth

/-- with `timestamp = None` (the unit tests) the TWAP is the spot value of the current row -/
theorem C14_twap_spot_without_timestamp (e : Env) (tok : Tok) (h : e.now = none) : twap e tok = e.spot tok := by
  unfold twap; rw [h]

/-- **window selection for ANY bar spacing** (5-minute, hourly, irregular data, gaps): on strictly ascending data the prices
    that enter the mean at time `now` are exactly the rows whose timestamp lies in the trailing seven-minute window
    `[now − 6, now]` — selected by time, not by position —, in the order of the data.  (7 = `sqTwapPeriod`, the window reaches
    back `sqTwapPeriod − sqTwapBack` = 6 minutes.) -/
theorem C14_twap_window_any_spacing (e : Env) (a now : Int) (h : ascendingFrom a e.rows) :
    window e now = e.rows.filter (fun r => decide (now - 6 ≤ r.t) && decide (r.t ≤ now)) ∧
    (∀ r, r ∈ window e now ↔ r ∈ e.rows ∧ now - 6 ≤ r.t ∧ r.t ≤ now) ∧
    sqTwapPeriod = 7 ∧ (sqTwapPeriod : Int) - (sqTwapBack : Int) = 6 := by
  have hw := window_eq_filter e now (ascending_head_le e.rows a h)
  refine ⟨hw, ?_, rfl, rfl⟩
  intro r
  rw [hw, List.mem_filter]
  simp only [Bool.and_eq_true, decide_eq_true_eq]

/-- **window selection on one-minute data**: at the `k`-th bar (0-based) of data on a one-minute grid the prices
    handed to the mean are exactly `rows[max 0 (k−6) … k]` — the seven points ending at the current bar, or all
    `k+1` points when fewer than seven exist. -/
theorem C14_twap_window_is_trailing_seven (e : Env) (t0 : Int) (k : Nat)
    (hg : minuteGrid t0 e.rows) (hk : k < e.rows.length) :
    window e (t0 + k) = (e.rows.drop (k - 6)).take (min (k + 1) 7) ∧
    (window e (t0 + k)).length = min (k + 1) 7 := by
  have hw : window e (t0 + k) = (e.rows.drop (k - 6)).take (min (k + 1) 7) := by
    rw [(C14_twap_window_any_spacing e t0 (t0 + k) (minuteGrid_ascending _ _ hg)).1, filter_grid_window e.rows t0 _ _ hg]
    congr 2 <;> omega
  refine ⟨hw, ?_⟩
  rw [hw, List.length_take, List.length_drop]; omega

/-- the value `get_twap_price` returns on one-minute data: the oracle mean of those (at most seven) prices -/
theorem C14_twap_on_minute_grid (e : Env) (t0 : Int) (k : Nat) (tok : Tok)
    (hg : minuteGrid t0 e.rows) (hk : k < e.rows.length) (hnow : e.now = some (t0 + k)) :
    twap e tok = e.mean (((e.rows.drop (k - 6)).take (min (k + 1) 7)).map (fun r => r.price tok)) := by
  unfold twap; rw [hnow]; simp only []; rw [(C14_twap_window_is_trailing_seven e t0 k hg hk).1]

/-- on any strictly ascending data (coarser or irregular grids included) at most seven points enter, all of them
    within the six minutes before the current bar -/
theorem C14_twap_window_at_most_seven (e : Env) (a now : Int) (h : ascendingFrom a e.rows) :
    (window e now).length ≤ 7 ∧ ∀ r ∈ window e now, now - 6 ≤ r.t ∧ r.t ≤ now := by
  obtain ⟨hw, hmem, _, _⟩ := C14_twap_window_any_spacing e a now h
  refine ⟨?_, fun r hr => ((hmem r).mp hr).2⟩
  rw [hw]
  have := filter_ascending_length e.rows a (now - 6) now h
  omega

example : minuteGrid 0 [⟨0, 1000, 100⟩, ⟨1, 1001, 101⟩, ⟨2, 1002, 102⟩] := ⟨rfl, rfl, rfl, trivial⟩
example : (window { nf := 1, weth := 1, osqth := 1, now := some 8, uniPrice := 1, uniOpen := true, mean := fun _ => 0,
                    rows := [⟨0, 1, 1⟩, ⟨1, 1, 1⟩, ⟨2, 1, 1⟩, ⟨3, 1, 1⟩, ⟨4, 1, 1⟩, ⟨5, 1, 1⟩, ⟨6, 1, 1⟩, ⟨7, 1, 1⟩,
                             ⟨8, 1, 1⟩, ⟨9, 1, 1⟩] } 8).map (·.t) = [2, 3, 4, 5, 6, 7, 8] := by
  decide

/-- a 5-minute grid: at minute 20 only the bars at 15 and 20 are inside the seven-minute window [14, 20] (by position, seven rows would be) -/
example : (window { nf := 1, weth := 1, osqth := 1, now := some 20, uniPrice := 1, uniOpen := true, mean := fun _ => 0,
                    rows := [⟨0, 1, 1⟩, ⟨5, 1, 1⟩, ⟨10, 1, 1⟩, ⟨15, 1, 1⟩, ⟨20, 1, 1⟩, ⟨25, 1, 1⟩] } 20).map (·.t) = [15, 20] := by
  decide
example : (window { nf := 1, weth := 1, osqth := 1, now := some 17, uniPrice := 1, uniOpen := true, mean := fun _ => 0,
                    rows := [⟨0, 1, 1⟩, ⟨1, 1, 1⟩, ⟨9, 1, 1⟩, ⟨13, 1, 1⟩, ⟨14, 1, 1⟩, ⟨17, 1, 1⟩, ⟨30, 1, 1⟩] } 17).map (·.t) = [13, 14, 17] := by
  decide

end Demeter
