/-
  C14, `update` never raises — the vault's own redemption of its LP collateral does not go through the pool's
  "market open" gate, so no market data can make the bar-end liquidation fail: on every reachable state
  (`Once`: no dangling / shared LP reference; `Inv`: amounts ≥ 0; both tokens present in the wallet) and for every
  environment with a non-negative oSQTH TWAP — pool open or closed — `update()` completes.  Hence "liquidated iff below
  1.5×" holds without the "if the loop completes" proviso of `C14_update_liquidates_unsafe_vaults`.  Exact arithmetic.
-/
import Proofs.C14.Liquidation
import Proofs.C14.Update
import Proofs.Lemmas.SqueethInv
namespace Demeter
namespace Squeeth
open Gen

/-- both tokens have an entry in the wallet (the `*_balance_after` fields of the pool's action records read them) -/
def HasTokens (s : State) : Prop := (∃ bo, AList.get? s.wallet sqOsqthName = some bo) ∧ (∃ bw, AList.get? s.wallet sqWethName = some bw)

theorem liquidateOp_completes (e : Env) (s : State) (h : Once s) (hi : Inv s) (ht : HasTokens s) (hp : 0 ≤ twap e .osqth)
    (vk : Nat) (v : Vault) (d : Bool) (hv : AList.get? s.vaults vk = some v)
    (hu : vaultStatus NumCtx.exact e s vk = .ok (false, d)) :
    (liquidateOp NumCtx.exact e s vk).err = none ∧ HasTokens (liquidateOp NumCtx.exact e s vk).st := by
  have hvok := hi.vault hv
  cases hn : v.nft with
  | none =>
    rw [← step_liquidate_eq, C14_liquidate_without_lp e s vk v d hv hn hvok.2 hp hu]
    exact ⟨rfl, ht⟩
  | some pos =>
    obtain ⟨p, hpp, htr⟩ := h.ref_lent vk v pos hv hn
    obtain ⟨⟨bo, hbo⟩, ⟨bw, hbw⟩⟩ := ht
    obtain ⟨hr1, hr2, hr3, _, hr5⟩ := C14_reduce_debt_rule e s vk v pos p bo bw _ _ hv hn hpp htr hbo hbw rfl rfl
    have hw1 : HasTokens (reduceDebtBody NumCtx.exact e s vk true).1.st := by
      unfold HasTokens
      rw [hr5]
      split
      · exact ⟨Wallet.get?_credit_some _ _ _ _ _ (Or.inl ⟨bo, hbo⟩), Wallet.get?_credit_some _ _ _ _ _ (Or.inl ⟨bw, hbw⟩)⟩
      · exact ⟨⟨bo, hbo⟩, ⟨bw, hbw⟩⟩
    have key : (liquidateBody NumCtx.exact e s vk).err = none ∧ HasTokens (liquidateBody NumCtx.exact e s vk).st := by
      rw [liquidateBody_eq hu, Res.andThen_of_ok _ hr1]
      have ho1 := (reduceDebtBody_edit (K := AnyKey) (Q := AnyKey) trivial (fun _ _ _ _ => trivial) hr1).once h
      generalize reduceDebtBody NumCtx.exact e s vk true = rb at hr1 hr2 hr3 hw1 ho1
      -- all that is needed of the vault `_reduce_debt` leaves: no LP reference, a debt ≥ 0
      obtain ⟨w, hw3, hwn, hws⟩ : ∃ w, AList.get? rb.1.st.vaults vk = some w ∧ w.nft = none ∧ 0 ≤ w.short :=
        ⟨_, hr3, rfl, sub_nonneg.mpr (min_le_right _ _)⟩
      obtain ⟨⟨a, b⟩, hab⟩ := ho1.vaultStatus_defined NumCtx.exact e hw3
      rw [liqRest_eq (b := rb.2) hab hw3]
      cases a with
      | true => exact ⟨rfl, hw1⟩
      | false =>
        have hin : liquidateInner NumCtx.exact e (rb.1.st.setVault vk { w with coll := NumCtx.exact.add w.coll rb.2 }) vk w.short = _ :=
          C14_liquidation_applies_rule e (rb.1.st.setVault vk { w with coll := NumCtx.exact.add w.coll rb.2 }) vk
            { w with coll := NumCtx.exact.add w.coll rb.2 } (setVault_get_self ..) hwn hws hp
        rw [if_neg Bool.false_ne_true, hin]
        exact ⟨rfl, hw1⟩
    unfold liquidateOp atomic
    rw [key.1]
    exact key

end Squeeth
open Squeeth

/-- **`update()` never raises**: on a reachable state (`Once`, `Inv`, both tokens in the wallet), for any market data with
    a non-negative oSQTH TWAP — the pool market open or CLOSED on this bar —, the loop over the vaults completes. -/
theorem C14_update_completes (e : Env) (hp : 0 ≤ twap e .osqth) (ks : List Nat) (s : State) (h : Once s) (hi : Inv s) (ht : HasTokens s)
    (hnd : ks.Nodup) (hk : ∀ k ∈ ks, ∃ v, AList.get? s.vaults k = some v) :
    (updateGo (liquidateOp NumCtx.exact e) NumCtx.exact e ks s).err = none := by
  induction ks generalizing s with
  | nil => rfl
  | cons k rest ih =>
    have hnd' : rest.Nodup := (List.nodup_cons.mp hnd).2
    have hknot : k ∉ rest := (List.nodup_cons.mp hnd).1
    obtain ⟨v, hv⟩ := hk k (List.mem_cons_self ..)
    obtain ⟨⟨safe, d⟩, hs⟩ := h.vaultStatus_defined NumCtx.exact e hv
    rw [C14_update_liquidates_iff_unsafe _ _ _ _ _ _ safe d hs]
    cases safe with
    | true =>
      simp only [if_true]
      exact ih s h hi ht hnd' (fun k' hk' => hk k' (List.mem_cons_of_mem _ hk'))
    | false =>
      simp only [Bool.false_eq_true, if_false]
      obtain ⟨hok, ht'⟩ := liquidateOp_completes e s h hi ht hp k v d hv hs
      rw [Res.andThen_of_ok _ hok]
      apply ih _ (liquidateOp_once _ e s k h) (liquidateOp_inv e s k hp hi) ht' hnd'
      intro k' hk'
      have hne : k' ≠ k := fun he => hknot (he ▸ hk')
      rw [(liquidateOp_other NumCtx.exact e s h k k' hne).1]
      exact hk k' (List.mem_cons_of_mem _ hk')

/-- **`update` liquidates every vault that is below 1.5× — unconditionally**: the "if the loop completes" hypothesis of
    `C14_update_liquidates_unsafe_vaults` is discharged by `C14_update_completes`; what remains are properties of the
    state alone, which every reachable state has. -/
theorem C14_update_liquidates_unsafe_vaults_always (e : Env) (hp : 0 ≤ twap e .osqth) (ks : List Nat) (s : State) (h : Once s) (hi : Inv s)
    (ht : HasTokens s) (hnd : ks.Nodup) (hk : ∀ k ∈ ks, ∃ v, AList.get? s.vaults k = some v)
    (vk : Nat) (hmem : vk ∈ ks) (d : Bool) (hs : vaultStatus NumCtx.exact e s vk = .ok (false, d)) :
    (updateGo (liquidateOp NumCtx.exact e) NumCtx.exact e ks s).err = none ∧
    ∃ t, Once t ∧ AList.get? t.vaults vk = AList.get? s.vaults vk ∧ vaultStatus NumCtx.exact e t vk = .ok (false, d) ∧
      (liquidateOp NumCtx.exact e t vk).err = none ∧
      AList.get? (updateGo (liquidateOp NumCtx.exact e) NumCtx.exact e ks s).st.vaults vk
        = AList.get? (liquidateOp NumCtx.exact e t vk).st.vaults vk :=
  ⟨C14_update_completes e hp ks s h hi ht hnd hk,
   C14_update_liquidates_unsafe_vaults NumCtx.exact e ks s h hnd vk hmem d hs (C14_update_completes e hp ks s h hi ht hnd hk)⟩

-- the boundary case of the harness: pool market CLOSED, vault below 1.5× with a lent LP position
namespace Squeeth
def closedEnv : Env := { nf := 1/2, weth := 2000, osqth := 1/10, now := none, rows := [], uniPrice := 1/10, uniOpen := false, mean := fun _ => 0 }
def lpState : State :=
  { wallet := [("WETH", 100), ("OSQTH", 100)], vaults := [(1, { coll := 1/10, short := 12, nft := some (21000, 25020) })], maxId := 1,
    positions := [((21000, 25020), { liquidity := 10^19, pending0 := 0, pending1 := 0, transferred := true })], log := [] }
end Squeeth

example : HasTokens lpState := ⟨⟨100, by decide⟩, ⟨100, by decide⟩⟩
example : (vaultStatus NumCtx.exact closedEnv lpState 1).toOption.map (·.1) = some false := by decide +kernel
example : (step NumCtx.exact closedEnv lpState .update).err = none := by decide +kernel
example : (step NumCtx.exact closedEnv lpState .update).st.vaults.map (fun kv => kv.2.nft) = [none] := by decide +kernel
example : (step NumCtx.exact closedEnv lpState .update).st.positions = [] := by decide +kernel
example : (step NumCtx.exact closedEnv { lpState with vaults := [], positions := [((21000, 25020), { liquidity := 10^19, pending0 := 0, pending1 := 0, transferred := false })] }
    (.uniRemove (21000, 25020))).err = some (.demeter "uni-closed") := by decide +kernel

end Demeter
