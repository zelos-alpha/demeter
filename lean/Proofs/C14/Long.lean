/-
  C14, the long side — `buy_squeeth` / `sell_squeeth` trade with the oSQTH/WETH pool and never touch a vault: vaults, pool positions
  and the id counter are what they were, so is every vault's effective collateral and safety status (what `update` will liquidate does
  not change); an accepted trade moves exactly the stated oSQTH and WETH through the wallet.  (That no amount goes negative is
  `C14_amounts_never_negative`, which covers the two trades.)
-/
import Proofs.Lemmas.SqueethInv
import Mathlib.Tactic.FieldSimp
namespace Demeter
open Squeeth Gen

/-- **the long side never touches vaults**: after `buy_squeeth` / `sell_squeeth` — any arguments, accepted or rejected, any arithmetic
    context — the vaults, the pool's positions and the vault id counter are exactly what they were -/
theorem C14_trade_never_touches_vaults (cx : NumCtx) (e : Env) (s : State) (op : Op) (hop : op.isTrade = true) :
    (step cx e s op).st.vaults = s.vaults ∧ (step cx e s op).st.positions = s.positions ∧ (step cx e s op).st.maxId = s.maxId :=
  trade_frame cx e s op hop

/-- … hence every vault keeps its effective collateral and its (above water, dust) status: a trade neither makes a vault
    liquidatable nor rescues one, and the 150 % rule holds after it for exactly the vaults it held for before -/
theorem C14_trade_keeps_vault_status (cx : NumCtx) (e : Env) (s : State) (op : Op) (hop : op.isTrade = true) (vk : Nat) :
    effColl cx e (step cx e s op).st vk = effColl cx e s vk ∧ vaultStatus cx e (step cx e s op).st vk = vaultStatus cx e s vk ∧
    checkVault cx e (step cx e s op).st vk = checkVault cx e s vk := by
  obtain ⟨hv, hp, _⟩ := trade_frame cx e s op hop
  have h1 := effColl_of_frame cx e hv hp vk
  have h2 := vaultStatus_congr cx e s (step cx e s op).st vk (by rw [hv]) (fun _ _ _ _ => by rw [hp])
  exact ⟨h1, h2, by unfold checkVault; rw [h2]⟩

/-- the amount handed to the pool: the oSQTH amount if one is given (an ETH amount given with it is ignored), else the ETH amount
    divided by the squeeth row's oSQTH price, else nothing (the call then raises `TypeError`) -/
theorem C14_trade_amount_forms (e : Env) (x y : Rat) (q : Option Rat) (h0 : e.osqth ≠ 0) :
    longAmount NumCtx.exact e (some x) q = .ok (some x) ∧ longAmount NumCtx.exact e none (some y) = .ok (some (y / e.osqth)) ∧
    longAmount NumCtx.exact e none none = .ok none ∧
    (∀ s, (step NumCtx.exact e s (.buy none none)).err = some (.type "amount-none") ∧
          (step NumCtx.exact e s (.sell none none)).err = some (.type "amount-none")) := by
  refine ⟨rfl, by simp [longAmount, h0], rfl, fun s => ⟨rfl, rfl⟩⟩

/-- **buy**: an accepted `buy_squeeth` of `a ≠ 0` oSQTH at pool price `p` and fee rate `f` debits the wallet's WETH by
    `a·p/(1−f) ≥ 0` (`Asset.sub`: exactly, or to zero within dust — `C14_debit_exact_or_dust`), credits exactly `a` oSQTH, reports
    `(fee, spent, got) = (f·a·p/(1−f), a·p/(1−f), a)` and touches no other token; with `a = 0` nothing happens -/
theorem C14_buy_moves_exactly (e : Env) (s : State) (o q : Option Rat)
    (h : (step NumCtx.exact e s (.buy o q)).err = none) :
    ∃ a, longAmount NumCtx.exact e o q = .ok (some a) ∧
      (a = 0 → step NumCtx.exact e s (.buy o q) = .ok s [0, 0, 0]) ∧
      (a ≠ 0 → e.uniPrice ≠ 0 ∧ 1 - e.uniFee ≠ 0 ∧ 0 ≤ buyCost e a ∧
        ∃ b b', AList.get? s.wallet sqWethName = some b ∧ assetSub NumCtx.exact b (buyCost e a) false = some b' ∧
          AList.get? (step NumCtx.exact e s (.buy o q)).st.wallet sqWethName = some b' ∧
          bal (step NumCtx.exact e s (.buy o q)).st sqOsqthName = bal s sqOsqthName + a ∧
          (step NumCtx.exact e s (.buy o q)).out = [buyCost e a * e.uniFee, buyCost e a, a] ∧
          ∀ t, t ≠ sqWethName → t ≠ sqOsqthName →
            AList.get? (step NumCtx.exact e s (.buy o q)).st.wallet t = AList.get? s.wallet t) := by
  have hstep : step NumCtx.exact e s (.buy o q) = buySqueethOp NumCtx.exact e s o q := rfl
  rw [hstep] at h ⊢
  obtain ⟨a, hl, h0 | ⟨ha, hp, hf, hc, w1, _, _, hd, hw, hout, _⟩⟩ := buy_ok_exact e s o q h
  · exact ⟨a, hl, fun _ => h0.2, fun ha => absurd h0.1 ha⟩
  · refine ⟨a, hl, fun h0 => absurd h0 ha, fun _ => ⟨hp, hf, hc, ?_⟩⟩
    have hgot : (buyCost e a - buyCost e a * e.uniFee) * (1 / e.uniPrice) = a := by
      unfold buyCost; field_simp
    rw [hgot] at hw hout
    obtain ⟨b, b', hb, hsub, hb', hbt, hoth⟩ := bal_swap (got := a) osqth_ne_weth hd
    unfold bal
    rw [hw]
    exact ⟨b, b', hb, hsub, hb', hbt, hout, hoth⟩

/-- **sell**: an accepted `sell_squeeth` of `a ≠ 0` oSQTH has `a ≥ 0`, debits the wallet's oSQTH by `a` (`Asset.sub`), credits exactly
    `a·(1−f)·p` WETH, reports `(fee, sold, got) = (f·a, a, a·(1−f)·p)` and touches no other token; with `a = 0` nothing happens -/
theorem C14_sell_moves_exactly (e : Env) (s : State) (o q : Option Rat)
    (h : (step NumCtx.exact e s (.sell o q)).err = none) :
    ∃ a, longAmount NumCtx.exact e o q = .ok (some a) ∧ 0 ≤ a ∧
      (a = 0 → step NumCtx.exact e s (.sell o q) = .ok s [0, 0, 0]) ∧
      (a ≠ 0 →
        ∃ b b', AList.get? s.wallet sqOsqthName = some b ∧ assetSub NumCtx.exact b a false = some b' ∧
          AList.get? (step NumCtx.exact e s (.sell o q)).st.wallet sqOsqthName = some b' ∧
          bal (step NumCtx.exact e s (.sell o q)).st sqWethName = bal s sqWethName + (a - a * e.uniFee) * e.uniPrice ∧
          (step NumCtx.exact e s (.sell o q)).out = [a * e.uniFee, a, (a - a * e.uniFee) * e.uniPrice] ∧
          ∀ t, t ≠ sqWethName → t ≠ sqOsqthName →
            AList.get? (step NumCtx.exact e s (.sell o q)).st.wallet t = AList.get? s.wallet t) := by
  have hstep : step NumCtx.exact e s (.sell o q) = sellSqueethOp NumCtx.exact e s o q := rfl
  rw [hstep] at h ⊢
  obtain ⟨a, hl, h0 | ⟨ha, ha0, w1, _, _, hd, hw, hout, _⟩⟩ := sell_ok_exact e s o q h
  · exact ⟨a, hl, by rw [h0.1], fun _ => h0.2, fun ha => absurd h0.1 ha⟩
  · refine ⟨a, hl, ha0, fun h0 => absurd h0 ha, fun _ => ?_⟩
    obtain ⟨b, b', hb, hsub, hb', hbt, hoth⟩ := bal_swap (got := (a - a * e.uniFee) * e.uniPrice) weth_ne_osqth hd
    unfold bal
    rw [hw]
    exact ⟨b, b', hb, hsub, hb', hbt, hout, fun t h1 h2 => hoth t h2 h1⟩

namespace Squeeth
def longEnv : Env := { nf := 1/2, weth := 2000, osqth := 1/10, now := none, rows := [], uniPrice := 1/10, uniOpen := true, mean := fun _ => 0 }
def longState : State := { wallet := [("WETH", 100), ("OSQTH", 5)], vaults := [(1, { coll := 3, short := 10, nft := none })], maxId := 1,
                           positions := [], log := [] }
end Squeeth
-- 997 oSQTH at 0.1 and a fee of 0.3 % cost exactly 100 WETH
example : (step NumCtx.exact longEnv longState (.buy (some 997) none)).err = none := by decide +kernel
example : (step NumCtx.exact longEnv longState (.buy (some 997) none)).st.wallet = [("WETH", 0), ("OSQTH", 1002)] := by decide +kernel
example : (step NumCtx.exact longEnv longState (.buy (some 997) none)).out = [3/10, 100, 997] := by decide +kernel
example : (step NumCtx.exact longEnv longState (.buy (some 997) none)).st.vaults = longState.vaults := by decide +kernel
-- one more oSQTH is refused; 99.7 ETH / 0.1 is the same 997 oSQTH
example : (step NumCtx.exact longEnv longState (.buy (some 998) none)).err = some (.uni .assertion) := by decide +kernel
example : (step NumCtx.exact longEnv longState (.buy none (some (997/10)))).out = [3/10, 100, 997] := by decide +kernel
-- selling the 5 oSQTH brings 5 · 0.997 · 0.1 WETH
example : (step NumCtx.exact longEnv longState (.sell (some 5) none)).st.wallet = [("WETH", 100 + 997/2000), ("OSQTH", 0)] := by decide +kernel
example : (step NumCtx.exact longEnv longState (.sell (some 6) none)).err = some (.uni .assertion) := by decide +kernel
example : PoolOk longEnv := ⟨by norm_num [longEnv], by norm_num [longEnv]⟩

end Demeter
