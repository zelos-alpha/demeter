/-
  C14, amounts — vault amounts (and wallet balances) never go negative, whatever operation is called with whatever
  arguments, accepted or rejected, alone or in a sequence along any price path.
-/
import Proofs.Lemmas.SqueethInv
namespace Demeter
open Squeeth Gen

/-- one operation — any operation of the model, any arguments (negative, oversized, unknown keys), accepted or
    rejected — keeps every vault's collateral and debt, every wallet balance and every pending amount ≥ 0.
    The only thing asked of the market data is a non-negative oSQTH TWAP — and, when the operation is a trade of the long
    side (`buy_squeeth` / `sell_squeeth`), a non-negative pool price and a pool fee rate ≤ 1 (`PoolOk`; nothing is asked of the
    pool for any other operation). -/
theorem C14_amounts_never_negative (e : Env) (s : State) (op : Op) (hp : 0 ≤ twap e .osqth)
    (hq : op.isTrade = true → PoolOk e) (h : Inv s) : Inv (step NumCtx.exact e s op).st :=
  step_pres h (stepBody_inv e s op hp hq h)

/-- … and so does every sequence of operations along every price / norm-factor path -/
theorem C14_amounts_never_negative_along_paths (s : State) (hist : List (Env × Op))
    (hp : ∀ eo ∈ hist, 0 ≤ twap eo.1 .osqth) (hq : ∀ eo ∈ hist, eo.2.isTrade = true → PoolOk eo.1) (h : Inv s) :
    Inv (runOps NumCtx.exact s hist) :=
  runOps_keeps hist (fun eo heo s => C14_amounts_never_negative eo.1 s eo.2 (hp eo heo) (hq eo heo)) s h

/-- in particular: every vault of every reachable state has `collateral ≥ 0` and `debt ≥ 0` -/
theorem C14_vault_amounts_nonneg (s : State) (hist : List (Env × Op)) (hp : ∀ eo ∈ hist, 0 ≤ twap eo.1 .osqth)
    (hq : ∀ eo ∈ hist, eo.2.isTrade = true → PoolOk eo.1)
    (h : Inv s) (vk : Nat) (v : Vault) (hv : AList.get? (runOps NumCtx.exact s hist).vaults vk = some v) :
    0 ≤ v.coll ∧ 0 ≤ v.short :=
  (C14_amounts_never_negative_along_paths s hist hp hq h).vault hv

example : Inv { wallet := [("WETH", 100), ("OSQTH", 0)], vaults := [(1, { coll := 3, short := 10, nft := none })], maxId := 1,
                positions := [((18000, 21000), { liquidity := 10^19, pending0 := 0, pending1 := 1/5, transferred := false })], log := [] } := by
  refine ⟨?_, ?_, ?_⟩ <;> intro a ha <;> simp at ha
  · rcases ha with rfl | rfl <;> norm_num
  · subst ha; exact ⟨by norm_num, by norm_num⟩
  · subst ha; exact ⟨by norm_num, by norm_num⟩

end Demeter
