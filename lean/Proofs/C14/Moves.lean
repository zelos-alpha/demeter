/-
  C14, exact movements — minting, burning, depositing and withdrawing move exactly the stated oSQTH and ETH between
  wallet and vault (`open_deposit_mint` = mint ; deposit ; LP deposit ; check and `burn_and_withdraw` = burn ;
  withdraw ; check are compositions of these four, see Demeter.Squeeth.openBody / burnWithdrawBody).
-/
import Proofs.Lemmas.SqueethBodies
import Proofs.Lemmas.AssetSub
namespace Demeter
open Squeeth Gen

/-- **wallet debit** (C14: the oSQTH and ETH an operation takes from the wallet): an accepted `Asset.sub` without overdraft
    leaves the exact difference, or zero when the remainder is dust (below 1e-5 of the balance; of the amount, when the
    balance is zero), or an empty balance untouched by a zero amount.  This is what `assetSub … = some b'` says in the
    deposit and burn theorems below and in the buy and sell theorems of `C14/Long`. -/
theorem C14_debit_exact_or_dust (b amt b' : Rat) (h : assetSub NumCtx.exact b amt false = some b') :
    (b' = b - amt ∧ 0 ≤ b - amt) ∨ (b' = 0 ∧ b ≠ 0 ∧ ratAbs ((b - amt) / b) < assetDust) ∨ (b' = b ∧ b = 0 ∧ amt = 0) ∨
    (b' = 0 ∧ b = 0 ∧ ratAbs ((0 - amt) / amt) < assetDust) := by
  rcases assetSub_cases _ h with h1 | ⟨e, _, hd⟩ | h3
  · exact Or.inl h1
  · by_cases hb : b ≠ 0
    · rw [if_pos hb] at hd
      exact Or.inr (Or.inl ⟨e, hb, hd⟩)
    · rw [if_neg hb, not_not.mp hb] at hd
      exact Or.inr (Or.inr (Or.inr ⟨e, not_not.mp hb, hd⟩))
  · exact Or.inr (Or.inr (Or.inl h3))

/-- **mint** (`open_deposit_mint` with `osqth_mint_amount > 0`): the vault's debt and the wallet's oSQTH both grow by
    exactly the minted amount; collateral, LP reference, other vaults, other tokens and the pool are untouched -/
theorem C14_mint_moves_exactly (s : State) (vk : Nat) (v : Vault) (m : Rat) (hm : 0 < m)
    (hv : AList.get? s.vaults vk = some v) :
    (mintBody NumCtx.exact s vk m).err = none ∧
    AList.get? (mintBody NumCtx.exact s vk m).st.vaults vk = some { v with short := v.short + m } ∧
    bal (mintBody NumCtx.exact s vk m).st sqOsqthName = bal s sqOsqthName + m ∧
    (∀ k, k ≠ vk → AList.get? (mintBody NumCtx.exact s vk m).st.vaults k = AList.get? s.vaults k) ∧
    (∀ t, t ≠ sqOsqthName → AList.get? (mintBody NumCtx.exact s vk m).st.wallet t = AList.get? s.wallet t) ∧
    (mintBody NumCtx.exact s vk m).st.positions = s.positions := by
  rcases mintBody_ok (cx := NumCtx.exact) (s := s) (vk := vk) (m := m) (by unfold mintBody; rw [if_pos hm, hv]; rfl) with
    ⟨hn, _⟩ | ⟨v', _, hv', hr⟩
  · exact absurd hm hn
  · rw [hv] at hv'
    cases hv'
    rw [hr]
    exact ⟨rfl, setVault_get_self .., bal_creditW (s.setVault vk _) _ m, fun k hk => setVault_get_other _ _ _ _ hk,
      fun t ht => Wallet.get?_credit_ne _ _ ht _, rfl⟩

/-- **deposit**: an accepted `deposit(vault, eth)` has `eth ≥ 0`, raises the vault's collateral by exactly `eth` and
    debits the wallet's WETH by `eth` (`Asset.sub`: exactly, or to zero within dust — `C14_debit_exact_or_dust`); debt, LP reference, other
    vaults, other tokens and the pool are untouched -/
theorem C14_deposit_moves_exactly (s : State) (vk : Nat) (eth : Rat) (h : (depositBody NumCtx.exact s vk eth).err = none) :
    ∃ v b b', AList.get? s.vaults vk = some v ∧ 0 ≤ eth ∧
      AList.get? (depositBody NumCtx.exact s vk eth).st.vaults vk = some { v with coll := v.coll + eth } ∧
      AList.get? s.wallet sqWethName = some b ∧ assetSub NumCtx.exact b eth false = some b' ∧
      AList.get? (depositBody NumCtx.exact s vk eth).st.wallet sqWethName = some b' ∧
      (∀ k, k ≠ vk → AList.get? (depositBody NumCtx.exact s vk eth).st.vaults k = AList.get? s.vaults k) ∧
      (∀ t, t ≠ sqWethName → AList.get? (depositBody NumCtx.exact s vk eth).st.wallet t = AList.get? s.wallet t) ∧
      (depositBody NumCtx.exact s vk eth).st.positions = s.positions := by
  obtain ⟨v, s2, he, hv, hd, hr⟩ := depositBody_ok h
  obtain ⟨w, hw, rfl⟩ := debitW_ok hd
  obtain ⟨b, b', hb, hsub, hb', hoth⟩ := debit_ok hw
  rw [hr]
  exact ⟨v, b, b', hv, he, setVault_get_self .., hb, hsub, hb', fun k hk => setVault_get_other _ _ _ _ hk, hoth, rfl⟩

/-- **burn** (`burn_and_withdraw` with `osqth_burn_amount > 0`): the amount burned is `min(requested, debt)` — never
    more than the vault owes —, the debt falls by exactly that and the wallet's oSQTH is debited by exactly that -/
theorem C14_burn_moves_exactly (s : State) (vk : Nat) (burn : Rat) (hb : 0 < burn)
    (h : (burnBody NumCtx.exact s vk burn).err = none) :
    ∃ v b b', AList.get? s.vaults vk = some v ∧
      AList.get? (burnBody NumCtx.exact s vk burn).st.vaults vk = some { v with short := v.short - min burn v.short } ∧
      AList.get? s.wallet sqOsqthName = some b ∧ assetSub NumCtx.exact b (min burn v.short) false = some b' ∧
      AList.get? (burnBody NumCtx.exact s vk burn).st.wallet sqOsqthName = some b' ∧
      (∀ k, k ≠ vk → AList.get? (burnBody NumCtx.exact s vk burn).st.vaults k = AList.get? s.vaults k) ∧
      (∀ t, t ≠ sqOsqthName → AList.get? (burnBody NumCtx.exact s vk burn).st.wallet t = AList.get? s.wallet t) ∧
      (burnBody NumCtx.exact s vk burn).st.positions = s.positions := by
  rcases burnBody_ok h with ⟨hn, _⟩ | ⟨v, s2, _, hv, hd, hr⟩
  · exact absurd hb hn
  · obtain ⟨w, hw, rfl⟩ := debitW_ok hd
    obtain ⟨b, b', hb1, hsub, hb', hoth⟩ := debit_ok hw
    rw [hr]
    refine ⟨v, b, b', hv, ?_, hb1, hsub, hb', fun k hk => setVault_get_other _ _ _ _ hk, hoth, rfl⟩
    rw [← ite_ge_sub_eq]
    exact setVault_get_self ..

/-- **withdraw** (`_withdraw_collateral`, `withdraw_eth_amount > 0`): the amount paid out is `min(requested, collateral)`
    — never more than the vault holds —, the collateral falls by exactly that, the wallet's WETH grows by exactly
    that, and the call is accepted only if the vault is then safe and not dust -/
theorem C14_withdraw_moves_exactly (e : Env) (s : State) (vk : Nat) (amount : Rat)
    (h : (withdrawCollBody NumCtx.exact e s vk amount).err = none) :
    ∃ v, AList.get? s.vaults vk = some v ∧
      AList.get? (withdrawCollBody NumCtx.exact e s vk amount).st.vaults vk = some { v with coll := v.coll - min amount v.coll } ∧
      bal (withdrawCollBody NumCtx.exact e s vk amount).st sqWethName = bal s sqWethName + min amount v.coll ∧
      (∀ k, k ≠ vk → AList.get? (withdrawCollBody NumCtx.exact e s vk amount).st.vaults k = AList.get? s.vaults k) ∧
      (∀ t, t ≠ sqWethName → AList.get? (withdrawCollBody NumCtx.exact e s vk amount).st.wallet t = AList.get? s.wallet t) ∧
      (withdrawCollBody NumCtx.exact e s vk amount).st.positions = s.positions ∧
      vaultStatus NumCtx.exact e (withdrawCollBody NumCtx.exact e s vk amount).st vk = .ok (true, false) := by
  obtain ⟨v, s1, hv, rfl, hs, hr⟩ := withdrawCollBody_ok h
  rw [hr]
  exact ⟨v, hv, setVault_get_self .., bal_creditW (s.setVault vk _) _ _, fun k hk => setVault_get_other _ _ _ _ hk,
    fun t ht => Wallet.get?_credit_ne _ _ ht _, rfl, hs⟩

def Squeeth.movesState : State :=
  { wallet := [("WETH", 10)], vaults := [(1, { coll := 3, short := 10, nft := none })], maxId := 1, positions := [], log := [] }
example : (mintBody NumCtx.exact movesState 1 5).st.wallet = [("WETH", 10), ("OSQTH", 5)] := by decide +kernel
example : assetSub NumCtx.exact 10 (9999999/1000000) false = some 0 := by decide +kernel   -- dust snap
example : assetSub NumCtx.exact 10 4 false = some 6 := by decide +kernel

end Demeter
