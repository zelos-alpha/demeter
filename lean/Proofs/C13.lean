/-
  C13 — every derived Aave view always equals a from-scratch recomputation.

  Model: `Demeter.Aave` (the five `DictCache`s are part of the state, every public read is an operation that may
  fill caches, every write resets what the code resets — `/repo/demeter/aave/market.py` after the repairs
  304deb1 `change_collateral` resets `_supplies_cache`, 07ef1e2 `withdraw` undoes its trial deduction,
  c25cbec a cache is filled only after every entry could be computed).
  Spec: `specView` (`Demeter/Aave/Spec.lean`) — pure functions of `_supplies`, `_borrows`, the bar's indices,
  rates, prices and the risk table; no cache involved.

  All theorems hold for **every arithmetic context** `cx` (rounding is irrelevant to coherence).
  Hypotheses: `EnvOK` (a token listed in the bar's data has a price and a risk row), `EnvPos` (non-zero indices),
  and on a bar change the new bar's data covers the tokens held.  No raise is excluded: the
  `DemeterError("variable_delt < actual_debt_to_liquidate")` of `_do_liquidate` is checked before anything is changed, so
  whatever `update()` raises, it leaves a coherent state.
-/
import Proofs.Lemmas.AaveEffect
import Proofs.Lemmas.AaveLiqCoh
import Mathlib.Tactic.NormNum
namespace Demeter
open Aave

variable {cx : ACtx} {env : Env}

/-- **one step keeps coherence** — every operation (public read, supply, withdraw, borrow, repay with cash or
    collateral, change_collateral, end-of-bar liquidation), accepted or rejected, maps a coherent state to a
    coherent state. -/
theorem C13_step_coherent (hE : EnvOK env) (hP : EnvPos env) (s : St) (hs : Good cx env s) (op : Op)
    (hop : op ≠ .newBar) :
    Good cx env (step cx env s op).2 := by
  cases op with
  | supply t a c => exact Inv.unitM (inv_supply hE t a c) s hs
  | withdraw t a => exact Inv.unitM (inv_withdraw t a) s hs
  | borrow t a => exact Inv.unitM (inv_borrow hE t a) s hs
  | repay t a w c => exact Inv.unitM (inv_repay t a w c) s hs
  | changeCollateral t c => exact Inv.unitM (inv_changeCollateral t c) s hs
  | update => exact Inv.unitM (inv_liquidate hE hP) s hs
  | read v => exact (reads_readView (cx := cx) (env := env) v s).1.2 hs
  | newBar => exact absurd rfl hop

/-- **a new bar**: `set_market_status` resets all five caches, so the state is coherent for the new bar's data
    as soon as that data covers the tokens held. -/
theorem C13_newBar_coherent {env' : Env} (s : St) (hs : Good cx env s)
    (c1 : Covers env' s.supplies) (c2 : Covers env' s.borrows) : Good cx env' (step cx env' s .newBar).2 :=
  good_newBar hs.1.nd hs.2.nd c1 c2

/-- **every public read = recomputation from scratch** in a coherent state, whatever mixture of cold and
    filled caches it meets; the read itself changes neither the positions nor coherence. -/
theorem C13_read_eq_scratch (s : St) (hs : Good cx env s) (v : View) :
    (step cx env s (.read v)).1 = specView cx env s.supplies s.borrows v ∧
    (step cx env s (.read v)).2.supplies = s.supplies ∧ (step cx env s (.read v)).2.borrows = s.borrows := by
  have h := reads_readView (cx := cx) (env := env) v s
  exact ⟨h.2 hs, h.1.sup, h.1.bor⟩

/-- the states a market object can be in: start empty, then any interleaving of operations within a bar and
    of bar changes (the bar's data always lists the tokens held) -/
inductive AaveReachable (cx : ACtx) : Env → St → Prop
  | init {env : Env} : EnvOK env → EnvPos env → AaveReachable cx env St.init
  | step {env : Env} {s : St} (op : Op) : AaveReachable cx env s → op ≠ .newBar →
      AaveReachable cx env (step cx env s op).2
  | newBar {env env' : Env} {s : St} : AaveReachable cx env s → EnvOK env' → EnvPos env' →
      Covers env' s.supplies → Covers env' s.borrows → AaveReachable cx env' (step cx env' s .newBar).2

/-- **coherence is an invariant of every history**: reads, writes, rejected calls, liquidations and bar changes
    in any order. -/
theorem C13_coherent (s : St) (h : AaveReachable cx env s) : EnvOK env ∧ EnvPos env ∧ Good cx env s := by
  induction h with
  | init hE hP => exact ⟨hE, hP, good_init_wallet []⟩
  | step op _ hop ih => exact ⟨ih.1, ih.2.1, C13_step_coherent ih.1 ih.2.1 _ ih.2.2 op hop⟩
  | newBar _ hE hP c1 c2 ih => exact ⟨hE, hP, C13_newBar_coherent _ ih.2.2 c1 c2⟩

/-- **the property**: after any such history, every derived view read from the market equals what is recomputed
    from scratch from the current positions, indices and prices. -/
theorem C13_view_eq_scratch (s : St) (h : AaveReachable cx env s) (v : View) :
    (step cx env s (.read v)).1 = specView cx env s.supplies s.borrows v :=
  (C13_read_eq_scratch s (C13_coherent s h).2.2 v).1

/-- **read–write–read interleavings inside one bar**: from a coherent state, after any list of operations
    (accepted, rejected or raising), any view read equals the recomputation on the positions reached. -/
theorem C13_interleaving (hE : EnvOK env) (hP : EnvPos env) (ops : List Op) : ∀ (s : St), Good cx env s →
    (∀ op ∈ ops, op ≠ .newBar) →
    ∀ v, (step cx env (runOps cx env s ops) (.read v)).1 =
      specView cx env (runOps cx env s ops).supplies (runOps cx env s ops).borrows v :=
  fun s hs hnb v => (C13_read_eq_scratch _
    (runOps_keeps ops (fun op ho s hs => C13_step_coherent hE hP s hs op (hnb op ho)) s hs) v).1

/-- the recomputed per-token supply value is `base × liquidity_index × price` (each product rounded by `cx`) -/
theorem C13_supplies_value_formula (sup : AList String SupplyInfo) (vs : AList String Rat)
    (h : specSupAmt cx env sup = .ok vs) (hnd : (keys sup).Nodup) (k : String) (info : SupplyInfo)
    (hk : AList.get? sup k = some info) :
    ∃ st p, env.statusOf k = .ok st ∧ env.priceOf k = .ok p ∧
      AList.get? vs k = some (cx.mul (cx.mul info.base st.liqIdx) p) := by
  obtain ⟨x, hx1, hx2⟩ := scratchMap_get h hnd (AList.mem_of_get? hk)
  obtain ⟨st, p, hst, hp, rfl⟩ := valOf_eq_of_ok hx1
  exact ⟨st, p, hst, hp, hx2⟩

/-- the listed supplies carry the collateral flag stored in `_supplies` (the view that was stale before 304deb1) -/
theorem C13_supplies_flag (sup : AList String SupplyInfo) (svs : AList String SupplyV)
    (h : specSupplies cx env sup = .ok svs) (hnd : (keys sup).Nodup) (k : String) (info : SupplyInfo)
    (hk : AList.get? sup k = some info) : ∃ sv, AList.get? svs k = some sv ∧ sv.coll = info.coll ∧ sv.base = info.base := by
  obtain ⟨x, hx1, hx2⟩ := scratchMap_get h hnd (AList.mem_of_get? hk)
  refine ⟨x, hx2, ?_⟩
  obtain ⟨st, _, hx1⟩ := Exc.bind_ok.mp hx1
  obtain ⟨val, _, hx1⟩ := Exc.bind_ok.mp hx1
  cases hx1
  exact ⟨rfl, rfl⟩

def c13Env : Env :=
  { status := [("WETH", ⟨1/100, 3/100, 11/10, 12/10⟩), ("USDC", ⟨1/100, 3/100, 1, 1⟩)],
    price := [("WETH", 1000), ("USDC", 1)],
    risk := [("WETH", ⟨true, 8/10, 825/1000, 5/100, true⟩), ("USDC", ⟨true, 8/10, 85/100, 4/100, true⟩)],
    isOpen := true }

example : EnvOK c13Env := by
  intro k st h
  unfold Env.statusOf c13Env at h
  by_cases h1 : k = "WETH"
  · subst h1; exact ⟨⟨_, rfl⟩, ⟨_, rfl⟩, ⟨_, rfl⟩⟩
  · by_cases h2 : k = "USDC"
    · subst h2; exact ⟨⟨_, rfl⟩, ⟨_, rfl⟩, ⟨_, rfl⟩⟩
    · exfalso
      simp [AList.get?_cons, optRes, Ne.symm h1, Ne.symm h2] at h

/-- a non-trivial coherent state: a collateral supply, a debt, one warm cache holding the recomputed value
    (10 × 1.1 × 1000 = 11000) and the others cold -/
example : ∃ s : St, s.supplies ≠ [] ∧ s.borrows ≠ [] ∧ s.supAmtC.empty = false ∧
    (∀ cx : ACtx, cx.rnd = id → Good cx c13Env s) := by
  refine ⟨{ St.init with supplies := [("WETH", ⟨10, true, 1⟩)], borrows := [("USDC", ⟨100, 1⟩)],
                          supAmtC := ⟨false, [("WETH", 11000)]⟩ }, by simp, by simp, rfl, ?_⟩
  intro cx hcx
  have hd : ∀ k, k = "WETH" ∨ k = "USDC" → HasData c13Env k := by
    intro k hk
    rcases hk with h | h <;> subst h <;> exact ⟨⟨_, rfl⟩, ⟨_, rfl⟩, ⟨_, rfl⟩⟩
  refine ⟨⟨by simp [keys], ?_, ?_, CohC.fresh _, CohC.fresh _⟩, ⟨by simp [keys], ?_, CohC.fresh _, CohC.fresh _⟩⟩
  · intro k hk; simp [keys] at hk; exact hd k (Or.inl hk)
  · refine Or.inr ⟨[("WETH", 11000)], ?_, rfl⟩
    simp [AList.get?_cons_self, specSupAmt, scratchMap, supValOf, Env.statusOf, Env.priceOf, c13Env, optRes, NumCtx.mul, hcx,
      bind, Except.bind, pure, Except.pure]
    norm_num
  · intro k hk; simp [keys] at hk; exact hd k (Or.inr hk)

end Demeter
