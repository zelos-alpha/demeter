/-
  C12 — Aave liquidation, the loop: theorems about `Demeter.AaveRisk.liquidate` (= `AaveV3Market.update()` →
  `_liquidate`, as repaired: the loop ends once no unvisited debt is left; debts of any size are candidates).

  The loop's bookkeeping (fuel, each debt once, how it can end) holds for every arithmetic context.  In the exact context,
  for a well-formed portfolio, no exception leaves `update()` and the recorded actions are a chain (`Trace`) of successful
  `_do_liquidate` steps each taken while `0 < HF < 1`, to which the step theorems of `Proofs/C12.lean` apply.
-/
import Proofs.C12
import Proofs.Lemmas.AaveRiskLoop
namespace Demeter
open AaveRisk

namespace AaveRisk

inductive Trace : Portfolio → List LiqAction → Portfolio → Prop
  | nil (p : Portfolio) : Trace p [] p
  | step {p : Portfolio} {c : Supply} {d : Debt} {p' : Portfolio} {a : LiqAction} {as : List LiqAction} {p'' : Portfolio} :
      liqCond NumCtx.exact p = true → StepOk p c d (d.value NumCtx.exact) p' a → Trace p' as p'' → Trace p (a :: as) p''

theorem liqLoop_exact_inv : ∀ (fuel : Nat) (p : Portfolio) (vis : List String) (acts : List LiqAction), p.WF →
    (liqLoop NumCtx.exact fuel p vis acts).err = none
    ∧ ∃ as, (liqLoop NumCtx.exact fuel p vis acts).actions = acts ++ as
        ∧ Trace p as (liqLoop NumCtx.exact fuel p vis acts).p := by
  refine liqLoop_induct NumCtx.exact (motive := fun _ p _ acts r =>
    p.WF → r.err = none ∧ ∃ as, r.actions = acts ++ as ∧ Trace p as r.p) ?_ ?_ ?_ ?_ ?_ ?_ ?_
  · intro _ p _ acts _ _
    exact ⟨rfl, [], (List.append_nil _).symm, Trace.nil p⟩
  · intro _ p _ acts _ _ _
    exact ⟨rfl, [], (List.append_nil _).symm, Trace.nil p⟩
  · intro p _ acts _ _ _ _ _
    exact ⟨rfl, [], (List.append_nil _).symm, Trace.nil p⟩
  · intro _ p _ _ _ _ hc _ hpc hwf
    exact absurd hpc (pickColl_ne_none hwf hc)
  · intro _ p _ acts d v c p' a r hc hpd hpc hdo ih hwf
    obtain ⟨hd, _, hv⟩ := pickDebt_some hpd
    subst hv
    have hok : StepOk p c d (d.value NumCtx.exact) p' a :=
      ⟨hwf, (pickColl_some hpc).1, hd, hwf.debt_value_nonneg hd, hdo⟩
    obtain ⟨h1, as, h3, h4⟩ := ih (C12_amounts_nonneg hok).2.2.2.2
    exact ⟨h1, a :: as, by rw [h3, List.append_assoc]; rfl, Trace.step hc hok h4⟩
  · intro _ _ _ _ _ _ _ _ _ _ _ _ ih hwf
    exact ih hwf
  · intro _ p _ _ d _ c e q _ hpd hpc hdo hwf
    exact absurd hdo (doLiquidate_not_raised hwf (pickColl_some hpc).1 (pickDebt_some hpd).1 e q)

theorem liquidate_exact_inv {p : Portfolio} (hwf : p.WF) :
    (liquidate NumCtx.exact p).err = none ∧ (liquidate NumCtx.exact p).p.WF
    ∧ Trace p (liquidate NumCtx.exact p).actions (liquidate NumCtx.exact p).p := by
  obtain ⟨h1, as, h3, h4⟩ := liqLoop_exact_inv (p.debts.length + 1) p [] [] hwf
  exact ⟨h1, (liqLoop_baseOnly _ _ p [] [] .refl).wf hwf, by rw [show (liquidate NumCtx.exact p).actions = as from h3]; exact h4⟩

end AaveRisk

/-- **Only below 1.**  Unless `0 < HF < 1` (with `HEALTH_FACTOR_LIQUIDATION_THRESHOLD = 1`) `update()` changes nothing
    and records nothing — in every arithmetic context. -/
theorem C12_no_liquidation_unless_below_one (cx : NumCtx) (p : Portfolio) (h : liqCond cx p = false) :
    liquidate cx p = ⟨p, [], [], none, false⟩ ∧ Gen.arHfLiqThreshold = 1 :=
  ⟨liqLoop_stop _ _ _ h, rfl⟩

/-- **Liquidated iff HF < 1.**  For a well-formed portfolio whose debt entries are positive, `update()` records at
    least one liquidation if and only if the health factor at the end of the bar is finite and in (0, 1).
    (HF = 0 with debt means there is no collateral to seize, `no_collateral_of_weightedLt_nonpos`.) -/
theorem C12_liquidates_iff (p : Portfolio) (hwf : p.WF) (hpos : ∀ d ∈ p.debts, 0 < d.base) :
    (liquidate NumCtx.exact p).actions ≠ [] ↔ ∃ x, healthFactor NumCtx.exact p = some x ∧ 0 < x ∧ x < 1 := by
  rw [← liqCond_iff]
  constructor
  · intro h
    by_contra hcon
    rw [(C12_no_liquidation_unless_below_one _ p (Bool.not_eq_true _ ▸ hcon)).1] at h
    exact h rfl
  · intro hc
    unfold liquidate
    cases hpd : pickDebt NumCtx.exact p.debts [] with
    | none =>
      -- no debt at all: `0 < Σ_coll value·LT < Σ debt = 0`
      have hD := (liqCond_exact_iff hwf.totalDebt_nonneg).mp hc
      have hnil : p.debts = [] := List.eq_nil_iff_forall_not_mem.mpr (fun d hd => by simpa using (pickDebt_cases _ _ _).1 hpd d hd)
      rw [totalDebt_sum, hnil] at hD
      exact absurd (hD.1.trans hD.2) (lt_irrefl _)
    | some y =>
      obtain ⟨d, v⟩ := y
      obtain ⟨hd, _, hv⟩ := pickDebt_some hpd
      subst hv
      cases hpc : (pickColl NumCtx.exact p.supplies).1 with
      | none => exact absurd hpc (pickColl_ne_none hwf hc)
      | some c =>
        obtain ⟨hcm, hcc⟩ := pickColl_some hpc
        cases hdo : doLiquidate NumCtx.exact p c d (d.value NumCtx.exact) with
        | rejected => exact absurd hdo (doLiquidate_not_rejected hwf hcm hcc hd (hpos d hd))
        | raised e q => exact absurd hdo (doLiquidate_not_raised hwf hcm hd e q)
        | done p' a =>
          rw [liqLoop_done _ _ hc hpd hpc hdo]
          have hok : StepOk p c d (d.value NumCtx.exact) p' a := ⟨hwf, hcm, hd, hwf.debt_value_nonneg hd, hdo⟩
          obtain ⟨_, as, h3, _⟩ := liqLoop_exact_inv p.debts.length p' ([] ++ [d.tok]) ([] ++ [a])
            (C12_amounts_nonneg hok).2.2.2.2
          rw [h3]; simp

/-- **The model's fuel is enough**: the loop runs at most once per debt, in every arithmetic context (so the
    `while` loop of `_liquidate` terminates). -/
theorem C12_fuel_suffices (cx : NumCtx) (p : Portfolio) : (liquidate cx p).outOfFuel = false :=
  (liquidate_inv cx p).1

/-- **Every debt visited at most once**, in every arithmetic context: `has_liquidated` has no duplicates, the debt
    tokens of the recorded actions are distinct and form a subsequence of it, and there are at most `#debts` attempts. -/
theorem C12_each_debt_once (cx : NumCtx) (p : Portfolio) :
    (liquidate cx p).visited.Nodup
    ∧ ((liquidate cx p).actions.map (·.debtTok)).Sublist (liquidate cx p).visited
    ∧ ((liquidate cx p).actions.map (·.debtTok)).Nodup
    ∧ (liquidate cx p).visited.length ≤ p.debts.length
    ∧ (liquidate cx p).actions.length ≤ p.debts.length := by
  obtain ⟨_, h2, h3, h4, _⟩ := liquidate_inv cx p
  refine ⟨h2, h3, h3.nodup h2, h4, ?_⟩
  have := h3.length_le
  rw [List.length_map] at this
  omega

/-- **How the loop can end**, in every arithmetic context: if no exception leaves `update()`, then either the loop
    condition `0 < HF < 1` is false at the end, or every remaining debt has been visited. -/
theorem C12_ends (cx : NumCtx) (p : Portfolio) (h : (liquidate cx p).err = none) :
    liqCond cx (liquidate cx p).p = false ∨ ∀ d ∈ (liquidate cx p).p.debts, d.tok ∈ (liquidate cx p).visited :=
  (liquidate_inv cx p).2.2.2.2 h

/-- **Termination without error.**  On a well-formed portfolio (exact context) `update()` raises nothing, leaves a
    well-formed portfolio and ends with: no debt (HF infinite), HF ≥ 1, no collateral left, or every remaining debt
    visited (once, `C12_each_debt_once`). -/
theorem C12_terminates (p : Portfolio) (hwf : p.WF) :
    (liquidate NumCtx.exact p).err = none ∧ (liquidate NumCtx.exact p).outOfFuel = false
    ∧ (liquidate NumCtx.exact p).p.WF
    ∧ (healthFactor NumCtx.exact (liquidate NumCtx.exact p).p = none
       ∨ (∃ x, healthFactor NumCtx.exact (liquidate NumCtx.exact p).p = some x ∧ 1 ≤ x)
       ∨ (∀ s ∈ collaterals (liquidate NumCtx.exact p).p, s.base = 0)
       ∨ (∀ d ∈ (liquidate NumCtx.exact p).p.debts, d.tok ∈ (liquidate NumCtx.exact p).visited)) := by
  have hinv := liquidate_exact_inv hwf
  refine ⟨hinv.1, C12_fuel_suffices _ p, hinv.2.1, ?_⟩
  rcases C12_ends NumCtx.exact p hinv.1 with hc | hall
  · rw [← Bool.not_eq_true, liqCond_exact_iff hinv.2.1.totalDebt_nonneg, not_and_or, not_lt, not_lt] at hc
    rcases hc with hw | hh
    · exact .inr (.inr (.inl (no_collateral_of_weightedLt_nonpos hinv.2.1 hw)))
    · exact ((healthy_iff_hf hinv.2.1).mp (.inr hh)).elim .inl (fun h => .inr (.inl h))
  · exact Or.inr (Or.inr (Or.inr hall))

/-- **Every recorded liquidation is a proper step**: on a well-formed portfolio the actions recorded by `update()` are a
    chain `p = p₀ →a₁ p₁ →a₂ … →aₙ pₙ = final`, each `aᵢ` the result of a successful `_do_liquidate` on entries of
    `pᵢ₋₁` (well formed, `0 < HF(pᵢ₋₁) < 1`, value to cover = the debt's value), so the step theorems of
    `Proofs/C12.lean` hold for each of them. -/
theorem C12_every_step (p : Portfolio) (hwf : p.WF) :
    Trace p (liquidate NumCtx.exact p).actions (liquidate NumCtx.exact p).p :=
  (liquidate_exact_inv hwf).2.2

namespace AaveRisk

def exLoopCheck : Bool :=
  let r := liquidate NumCtx.exact exP
  r.actions.length == 1 && r.err.isNone && !r.outOfFuel && r.visited == ["USDC"]
    && (healthFactor NumCtx.exact exP).ltB 1 && (healthFactor NumCtx.exact r.p).gtB 1

example : exLoopCheck = true := by decide +kernel
example : Trace exP (liquidate NumCtx.exact exP).actions (liquidate NumCtx.exact exP).p := C12_every_step exP exP_wf

/-- two debts, one of them cheap (price 1/2, so the value handed in as "amount to cover" is only half of the amount):
    both debts are visited, the health factor stays below 1 and the loop ends because every debt has been visited -/
def exP2 : Portfolio :=
  { supplies := [{ tok := "WETH", base := 5, coll := true, row := exRowW }],
    debts := [{ tok := "MATIC", base := 18000, row := exRowM }, { tok := "USDC", base := 100, row := exRowU }] }

def exLoopCheck2 : Bool :=
  let r := liquidate NumCtx.exact exP2
  r.actions.length == 2 && r.err.isNone && !r.outOfFuel && r.visited == ["USDC", "MATIC"]
    && (healthFactor NumCtx.exact r.p).ltB 1 && (healthFactor NumCtx.exact r.p).gtB 0 && r.p.debts.length == 1

example : exLoopCheck2 = true := by decide +kernel

end AaveRisk
end Demeter
