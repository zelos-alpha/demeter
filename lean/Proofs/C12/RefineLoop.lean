/-
  C12 — refinement of the whole end-of-bar liquidation: `update()` of the cache-carrying state machine (`Aave.liquidate`)
  simulates `update()` of the pure risk model (`AaveRisk.liquidate`) on the projected portfolio: the same sequence of
  (collateral, debt) pairs, the same amounts, the same recorded actions, the same final positions, the same exception
  class if `update()` raises — in every coherent state, for every arithmetic context, whatever caches were warm.
  The proof follows the risk model's own loop (`AaveRisk.liqLoop_induct`): each of its seven ways to go on or stop is met by
  the state machine, and `LoopSim` says what "met" means.  Every C12 theorem about `AaveRisk.liquidate` thereby speaks about
  the state machine that C13's harness compares with `AaveV3Market` step by step.
-/
import Proofs.C12.RefineStep
import Proofs.Lemmas.AaveExact
import Proofs.C12.Refine
import Proofs.C12.Loop
import Proofs.Lemmas.AaveWF
namespace Demeter
open Aave M

variable {cx : ACtx} {env : Env}

namespace Aave

structure LoopSim (env : Env) (w : Wallet) (base : List Action) (r : AaveRisk.LiqResult) (out : Res Unit × St) : Prop where
  proj : proj env out.2 = r.p
  wallet : out.2.wallet = w
  actions : out.2.actions = base ++ r.actions.map actionOf
  res : match r.err with
    | none => out.1 = .ok ()
    | some x => ∃ e, out.1 = .error e ∧ e.cls = x.name

theorem doLiquidate_picked_sim (hE : EnvOK env) {s s2 : St} (hs : Good cx env s) (hs2 : Good cx env s2)
    (hfr2 : s2.frame = s.frame) {vis : List String} {d : AaveRisk.Debt} {v : Rat} {c : AaveRisk.Supply}
    (hpd : AaveRisk.pickDebt cx.toNumCtx (proj env s).debts vis = some (d, v))
    (hpc : (AaveRisk.pickColl cx.toNumCtx (proj env s).supplies).1 = some c) :
    match AaveRisk.doLiquidate cx.toNumCtx (proj env s) c d v with
      | .done p' a => ∃ s', doLiquidate cx env (some c.tok) (some d.tok) v s2 = (.ok (), s') ∧ proj env s' = p' ∧
          s'.wallet = s.wallet ∧ s'.actions = s.actions ++ [actionOf a] ∧ Good cx env s'
      | .rejected => ∃ e s', doLiquidate cx env (some c.tok) (some d.tok) v s2 = (.error e, s') ∧ e.isAssertion = true ∧
          s'.frame = s2.frame
      | .raised x p' => ∃ e s', doLiquidate cx env (some c.tok) (some d.tok) v s2 = (.error e, s') ∧ e.cls = x.name ∧
          e.isAssertion = false ∧ proj env s' = p' ∧ s'.wallet = s.wallet ∧ s'.actions = s.actions := by
  obtain ⟨dinfo, hdg, hdeq⟩ := get_of_mem_debts_proj hs.2.nd (AaveRisk.pickDebt_some hpd).1
  obtain ⟨cinfo, hcg, hceq⟩ := get_of_mem_supplies_proj hs.1.nd (AaveRisk.pickColl_some hpc).1
  have hstep := C12_sm_doLiquidate_refines (cx := cx) hE hs2
    (show AList.get? s2.supplies c.tok = some cinfo by rw [supplies_of_frame hfr2]; exact hcg)
    (show AList.get? s2.borrows d.tok = some dinfo by rw [borrows_of_frame hfr2]; exact hdg) v
  rwa [proj_of_frame hfr2, ← hceq, ← hdeq, wallet_of_frame hfr2, actions_of_frame hfr2] at hstep

theorem liquidateLoop_sim (hE : EnvOK env) (hP : EnvPos env) (fuel : Nat) (p : AaveRisk.Portfolio) (vis : List String)
    (acts : List AaveRisk.LiqAction) :
    ∀ (s : St) (base : List Action), Good cx env s → proj env s = p → s.actions = base ++ acts.map actionOf →
      (AaveRisk.liqLoop cx.toNumCtx fuel p vis acts).outOfFuel = false →
      LoopSim env s.wallet base (AaveRisk.liqLoop cx.toNumCtx fuel p vis acts)
        (liquidateLoop cx env fuel vis (toX (AaveRisk.healthFactor cx.toNumCtx p)) s) := by
  refine AaveRisk.liqLoop_induct cx.toNumCtx (motive := fun fuel p vis acts r =>
    ∀ (s : St) (base : List Action), Good cx env s → proj env s = p → s.actions = base ++ acts.map actionOf →
      r.outOfFuel = false →
      LoopSim env s.wallet base r (liquidateLoop cx env fuel vis (toX (AaveRisk.healthFactor cx.toNumCtx p)) s))
    ?stop ?allVisited ?outOfFuel ?noColl ?done ?rejected ?raised fuel p vis acts
  case stop =>
    intro fuel p vis acts hc s base hs hp hact _
    rw [liquidateLoop_stop fuel vis hc]
    exact ⟨hp, rfl, hact, rfl⟩
  case allVisited =>
    intro fuel p vis acts hc hpd s base hs hp hact _
    subst hp
    cases fuel with
    | zero => exact ⟨rfl, rfl, hact, rfl⟩
    | succ fuel =>
      obtain ⟨s2, hs2, hfr2, hhead⟩ := C12_sm_loop_head_refines hs fuel vis hc
      rw [hhead, hpd]
      exact ⟨proj_of_frame hfr2, wallet_of_frame hfr2, (actions_of_frame hfr2).trans hact, rfl⟩
  case outOfFuel =>
    intro p vis acts d v _ _ s base _ _ _ h
    cases h
  case noColl =>
    intro fuel p vis acts d v hc hpd hpc s base hs hp hact _
    subst hp
    obtain ⟨s2, hs2, hfr2, hhead⟩ := C12_sm_loop_head_refines hs fuel vis hc
    obtain ⟨dinfo, hdg, -⟩ := get_of_mem_debts_proj hs.2.nd (AaveRisk.pickDebt_some hpd).1
    obtain ⟨s3, e3, hfr3⟩ := doLiquidate_noColl hs2 (show AList.get? s2.borrows d.tok = some dinfo by
      rw [borrows_of_frame hfr2]; exact hdg) v
    rw [hhead, hpd]
    dsimp only
    rw [hpc, Option.map_none, run_bind_err (catch_other e3 rfl)]
    have hfr := hfr3.trans hfr2
    exact ⟨proj_of_frame hfr, wallet_of_frame hfr, (actions_of_frame hfr).trans hact, .noneToken, rfl, rfl⟩
  case done =>
    intro fuel p vis acts d v c p' a r hc hpd hpc hdo ih s base hs hp hact hfuel
    subst hp
    obtain ⟨s2, hs2, hfr2, hhead⟩ := C12_sm_loop_head_refines hs fuel vis hc
    have hstep := doLiquidate_picked_sim (cx := cx) hE hs hs2 hfr2 hpd hpc
    rw [hdo] at hstep
    obtain ⟨s3, e3, hp3, hw3, ha3, hg3⟩ := hstep
    obtain ⟨s4, e4, hg4, hfr4⟩ := run_healthFactor hg3.at
    rw [hhead, hpd]
    dsimp only
    rw [hpc, Option.map_some, run_bind_ok (catch_ok e3), run_bind_ok e4, hp3]
    have := ih s4 base hg4 ((proj_of_frame hfr4).trans hp3)
      (by rw [actions_of_frame hfr4, ha3, hact, List.map_append, List.append_assoc]; rfl) hfuel
    rwa [wallet_of_frame hfr4, hw3] at this
  case rejected =>
    intro fuel p vis acts d v c r hc hpd hpc hdo ih s base hs hp hact hfuel
    subst hp
    obtain ⟨s2, hs2, hfr2, hhead⟩ := C12_sm_loop_head_refines hs fuel vis hc
    have hstep := doLiquidate_picked_sim (cx := cx) hE hs hs2 hfr2 hpd hpc
    rw [hdo] at hstep
    obtain ⟨e, s3, e3, hassert, hfr3⟩ := hstep
    have hg3 := inv_doLiquidate (cx := cx) hE hP (some c.tok) (some d.tok) v s2 hs2
    rw [e3] at hg3
    obtain ⟨s4, e4, hg4, hfr4⟩ := run_healthFactor hg3.at
    have hfr := (hfr4.trans hfr3).trans hfr2
    rw [hhead, hpd]
    dsimp only
    rw [hpc, Option.map_some, run_bind_ok (catch_assert e3 hassert), run_bind_ok e4, proj_of_frame (hfr3.trans hfr2)]
    have := ih s4 base hg4 (proj_of_frame hfr) ((actions_of_frame hfr).trans hact) hfuel
    rwa [wallet_of_frame hfr] at this
  case raised =>
    intro fuel p vis acts d v c e q hc hpd hpc hdo s base hs hp hact _
    subst hp
    obtain ⟨s2, hs2, hfr2, hhead⟩ := C12_sm_loop_head_refines hs fuel vis hc
    have hstep := doLiquidate_picked_sim (cx := cx) hE hs hs2 hfr2 hpd hpc
    rw [hdo] at hstep
    obtain ⟨x, s3, e3, hcls, hna, hp3, hw3, ha3⟩ := hstep
    rw [hhead, hpd]
    dsimp only
    rw [hpc, Option.map_some, run_bind_err (catch_other e3 hna)]
    exact ⟨hp3, hw3, ha3.trans hact, x, rfl, hcls⟩

end Aave

/-- **`update()` of the state machine simulates `update()` of the risk model** (open market, coherent state, any
    arithmetic context): the final positions project to the risk model's final portfolio, the wallet is untouched, the
    `LiquidationAction`s appended to the log are exactly the risk model's actions, the state is coherent again, and
    `update()` raises iff the risk model says so, with the same exception class. -/
theorem C12_sm_update_refines (hE : EnvOK env) (hP : EnvPos env) {s : St} (hs : Good cx env s) (hopen : env.isOpen = true) :
    ∃ s', (liquidate cx env s).2 = s' ∧
      proj env s' = (AaveRisk.liquidate cx.toNumCtx (proj env s)).p ∧ s'.wallet = s.wallet ∧
      s'.actions = s.actions ++ (AaveRisk.liquidate cx.toNumCtx (proj env s)).actions.map actionOf ∧ Good cx env s' ∧
      (match (AaveRisk.liquidate cx.toNumCtx (proj env s)).err with
        | none => (liquidate cx env s).1 = .ok () ∧ s'.hasUpdate = true
        | some x => ∃ e, (liquidate cx env s).1 = .error e ∧ e.cls = x.name) := by
  have hgood := inv_liquidate (cx := cx) hE hP s hs
  obtain ⟨s1, e1, hat1⟩ := run_healthFactor hs.at
  have hlen : s1.borrows.length = (proj env s).debts.length := by rw [borrows_of_frame hat1.2, proj_debts_length]
  have hsim := liquidateLoop_sim (cx := cx) hE hP (s1.borrows.length + 1) (proj env s) [] [] s1 s1.actions hat1.1
    (proj_of_frame hat1.2) (by simp) (by rw [hlen]; exact C12_fuel_suffices cx.toNumCtx (proj env s))
  rw [hlen, wallet_of_frame hat1.2, actions_of_frame hat1.2] at hsim
  unfold liquidate guardOpen at hgood ⊢
  rw [run_bind_require_true hopen, run_bind_ok e1, run_bind_queryPos_ok (a := s1.borrows.length) rfl, hlen, run_bind] at hgood ⊢
  change LoopSim env s.wallet s.actions (AaveRisk.liquidate cx.toNumCtx (proj env s)) _ at hsim
  generalize AaveRisk.liquidate cx.toNumCtx (proj env s) = r at hsim ⊢
  generalize liquidateLoop cx env ((proj env s).debts.length + 1) []
    (toX (AaveRisk.healthFactor cx.toNumCtx (proj env s))) s1 = out at hsim hgood ⊢
  obtain ⟨res, t⟩ := out
  obtain ⟨q1, q2, q3, q5⟩ := hsim
  cases res with
  | ok u =>
    refine ⟨_, rfl, q1, q2, q3, hgood, ?_⟩
    cases herr : r.err with
    | none => exact ⟨rfl, rfl⟩
    | some x => rw [herr] at q5; obtain ⟨e, he, _⟩ := q5; cases he
  | error e =>
    refine ⟨_, rfl, q1, q2, q3, hgood, ?_⟩
    cases herr : r.err with
    | none => rw [herr] at q5; cases q5
    | some x => rw [herr] at q5; obtain ⟨e2, he, hc⟩ := q5; cases he; exact ⟨e, rfl, hc⟩

/-- **how `update()` ends, on the state machine**: if it returns without raising, then at the end the health factor of the
    positions is not in (0, 1), or every debt still held has been visited by the loop — `C12_ends` transferred. -/
theorem C12_sm_update_ends (hE : EnvOK env) (hP : EnvPos env) {s s' : St} (hs : Good cx env s) (hopen : env.isOpen = true)
    (h : liquidate cx env s = (.ok (), s')) :
    AaveRisk.liqCond cx.toNumCtx (proj env s') = false ∨
      ∀ d ∈ (proj env s').debts, d.tok ∈ (AaveRisk.liquidate cx.toNumCtx (proj env s)).visited := by
  obtain ⟨t, e, hp, _, _, _, hm⟩ := C12_sm_update_refines hE hP hs hopen
  rw [h] at e hm
  subst e
  cases herr : (AaveRisk.liquidate cx.toNumCtx (proj env s)).err with
  | some x =>
    rw [herr] at hm
    obtain ⟨e, he, _⟩ := hm
    cases he
  | none =>
    rw [hp]
    exact C12_ends cx.toNumCtx (proj env s) herr

/-- **the wallet is never touched by `update()`**, on the state machine, whatever happens (returns or raises). -/
theorem C12_sm_update_wallet (hE : EnvOK env) (hP : EnvPos env) {s : St} (hs : Good cx env s) (hopen : env.isOpen = true) :
    (liquidate cx env s).2.wallet = s.wallet := by
  obtain ⟨_, rfl, _, hw, _⟩ := C12_sm_update_refines hE hP hs hopen
  exact hw

example : EnvPos c11rEnv := (envOKB_sound (by decide +kernel)).2

example : Good aaveExact c11rEnv c12rSt :=
  good_of_fresh_pair ⟨⟨_, rfl⟩, ⟨_, rfl⟩, ⟨_, rfl⟩⟩ ⟨⟨_, rfl⟩, ⟨_, rfl⟩, ⟨_, rfl⟩⟩ _ _

/-- the risk model liquidates it in one step (HF 0.9075 ≤ 0.95: close factor 1 on the only debt), without raising -/
example : (AaveRisk.liquidate NumCtx.exact (proj c11rEnv c12rSt)).actions.length = 1 ∧
    (AaveRisk.liquidate NumCtx.exact (proj c11rEnv c12rSt)).err = none := by decide +kernel

end Demeter
