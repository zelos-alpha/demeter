/-
  C12 — `update()` never raises `DemeterError` under the 35-digit rounding.

  `C12_update_never_raises_demeter_error` (Proofs/C12/DebtCheck.lean) asks for `RndMono cx`: rounding monotone, idempotent,
  `rnd 0 = 0`.  For the guarded 35-digit context `NumCtx.pyG`
  (`rnd x = if InRange x then round35 x else x`, Proofs/Lemmas/Round35Ctx.lean: CPython's rounding on every number whose
  numerator and denominator are below 2^150000, the identity outside) GLOBAL monotonicity is not available and is not claimed
  here: for `x` in range and an out-of-range `y` with `x < y < round35 x` (a `y` with a huge denominator strictly between `x`
  and its rounded-up value) one has `x ≤ y` but `rnd x = round35 x > y = rnd y`; `Num_round35_mono` needs both arguments in range.

  `NumCtx.pyG` does satisfy the weaker `RndShrink` (Proofs/Lemmas/AaveRiskLoop.lean), for ALL rationals, without any range hypothesis:
    * `x(1 − 5·10⁻³⁵) ≤ rnd x ≤ x(1 + 5·10⁻³⁵)` for every `x ≥ 0` (`NumCtx.pyG_relRnd`), so the sign is kept and
      `rnd (m/2) ≤ m`;
    * in range `round35` is idempotent, out of range the guarded context does not round at all (`NumCtx.pyG_rnd_idem`).

  Not covered: the unguarded `NumCtx.py` (= `round35` on all rationals) outside `InRange`, i.e. on numbers with more than
  45 154 digits — the error bound of `round35` is proved from `Nat.log2` estimates that hold in range only.  `pyG` and `py`
  agree on every number in range (`NumCtx.pyG_rnd_eq`).
-/
import Proofs.C12.DebtCheck
import Proofs.Lemmas.Round35Ctx
namespace Demeter
open AaveRisk Demeter.Numerics

namespace AaveRisk

/-- relative error at most 1 and idempotence suffice: the sign is kept, and `rnd (m/2) ≤ (m/2)·(1+ε) ≤ m` -/
theorem RndShrink.of_rounds {cx : NumCtx} {ε : Rat} (h : Rounds cx ε)
    (hi : ∀ x : Rat, cx.rnd (cx.rnd x) = cx.rnd x) : RndShrink cx :=
  ⟨fun _ hx => h.nonneg hx, hi, fun x hx => by
    have hm := h.nonneg hx
    have hb := (h.err (cx.rnd x * (1 / 2)) (by linarith only [hm])).2
    nlinarith only [hb, h.le_one, hm]⟩

theorem rndShrink_pyG : RndShrink NumCtx.pyG :=
  .of_rounds NumCtx.pyG_rounds NumCtx.pyG_rnd_idem

theorem rndShrink_exact : RndShrink NumCtx.exact := rndMono_exact.shrink

end AaveRisk

/-- **`update()` never raises `DemeterError`, weaker hypothesis on the rounding**: sign-preserving, idempotent, and
    `rnd (rnd x / 2) ≤ rnd x` for `x ≥ 0` (implied by `RndMono`, `RndMono.shrink`).  `C12_update_never_raises_demeter_error` is
    the special case. -/
theorem C12_update_never_raises_demeter_error_shrink {cx : NumCtx} (h : RndShrink cx) (p : Portfolio) (hp : DebtsNonneg p) :
    (liquidate cx p).err ≠ some .demeter ∧ Gen.arDefaultCloseFactor = 1 / 2 ∧ Gen.arMaxCloseFactor = 1 :=
  ⟨liquidate_no_demeter h p hp, rfl, rfl⟩

/-- **`update()` never raises `DemeterError` under the 35-digit Decimal rounding** (the guarded context `NumCtx.pyG`:
    CPython's round-half-even to 35 significant digits on every rational whose numerator and denominator are below 2^150000,
    no rounding outside): the check `variable_delt < actual_debt_to_liquidate` of `_do_liquidate` never fires, on any step of the
    loop, for every portfolio without negative debt entries.  No range hypothesis on the portfolio is needed. -/
theorem C12_update_never_raises_demeter_error_round35 (p : Portfolio) (hp : DebtsNonneg p) :
    (liquidate NumCtx.pyG p).err ≠ some .demeter
    ∧ (∀ x : Rat, InRange x → NumCtx.pyG.rnd x = NumCtx.py.rnd x)
    ∧ Gen.arDefaultCloseFactor = 1 / 2 ∧ Gen.arMaxCloseFactor = 1 :=
  ⟨(C12_update_never_raises_demeter_error_shrink rndShrink_pyG p hp).1, fun _ h => NumCtx.pyG_rnd_eq h, rfl, rfl⟩

/-- the rounding really happens in this statement: under `pyG` a product with more than 35 digits is rounded
    (`1.00000000000000000000000000000000001² → 1.0000000000000000000000000000000000`, the 35-digit round-half-even of
    `1.0000000000000000000000000000000000200…01`), so `pyG` is not the exact context -/
theorem C12_round35_context_rounds :
    NumCtx.pyG.mul (1 + 1 / 10 ^ 35) (1 + 1 / 10 ^ 35) ≠ NumCtx.exact.mul (1 + 1 / 10 ^ 35) (1 + 1 / 10 ^ 35) := by
  decide +kernel

example : RndShrink NumCtx.pyG := rndShrink_pyG
example : RndShrink NumCtx.exact := rndShrink_exact
example : DebtsNonneg exP ∧ (liquidate NumCtx.pyG exP).err ≠ some .demeter :=
  ⟨exP_debtsNonneg, (C12_update_never_raises_demeter_error_round35 exP exP_debtsNonneg).1⟩

end Demeter
