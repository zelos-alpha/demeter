/-
  C12 — which pair `_liquidate` hands to `_do_liquidate`, in every arithmetic context: the unvisited debt of the
  smallest value and the collateral supply of the largest value, the *last* one in dict order on ties (the code
  compares with `>=` / `<=` while iterating the dicts).
-/
import Proofs.Lemmas.AaveRiskLoop
namespace Demeter
open AaveRisk

/-- **The debt handed to `_do_liquidate`**: an unvisited entry of `_borrows` of minimal value among the unvisited
    ones — the last such entry in dict order — together with its value as "amount to cover". -/
theorem C12_debt_pick (cx : NumCtx) (ds : List Debt) (vis : List String) (d : Debt) (v : Rat)
    (h : pickDebt cx ds vis = some (d, v)) :
    v = d.value cx ∧ d.tok ∉ vis ∧ ∃ l1 l2, ds = l1 ++ d :: l2
      ∧ (∀ x ∈ l1, x.tok ∉ vis → d.value cx ≤ x.value cx) ∧ (∀ x ∈ l2, x.tok ∉ vis → d.value cx < x.value cx) :=
  (pickDebt_cases cx ds vis).2 d v h

/-- **The collateral handed to `_do_liquidate`**: a supply flagged as collateral of maximal (non-negative) value — the
    last such entry of `_supplies` in dict order. -/
theorem C12_collateral_pick (cx : NumCtx) (ss : List Supply) (c : Supply) (h : (pickColl cx ss).1 = some c) :
    c.coll = true ∧ 0 ≤ c.value cx ∧ (pickColl cx ss).2 = c.value cx ∧ ∃ l1 l2, ss = l1 ++ c :: l2
      ∧ (∀ x ∈ l1, x.coll = true → x.value cx ≤ c.value cx) ∧ (∀ x ∈ l2, x.coll = true → x.value cx < c.value cx) :=
  (pickColl_cases cx ss).2 c h

namespace AaveRisk
def pkRow : Row := { liqIndex := 1, borIndex := 1, price := 1, ltv := 1/2, lt := 3/4, bonus := 1/20, canColl := true, canBorrow := true }
example : (pickDebt NumCtx.exact [{ tok := "A", base := 5, row := pkRow }, { tok := "B", base := 3, row := pkRow },
    { tok := "C", base := 3, row := pkRow }, { tok := "D", base := 1, row := pkRow }] ["D"]).map (·.1.tok) = some "C" := by
  decide +kernel
example : ((pickColl NumCtx.exact [{ tok := "A", base := 5, coll := true, row := pkRow }, { tok := "B", base := 7, coll := false, row := pkRow },
    { tok := "C", base := 5, coll := true, row := pkRow }]).1).map (·.tok) = some "C" := by
  decide +kernel
end AaveRisk

end Demeter
