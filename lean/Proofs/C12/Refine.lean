/-
  C12 — refinement of the liquidation *trigger* and *pair selection*: the cache-carrying state machine `Demeter.Aave`
  (what C13's harness ties to `AaveV3Market.update()` step by step) decides **whether** to liquidate and **which**
  (collateral, debt) pair to hand to `_do_liquidate` exactly as the pure risk model `Demeter.AaveRisk` (the model of the
  C12 theorems) does on the projected portfolio `proj env s` — in every coherent state, for every arithmetic context,
  whatever mixture of warm and cold caches `update()` meets.
-/
import Proofs.Lemmas.AaveRefineRun
import Proofs.Fixtures.Aave
namespace Demeter
open Aave M

variable {cx : ACtx} {env : Env}

/-- **no liquidation unless the health factor is below 1** (and above 0), on the state machine: when the risk model's
    health factor of the projected portfolio is not in (0, 1), `update()` leaves positions, wallet and log untouched and
    only sets `has_update`. -/
theorem C12_sm_no_liquidation_unless_below_one {s : St} (hs : Good cx env s) (hopen : env.isOpen = true)
    (hout : ((AaveRisk.healthFactor cx.toNumCtx (proj env s)).gtB 0 &&
             (AaveRisk.healthFactor cx.toNumCtx (proj env s)).ltB Gen.arHfLiqThreshold) = false) :
    ∃ s', liquidate cx env s = (.ok (), s') ∧ s'.supplies = s.supplies ∧ s'.borrows = s.borrows ∧
      s'.wallet = s.wallet ∧ s'.actions = s.actions ∧ s'.hasUpdate = true := by
  obtain ⟨s1, e1, hat1⟩ := run_healthFactor hs.at
  unfold liquidate guardOpen
  rw [run_bind_require_true hopen, run_bind_ok e1, run_bind_queryPos_ok (a := s1.borrows.length) rfl, run_bind,
    liquidateLoop_stop _ _ hout]
  exact ⟨_, rfl, (supplies_of_frame hat1.2 :), (borrows_of_frame hat1.2 :), (wallet_of_frame hat1.2 :),
    (actions_of_frame hat1.2 :), rfl⟩

/-- **one round of the loop picks the risk model's pair.**  In a coherent state whose health factor (of the projected
    portfolio) lies in (0, 1), the state machine lists borrows and supplies — filling or re-using the two listing caches —
    and then either stops because `AaveRisk.pickDebt` finds every debt visited, or continues with `_do_liquidate` on
    exactly the debt `AaveRisk.pickDebt` and the collateral `AaveRisk.pickColl` choose on the projected portfolio (same
    `>=` / `<=` tie-breaks in dict order), covering that debt's value. -/
theorem C12_sm_loop_head_refines {s : St} (hs : Good cx env s) (fuel : Nat) (done : List String)
    (hin : ((AaveRisk.healthFactor cx.toNumCtx (proj env s)).gtB 0 &&
            (AaveRisk.healthFactor cx.toNumCtx (proj env s)).ltB Gen.arHfLiqThreshold) = true) :
    ∃ s2, Good cx env s2 ∧ s2.frame = s.frame ∧
      liquidateLoop cx env (fuel + 1) done (toX (AaveRisk.healthFactor cx.toNumCtx (proj env s))) s =
        match AaveRisk.pickDebt cx.toNumCtx (proj env s).debts done with
        | none => (.ok (), s2)
        | some (d, v) =>
          (do
            catchAssertion (doLiquidate cx env ((AaveRisk.pickColl cx.toNumCtx (proj env s).supplies).1.map AaveRisk.Supply.tok)
              (some d.tok) v)
            let hf' ← healthFactor cx env
            liquidateLoop cx env fuel (done ++ [d.tok]) hf') s2 := by
  obtain ⟨s1, e1, hat1⟩ := run_borrowsView hs.at
  obtain ⟨s2, e2, hat2⟩ := run_suppliesView hat1
  refine ⟨s2, hat2.1, hat2.2, ?_⟩
  rw [liquidateLoop, guard_toX, hin]
  simp only [if_true]
  rw [run_bind_ok e1, run_bind_ok e2, pickDebt_proj, pickColl_proj]
  rw [← proj_debts, ← proj_supplies]
  cases AaveRisk.pickDebt cx.toNumCtx (proj env s).debts done with
  | none => rfl
  | some dv => rfl

example : ((AaveRisk.healthFactor NumCtx.exact (proj c11rEnv c12rSt)).gtB 0 &&
    (AaveRisk.healthFactor NumCtx.exact (proj c11rEnv c12rSt)).ltB Gen.arHfLiqThreshold) = true := by decide +kernel
example : ((AaveRisk.healthFactor NumCtx.exact (proj c11rEnv c11rSt)).gtB 0 &&
    (AaveRisk.healthFactor NumCtx.exact (proj c11rEnv c11rSt)).ltB Gen.arHfLiqThreshold) = false := by decide +kernel
example : (AaveRisk.pickDebt NumCtx.exact (proj c11rEnv c12rSt).debts []).map (·.1.tok) = some "USDC" ∧
    (AaveRisk.pickColl NumCtx.exact (proj c11rEnv c12rSt).supplies).1.map (·.tok) = some "WETH" := by decide +kernel

end Demeter
