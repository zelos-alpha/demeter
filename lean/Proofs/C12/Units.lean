/-
  C12 — units of the "amount to cover".

  `_liquidate` hands `min_borrow_value` — the USD *value* of the chosen debt, amount × price — to `_do_liquidate` as
  `delt_value_to_cover`, and `_do_liquidate` compares it with `max_liquidateble_debt = total_debt * close_factor`, a
  *token amount*, and then uses the smaller of the two as the token amount to repay.  The step theorems of Proofs/C12.lean
  take `cover` as an opaque number; for a step as the loop makes it (`cover = d.value = d.amount × d.price`, see
  `C12_debt_pick` / `Trace`):

      repaid tokens  =  min(price_d, close factor) × debt amount        (uncapped step)
      repaid tokens  ≤  min(price_d, close factor) × debt amount        (every step)

  so a debt token priced *below* the close factor (1/2 or 1 USD) is repaid only `price × amount` tokens — a number of tokens
  equal to the debt's USD value — which is LESS than the close factor allows.  The property text
  (`repaid ≤ close factor × debt`) still holds in that case; it is recorded as an observation, not as a violation
  (`C12_low_priced_debt_witness`, and the harness counts `low_priced_debt_repaid_value_units`).
-/
import Proofs.C12.Loop
namespace Demeter
open AaveRisk

namespace AaveRisk

def LiqAction.cf (a : LiqAction) : Rat := if a.half then 1 / 2 else 1

theorem LiqAction.cf_pos (a : LiqAction) : 0 < a.cf := by
  unfold LiqAction.cf; split <;> norm_num

end AaveRisk

/-- **Token units of a step of the loop.**  When the value to cover is the debt's own value (amount × price, which is
    what `_liquidate` passes), the number of debt tokens repaid is at most `min(price, close factor) × amount`, with
    equality unless the collateral balance caps the seizure; and the value recorded as `delt_to_cover` is amount × price. -/
theorem C12_repaid_token_units {p : Portfolio} {c : Supply} {d : Debt} {p' : Portfolio} {a : LiqAction}
    (h : StepOk p c d (d.value NumCtx.exact) p' a) :
    a.toCover = d.amount NumCtx.exact * d.row.price
    ∧ a.cf = (if (healthFactor NumCtx.exact p).gtB (95 / 100) then (1 / 2 : Rat) else 1)
    ∧ a.debtRepaid ≤ min d.row.price a.cf * d.amount NumCtx.exact
    ∧ (a.capped = false → a.debtRepaid = min d.row.price a.cf * d.amount NumCtx.exact) := by
  obtain ⟨_, _, _, hhalf, hle1, hle2⟩ := C12_close_factor h
  have hsv := (C12_seized_value h).2.2.2
  have hm := le_of_lt h.debt_pos
  have hcov : d.value NumCtx.exact = d.amount NumCtx.exact * d.row.price := rfl
  have hcf : (if a.half then (50 / 100 : Rat) else 100 / 100) = a.cf := by
    unfold LiqAction.cf; split <;> norm_num
  have hcf' : (if a.half then (1 / 2 : Rat) else 1) = a.cf := rfl
  rw [hcf] at hle1
  rw [hcov] at hle2 hsv
  rw [hcf'] at hsv
  refine ⟨(C12_record_matches h).2.2.1, ?_, ?_, ?_⟩
  · unfold LiqAction.cf; rw [hhalf]
  · rw [min_mul_of_nonneg _ _ hm, mul_comm d.row.price]; exact le_min hle2 hle1
  · intro hc; rw [hsv hc, min_mul_of_nonneg _ _ hm, mul_comm d.row.price]

/-- **Close factor in token units.**  A step of the loop on a debt token priced at or above the close factor
    (≥ 1/2 USD when HF > 0.95, ≥ 1 USD otherwise) whose seizure is not capped by the collateral balance repays exactly
    close factor × debt amount tokens. -/
theorem C12_close_factor_token_units {p : Portfolio} {c : Supply} {d : Debt} {p' : Portfolio} {a : LiqAction}
    (h : StepOk p c d (d.value NumCtx.exact) p' a) (hprice : a.cf ≤ d.row.price) (hcap : a.capped = false) :
    a.debtRepaid = a.cf * d.amount NumCtx.exact := by
  rw [(C12_repaid_token_units h).2.2.2 hcap, min_eq_right hprice]

/-- **A debt token priced below the close factor is repaid in "value units".**  A step of the loop on a debt token
    priced below the close factor (price < 1/2 USD when HF > 0.95, < 1 USD otherwise), not capped by the collateral
    balance, repays `price × amount` tokens — numerically the debt's USD value — which is strictly less than the
    close factor × amount the protocol rule allows; the remaining debt is `(1 − price) × amount` (up to snapped dust, see
    `C12_state_change`). -/
theorem C12_low_priced_debt_repays_price_times_amount {p : Portfolio} {c : Supply} {d : Debt} {p' : Portfolio} {a : LiqAction}
    (h : StepOk p c d (d.value NumCtx.exact) p' a) (hprice : d.row.price < a.cf) (hcap : a.capped = false) :
    a.debtRepaid = d.row.price * d.amount NumCtx.exact
    ∧ a.debtRepaid = a.toCover
    ∧ a.debtRepaid < a.cf * d.amount NumCtx.exact := by
  have hu := C12_repaid_token_units h
  have hrep : a.debtRepaid = d.row.price * d.amount NumCtx.exact := by
    rw [hu.2.2.2 hcap, min_eq_left (le_of_lt hprice)]
  refine ⟨hrep, ?_, ?_⟩
  · rw [hrep, hu.1]; ring
  · rw [hrep]; exact mul_lt_mul_of_pos_right hprice h.debt_pos

/-- capped or not, a low-priced debt is never repaid up to the close factor: at most `price × amount` tokens -/
theorem C12_low_priced_debt_repaid_le {p : Portfolio} {c : Supply} {d : Debt} {p' : Portfolio} {a : LiqAction}
    (h : StepOk p c d (d.value NumCtx.exact) p' a) (hprice : d.row.price < a.cf) :
    a.debtRepaid ≤ d.row.price * d.amount NumCtx.exact := by
  have := (C12_repaid_token_units h).2.2.1
  rwa [min_eq_left (le_of_lt hprice)] at this

/-- **Loop level.**  Every action recorded by `update()` on a well-formed portfolio was made on a debt entry `d` of
    the portfolio at that moment (positive price), with `delt_to_cover` = that debt's amount × price, and repays at
    most — exactly, unless capped — `min(price, close factor) × amount` tokens of it. -/
theorem C12_every_step_token_units (p : Portfolio) (hwf : p.WF) :
    ∀ a ∈ (liquidate NumCtx.exact p).actions, ∃ d : Debt,
      d.tok = a.debtTok ∧ 0 < d.row.price ∧ 0 < d.amount NumCtx.exact
      ∧ a.toCover = d.amount NumCtx.exact * d.row.price
      ∧ a.debtRepaid ≤ min d.row.price a.cf * d.amount NumCtx.exact
      ∧ (a.capped = false → a.debtRepaid = min d.row.price a.cf * d.amount NumCtx.exact) := by
  have ht := C12_every_step p hwf
  generalize (liquidate NumCtx.exact p).actions = as at ht
  generalize (liquidate NumCtx.exact p).p = q at ht
  clear hwf
  induction ht with
  | nil p => intro a ha; cases ha
  | @step p0 c d p1 a0 as0 p2 hc hs _ ih =>
    intro a ha
    rcases List.mem_cons.mp ha with rfl | ha
    · have hu := C12_repaid_token_units hs
      exact ⟨d, (C12_record_matches hs).2.1.symm, hs.drow.price_pos, hs.debt_pos, hu.1, hu.2.2.1, hu.2.2.2⟩
    · exact ih a ha

-- the witness: 10000 TOK priced 0.3 USD against 3.6 WETH at 1000 USD (LT 0.8, bonus 5 %): HF = 0.96
namespace AaveRisk

def lpRowW : Row := { liqIndex := 1, borIndex := 1, price := 1000, ltv := 75 / 100, lt := 8 / 10, bonus := 5 / 100, canColl := true, canBorrow := true }
def lpRowT : Row := { liqIndex := 1, borIndex := 1, price := 3 / 10, ltv := 0, lt := 0, bonus := 0, canColl := false, canBorrow := true }
def lpC : Supply := { tok := "WETH", base := 36 / 10, coll := true, row := lpRowW }
def lpD : Debt := { tok := "TOK", base := 10000, row := lpRowT }
def lpP : Portfolio := { supplies := [lpC], debts := [lpD] }

def lpCheck : Bool :=
  let r := liquidate NumCtx.exact lpP
  decide (healthFactor NumCtx.exact lpP = some (96 / 100)) && r.err.isNone && r.visited == ["TOK"]
    && match r.actions with
       | [a] => a.half && !a.capped && decide (a.toCover = 3000) && decide (a.debtRepaid = 3000) && decide (a.collUsed = 945 / 1000)
                && decide (a.debtAfter = 7000) && decide (a.hfAfter = some (2124 / 2100))
       | _ => false

end AaveRisk

/-- **Witness (kernel-checked).**  A 10000 TOK debt priced 0.3 USD, HF 0.96 (close factor 1/2): the single liquidation
    step of `update()` repays 3000 TOK = price × amount, strictly less than the 5000 TOK = close factor × amount, although
    the collateral (3.6 WETH; 0.945 seized) would have covered it (5000 TOK × 0.3 × 1.05 / 1000 = 1.575 WETH). -/
theorem C12_low_priced_debt_witness :
    lpCheck = true
    ∧ (3000 : Rat) = lpD.row.price * lpD.amount NumCtx.exact
    ∧ lpD.row.price * lpD.amount NumCtx.exact < 1 / 2 * lpD.amount NumCtx.exact := by
  refine ⟨by decide +kernel, by decide +kernel, by decide +kernel⟩

namespace AaveRisk

theorem lpP_wf : lpP.WF := Portfolio.wfB_sound (by decide +kernel)

example : ∃ p' a, StepOk lpP lpC lpD (lpD.value NumCtx.exact) p' a ∧ lpD.row.price < a.cf ∧ a.capped = false := by
  rw [show lpD.value NumCtx.exact = 3000 by decide +kernel]
  obtain ⟨p', a, h, hf⟩ := StepOk.of_check (c := lpC) (d := lpD) (cover := 3000) lpP_wf (by simp [lpP]) (by simp [lpP])
    (by norm_num) (fun _ a => decide (lpD.row.price < a.cf) && !a.capped) (by decide +kernel)
  simp only [Bool.and_eq_true, decide_eq_true_eq, Bool.not_eq_eq_eq_not, Bool.not_true] at hf
  exact ⟨p', a, h, hf.1, hf.2⟩

example : ∃ p' a, StepOk exP exC exD (exD.value NumCtx.exact) p' a ∧ a.cf ≤ exD.row.price ∧ a.capped = false
    ∧ a.debtRepaid = 1 / 2 * exD.amount NumCtx.exact := by
  rw [show exD.value NumCtx.exact = 8400 by decide +kernel]
  obtain ⟨p', a, h, hf⟩ := StepOk.of_check (c := exC) (d := exD) (cover := 8400) exP_wf (by simp [exP]) (by simp [exP])
    (by norm_num)
    (fun _ a => decide (a.cf ≤ exD.row.price) && !a.capped && decide (a.debtRepaid = 1 / 2 * exD.amount NumCtx.exact))
    (by decide +kernel)
  simp only [Bool.and_eq_true, decide_eq_true_eq, Bool.not_eq_eq_eq_not, Bool.not_true] at hf
  exact ⟨p', a, h, hf.1.1, hf.1.2, hf.2⟩

end AaveRisk
end Demeter
