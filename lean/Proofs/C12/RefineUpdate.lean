/-
  C12 — the C12 theorems about `AaveRisk.liquidate` restated, along the whole-loop simulation `C12_sm_update_refines`, for the
  cache-carrying state machine `Aave.liquidate` that C10 / C13 / C04 / C03 / C01 use and that the harnesses tie to
  `AaveV3Market.update()` step by step.
-/
import Proofs.C12.RefineLoop
namespace Demeter
open Aave

variable {cx : ACtx} {env : Env}

/-- **`update()` of the state machine refines `update()` of the risk model** — the whole liquidation loop over any number of
    debts: same final positions (projected), wallet untouched, the appended records are the risk model's actions, coherent
    afterwards, and it raises iff the risk model does, with the same exception class. -/
theorem C12_state_machine_refines_risk_model_update (hE : EnvOK env) (hP : EnvPos env) {s : St} (hs : Good cx env s)
    (hopen : env.isOpen = true) :
    ∃ s', (liquidate cx env s).2 = s' ∧
      proj env s' = (AaveRisk.liquidate cx.toNumCtx (proj env s)).p ∧ s'.wallet = s.wallet ∧
      s'.actions = s.actions ++ (AaveRisk.liquidate cx.toNumCtx (proj env s)).actions.map actionOf ∧ Good cx env s' ∧
      (match (AaveRisk.liquidate cx.toNumCtx (proj env s)).err with
        | none => (liquidate cx env s).1 = .ok () ∧ s'.hasUpdate = true
        | some x => ∃ e, (liquidate cx env s).1 = .error e ∧ e.cls = x.name) :=
  C12_sm_update_refines hE hP hs hopen

/-- **each debt at most once, on the state machine** (every arithmetic context): the records `update()` appends name
    pairwise different debt tokens, and there are at most as many as there are debts. -/
theorem C12_sm_each_debt_once (hE : EnvOK env) (hP : EnvPos env) {s : St} (hs : Good cx env s) (hopen : env.isOpen = true) :
    ∃ acts : List AaveRisk.LiqAction, (liquidate cx env s).2.actions = s.actions ++ acts.map actionOf ∧
      (acts.map (·.debtTok)).Nodup ∧ acts.length ≤ s.borrows.length := by
  obtain ⟨_, rfl, _, _, ha, _⟩ := C12_sm_update_refines hE hP hs hopen
  obtain ⟨_, _, h3, _, h5⟩ := C12_each_debt_once cx.toNumCtx (proj env s)
  refine ⟨_, ha, h3, ?_⟩
  rw [← proj_debts_length (env := env)]; exact h5

/-- **no exception, proper steps, and how it ends — on the state machine** (exact arithmetic, well-formed bar and state):
    `update()` returns normally; the appended records are a chain of successful `_do_liquidate` steps from the projected
    portfolio to the final one (`AaveRisk.Trace`: each step starts with `0 < HF < 1`, covers the picked debt's value, and
    satisfies `C12_close_factor`, `C12_seized_value`, `C12_state_change`, `C12_net_value`, …); and at the end there is no
    debt (HF infinite), or HF ≥ 1, or no collateral is left, or every remaining debt has been visited. -/
theorem C12_sm_update_terminates {env : Env} {s : St} (hs : Good aaveExact env s) (hwf : updWF env s = true)
    (hopen : env.isOpen = true) :
    ∃ s' acts, liquidate aaveExact env s = (.ok (), s') ∧ s'.actions = s.actions ++ acts.map actionOf ∧
      AaveRisk.Trace (proj env s) acts (proj env s') ∧ (proj env s').WF ∧ s'.wallet = s.wallet ∧
      (AaveRisk.healthFactor NumCtx.exact (proj env s') = none
       ∨ (∃ x, AaveRisk.healthFactor NumCtx.exact (proj env s') = some x ∧ 1 ≤ x)
       ∨ (∀ c ∈ AaveRisk.collaterals (proj env s'), c.base = 0)
       ∨ (∀ d ∈ (proj env s').debts, d.tok ∈ (AaveRisk.liquidate NumCtx.exact (proj env s)).visited)) := by
  obtain ⟨hE, hP, hpwf⟩ := updWF_sound (cx := aaveExact) hwf hs
  obtain ⟨s', e', hp, hw, ha, _, hm⟩ := C12_sm_update_refines (cx := aaveExact) hE hP hs hopen
  obtain ⟨herr, _, hwf', hend⟩ := C12_terminates (proj env s) hpwf
  have herr' : (AaveRisk.liquidate aaveExact.toNumCtx (proj env s)).err = none := herr
  rw [herr'] at hm
  have htr := C12_every_step (proj env s) hpwf
  have hp' : proj env s' = (AaveRisk.liquidate NumCtx.exact (proj env s)).p := hp
  exact ⟨s', _, Prod.ext hm.1 e', ha, by rw [hp']; exact htr, by rw [hp']; exact hwf', hw, by rw [hp']; exact hend⟩

/-- **liquidated iff the health factor is below 1 — on the state machine** (exact arithmetic, well-formed bar and state,
    positive debt entries): `update()` appends at least one `LiquidationAction` iff the health factor of the positions is
    finite and in (0, 1). -/
theorem C12_sm_liquidates_iff {env : Env} {s : St} (hs : Good aaveExact env s) (hwf : updWF env s = true)
    (hopen : env.isOpen = true) (hpos : ∀ p ∈ s.borrows, 0 < p.2.base) :
    (liquidate aaveExact env s).2.actions ≠ s.actions ↔
      ∃ x, AaveRisk.healthFactor NumCtx.exact (proj env s) = some x ∧ 0 < x ∧ x < 1 := by
  obtain ⟨hE, hP, hpwf⟩ := updWF_sound (cx := aaveExact) hwf hs
  obtain ⟨_, rfl, _, _, ha, _, _⟩ := C12_sm_update_refines (cx := aaveExact) hE hP hs hopen
  have hpos' : ∀ d ∈ (proj env s).debts, 0 < d.base := by
    intro d hd
    obtain ⟨p, hp, rfl⟩ := mem_debts_proj hd
    exact hpos p hp
  rw [← C12_liquidates_iff (proj env s) hpwf hpos', ha]
  have hA : (AaveRisk.liquidate aaveExact.toNumCtx (proj env s)).actions = (AaveRisk.liquidate NumCtx.exact (proj env s)).actions := rfl
  rw [hA, Ne, List.append_right_eq_self, List.map_eq_nil_iff]

example : updWF c11rEnv c12rSt = true := by decide +kernel
example : ∀ p ∈ c12rSt.borrows, 0 < p.2.base := by
  intro p hp
  simp only [c12rSt, St.init, List.mem_singleton] at hp
  subst hp; norm_num

end Demeter
