/-
  C12 — the last `raise` of `_do_liquidate`, `DemeterError("variable_delt < actual_debt_to_liquidate")`, is unreachable from
  portfolios without negative debts, for EVERY arithmetic context whose rounding is monotone, idempotent and fixes 0 (`RndMono`;
  exact arithmetic is one): the repayment is `min`-ed down from `debt × close factor`, the
  close factors are `DEFAULT_LIQUIDATION_CLOSE_FACTOR = 0.5` and `MAX_LIQUIDATION_CLOSE_FACTOR = 1`, and
  `rnd(rnd(x)·cf) ≤ rnd(rnd(x)) = rnd(x)`.  Hence `update()` never raises `DemeterError` — the whole loop, any number of
  debts, because a liquidation step leaves no negative debt behind (`sub_base_amount` snaps to 0).

  The argument needs less than monotonicity (`RndShrink`, Proofs/Lemmas/AaveRiskLoop.lean); the guarded 35-digit context,
  CPython's round-half-even wherever it is in range, is not monotone on all rationals and satisfies `RndShrink`
  (`Proofs/C12/Round35.lean`).
-/
import Proofs.C12
import Proofs.Lemmas.AaveRiskLoop
namespace Demeter
open AaveRisk

/-- **`update()` never raises `DemeterError`** — the check `variable_delt < actual_debt_to_liquidate` of `_do_liquidate` never
    fires, on any step of the loop — for every portfolio without negative debt entries and every arithmetic context with
    monotone, idempotent rounding that fixes 0; with the close factors `DEFAULT_LIQUIDATION_CLOSE_FACTOR = 1/2`,
    `MAX_LIQUIDATION_CLOSE_FACTOR = 1` read from the source. -/
theorem C12_update_never_raises_demeter_error {cx : NumCtx} (h : RndMono cx) (p : Portfolio) (hp : DebtsNonneg p) :
    (liquidate cx p).err ≠ some .demeter ∧ Gen.arDefaultCloseFactor = 1 / 2 ∧ Gen.arMaxCloseFactor = 1 :=
  ⟨liquidate_no_demeter h.shrink p hp, rfl, rfl⟩

/-- the hypothesis on the debts is needed: a negative debt entry makes the check fire (`debt × 1/2 > debt`) -/
theorem C12_negative_debt_raises_demeter_error :
    ((liquidate NumCtx.exact
      { supplies := [{ tok := "WETH", base := 1, coll := true, row := exRowW }],
        debts := [{ tok := "MATIC", base := -10, row := exRowM }, { tok := "USDC", base := 1705, row := exRowU }] }).err
      == some .demeter) = true := by decide +kernel

theorem AaveRisk.exP_debtsNonneg : DebtsNonneg exP := by
  intro d hd
  simp only [exP, List.mem_singleton] at hd
  subst hd
  constructor <;> simp [exD, exRowU]

example : RndMono NumCtx.exact := rndMono_exact
example : DebtsNonneg exP := exP_debtsNonneg

end Demeter
