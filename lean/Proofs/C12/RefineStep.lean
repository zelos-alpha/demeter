/-
  C12 — refinement of one liquidation step: `_do_liquidate` of the cache-carrying state machine (`Aave.doLiquidate`)
  simulates `_do_liquidate` of the pure risk model (`AaveRisk.doLiquidate`) on the projected portfolio — amounts, the
  order of the refusals and raises, the post-state and the recorded action — in every coherent state, for every arithmetic
  context.  This carries the per-step C12 theorems (all stated over `AaveRisk.doLiquidate`) over to the state machine that
  C13's harness ties to `AaveV3Market.update()`.
-/
import Proofs.Lemmas.AaveRefineRun
namespace Demeter
open Aave M

variable {cx : ACtx} {env : Env}

/-- what `_do_liquidate` leaves of `_supplies` after seizing: scaled balance `nb`, entry deleted at 0 -/
theorem Aave.collBaseAfter_eq (sup : AList String SupplyInfo) (ctok : String) (cinfo : SupplyInfo) (nb : Rat) :
    (match AList.get? (if nb = 0 then AList.erase sup ctok else AList.set sup ctok { cinfo with base := nb }) ctok with
      | some i => i.base
      | none => 0) = nb := by
  by_cases h : nb = 0
  · rw [if_pos h, AList.get?_erase_self, h]
  · rw [if_neg h, AList.get?_set_self]

/-- the second half of `_do_liquidate`, from the `variable_delt < actual_debt_to_liquidate` check on, as the state machine
    runs it for given amounts `cu` (collateral used) and `rp` (debt repaid) -/
def Aave.liqTail (cx : ACtx) (env : Env) (ctok : String) (cinfo : SupplyInfo) (dtok : String) (cover cu rp vd : Rat)
    (hfB : AaveRisk.XRat) (cst dst : TokStatus) : M Unit := do
  require (decide (vd ≥ rp)) Err.liqDebtExceeds
  let dBase ← ofRes (divE cx cu cst.liqIdx)
  let remaining ← liqCommit cx env ctok cinfo (subBase cx cinfo.base dBase) dtok rp
  let hfAfter ← healthFactor cx env
  let collBaseAfter ← queryPos fun sup _ => Except.ok (match AList.get? sup ctok with
    | some i => i.base
    | none => 0)
  record (Action.liquidation ctok dtok cover cu rp (toX hfB) hfAfter (cx.mul collBaseAfter cst.liqIdx)
    (cx.mul remaining dst.varIdx))

theorem Aave.liqTail_sim (hE : EnvOK env) {s s2 : St} (hs : Good cx env s) (hat2 : At cx env s.frame s2) {ctok dtok : String}
    {cinfo : SupplyInfo} {dinfo : BorrowInfo} (hc : AList.get? s.supplies ctok = some cinfo)
    (hd : AList.get? s.borrows dtok = some dinfo) {cst dst : TokStatus} (hcst : env.statusOf ctok = .ok cst)
    (hdst : env.statusOf dtok = .ok dst) {c : AaveRisk.Supply} {d : AaveRisk.Debt}
    (hct : c.tok = ctok) (hcb : c.base = cinfo.base) (hli : c.row.liqIndex = cst.liqIdx)
    (hdt : d.tok = dtok) (hdb : d.base = dinfo.base) (hbi : d.row.borIndex = dst.varIdx) (cover : Rat)
    {out : Res Unit × St}
    (hout : liqTail cx env ctok cinfo dtok cover (AaveRisk.stepCollUsed cx.toNumCtx (proj env s) c d cover)
      (AaveRisk.stepRepaid cx.toNumCtx (proj env s) c d cover) (d.amount cx.toNumCtx)
      (AaveRisk.healthFactor cx.toNumCtx (proj env s)) cst dst s2 = out) :
    match (if d.amount cx.toNumCtx < AaveRisk.stepRepaid cx.toNumCtx (proj env s) c d cover then
          AaveRisk.StepOut.raised .demeter (proj env s)
        else if c.row.liqIndex = 0 then .raised .arith (proj env s)
        else if d.row.borIndex = 0 then .raised .arith (AaveRisk.stepSeized cx.toNumCtx (proj env s) c d cover)
        else .done (AaveRisk.stepEnd cx.toNumCtx (proj env s) c d cover)
          (AaveRisk.stepAction cx.toNumCtx (proj env s) c d cover)) with
    | .done p' a => ∃ s', out = (.ok (), s') ∧
        proj env s' = p' ∧ s'.wallet = s.wallet ∧ s'.actions = s.actions ++ [actionOf a] ∧ Good cx env s'
    | .rejected => ∃ e s', out = (.error e, s') ∧ e.isAssertion = true ∧ s'.frame = s.frame
    | .raised x p' => ∃ e s', out = (.error e, s') ∧
        e.cls = x.name ∧ e.isAssertion = false ∧ proj env s' = p' ∧ s'.wallet = s.wallet ∧ s'.actions = s.actions := by
  subst hout
  -- the risk model's outcome written with the state machine's `cu`, `rp`, indices
  unfold AaveRisk.stepAction AaveRisk.stepSeized AaveRisk.stepEnd AaveRisk.stepCollBase AaveRisk.stepDebtBase
  rw [hct, hcb, hli, hdt, hdb, hbi]
  generalize AaveRisk.stepCollUsed cx.toNumCtx (proj env s) c d cover = cu
  generalize AaveRisk.stepRepaid cx.toNumCtx (proj env s) c d cover = rp
  generalize d.amount cx.toNumCtx = vd
  generalize AaveRisk.healthFactor cx.toNumCtx (proj env s) = hfB
  unfold liqTail
  have hs2sup : s2.supplies = s.supplies := supplies_of_frame hat2.2
  have hs2bor : s2.borrows = s.borrows := borrows_of_frame hat2.2
  have hs2w : s2.wallet = s.wallet := wallet_of_frame hat2.2
  have hs2a : s2.actions = s.actions := actions_of_frame hat2.2
  have hp2 : proj env s2 = proj env s := proj_of_frame hat2.2
  by_cases hlt : vd < rp
  · rw [if_pos hlt]
    exact ⟨.liqDebtExceeds, s2, by rw [run_bind_require_false (by simpa using hlt)], rfl, rfl, hp2, hs2w, hs2a⟩
  rw [if_neg hlt, run_bind_require_true (by simpa using hlt)]
  by_cases hli : cst.liqIdx = 0
  · rw [if_pos hli]
    refine ⟨.divZero, s2, ?_, rfl, rfl, hp2, hs2w, hs2a⟩
    simp only [divE, if_pos hli]
    rfl
  simp only [divE, if_neg hli]
  rw [run_bind_ofRes_ok]
  have hd2 : AList.get? s2.borrows dtok = some dinfo := by rw [hs2bor]; exact hd
  by_cases hvi : dst.varIdx = 0
  · rw [if_pos hvi, run_bind_err (liqCommit_divZero ctok cinfo _ rp hd2 hdst hvi)]
    refine ⟨.divZero, _, rfl, rfl, rfl, ?_, hs2w, hs2a⟩
    show projPos env (if _ then _ else _) s2.borrows = _
    unfold projPos proj projPos
    rw [hs2sup, hs2bor, put_proj_supply _ _ _ _ hc hs.1.nd, subBase_eq]
  rw [if_neg hvi]
  have hcm := liqCommit_eq (cx := cx) (env := env) ctok cinfo (subBase cx cinfo.base (cx.div cu cst.liqIdx)) rp hd2 hdst hvi
  have hgood := good_liqCommit (cx := cx) hE hat2.1 (ctok := ctok) (info := cinfo) hcst hdst hvi hd2
    (subBase cx cinfo.base (cx.div cu cst.liqIdx)) rp
  rw [hcm] at hgood
  rw [run_bind_ok hcm]
  obtain ⟨s5, e5, hat5⟩ := run_healthFactor hgood.at
  have hp4 : proj env (resetAll (commitSubBorrow dtok dinfo (subBase cx dinfo.base (cx.div rp dst.varIdx))
        (liqSeize ctok cinfo (subBase cx cinfo.base (cx.div cu cst.liqIdx)) s2).2).2).2 =
      { supplies := AaveRisk.putSupplyBase (proj env s).supplies ctok
          (AaveRisk.subBase cx.toNumCtx cinfo.base (cx.div cu cst.liqIdx)),
        debts := AaveRisk.putDebtBase (proj env s).debts dtok
          (AaveRisk.subBase cx.toNumCtx dinfo.base (cx.div rp dst.varIdx)) } := by
    show projPos env (if _ then _ else _) (if _ then AList.erase s2.borrows dtok else AList.set s2.borrows dtok _) = _
    unfold projPos proj projPos
    rw [hs2sup, hs2bor, put_proj_supply _ _ _ _ hc hs.1.nd, put_proj_debt _ _ _ _ hd hs.2.nd, subBase_eq, subBase_eq]
  rw [hp4] at e5
  rw [run_bind_ok e5, run_bind_queryPos_ok (a := subBase cx cinfo.base (cx.div cu cst.liqIdx))
    (by rw [supplies_of_frame hat5.2]; exact congrArg _ (collBaseAfter_eq ..))]
  refine ⟨_, rfl, (proj_of_frame hat5.2).trans hp4, (wallet_of_frame hat5.2).trans hs2w, ?_, inv_record _ s5 hat5.1⟩
  show s5.actions ++ _ = s.actions ++ _
  rw [(actions_of_frame hat5.2).trans hs2a]
  unfold actionOf
  simp only [subBase_eq]

/-- **one liquidation step of the state machine simulates the risk model's** (`ctok` a supplied token, `dtok` a borrowed
    one — what the pair selection hands over): the same outcome class; done: positions project to the risk model's new
    portfolio, wallet untouched, the appended record is the risk model's `LiqAction`, coherent again (all five caches
    reset); rejected (`AssertionError`, caught by `_liquidate`): positions, wallet, log intact; raised (propagates out of
    `update()`): same exception class, positions project to what the risk model says the code leaves behind. -/
theorem C12_sm_doLiquidate_refines (hE : EnvOK env) {s : St} (hs : Good cx env s) {ctok dtok : String}
    {cinfo : SupplyInfo} {dinfo : BorrowInfo} (hc : AList.get? s.supplies ctok = some cinfo)
    (hd : AList.get? s.borrows dtok = some dinfo) (cover : Rat) :
    match AaveRisk.doLiquidate cx.toNumCtx (proj env s) (projSup env (ctok, cinfo)) (projBor env (dtok, dinfo)) cover with
    | .done p' a => ∃ s', doLiquidate cx env (some ctok) (some dtok) cover s = (.ok (), s') ∧ proj env s' = p' ∧
        s'.wallet = s.wallet ∧ s'.actions = s.actions ++ [actionOf a] ∧ Good cx env s'
    | .rejected => ∃ e s', doLiquidate cx env (some ctok) (some dtok) cover s = (.error e, s') ∧ e.isAssertion = true ∧
        s'.frame = s.frame
    | .raised x p' => ∃ e s', doLiquidate cx env (some ctok) (some dtok) cover s = (.error e, s') ∧ e.cls = x.name ∧
        e.isAssertion = false ∧ proj env s' = p' ∧ s'.wallet = s.wallet ∧ s'.actions = s.actions := by
  obtain ⟨⟨cst, hcst⟩, ⟨pc, hpc⟩, ⟨cr, hcr⟩⟩ := hs.1.cv ctok (aget_mem_keys hc)
  obtain ⟨⟨dst, hdst⟩, ⟨pd, hpd⟩, ⟨dr, hdr⟩⟩ := hs.2.cv dtok (aget_mem_keys hd)
  obtain ⟨s1, e1, hat1⟩ := run_healthFactor hs.at
  obtain ⟨s2, e2, hat2⟩ := run_liqDebtOf hat1 hd
  have hs2sup : s2.supplies = s.supplies := supplies_of_frame hat2.2
  have hs2w : s2.wallet = s.wallet := wallet_of_frame hat2.2
  have hs2a : s2.actions = s.actions := actions_of_frame hat2.2
  have hp2 : proj env s2 = proj env s := proj_of_frame hat2.2
  have hc2 : AList.get? s2.supplies ctok = some cinfo := by rw [hs2sup]; exact hc
  -- the two entries with their rows written out: every field of theirs is then, by computation, a value the state machine reads
  have hceq : projSup env (ctok, cinfo) = ⟨ctok, cinfo.base, cinfo.coll,
      ⟨cst.liqIdx, cst.varIdx, pc, cr.ltv, cr.lt, cr.bonus, cr.canColl, cr.canBorrow⟩⟩ := by
    unfold projSup; rw [rowOf_eq hcst hpc hcr]
  have hdeq : projBor env (dtok, dinfo) = ⟨dtok, dinfo.base,
      ⟨dst.liqIdx, dst.varIdx, pd, dr.ltv, dr.lt, dr.bonus, dr.canColl, dr.canBorrow⟩⟩ := by
    unfold projBor; rw [rowOf_eq hdst hpd hdr]
  rw [hdeq] at e2
  rw [hceq, hdeq, AaveRisk.doLiquidate_eq]
  set c : AaveRisk.Supply := ⟨ctok, cinfo.base, cinfo.coll,
    ⟨cst.liqIdx, cst.varIdx, pc, cr.ltv, cr.lt, cr.bonus, cr.canColl, cr.canBorrow⟩⟩
  set d : AaveRisk.Debt := ⟨dtok, dinfo.base, ⟨dst.liqIdx, dst.varIdx, pd, dr.ltv, dr.lt, dr.bonus, dr.canColl, dr.canBorrow⟩⟩
  unfold doLiquidate
  rw [run_bind_ok e1]
  simp only [optRes]
  rw [run_bind_ofRes_ok, hdst, run_bind_ofRes_ok, run_bind_ofRes_ok, hcst, run_bind_ofRes_ok, hcr, run_bind_ofRes_ok,
    run_bind_ok e2]
  simp only [toX_gtR, closeFactorHf_eq, closeFactorDefault_eq, closeFactorMax_eq]
  rw [run_bind_liqEnabled hc2]
  by_cases hen : cr.lt = 0 ∨ cinfo.coll = false
  · rw [if_pos hen]
    exact ⟨.liqNotEnabled, s2, by rw [run_bind_require_false (by rcases hen with h | h <;> simp [h])], rfl, hat2.2⟩
  rw [if_neg hen, run_bind_require_true (by simpa [not_or] using hen)]
  by_cases hvd0 : d.amount cx.toNumCtx = 0
  · rw [if_pos hvd0]
    exact ⟨.liqNoDebt, s2, by rw [run_bind_require_false (by simp [hvd0])], rfl, hat2.2⟩
  rw [if_neg hvd0, run_bind_require_true (by simp [hvd0]), run_bind_lookupSupply hc2, hpd, run_bind_ofRes_ok, hpc,
    run_bind_ofRes_ok]
  generalize hA : liqAmounts cx pd pc _ _ cr.bonus = amts
  have hA' := hA.symm.trans (liqAmounts_step (cx := cx) (proj env s) c d cover)
  rw [hA']
  by_cases hpc0 : pc = 0
  · rw [if_pos hpc0, if_pos hpc0]
    exact ⟨.divZero, s2, rfl, rfl, rfl, hp2, hs2w, hs2a⟩
  rw [if_neg hpc0, if_neg hpc0]
  by_cases hsc : AaveRisk.stepCapped cx.toNumCtx (proj env s) c d cover = true ∧ cx.mul pd (cx.add 1 cr.bonus) = 0
  · rw [if_pos hsc, if_pos hsc]
    exact ⟨.divZero, s2, rfl, rfl, rfl, hp2, hs2w, hs2a⟩
  rw [if_neg hsc, if_neg hsc, run_bind_ofRes_ok]
  exact liqTail_sim hE hs hat2 hc hd hcst hdst rfl rfl rfl rfl rfl rfl cover rfl

end Demeter
