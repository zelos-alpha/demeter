/-
  C12 / C11 — the collateral flags of every REACHABLE account are admitted by the risk table: starting from an account without
  positions, through any sequence of accepted user operations (supply — new or top-up —, withdraw, borrow, repay, repay with
  collateral, change_collateral), `update()` calls in any arithmetic context (whatever they liquidate or raise), and bar changes (new
  indices, prices — anything that keeps `usageAsCollateralEnabled`, which belongs to the chain's risk table, not to the bar).
  With the CSV property `TableSane` this gives the clause "flagged ⇒ positive liquidation threshold" of `Portfolio.WF` for every
  reachable account: it is a theorem about the code (as of repair 500c37d), not a hypothesis on the state.
-/
import Proofs.C12.Admitted
import Proofs.Fixtures.Aave
namespace Demeter
open AaveRisk

namespace AaveRisk

theorem userStep_admitted {p q : Portfolio} (hu : UserStep p q) (h : Admitted p) : Admitted q := by
  cases hu with
  | borrow tok row a _ x _ _ hb => exact C11_borrow_keeps_flags_admitted hb h
  | withdraw tok a _ x hw _ => exact C11_withdraw_keeps_flags_admitted hw h
  | changeCollateral tok flag _ hc _ => exact changeCollateral_admitted hc h

theorem userStepAll_admitted {p q : Portfolio} (hu : UserStepAll p q) (h : Admitted p) : Admitted q := by
  cases hu with
  | risk hr => exact userStep_admitted hr h
  | supplyMore tok s x _ _ =>
    intro y hy hyc
    rcases mem_updFirst _ _ hy with h1 | ⟨s0, hs0, _, rfl⟩
    · exact h y h1 hyc
    · exact h s0 hs0 hyc
  | supplyNew tok row coll x _ _ _ _ hcan _ =>
    intro y hy hyc
    simp only [List.mem_append, List.mem_singleton] at hy
    rcases hy with h1 | rfl
    · exact h y h1 hyc
    · exact hcan hyc
  | repay tok d x _ _ => exact admitted_of_supplies_eq h rfl
  | repayCollateral tok ctok d c x y _ _ _ _ _ _ _ _ _ _ => exact admitted_of_supplies_put h rfl

/-- a new bar: every entry gets the new bar's row for its token; `usageAsCollateralEnabled` is not bar data -/
def rebar (f : String → Row → Row) (p : Portfolio) : Portfolio :=
  { supplies := p.supplies.map (fun s => { s with row := f s.tok s.row }),
    debts := p.debts.map (fun d => { d with row := f d.tok d.row }) }

inductive Reach : Portfolio → Prop
  | empty : Reach { supplies := [], debts := [] }
  | user {p q : Portfolio} : Reach p → UserStepAll p q → Reach q
  | update (cx : NumCtx) {p : Portfolio} : Reach p → Reach (liquidate cx p).p
  | newBar (f : String → Row → Row) {p : Portfolio} : Reach p → (∀ t r, (f t r).canColl = r.canColl) → Reach (rebar f p)

end AaveRisk

/-- **every reachable account has admitted collateral flags** -/
theorem C12_reachable_flags_admitted {p : Portfolio} (h : Reach p) : Admitted p := by
  induction h with
  | empty => intro s hs; cases hs
  | user _ hu ih => exact userStepAll_admitted hu ih
  | update cx _ ih => exact C12_update_keeps_flags_admitted cx _ ih
  | newBar f _ hf ih =>
    intro s hs hc
    simp only [rebar, List.mem_map] at hs
    obtain ⟨s0, hs0, rfl⟩ := hs
    show (f s0.tok s0.row).canColl = true
    rw [hf]
    exact ih s0 hs0 hc

/-- … hence, with a sane risk table, a reachable account that is well formed in the elementary sense (`WF0`: balances, indices,
    prices) is well formed in the sense all C11/C12 theorems use, and is liquidated by `update()` iff 0 < HF < 1. -/
theorem C12_reachable_liquidates_iff {p : Portfolio} (h : Reach p) (hwf : p.WF0) (ht : TableSane p)
    (hpos : ∀ d ∈ p.debts, 0 < d.base) :
    p.WF ∧ ((liquidate NumCtx.exact p).actions ≠ [] ↔ ∃ x, healthFactor NumCtx.exact p = some x ∧ 0 < x ∧ x < 1) :=
  ⟨hwf.wf (C12_reachable_flags_admitted h) ht, C12_liquidates_iff_admitted p hwf (C12_reachable_flags_admitted h) ht hpos⟩

example : Reach { supplies := [{ tok := "WETH", base := 0 + 10, coll := true, row := c11RowW }], debts := [] } :=
  Reach.user Reach.empty (UserStepAll.supplyNew _ "WETH" c11RowW true 10 rfl (by norm_num)
    (Row.wfB_sound (by decide +kernel))
    (by decide +kernel) (fun _ => rfl) (fun _ => by decide +kernel))

end Demeter
