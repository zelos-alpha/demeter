/-
  C12 / C11 — "a supply flagged as collateral has a positive liquidation threshold" is not an assumption on the state: it
  follows from an invariant the code itself maintains (repair 500c37d),

      Admitted p  :=  every supply flagged as collateral belongs to a token whose `usageAsCollateralEnabled` is true,

  and a property of the risk table alone (`TableSane`: an admitted token has a positive threshold — checked by the harness on every
  CSV under tests/aave_risk_parameters).  `Admitted` is kept by every accepted `borrow` / `withdraw` / `change_collateral`
  (`change_collateral(…, True)` refuses a token that is not admitted, as `supply(…, collateral=True)` does) and by
  `update()` — in every arithmetic context, whatever `update()` does or raises.
-/
import Proofs.C12.Loop
namespace Demeter
open AaveRisk

/-- **`update()` keeps the collateral flags admitted** — every arithmetic context, whatever it liquidates or raises. -/
theorem C12_update_keeps_flags_admitted (cx : NumCtx) (p : Portfolio) (h : Admitted p) : Admitted (liquidate cx p).p :=
  (liqLoop_baseOnly cx _ p [] [] .refl).admitted h

/-- **accepted `borrow` keeps the flags admitted** (it does not touch `_supplies`), every arithmetic context -/
theorem C11_borrow_keeps_flags_admitted {cx : NumCtx} {p p' : Portfolio} {tok : String} {row : Row} {a x : Rat}
    (hb : AaveRisk.borrow cx p tok row (some a) = .ok (p', x)) (h : Admitted p) : Admitted p' :=
  admitted_of_supplies_eq h (congrArg (fun r => r.1.supplies) ((borrow_ok_iff _ p tok row a _).mp hb).2)

/-- **accepted `withdraw` keeps the flags admitted** (a balance is reduced or an entry removed), every arithmetic context -/
theorem C11_withdraw_keeps_flags_admitted {cx : NumCtx} {p p' : Portfolio} {tok : String} {a x : Rat}
    (hw : AaveRisk.withdraw cx p tok (some a) = .ok (p', x)) (h : Admitted p) : Admitted p' := by
  obtain ⟨s, _, _, he⟩ := (withdraw_ok_iff _ p tok a _).mp hw
  exact admitted_of_supplies_put h (congrArg (fun r => r.1.supplies) he)

/-- no uniqueness of keys needed: the entry whose flag is written is the one the acceptance test looked at (both are "the
    first entry with that key") -/
theorem AaveRisk.changeCollateral_admitted {cx : NumCtx} {p p' : Portfolio} {tok : String} {flag : Bool}
    (hc : changeCollateral cx p tok flag = .ok p') (h : Admitted p) : Admitted p' := by
  obtain ⟨s, hs, ⟨_, rfl⟩ | ⟨_, hcan, _, rfl⟩⟩ := (changeCollateral_ok_iff cx p tok flag p').mp hc
  · exact h
  · intro y hy hyc
    rcases mem_updFirst_find _ _ _ _ hy with h1 | ⟨s1, hs1, rfl⟩
    · exact h y h1 hyc
    · cases hs.symm.trans hs1
      exact hcan hyc

/-- **accepted `change_collateral` keeps the flags admitted**: switching on is accepted only for an admitted token
    (repair 500c37d; `C11_change_collateral`) -/
theorem C11_change_collateral_keeps_flags_admitted {p p' : Portfolio} {tok : String} {flag : Bool}
    (hc : changeCollateral NumCtx.exact p tok flag = .ok p') (hk : (p.supplies.map (·.tok)).Nodup) (h : Admitted p) :
    Admitted p' :=
  changeCollateral_admitted hc h

/-- **liquidated iff 0 < HF < 1, without assuming anything about flags**: for a portfolio whose balances, indices and prices are
    well formed (`WF0`), whose flags are admitted (an invariant of the code, theorems above) and whose risk table is sane. -/
theorem C12_liquidates_iff_admitted (p : Portfolio) (hwf : p.WF0) (ha : Admitted p) (ht : TableSane p)
    (hpos : ∀ d ∈ p.debts, 0 < d.base) :
    ((liquidate NumCtx.exact p).actions ≠ [] ↔ ∃ x, healthFactor NumCtx.exact p = some x ∧ 0 < x ∧ x < 1) :=
  C12_liquidates_iff p (hwf.wf ha ht) hpos

namespace AaveRisk

/-- `change_collateral` as it was before 500c37d: no look at `usageAsCollateralEnabled` -/
def changeCollateralPreFix (cx : NumCtx) (p : Portfolio) (tok : String) (flag : Bool) : Except Cause Portfolio :=
  match findSupply? p.supplies tok with
  | none => .error .notSupplied
  | some s =>
    if s.coll = flag then .ok p else
    let p' : Portfolio := { p with supplies := setSupplyColl p.supplies tok flag }
    if flag = false ∧ (healthFactor cx p').ltB Gen.arHfLiqThreshold = true then .error .hfLowAfter
    else .ok p'

def admRowW : Row := { liqIndex := 1, borIndex := 1, price := 800, ltv := 8/10, lt := 825/1000, bonus := 5/100, canColl := true, canBorrow := true }
/-- GHO in the ethereum table: not usable as collateral, threshold 0 -/
def admRowG : Row := { liqIndex := 1, borIndex := 1, price := 1, ltv := 0, lt := 0, bonus := 0, canColl := false, canBorrow := true }
def admRowU : Row := { liqIndex := 1, borIndex := 1, price := 1, ltv := 77/100, lt := 8/10, bonus := 45/1000, canColl := true, canBorrow := true }
/-- 10 WETH (at 800 USD) as collateral, 20000 GHO supplied with collateral=False, 7000 USDC borrowed: HF = 6600/7000 -/
def admP : Portfolio :=
  { supplies := [{ tok := "WETH", base := 10, coll := true, row := admRowW }, { tok := "GHO", base := 20000, coll := false, row := admRowG }],
    debts := [{ tok := "USDC", base := 7000, row := admRowU }] }

def admIsOk (r : Except Cause Portfolio) : Bool := match r with | .ok _ => true | .error _ => false
def admPre : Portfolio := match changeCollateralPreFix NumCtx.exact admP "GHO" true with | .ok q => q | .error _ => admP

end AaveRisk

/-- **witness (pre-fix)**: `change_collateral(GHO, True)` was accepted; afterwards the health factor is 0.943 < 1 and `update()`
    liquidates nothing and changes nothing (the GHO supply is the most valuable flagged one, `_do_liquidate` refuses it for every
    debt) — "liquidated iff 0 < HF < 1" fails.  The repaired call refuses the switch, the flags stay admitted, and the same bar
    liquidates. -/
theorem C12_fails_flag_on_non_collateralisable_pre_fix :
    admIsOk (changeCollateralPreFix NumCtx.exact admP "GHO" true) = true ∧
    liqCond NumCtx.exact admPre = true ∧ (liquidate NumCtx.exact admPre).actions = [] ∧ (liquidate NumCtx.exact admPre).p = admPre ∧
    ¬ Admitted admPre ∧
    changeCollateral NumCtx.exact admP "GHO" true = .error .cannotCollateral ∧
    (liquidate NumCtx.exact admP).actions ≠ [] := by
  refine ⟨by decide +kernel, by decide +kernel, by decide +kernel, by decide +kernel, ?_, by decide +kernel, by decide +kernel⟩
  intro h
  have := h { tok := "GHO", base := 20000, coll := true, row := admRowG } (by decide +kernel) rfl
  cases this

example : Admitted admP ∧ TableSane admP ∧ admP.WF0 := by
  refine ⟨?_, ?_, ?_⟩
  · intro s hs hc
    simp only [admP, List.mem_cons, List.not_mem_nil, or_false] at hs
    rcases hs with rfl | rfl
    · rfl
    · cases hc
  · intro s hs hc
    simp only [admP, List.mem_cons, List.not_mem_nil, or_false] at hs
    rcases hs with rfl | rfl
    · show (0 : Rat) < 825 / 1000; norm_num
    · cases hc
  · have h : admP.WF := Portfolio.wfB_sound (by decide +kernel)
    exact ⟨fun s hs => ⟨(h.sup s hs).1, (h.sup s hs).2.1⟩, h.deb, h.supKeys, h.debKeys⟩

end Demeter
