/-
  C20, maximum drawdown — the code's scan computes the definition.

  `Metrics.maxDrawDown` mirrors the code (`_withdraw_with_high_low` scan over indices, then
  `(nv[idx_h] - nv[idx_l]) / nv[idx_h]`), `Metrics.mddSpec` is the definition (largest relative decline from any
  point to any later point; 0 when nothing falls).  Exact rational semantics; the float rounding of the real
  code is measured by harness/c20.py, not proved.
-/
import Proofs.Lemmas.MetricsDrawdown
namespace Demeter
open Metrics

/-- the constants the scan starts from, as read from the source on this run: `g_withdraw, g_high, g_low = 0, 0, 0`
    (before /repo 4a8a932: `-np.inf, -1, -1`, which made a rising series report `-1.0`) -/
theorem C20_mdd_scan_start_pinned :
    Gen.metricsMddInit = some 0 ∧ Gen.metricsMddInitHigh = 0 ∧ Gen.metricsMddInitLow = 0 ∧ hlInit = ⟨0, 0, 0, 0⟩ := by
  refine ⟨?_, ?_, ?_, hlInit_eq⟩ <;> decide +kernel

/-- the source flag says `max_draw_down` (pandas `.iloc`, not translated) still returns `(nv[idx_h] - nv[idx_l]) / nv[idx_h]` on the
    indices the scan returns; that quotient is what `maxDrawDown` computes.  The scan `_withdraw_with_high_low` itself (the
    `arr[i_high] > 0` guard, the **relative** `_dp`) is translated from the source on every run and proved equal to
    `withdrawHighLow` by `Tie_metrics_withdraw_with_high_low` (Proofs/Tie/Metrics.lean). -/
theorem C20_mdd_quotient_on_scan_indices_pinned :
    Gen.metricsMddQuotientOnScanIndices = true ∧
    ∀ xs : List Rat, xs ≠ [] → nth xs (withdrawHighLow xs).gHigh ≠ 0 →
      maxDrawDown xs = .ok ((nth xs (withdrawHighLow xs).gHigh - nth xs (withdrawHighLow xs).gLow) / nth xs (withdrawHighLow xs).gHigh) := by
  refine ⟨by decide, fun xs hne h0 => ?_⟩
  have hlen : xs.length ≠ 0 := fun h => hne (List.length_eq_zero_iff.mp h)
  unfold maxDrawDown
  rw [if_neg hlen]
  simp only [h0, if_false]

/-- **the code's scan computes the definition**: for every non-empty positive series `max_draw_down` returns
    exactly the largest relative decline from a point to a later point. -/
theorem C20_mdd_code_eq_definition (xs : List Rat) (hp : AllPos xs) (hne : xs ≠ []) :
    maxDrawDown xs = .ok (mddSpec xs) := by
  have hlen : 0 < xs.length := List.length_pos_iff.mpr hne
  obtain ⟨_, _, hl, low, g_max⟩ := hlInv_run xs hp (xs.length - 1) (by omega)
  have hpos : 0 < nth xs (withdrawHighLow xs).gHigh := nth_pos hp (by unfold withdrawHighLow; omega)
  rw [C20_mdd_quotient_on_scan_indices_pinned.2 xs hne (ne_of_gt hpos)]
  congr 1
  show dd xs (hlRun xs (xs.length - 1)).gHigh (hlRun xs (xs.length - 1)).gLow = mddSpec xs
  apply le_antisymm
  · exact mddSpec_ge xs _ _ hl (by omega)
  · obtain ⟨i, j, hij, hj, e⟩ := mddSpec_attained xs hne
    rw [← (hlRun_g_eq_dd_nonneg xs _).1, e]
    exact g_max i j hij (by omega)

/-- the definition *is* "largest relative decline from a point to a later point": `mddSpec xs` is attained by a
    pair `i ≤ j` and bounds every such pair — so `max_draw_down` is that maximum -/
theorem C20_mdd_is_largest_relative_decline (xs : List Rat) (hp : AllPos xs) (hne : xs ≠ []) :
    ∃ v, maxDrawDown xs = .ok v ∧
      (∃ i j, i ≤ j ∧ j < xs.length ∧ v = (nth xs i - nth xs j) / nth xs i) ∧
      (∀ i j, i ≤ j → j < xs.length → (nth xs i - nth xs j) / nth xs i ≤ v) :=
  ⟨mddSpec xs, C20_mdd_code_eq_definition xs hp hne, mddSpec_attained xs hne, mddSpec_ge xs⟩

/-- **a never-falling series has drawdown 0** -/
theorem C20_mdd_zero_of_never_falling (xs : List Rat) (hp : AllPos xs) (hne : xs ≠ [])
    (hs : xs.Pairwise (· ≤ ·)) : maxDrawDown xs = .ok 0 := by
  rw [C20_mdd_code_eq_definition xs hp hne, mddSpec_eq_zero_of_sorted xs hp hs]

/-- **for a positive series the drawdown lies in [0, 1]** (it is in fact below 1) -/
theorem C20_mdd_in_unit_interval (xs : List Rat) (hp : AllPos xs) (hne : xs ≠ []) :
    ∃ v, maxDrawDown xs = .ok v ∧ 0 ≤ v ∧ v ≤ 1 ∧ v < 1 :=
  ⟨mddSpec xs, C20_mdd_code_eq_definition xs hp hne, mddSpec_nonneg xs, le_of_lt (mddSpec_lt_one xs hp), mddSpec_lt_one xs hp⟩

/-- **rescaling the series does not change the drawdown** -/
theorem C20_mdd_scale_invariant (c : Rat) (hc : 0 < c) (xs : List Rat) (hp : AllPos xs) :
    maxDrawDown (xs.map (c * ·)) = maxDrawDown xs := by
  by_cases hne : xs = []
  · subst hne; rfl
  · rw [C20_mdd_code_eq_definition xs hp hne,
        C20_mdd_code_eq_definition _ (hp.scale hc) (by simpa using hne), mddSpec_scale c (ne_of_gt hc)]

/-- the definition over pairs equals "at every point, the relative decline from the highest value so far" -/
theorem C20_mdd_running_peak_form (x : Rat) (r : List Rat) (hp : AllPos (x :: r)) :
    maxDrawDown (x :: r) = .ok (mddPeak x (x :: r)) := by
  rw [C20_mdd_code_eq_definition _ hp (by simp), mddPeak_eq x hp.head _ hp]
  congr 1
  simp only [maxDecl, mddSpec, sub_self, zero_div]
  rw [max_eq_right (maxDecl_nonneg x r)]
  exact (max_eq_right (le_max_left _ _)).symm

/-- for **any** series — zeros and negative values included — a finite result of `max_draw_down` is non-negative
    (before /repo 4a8a932 a rising series gave −1) -/
theorem C20_mdd_never_negative (xs : List Rat) (v : Rat) (h : maxDrawDown xs = .ok v) : 0 ≤ v := by
  unfold maxDrawDown at h
  split at h
  · exact absurd h (by simp)
  · simp only at h
    split at h
    · exact absurd h (by simp)
    · simp only [Except.ok.injEq] at h
      have hw := hlRun_g_eq_dd_nonneg xs (xs.length - 1)
      rw [← h]
      exact hw.2.trans_eq hw.1

/-- the scan before /repo 4a8a932 (`maxDrawDownOld`) maximised the absolute decline: on `[1, 1/2, 100, 60]` it reported 0.4, the definition is 0.5 -/
theorem C20_old_scan_fails_absolute_vs_relative :
    ¬ (∀ xs : List Rat, AllPos xs → xs ≠ [] → maxDrawDownOld xs = .ok (mddSpec xs)) :=
  fun h => absurd (h [1, 1/2, 100, 60] (by norm_num [allPos_cons, allPos_nil]) (by simp)) (by decide +kernel)

/-- on the rising series `[1, 2, 3]` `maxDrawDownOld` reports −1 (outside [0, 1]) -/
theorem C20_old_scan_fails_on_rising : maxDrawDownOld [1, 2, 3] = .ok (-1) ∧ maxDrawDown [1, 2, 3] = .ok 0 := by
  decide +kernel

example : AllPos [1, 1/2, 100, 60] := by
  norm_num [allPos_cons, allPos_nil]
example : maxDrawDown [1, 1/2, 100, 60] = .ok (1/2) := by decide +kernel
example : maxDrawDown [3, 1, 8, 5, 6, 2, 9, 4, 5] = .ok (3/4) ∧ mddSpec [3, 1, 8, 5, 6, 2, 9, 4, 5] = 3/4 := by decide +kernel
example : maxDrawDown [] = .error .index := by decide +kernel
example : maxDrawDown [0, 0, 1] = .error .nonfinite := by decide +kernel

end Demeter
