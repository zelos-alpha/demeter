/-
  C13 — the `DemeterError("variable_delt < actual_debt_to_liquidate")` inside `_do_liquidate` is unreachable: `update()` of the
  cache-carrying state machine never raises a `DemeterError` on an open market, in a coherent state without negative debt entries,
  under every arithmetic context whose rounding is `AaveRisk.RndShrink` (a monotone, idempotent rounding that fixes 0 is) —
  transferred from the risk model (`AaveRisk.liquidate_no_demeter`) along the whole-loop simulation `C12_sm_update_refines`.  The hypothesis is decidable (`AaveRisk.DebtsNonneg` of the projected
  portfolio; implied by the computable check `Aave.updWF`, which the driver evaluates for the harness on every `update`).
-/
import Proofs.C12.RefineLoop
import Proofs.Fixtures.Aave
import Proofs.Lemmas.AaveRiskLoop
import Proofs.Lemmas.AaveWF
namespace Demeter
open Aave

variable {cx : ACtx} {env : Env}

/-- what the argument needs of the rounding is `RndShrink`: sign-preserving, idempotent, `rnd (rnd x / 2) ≤ rnd x` -/
theorem C13_liquidate_never_raises_debt_exceeds_shrink (hR : AaveRisk.RndShrink cx.toNumCtx) (hE : EnvOK env) (hP : EnvPos env)
    {s : St} (hs : Good cx env s) (hopen : env.isOpen = true) (hd : AaveRisk.DebtsNonneg (proj env s)) (e : Err)
    (h : (liquidate cx env s).1 = .error e) : e.cls ≠ "DemeterError" ∧ e ≠ .liqDebtExceeds := by
  have hno := AaveRisk.liquidate_no_demeter hR (proj env s) hd
  -- the transfer along `C12_sm_update_refines`: the exception class of a raise is the same on both sides
  have key : e.cls ≠ "DemeterError" := by
    intro hcls
    obtain ⟨s', _, _, _, _, _, hm⟩ := C12_sm_update_refines hE hP hs hopen
    cases herr : (AaveRisk.liquidate cx.toNumCtx (proj env s)).err with
    | none =>
      rw [herr] at hm
      rw [hm.1] at h; cases h
    | some x =>
      rw [herr] at hm
      obtain ⟨e', he', hc⟩ := hm
      rw [he'] at h
      cases h
      rw [hcls] at hc
      cases x <;> first | (exact absurd herr hno) | (simp [AaveRisk.Exc.name] at hc)
  exact ⟨key, fun he => key (by rw [he]; rfl)⟩

/-- **the debt check of `_do_liquidate` never fires**: `update()` on an open market never raises a `DemeterError` — in
    particular not `liqDebtExceeds` ("variable_delt < actual_debt_to_liquidate"), the only raise of `_do_liquidate` that is not
    an `AssertionError`, a `KeyError`, an `AttributeError` or an arithmetic error. -/
theorem C13_liquidate_never_raises_debt_exceeds (hR : AaveRisk.RndMono cx.toNumCtx) (hE : EnvOK env) (hP : EnvPos env)
    {s : St} (hs : Good cx env s) (hopen : env.isOpen = true) (hd : AaveRisk.DebtsNonneg (proj env s)) (e : Err)
    (h : (liquidate cx env s).1 = .error e) : e.cls ≠ "DemeterError" ∧ e ≠ .liqDebtExceeds :=
  C13_liquidate_never_raises_debt_exceeds_shrink hR.shrink hE hP hs hopen hd e h

/-- … stated with the computable check: in a coherent state that passes `updWF`, whatever `update()` raises is not
    `liqDebtExceeds` -/
theorem C13_liquidate_never_raises_debt_exceeds_wf (hR : AaveRisk.RndMono cx.toNumCtx) {s : St} (hs : Good cx env s)
    (hwf : updWF env s = true) (hopen : env.isOpen = true) (e : Err) (h : (step cx env s .update).1 = .error e) :
    e ≠ .liqDebtExceeds := by
  obtain ⟨hE, hP, hw⟩ := updWF_sound (cx := cx) hwf hs
  have hd : AaveRisk.DebtsNonneg (proj env s) := fun d hd => ⟨(hw.deb d hd).1, le_of_lt (hw.deb d hd).2.bi_pos⟩
  have h' : (liquidate cx env s).1 = .error e := aave_unitM_fst h
  exact (C13_liquidate_never_raises_debt_exceeds hR hE hP hs hopen hd e h').2

example : updWF c11rEnv c12rSt = true := by decide +kernel
example : AaveRisk.RndMono aaveExact.toNumCtx := AaveRisk.rndMono_exact

end Demeter
