/-
  C09 — `add_liquidity_by_value` under the token-order mirror: what *does* hold (the known findings
  `mirror.add_by_value.*` are about what does not).

  The helper derives a tick from the market price (`price_to_tick`: floor of the real-valued tick in the pool's own
  orientation, rounded to the tick spacing) and uses it (a) to decide whether the price is below / inside / above the range
  and (b), inside, to look up the token ratio.  Floor does not commute with negation (`C09_fails_add_by_value_tick`), so
  the two token orders may see ticks one spacing apart — that is the finding.  Whenever the two orientations' rounded
  ticks are mirror images (`t' = -t`) and the price is outside the range, the helper commutes with the mirror exactly, in
  every arithmetic context.  Inside the range the commutation additionally needs the mirrored ratio (`ratio' = 1 / ratio`)
  and holds up to the rounding of `value / (r + 1)` vs `value − value / (1/r + 1)`: exact in the exact context
  (Proofs/C09/ByValueIn.lean), measured by the harness at 0.1 % in the 35-digit one.
-/
import Proofs.Lemmas.UniMirror
namespace Demeter.Uni
open Demeter

theorem optSwapFee_mirror {K K' : Kern} (hcx : K'.cx = K.cx) (pool : Pool) (s : State) (c : Bool) (a : Rat) (f t : String) :
    optSwapFee K' (mPool pool) (mState s) c a f t = mRes (optSwapFee K pool s c a f t) := by
  unfold optSwapFee
  rw [swap_mirror hcx]
  refine ite_mirror mRes (fun _ => ?_) fun _ => rfl
  cases swap K pool s a f t none true with
  | mk out s1 => cases out <;> rfl

theorem optSwapThenAdd_mirror {K K' : Kern} {pool : Pool} {ms : Nat → Nat} (hk : KernMirror K K' pool ms) (ht : TickErr K pool)
    (hne : pool.tok0 ≠ pool.tok1) (s : State) (L U : Int) (c : Bool) (a : Rat) (f t : String) (b q : Rat → Option Rat)
    (hw : WalletHas pool s.wallet) :
    MirrorAdd
      (match optSwapFee K pool s c a f t with
        | (.error e, s') => (.error e, s')
        | (.ok fee, s') => addByTick K pool s' L U (b fee) (q fee) none none true)
      (match optSwapFee K' (mPool pool) (mState s) c a f t with
        | (.error e, s') => (.error e, s')
        | (.ok fee, s') => addByTick K' (mPool pool) s' (-U) (-L) (b fee) (q fee) none none true) := by
  rw [optSwapFee_mirror hk.cx]
  have hw1 := ((wrel_stepRel K pool).optSwapFee s c a f t).walletHas hw
  cases hs : optSwapFee K pool s c a f t with
  | mk out s1 =>
    rw [hs] at hw1
    cases out with
    | error e => exact ⟨rfl, rfl⟩
    | ok fee => exact addByTick_mirror hk ht s1 L U _ _ none none true hw1 hne

/-- `add_liquidity_by_value` on the mirror, given its in-range branch: the checks and the two one-sided branches
    ("all base" / "all quote") commute with the mirror in every arithmetic context once the two orientations' rounded
    price ticks are mirror images (`ho`).  `L`, `U`: the (trimmed) range, `T`: the rounded price tick. -/
theorem addByValue_mirror_of {K K' : Kern} {pool : Pool} {ms : Nat → Nat} (hk : KernMirror K K' pool ms)
    (ht : TickErr K pool) (hne : pool.tok0 ≠ pool.tok1) (me : Rat) (s : State) (lo up : Int) (v : Option Rat) (trim : Bool)
    (o o' : ByValueOracle) (hw : WalletHas pool s.wallet)
    (ho : nearestUsable o'.tickEst pool.spacing = -nearestUsable o.tickEst pool.spacing)
    (hin : ∀ (L U T : Int) (price value : Rat), L = (if trim then nearestUsable lo pool.spacing else lo) →
      U = (if trim then nearestUsable up pool.spacing else up) → T = nearestUsable o.tickEst pool.spacing →
      priceOf s = .ok price → L ≤ T → T ≤ U →
      MirrorAdd (addByValueInRange K pool s L U T price value o.ratioAmt)
        (addByValueInRange K' (mPool pool) (mState s) (-U) (-L) (-T) price value o'.ratioAmt)) :
    MirrorAdd (addByValue K pool me s lo up v trim o) (addByValue K' (mPool pool) me (mState s) (-up) (-lo) v trim o') := by
  unfold addByValue
  simp only [mPool_spacing, priceOf_mirror, mState_wallet, mPool_quoteTok, mPool_baseTok, hk.cx, ho, trim_neg]
  generalize hL : (if trim then nearestUsable lo pool.spacing else lo) = L
  generalize hU : (if trim then nearestUsable up pool.spacing else up) = U
  generalize hT : nearestUsable o.tickEst pool.spacing = T
  cases hp : priceOf s with
  | error e => exact ⟨rfl, rfl⟩
  | ok price =>
    cases balanceOf s.wallet pool.quoteTok with
    | error e => exact ⟨rfl, rfl⟩
    | ok qBal =>
      cases balanceOf s.wallet pool.baseTok with
      | error e => exact ⟨rfl, rfl⟩
      | ok bBal =>
        have c1 : (((mPool pool).q0 && decide (-T > -L)) || (!(mPool pool).q0 && decide (-T < -U))) =
            ((pool.q0 && decide (T > U)) || (!pool.q0 && decide (T < L))) := by
          rw [mPool_q0]; cases pool.q0 <;> simp
        have c2 : (((mPool pool).q0 && decide (-T < -U)) || (!(mPool pool).q0 && decide (-T > -L))) =
            ((pool.q0 && decide (T < L)) || (!pool.q0 && decide (T > U))) := by
          rw [mPool_q0]; cases pool.q0 <;> simp
        simp only [ge_iff_le, Int.neg_le_neg_iff, c1, c2]
        refine Mir.ite (fun _ => Mir.fail _ _) fun _ => ?_
        refine Mir.ite (fun _ => Mir.fail _ _) fun _ => ?_
        refine Mir.ite (fun _ => ?_) fun hn1 => ?_
        · refine Mir.ite (fun _ => Mir.fail _ _) fun _ => ?_
          exact optSwapThenAdd_mirror hk ht hne s L U _ _ _ _ _ _ hw
        · refine Mir.ite (fun _ => ?_) fun hn2 => ?_
          · refine Mir.ite (fun _ => Mir.fail _ _) fun _ => ?_
            exact optSwapThenAdd_mirror hk ht hne s L U _ _ _ _ _ _ hw
          · have hLT : L ≤ T ∧ T ≤ U := by
              cases hq0 : pool.q0 <;> simp [hq0] at hn1 hn2 <;> omega
            exact hin L U T price _ hL.symm hU.symm hT.symm hp hLT.1 hLT.2

end Demeter.Uni

namespace Demeter
open Demeter.Uni

/-- **`add_liquidity_by_value` commutes with the mirror when the price is outside the range and the two orientations'
    rounded price ticks are mirror images** (`ho`).  Same outcome (exception class, or used amounts / liquidity with the
    position key mirrored), mirrored economic state; any kernels related by the mirror law, any arithmetic context.
    `hout`: the rounded tick is strictly outside the (trimmed) range — the branches "all base" / "all quote". -/
theorem C09_add_by_value_one_sided_partial {K K' : Kern} {pool : Pool} {ms : Nat → Nat} (hk : KernMirror K K' pool ms)
    (ht : TickErr K pool) (hne : pool.tok0 ≠ pool.tok1) (me : Rat) (s : State) (lo up : Int) (v : Option Rat) (trim : Bool)
    (o o' : ByValueOracle) (hw : WalletHas pool s.wallet)
    (ho : nearestUsable o'.tickEst pool.spacing = -nearestUsable o.tickEst pool.spacing)
    (hout : nearestUsable o.tickEst pool.spacing < (if trim then nearestUsable lo pool.spacing else lo) ∨
            (if trim then nearestUsable up pool.spacing else up) < nearestUsable o.tickEst pool.spacing) :
    MirrorAdd (addByValue K pool me s lo up v trim o) (addByValue K' (mPool pool) me (mState s) (-up) (-lo) v trim o') := by
  refine addByValue_mirror_of hk ht hne me s lo up v trim o o' hw ho ?_
  intro L U T price value hL hU hT _ h1 h2
  subst hL hU hT
  omega

/-- the hypothesis on the ticks holds whenever the two orientations' *raw* tick estimates are mirror images — e.g. the
    price sits exactly on a tick `t` and both float estimates return it (`t` and `-t`): rounding to the spacing is
    symmetric (`nearestUsable_neg`, round-half-even).  It fails when the floors differ (`t` vs `-t - 1`, a price strictly
    between two ticks) **and** `t` is half-way in its spacing cell — the known finding. -/
theorem C09_add_by_value_aligned_tick (pool : Pool) (o o' : ByValueOracle) (h : o'.tickEst = -o.tickEst) :
    nearestUsable o'.tickEst pool.spacing = -nearestUsable o.tickEst pool.spacing := by
  rw [h, nearestUsable_neg]

/-- a price strictly between two ticks (floors `t` and `-t - 1`) still gives mirrored rounded ticks unless `t + 1` rounds
    differently from `t`: spacing 10, floor tick 3 ↔ -4 both round to 0; floor tick 5 ↔ -6 round to 0 (half-even) and -10 -/
example : nearestUsable (-4) 10 = -nearestUsable 3 10 ∧ nearestUsable (-6) 10 ≠ -nearestUsable 5 10 := by decide +kernel

/-- non-vacuity of `C09_add_by_value_one_sided_partial`: a tick strictly below a trimmed range -/
example : nearestUsable 103 10 < (if true then nearestUsable 204 10 else 204) := by decide +kernel

end Demeter
