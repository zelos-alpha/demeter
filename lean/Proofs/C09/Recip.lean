/-
  C09 — reciprocity of the concrete TickMath kernel on the whole tick range (`C06_reciprocity`): the Q96 sqrt prices of a
  tick and of its mirror multiply to 2^192 within one unit of rounding in each factor.  This is how far the concrete kernel is
  from an exactly mirrored one (`C09_orchestration` is exact for exactly mirrored kernels).
-/
import Proofs.C06.Recip
namespace Demeter

/-- `|sqrtAt(−a)·sqrtAt(a) − 2^192| ≤ 2·max(sqrtAt(−a), sqrtAt(a))` for every tick magnitude `0 < a ≤ 887272` -/
theorem C09_kernel_reciprocity (a : Nat) (h : a ≤ 887272) (h0 : 0 < a) :
    sqrtAt (-(a : Int)) * sqrtAt a ≤ 2 ^ 192 + 2 * max (sqrtAt (-(a : Int))) (sqrtAt a) ∧
    2 ^ 192 ≤ sqrtAt (-(a : Int)) * sqrtAt a + 2 * max (sqrtAt (-(a : Int))) (sqrtAt a) :=
  C06_reciprocity a h h0

/-- the same bound on the difference, in `Int`.  Relative to the product it is `2 / min(s(−a), s(a))`: with
    `s ≥ 4295128739` at the extreme ticks ≤ 2⁻³¹ there, and ≤ 10⁻¹² whenever both factors exceed 2·10¹² (|tick| ≲ 760 000). -/
theorem C09_kernel_reciprocity_rel (a : Nat) (h : a ≤ 887272) (h0 : 0 < a) :
    (sqrtAt (-(a : Int)) * sqrtAt a : Int) - 2 ^ 192 ≤ 2 * max (sqrtAt (-(a : Int))) (sqrtAt a) ∧
    (2 ^ 192 : Int) - sqrtAt (-(a : Int)) * sqrtAt a ≤ 2 * max (sqrtAt (-(a : Int))) (sqrtAt a) := by
  have := C09_kernel_reciprocity a h h0
  constructor <;> omega

theorem sqrtAt_recip (t : Int) (h : tickOk t = true) (ht0 : t ≠ 0) :
    sqrtAt t * sqrtAt (-t) ≤ 2 ^ 192 + 2 * max (sqrtAt t) (sqrtAt (-t)) ∧
    2 ^ 192 ≤ sqrtAt t * sqrtAt (-t) + 2 * max (sqrtAt t) (sqrtAt (-t)) := by
  have hb : t.natAbs ≤ Gen.tickBound := by simpa [tickOk] using h
  have hr := C09_kernel_reciprocity t.natAbs hb (by omega)
  rcases Int.natAbs_eq t with ht | ht
  · rw [← ht] at hr
    rw [Nat.mul_comm, Nat.max_comm]
    exact hr
  · have e : -t = (t.natAbs : Int) := by omega
    rw [← e, Int.neg_neg] at hr
    exact hr

example : sqrtAt (-(200000 : Nat) : Int) * sqrtAt (200000 : Nat) ≤ 2 ^ 192 + 2 * max (sqrtAt (-(200000 : Nat) : Int)) (sqrtAt (200000 : Nat)) :=
  (C09_kernel_reciprocity 200000 (by decide) (by decide)).1

end Demeter
