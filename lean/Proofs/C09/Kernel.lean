/-
  C09 — the reciprocity of Proofs/C09/Recip.lean as a Bool function `recipOk` (true on the whole tick range: `recipOk_of_le`).
-/
import Proofs.C09.Recip
namespace Demeter.Uni
open Demeter

/-- `sqrtAt t · sqrtAt (−t)` is `2^192` up to one unit of Q96 rounding in each factor -/
def recipOk (t : Nat) : Bool :=
  let a := sqrtAt (t : Int)
  let b := sqrtAt (-(t : Int))
  let p := a * b
  let q := 2 ^ 192
  let m := if a ≥ b then a else b
  (if p ≥ q then p - q else q - p) ≤ 2 * m

end Demeter.Uni

namespace Demeter
open Demeter.Uni

theorem recipOk_of_le (t : Nat) (h : t ≤ 887272) : recipOk t = true := by
  rcases Nat.eq_zero_or_pos t with rfl | h0
  · decide +kernel
  · have hr := C09_kernel_reciprocity t h h0
    rw [Nat.mul_comm] at hr
    unfold recipOk
    simp only [decide_eq_true_eq]
    -- the larger factor, as `recipOk` computes it, is `max`
    change (if _ ≥ _ then _ else _) ≤ 2 * max (sqrtAt (-(t : Int))) (sqrtAt t)
    split <;> omega

/-- **Kernel reciprocity on the band |tick| ≤ 1024**, a corollary of `recipOk_of_le`.  The sqrt prices of a
    tick and of its negation multiply to `2^192` within `2·max` — i.e. the concrete kernel satisfies the mirror law
    `ms s = 2^192 / s` up to a relative error of `2 / min(sqrtAt t, sqrtAt(−t))`, far below `1e-12` in this band. -/
theorem C09_kernel_reciprocity_partial (t : Nat) (h : t ≤ 1024) : recipOk t = true :=
  recipOk_of_le t (by omega)

end Demeter
