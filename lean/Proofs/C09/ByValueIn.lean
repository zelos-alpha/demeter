/-
  C09 — `add_liquidity_by_value` with the price INSIDE the range, under the token-order mirror.

  Inside the range the helper splits `value` as `v1 = value / (r + 1)`, `v0 = value − v1` (`r` = token ratio in value terms)
  and, when the wallet is short of one token, computes a rebalancing swap (`get_swap_value_with_part_balance_used`).  On the
  mirror the ratio is `1 / r` and the roles of token0 / token1 are exchanged: the same numbers in exact arithmetic only.  So
  the theorem below is for kernels with the exact context, mirrored oracles (`tick' = −tick` after rounding to the spacing,
  `ratio' = 1 / ratio`), a non-zero price and ratio.  In the 35-digit context the two splits differ in the last digits:
  measured by the harness at 0.1 %.
-/
import Proofs.C09.ByValue
import Proofs.C09.Witness
import Proofs.Lemmas.UniValueSplit
import Proofs.Lemmas.Exact
namespace Demeter.Uni
open Demeter

theorem addValues_mirror {K K' : Kern} {pool : Pool} {ms : Nat → Nat} (hk : KernMirror K K' pool ms) (ht : TickErr K pool)
    (hne : pool.tok0 ≠ pool.tok1) (s : State) (L U : Int) (price t0v t1v : Rat) (hw : WalletHas pool s.wallet) :
    MirrorAdd (addValues K pool s L U price t0v t1v) (addValues K' (mPool pool) (mState s) (-U) (-L) price t1v t0v) := by
  unfold addValues
  simp only [mPool_conv, hk.cx]
  exact Mir.ite (fun _ => Mir.fail _ _) fun _ => addByTick_mirror hk ht s L U _ _ none none true hw hne

theorem swapValue_mirror {K K' : Kern} (hcx : K'.cx = K.cx) (pool : Pool) (s : State) (b : Bool) (v price : Rat) :
    swapValue K' (mPool pool) (mState s) b v price = mRes (swapValue K pool s b v price) := by
  unfold swapValue
  simp only [mPool_quoteTok, mPool_baseTok, hcx, swap_mirror hcx]
  exact ite_mirror mRes (fun _ => rfl) fun _ => ite_mirror mRes (fun _ => rfl) fun _ => rfl

theorem swapThenAdd_mirror {K K' : Kern} {pool : Pool} {ms : Nat → Nat} (hk : KernMirror K K' pool ms) (ht : TickErr K pool)
    (hne : pool.tok0 ≠ pool.tok1) (s : State) (L U : Int) (price : Rat) (b : Bool) (sv a0 a1 : Rat)
    (hw : WalletHas pool s.wallet) :
    MirrorAdd
      (match swapValue K pool s b sv price with
        | (.error e, s') => (.error e, s')
        | (.ok _, s') => addValues K pool s' L U price a0 a1)
      (match swapValue K' (mPool pool) (mState s) b sv price with
        | (.error e, s') => (.error e, s')
        | (.ok _, s') => addValues K' (mPool pool) s' (-U) (-L) price a1 a0) := by
  rw [swapValue_mirror hk.cx]
  have hw1 := ((wrel_stepRel K pool).swapValue s b sv price).walletHas hw
  cases hsv : swapValue K pool s b sv price with
  | mk out s1 =>
    rw [hsv] at hw1
    cases out with
    | error e => exact ⟨rfl, rfl⟩
    | ok r => exact addValues_mirror hk ht hne s1 L U price a0 a1 hw1

theorem addByValueInRange_mirror {K K' : Kern} {pool : Pool} {ms : Nat → Nat} (hk : KernMirror K K' pool ms)
    (ht : TickErr K pool) (hne : pool.tok0 ≠ pool.tok1) (hcx : K.cx = NumCtx.exact) (s : State) (L U T : Int)
    (price value ratio : Rat) (hr : ratio ≠ 0) (hp : price ≠ 0) (hw : WalletHas pool s.wallet) :
    MirrorAdd (addByValueInRange K pool s L U T price value ratio)
      (addByValueInRange K' (mPool pool) (mState s) (-U) (-L) (-T) price value (1 / ratio)) := by
  have hcx' : K'.cx = NumCtx.exact := by rw [hk.cx, hcx]
  obtain ⟨b0, hb0⟩ := balanceOf_of_has hw.1
  obtain ⟨b1, hb1⟩ := balanceOf_of_has hw.2
  have hrv0 := valueRatio_ne_zero pool.q0 hr hp
  unfold addByValueInRange
  simp only [hcx, hcx', NumCtx.exact_add, NumCtx.exact_sub, NumCtx.exact_mul, NumCtx.exact_div, mState_wallet,
    mPool_tok0, mPool_tok1, hb0, hb1, hp, Bool.and_false, decide_false, Bool.false_eq_true, if_false, mPool_feeRate,
    mPool_q0, mPool_conv_swap pool price 1, valueRatio_mirror, Int.neg_lt_neg_iff, Bool.and_comm (decide (T < U))]
  generalize (if pool.q0 = true then ratio / price else ratio * price) = rv at hrv0 ⊢
  generalize b0 * (pool.conv price 1).1 = bv0
  generalize b1 * (pool.conv price 1).2 = bv1
  refine Mir.ite (fun _ => Mir.fail _ _) fun _ => ?_
  simp only [one_div_add_one_eq_zero hrv0]
  refine Mir.ite (fun _ => Mir.fail _ _) fun hz => ?_
  rw [split_recip value hrv0 hz, sub_sub_cancel]
  generalize value / (rv + 1) = v1
  generalize value - v1 = v0
  simp only [Bool.and_comm (decide (v1 ≤ bv1)), Bool.and_comm (decide (v1 > bv1)), Bool.and_comm (decide (v1 < bv1)),
    one_div_one_div, Bool.not_not, hrv0, one_div_ne_zero hrv0, if_false]
  refine Mir.ite (fun _ => addValues_mirror hk ht hne s L U price v0 v1 hw) fun _ => ?_
  refine Mir.ite (fun _ => Mir.fail _ _) fun _ => ?_
  -- short of token1 / short of token0: the mirror tests the two cases in the other order
  refine Mir.ite_swap ?_ (fun _ => ?_) (fun _ => ?_) (Mir.fail _ _)
  · intro h3 h4
    simp only [Bool.and_eq_true, decide_eq_true_eq] at h3 h4
    exact lt_asymm h3.1 h4.1
  · cases swapValuePart NumCtx.exact bv0 bv1 value pool.feeRate rv with
    | error e => exact Mir.fail _ _
    | ok r =>
      obtain ⟨x0, x1, sv⟩ := r
      exact swapThenAdd_mirror hk ht hne s L U price pool.q0 sv x0 x1 hw
  · cases swapValuePart NumCtx.exact bv1 bv0 value pool.feeRate (1 / rv) with
    | error e => exact Mir.fail _ _
    | ok r =>
      obtain ⟨x1, x0, sv⟩ := r
      exact swapThenAdd_mirror hk ht hne s L U price (!pool.q0) sv x0 x1 hw

end Demeter.Uni

namespace Demeter
open Demeter.Uni

/-- **`add_liquidity_by_value` commutes with the token-order mirror — all three regimes** — for kernels related by the
    mirror law whose context is exact, when the two orientations' oracles are mirror images: rounded price ticks
    `t' = −t` (`ho`; see `C09_add_by_value_aligned_tick` and the known finding for when they are not) and token ratios
    `ratio' = 1 / ratio ≠ 0` (`hor`, `hr`), at a non-zero price.  Same outcome (exception class, or used amounts and
    liquidity with the position key mirrored) and mirrored economic state, including the rebalancing swap of the in-range
    branch.  Extends `C09_add_by_value_one_sided_partial` (which needs no exactness) to the in-range branch. -/
theorem C09_add_by_value_mirror_exact {K K' : Kern} {pool : Pool} {ms : Nat → Nat} (hk : KernMirror K K' pool ms)
    (ht : TickErr K pool) (hne : pool.tok0 ≠ pool.tok1) (hcx : K.cx = NumCtx.exact) (me : Rat) (s : State) (lo up : Int)
    (v : Option Rat) (trim : Bool) (o o' : ByValueOracle) (hw : WalletHas pool s.wallet)
    (ho : nearestUsable o'.tickEst pool.spacing = -nearestUsable o.tickEst pool.spacing)
    (hor : o'.ratioAmt = 1 / o.ratioAmt) (hr : o.ratioAmt ≠ 0) (hprice : ∀ x, priceOf s = .ok x → x ≠ 0) :
    MirrorAdd (addByValue K pool me s lo up v trim o) (addByValue K' (mPool pool) me (mState s) (-up) (-lo) v trim o') := by
  refine addByValue_mirror_of hk ht hne me s lo up v trim o o' hw ho ?_
  intro L U T price value _ _ _ hp _ _
  rw [hor]
  exact addByValueInRange_mirror hk ht hne hcx s L U T price value o.ratioAmt hr (hprice price hp) hw

/-- a wallet short of the base token: the in-range branch has to swap before it adds -/
def gridStateShort : State := { gridState with wallet := [("a", 100), ("b", 10)] }

/-- non-vacuity of `C09_add_by_value_mirror_exact`, in-range branch with the rebalancing swap: the grid kernel of
    `Proofs/C09/Witness.lean` (exact context, mirror law proved), price tick 0 inside `[-10, 10]`, token ratio 2 resp. 1/2:
    accepted on both sides with the same used amounts, liquidity and final wallet (the swap fee shows in the /998) -/
example :
    Grid.gridKern.cx = NumCtx.exact ∧ ((1 : Rat) / 2 = 1 / (2 : Rat)) ∧
    (addByValue Grid.gridKern toyPool 0 gridStateShort (-10) 10 (some 60) true { tickEst := 0, ratioAmt := 2 }).1 =
      .ok [-10, 10, 39 / 2, 39 / 2, 39] ∧
    (addByValue Grid.gridKern (mPool toyPool) 0 (mState gridStateShort) (-10) 10 (some 60) true { tickEst := 0, ratioAmt := 1 / 2 }).1 =
      .ok [-10, 10, 39 / 2, 39 / 2, 39] ∧
    (addByValue Grid.gridKern toyPool 0 gridStateShort (-10) 10 (some 60) true { tickEst := 0, ratioAmt := 2 }).2.wallet =
      [("a", 70339 / 998), ("b", 489 / 998)] ∧
    (addByValue Grid.gridKern (mPool toyPool) 0 (mState gridStateShort) (-10) 10 (some 60) true { tickEst := 0, ratioAmt := 1 / 2 }).2.wallet =
      [("a", 70339 / 998), ("b", 489 / 998)] := by
  exact ⟨rfl, rfl, by decide +kernel⟩

end Demeter
