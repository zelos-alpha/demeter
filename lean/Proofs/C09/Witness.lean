/-
  C09 — a NON-TRIVIAL kernel that satisfies the mirror law exactly, so that the hypotheses of `C09_orchestration` (and of
  the view theorems) are known to be satisfiable by something that behaves like a concentrated-liquidity kernel:

  `gridKern` is the rational (floor-free) Uniswap v3 math on the three-point sqrt-price grid `{1, 2, 4}` (unit `Q = 2`, so
  `s ↦ 4 / s` is the exact reciprocal): ticks `< 0`, `= 0`, `> 0` have sqrt prices 1, 2, 4; the amounts of a position are
  `l·Q·(1/s − 1/sb)` of token0 and `l·(s − sa)/Q` of token1 with the three regimes below / inside / above the range decided
  exactly as `get_amounts` does (`s ≤ sa`, `s < sb`); `new_position` takes the smaller of the two liquidities the offered
  amounts support (floored to an integer) and returns the amounts that liquidity needs; prices are `(s/Q)²` resp. its
  reciprocal by token order.  ONE kernel is used on both sides (`K = K' = gridKern`); the orientation enters only through
  `pool.q0`, as in the code.
-/
import Proofs.Fixtures.Uni
import Proofs.Lemmas.UniMirrorRun
import Mathlib.Tactic.Ring
import Mathlib.Tactic.NormNum
namespace Demeter.Uni.Grid
open Demeter Demeter.Uni

def G (n : Nat) : Prop := n = 1 ∨ n = 2 ∨ n = 4

def snap (s : Nat) : Nat := if s ≤ 1 then 1 else if s ≤ 3 then 2 else 4

def inv (s : Nat) : Nat := 4 / snap s

def tsq (t : Int) : Nat := if t < 0 then 1 else if t = 0 then 2 else 4

theorem G_snap (s : Nat) : G (snap s) := by unfold snap G; split_ifs <;> simp
theorem G_tsq (t : Int) : G (tsq t) := by unfold tsq G; split_ifs <;> simp
theorem snap_G {n : Nat} (h : G n) : snap n = n := by rcases h with h | h | h <;> subst h <;> rfl
theorem G_inv4 {n : Nat} (h : G n) : G (4 / n) := by rcases h with h | h | h <;> subst h <;> unfold G <;> simp
theorem snap_inv (s : Nat) : snap (inv s) = 4 / snap s := snap_G (G_inv4 (G_snap s))
theorem tsq_neg (t : Int) : tsq (-t) = 4 / tsq t := by
  unfold tsq
  rcases lt_trichotomy t 0 with h | h | h
  · rw [if_neg (by omega), if_neg (by omega), if_pos h]
  · subst h; rfl
  · rw [if_pos (by omega), if_neg (by omega), if_neg (by omega)]
theorem inv4_le {a b : Nat} (ha : G a) (hb : G b) : (4 / a ≤ 4 / b) ↔ b ≤ a := by
  rcases ha with h | h | h <;> rcases hb with h' | h' | h' <;> subst h <;> subst h' <;> simp
theorem inv4_lt {a b : Nat} (ha : G a) (hb : G b) : (4 / a < 4 / b) ↔ b < a := by
  rw [← not_le, inv4_le hb ha, not_le]
theorem inv4_cast {n : Nat} (h : G n) : ((4 / n : Nat) : Rat) = 4 / (n : Rat) := by
  rcases h with h | h | h <;> subst h <;> norm_num

/-- `get_amounts` without floors, unit `Q = 2` -/
def amts (S sa sb : Nat) (l : Rat) : Rat × Rat :=
  if S ≤ sa then (l * 2 * (1 / (sa : Rat) - 1 / (sb : Rat)), 0)
  else if S < sb then (l * 2 * (1 / (S : Rat) - 1 / (sb : Rat)), l * ((S : Rat) - (sa : Rat)) / 2)
  else (0, l * ((sb : Rat) - (sa : Rat)) / 2)

/-- `get_liquidity` (integer floor of the rational liquidity each offered amount supports) -/
def liqOf (S sa sb : Nat) (a0 a1 : Rat) : Int :=
  if S ≤ sa then Rat.floor (a0 / (2 * (1 / (sa : Rat) - 1 / (sb : Rat))))
  else if S < sb then
    let x := Rat.floor (a0 / (2 * (1 / (S : Rat) - 1 / (sb : Rat))))
    let y := Rat.floor (a1 / (((S : Rat) - (sa : Rat)) / 2))
    if x < y then x else y
  else Rat.floor (a1 / (((sb : Rat) - (sa : Rat)) / 2))

def priceAt (pool : Pool) (S : Nat) : Rat :=
  if pool.q0 then (2 / (S : Rat)) * (2 / (S : Rat)) else ((S : Rat) / 2) * ((S : Rat) / 2)

def priceCell (x : Rat) : Nat := if x < 1 then 1 else if x = 1 then 2 else 4

def gridKern : Kern :=
  { cx := NumCtx.exact
    priceToSqrt := fun pool x => .ok (if pool.q0 then 4 / priceCell x else priceCell x)
    sqrtToPrice := fun pool s => .ok (priceAt pool (snap s))
    tickToPrice := fun pool t => .ok (priceAt pool (tsq t))
    newPos := fun _ s lo up a0 a1 =>
      if tsq lo ≥ tsq up then .error .zeroDiv else
      let l := liqOf (snap s) (tsq lo) (tsq up) a0 a1
      .ok ((amts (snap s) (tsq lo) (tsq up) l).1, (amts (snap s) (tsq lo) (tsq up) l).2, l)
    amounts := fun _ s lo up l _ =>
      if tsq lo ≥ tsq up then .ok (0, 0) else .ok (amts (snap s) (tsq lo) (tsq up) l)
    tickToSqrt := fun t => .ok (tsq t) }

theorem G_priceCell (x : Rat) : G (priceCell x) := by unfold priceCell G; split_ifs <;> simp

/-- token0's term of a segment between the reciprocals `4 / b`, `4 / a` is token1's term of the segment `a … b` -/
theorem recip4_sub (a b : Rat) : 2 * (1 / (4 / b) - 1 / (4 / a)) = (b - a) / 2 := by
  rw [one_div_div, one_div_div]; ring

theorem sub_recip4 (a b : Rat) : (4 / a - 4 / b) / 2 = 2 * (1 / a - 1 / b) := by ring

theorem amts_mirror {S sa sb : Nat} (hS : G S) (ha : G sa) (hb : G sb) (hlt : sa < sb) (l : Rat) :
    amts (4 / S) (4 / sb) (4 / sa) l = ((amts S sa sb l).2, (amts S sa sb l).1) := by
  unfold amts
  simp only [inv4_le hS hb, inv4_lt hS ha]
  rw [inv4_cast hS, inv4_cast ha, inv4_cast hb]
  by_cases h1 : S ≤ sa
  · rw [if_pos h1, if_neg (by omega), if_neg (by omega)]
    simp only [mul_assoc, mul_div_assoc, sub_recip4]
  · rw [if_neg h1]
    by_cases h2 : S < sb
    · rw [if_pos h2, if_neg (by omega), if_pos (by omega)]
      simp only [mul_assoc, mul_div_assoc, recip4_sub, sub_recip4]
    · rw [if_neg h2, if_pos (by omega)]
      simp only [mul_assoc, mul_div_assoc, recip4_sub]

theorem liqOf_mirror {S sa sb : Nat} (hS : G S) (ha : G sa) (hb : G sb) (hlt : sa < sb) (a0 a1 : Rat) :
    liqOf (4 / S) (4 / sb) (4 / sa) a1 a0 = liqOf S sa sb a0 a1 := by
  unfold liqOf
  simp only [inv4_le hS hb, inv4_lt hS ha]
  rw [inv4_cast hS, inv4_cast ha, inv4_cast hb]
  by_cases h1 : S ≤ sa
  · rw [if_pos h1, if_neg (by omega), if_neg (by omega), sub_recip4]
  · rw [if_neg h1]
    by_cases h2 : S < sb
    · rw [if_pos h2, if_neg (by omega), if_pos (by omega), recip4_sub, sub_recip4]
      split_ifs <;> omega
    · rw [if_neg h2, if_pos (by omega), recip4_sub]

theorem priceAt_mirror (pool : Pool) {n : Nat} (hg : G n) : priceAt (mPool pool) (4 / n) = priceAt pool n := by
  unfold priceAt
  rw [mPool_q0, inv4_cast hg]
  cases pool.q0
  · show 2 / (4 / (n : Rat)) * (2 / (4 / (n : Rat))) = n / 2 * (n / 2)
    rw [div_div_eq_mul_div]; ring
  · show 4 / (n : Rat) / 2 * (4 / (n : Rat) / 2) = 2 / n * (2 / n)
    ring

/-- `new_position` and `get_token_amounts` refuse an empty range (`tsq lo ≥ tsq up`) before anything else: the mirror's range is empty
    exactly when the pool's is, so the two bodies are compared on a non-empty range only -/
theorem guard_mirror {α β : Type} (f : α → β) (lo up : Int) {A B : Except Err α} {A' B' : Except Err β} (hA : A' = A.map f)
    (hB : tsq lo < tsq up → B' = B.map f) :
    (if tsq (-up) ≥ tsq (-lo) then A' else B') = Except.map f (if tsq lo ≥ tsq up then A else B) := by
  have hc : (tsq (-up) ≥ tsq (-lo)) ↔ (tsq lo ≥ tsq up) := by
    rw [tsq_neg, tsq_neg]; exact inv4_le (G_tsq lo) (G_tsq up)
  by_cases h : tsq lo ≥ tsq up
  · rw [if_pos h, if_pos (hc.mpr h)]; exact hA
  · rw [if_neg h, if_neg (fun x => h (hc.mp x))]; exact hB (by omega)

theorem gridKern_mirror (pool : Pool) : KernMirror gridKern gridKern pool inv := by
  refine { cx := rfl, priceToSqrt := ?_, sqrtToPrice := ?_, tickToPrice := ?_, newPos := ?_, amounts := ?_, tickToSqrt := ?_ }
  · intro x
    have hg := G_priceCell x
    show Except.ok _ = Except.ok _
    unfold inv
    cases hq : pool.q0 with
    | false => simp only [mPool, hq, Bool.not_false, if_true, Bool.false_eq_true, if_false, snap_G hg]
    | true =>
      simp only [mPool, hq, Bool.not_true, if_true, Bool.false_eq_true, if_false, snap_G (G_inv4 hg)]
      rcases hg with h | h | h <;> rw [h]
  · intro s
    show Except.ok _ = Except.ok _
    rw [snap_inv, priceAt_mirror pool (G_snap s)]
  · intro t
    show Except.ok _ = Except.ok _
    rw [tsq_neg, priceAt_mirror pool (G_tsq t)]
  · intro s lo up a0 a1
    show (if tsq (-up) ≥ tsq (-lo) then _ else _) = Except.map _ (if tsq lo ≥ tsq up then _ else _)
    refine guard_mirror _ lo up rfl fun hlt => ?_
    simp only [Except.map]
    rw [tsq_neg, tsq_neg, snap_inv, liqOf_mirror (G_snap s) (G_tsq lo) (G_tsq up) hlt, amts_mirror (G_snap s) (G_tsq lo) (G_tsq up) hlt]
  · intro s lo up l d
    show (if tsq (-up) ≥ tsq (-lo) then _ else _) = Except.map _ (if tsq lo ≥ tsq up then _ else _)
    refine guard_mirror _ lo up rfl fun hlt => ?_
    simp only [Except.map]
    rw [tsq_neg, tsq_neg, snap_inv, amts_mirror (G_snap s) (G_tsq lo) (G_tsq up) hlt]
  · intro t
    show Except.ok _ = Except.ok _
    rw [tsq_neg]
    unfold inv
    rw [snap_G (G_tsq t)]

theorem gridKern_tickErr (pool : Pool) : TickErr gridKern pool := by
  intro t e h
  cases h

end Demeter.Uni.Grid

namespace Demeter
open Demeter.Uni Demeter.Uni.Grid

/-- **non-vacuity of `C09_orchestration` and of the view theorems with a kernel that is not a toy**: the grid kernel (one
    kernel on both sides) satisfies the mirror law, the tick-error convention and — with `toyPool`/`toyState` — every other
    hypothesis of the theorem. -/
theorem C09_mirror_law_has_nontrivial_instance :
    KernMirror gridKern gridKern toyPool Grid.inv ∧ TickErr gridKern toyPool ∧ toyPool.tok0 ≠ toyPool.tok1 ∧
    WalletHas toyPool toyState.wallet :=
  ⟨gridKern_mirror toyPool, gridKern_tickErr toyPool, by decide, ⟨by unfold Has; decide, by unfold Has; decide⟩⟩

/-- the instance exercises the three regimes with amounts that depend on the side: range `[-1, 1]` (sqrt prices 1 … 4),
    liquidity 8: price below the range → only token0 (12, 0); inside → both (4, 4); above → only token1 (0, 12);
    and on the mirror the same amounts exchanged, at the reciprocal sqrt price -/
example :
    gridKern.amounts toyPool 1 (-1) 1 8 false = .ok (12, 0) ∧
    gridKern.amounts toyPool 2 (-1) 1 8 false = .ok (4, 4) ∧
    gridKern.amounts toyPool 4 (-1) 1 8 false = .ok (0, 12) ∧
    gridKern.amounts (mPool toyPool) (Grid.inv 1) (-1) 1 8 false = .ok (0, 12) ∧
    gridKern.amounts (mPool toyPool) (Grid.inv 4) (-1) 1 8 false = .ok (12, 0) := by
  decide +kernel

/-- an asymmetric range `[0, 1]` (sqrt prices 2 … 4) seen from below (sqrt price 1) and its mirror `[-1, 0]` seen from above;
    `new_position` with offers (3, 100): liquidity 6 is what 3 of token0 supports below the range -/
example :
    gridKern.newPos toyPool 1 0 1 3 100 = .ok (3, 0, 6) ∧
    gridKern.newPos (mPool toyPool) (Grid.inv 1) (-1) 0 100 3 = .ok (0, 3, 6) := by
  decide +kernel

/-- price 1 is sqrt price 2 on the grid -/
def gridState : State :=
  { toyState with row := some { closeTick := 0, curLiq := 1000, in0 := 0, in1 := 0, price := 1 },
                  wallet := [("a", 100), ("b", 100)] }

/-- add on a range the price is below (only token0 used), on one it is above (only token1), on one it is inside (both),
    remove the first with collection, sell 3 of the base token -/
def gridOps : List Op :=
  [.addRaw 5 7 0 10 none, .addRaw 5 7 (-10) 0 none, .addRaw 6 7 (-10) 10 none, .remove 0 10 none true none true, .sell 3 none]

/-- **`C09_orchestration` on a concrete, accepted, three-regime run** (all hypotheses hold: `gridOps` is mirrorable): the
    run on the pool and the mirrored run on the mirror, evaluated — the amounts used differ by regime and by side, the
    mirror uses them exchanged on mirrored ranges, and both end with the same wallet. -/
example :
    (∀ op ∈ gridOps, op.mirrorable = true) ∧ WalletHas toyPool gridState.wallet ∧
    (runE gridKern toyPool 0 gridState gridOps).1 =
      [.ok [0, 10, 5, 0, 10], .ok [-10, 0, 0, 7, 14], .ok [-10, 10, 6, 6, 12], .ok [0, 5], .ok [9 / 1000, 3, 2991 / 1000]] ∧
    (runE gridKern (mPool toyPool) 0 (mState gridState) (gridOps.map mOp)).1 =
      [.ok [-10, 0, 0, 5, 10], .ok [0, 10, 7, 0, 14], .ok [-10, 10, 6, 6, 12], .ok [0, 5], .ok [9 / 1000, 3, 2991 / 1000]] ∧
    (runE gridKern toyPool 0 gridState gridOps).2.wallet = [("a", 96991 / 1000), ("b", 84)] ∧
    (runE gridKern (mPool toyPool) 0 (mState gridState) (gridOps.map mOp)).2.wallet = [("a", 96991 / 1000), ("b", 84)] := by
  exact ⟨by decide, ⟨by unfold Has; decide, by unfold Has; decide⟩, by decide +kernel⟩

end Demeter
