/-
  C09 — the orientation algebra of the code's OWN kernel (`Kern.std`, helper.py / liquitidy_math.py / core.py), in the
  exact context.  `C09_orchestration` is about kernels that satisfy the mirror law exactly; the concrete kernel does not
  (TickMath's `sqrtAt t · sqrtAt (−t)` is `2^192` only up to a unit of Q96 rounding in each factor, and the Decimal square
  root of `p` and of `1/p` are floored separately).  This file says what the concrete helpers DO satisfy:

  * every identity is stated for arbitrary integer sqrt prices with the *products* `s·s'` explicit, so the deviation from the
    exact law is an explicit factor / additive term in `s·s' − 2^192` (the "slack"); with `s·s' = 2^192` it vanishes and the
    helper is exactly mirror-symmetric (`…_exact` corollaries);
  * for the sqrt prices of ticks the slack is bounded on the whole tick range by `C09_kernel_reciprocity`
    (`|sqrtAt t · sqrtAt (−t) − 2^192| ≤ 2·max`).

  What is NOT proved here: the propagation of these slacks through the orchestration code (wallet checks, liquidity floors
  of `get_liquidity`) — that closeness is measured by the harness at 1e-12 / 0.1 %.
-/
import Demeter.Uni.Mirror
import Proofs.Lemmas.Exact
import Proofs.C09.Recip
import Proofs.Fixtures.Uni
import Proofs.Lemmas.UniKernelStd
import Mathlib.Tactic.FieldSimp
import Mathlib.Tactic.Ring
import Mathlib.Tactic.Linarith
import Mathlib.Tactic.Positivity
namespace Demeter.Uni
open Demeter

/-- `Decimal ** 2` in the exact context -/
def sqx (x : Rat) : Rat := x * x

theorem poolPriceToBase_exact (pool : Pool) (s : Nat) :
    poolPriceToBase NumCtx.exact sqx pool s =
      if pool.q0 then
        (if (s : Rat) / q96R * ((s : Rat) / q96R) * pool.decFac = 0 then .error .divByZero
         else .ok (1 / ((s : Rat) / q96R * ((s : Rat) / q96R) * pool.decFac)))
      else .ok ((s : Rat) / q96R * ((s : Rat) / q96R) * pool.decFac) := by
  unfold poolPriceToBase sqx
  simp only [NumCtx.exact_div, NumCtx.exact_mul]
  cases pool.q0 <;> rfl

/-- the pool price is the price of tick `t` (so it sits exactly on a bound of any range that starts or ends at `t`): does
    the pool see it on/below that bound (`s ≤ sqrtAt t`: the "only token0" regime of `get_amounts` / `get_liquidity`) while
    the mirror sees it strictly inside the mirrored range (`s' < sqrtAt (−t)`)? -/
def onBoundRegimesDiffer (pool : Pool) (t : Int) : Bool :=
  match tickToPriceStd NumCtx.exact sqx pool t with
  | .ok p =>
    match priceToSqrtStd NumCtx.exact pool p, priceToSqrtStd NumCtx.exact (mPool pool) p with
    | .ok s, .ok s' => decide (s ≤ sqrtAt t) && decide (s' < sqrtAt (-t))
    | _, _ => false
  | _ => false

end Demeter.Uni

namespace Demeter
open Demeter.Uni

/-- **`sqrt_price_x96_to_base_unit_price` on a pool and on its mirror, any two non-zero sqrt prices**: both succeed, and
    the mirror's price is the original's times an explicit factor in the product `s·s'` — `(2^192 / (s·s'))²` when
    token0 is the base token, `((s·s') / 2^192)²` when it is the quote token. -/
theorem C09_std_sqrtToPrice_mirror_eps (pool : Pool) (s s' : Nat) (hs : s ≠ 0) (hs' : s' ≠ 0) (hd : pool.decFac ≠ 0) :
    ∃ x y, sqrtToPriceStd NumCtx.exact sqx pool s = .ok x ∧ sqrtToPriceStd NumCtx.exact sqx (mPool pool) s' = .ok y ∧
      y = x * (if pool.q0 then (((s : Rat) * s') / 2 ^ 192) ^ 2 else (2 ^ 192 / ((s : Rat) * s')) ^ 2) := by
  have hsr : (s : Rat) ≠ 0 := by exact_mod_cast hs
  have hsr' : (s' : Rat) ≠ 0 := by exact_mod_cast hs'
  have hqne : q96R ≠ 0 := ne_of_gt q96R_pos
  have hdm : (mPool pool).decFac = 1 / pool.decFac := rfl
  unfold sqrtToPriceStd
  rw [poolPriceToBase_exact, poolPriceToBase_exact, hdm, ← q96R_sq]
  generalize q96R = q at hqne ⊢
  generalize (s : Rat) = a at hsr ⊢
  generalize (s' : Rat) = b at hsr' ⊢
  cases hq0 : pool.q0 with
  | false =>
    have hm : (mPool pool).q0 = true := by simp [mPool, hq0]
    simp only [hm, if_true, Bool.false_eq_true, if_false]
    rw [if_neg (mul_ne_zero (mul_ne_zero (div_ne_zero hsr' hqne) (div_ne_zero hsr' hqne)) (one_div_ne_zero hd))]
    refine ⟨_, _, rfl, rfl, ?_⟩
    field_simp
  | true =>
    have hm : (mPool pool).q0 = false := by simp [mPool, hq0]
    simp only [hm, if_true, Bool.false_eq_true, if_false]
    rw [if_neg (mul_ne_zero (mul_ne_zero (div_ne_zero hsr hqne) (div_ne_zero hsr hqne)) hd)]
    refine ⟨_, _, rfl, rfl, ?_⟩
    field_simp

/-- **exact orientation algebra**: for reciprocal sqrt prices (`s·s' = 2^192`) the mirror pool's price of `s'` IS the
    pool's price of `s` -/
theorem C09_std_sqrtToPrice_mirror_exact (pool : Pool) (s s' : Nat) (h : s * s' = 2 ^ 192) (hd : pool.decFac ≠ 0) :
    sqrtToPriceStd NumCtx.exact sqx (mPool pool) s' = sqrtToPriceStd NumCtx.exact sqx pool s := by
  have hs : s ≠ 0 := by rintro rfl; simp at h
  have hs' : s' ≠ 0 := by rintro rfl; simp at h
  obtain ⟨x, y, hx, hy, hxy⟩ := C09_std_sqrtToPrice_mirror_eps pool s s' hs hs' hd
  have hp : (s : Rat) * s' = 2 ^ 192 := by exact_mod_cast h
  rw [hx, hy, hxy, hp]
  have h2 : (2 : Rat) ^ 192 ≠ 0 := by positivity
  rw [div_self h2]
  simp

/-- **`tick_to_base_unit_price` of tick `t` on a pool and of tick `−t` on its mirror**, every valid tick: the mirror's
    price is the original's times `(2^192 / P)²` resp. `(P / 2^192)²`, `P = sqrtAt t · sqrtAt (−t)`; and `P` is within
    `2·max(sqrtAt t, sqrtAt (−t))` of `2^192` (`C09_kernel_reciprocity`, every valid tick).  An invalid tick is rejected on both sides. -/
theorem C09_std_tickToPrice_mirror_eps (pool : Pool) (t : Int) (hd : pool.decFac ≠ 0) :
    (tickOk t = false → tickToPriceStd NumCtx.exact sqx pool t = .error .assertion ∧
                        tickToPriceStd NumCtx.exact sqx (mPool pool) (-t) = .error .assertion) ∧
    (tickOk t = true → ∃ x y, tickToPriceStd NumCtx.exact sqx pool t = .ok x ∧
        tickToPriceStd NumCtx.exact sqx (mPool pool) (-t) = .ok y ∧
        y = x * (if pool.q0 then (((sqrtAt t : Rat) * sqrtAt (-t)) / 2 ^ 192) ^ 2
                 else (2 ^ 192 / ((sqrtAt t : Rat) * sqrtAt (-t))) ^ 2) ∧
        (t ≠ 0 → sqrtAt t * sqrtAt (-t) ≤ 2 ^ 192 + 2 * max (sqrtAt t) (sqrtAt (-t)) ∧
                 2 ^ 192 ≤ sqrtAt t * sqrtAt (-t) + 2 * max (sqrtAt t) (sqrtAt (-t)))) := by
  constructor
  · intro h
    unfold tickToPriceStd sqrtAtE
    rw [tickOk_neg, h]
    exact ⟨rfl, rfl⟩
  · intro h
    have hn : tickOk (-t) = true := by rw [tickOk_neg, h]
    obtain ⟨x, y, hx, hy, hxy⟩ := C09_std_sqrtToPrice_mirror_eps pool (sqrtAt t) (sqrtAt (-t))
      (sqrtAt_pos_all t).ne' (sqrtAt_pos_all (-t)).ne' hd
    refine ⟨x, y, ?_, ?_, hxy, ?_⟩
    · unfold tickToPriceStd sqrtAtE; rw [h]; exact hx
    · unfold tickToPriceStd sqrtAtE; rw [hn]; exact hy
    · exact sqrtAt_recip t h

/-- **token1 amount on the mirror vs token0 amount on the pool, with the slack explicit.**  `sa ≤ sb` are the pool's
    sqrt prices of the lower / upper end of the segment, `sa' ≤ sb'` the mirror's (`sa'` belongs to `sb`, `sb'` to `sa`).
    The mirror's `get_amount1` is the pool's `get_amount0` plus `l · ((sa·sb' − 2^192)/sa − (sb·sa' − 2^192)/sb) / 2^96 / 10^d`:
    zero for exactly reciprocal sqrt prices, and at most `l · 2·(max/sa + max/sb) / 2^96 / 10^d` for TickMath's. -/
theorem C09_std_amount1_mirror_eps (sa sb sa' sb' : Nat) (l : Int) (dec : Bool) (d : Nat)
    (h : sa ≤ sb) (h' : sa' ≤ sb') (ha : sa ≠ 0) :
    amount1Gen NumCtx.exact sa' sb' l dec d = amount0Gen NumCtx.exact sa sb l dec d +
      (l : Rat) * ((((sa : Rat) * sb' - 2 ^ 192) / sa) - (((sb : Rat) * sa' - 2 ^ 192) / sb)) / q96R / ((pow10 d : Nat) : Rat) := by
  rw [amount1Gen_exact_of_le _ _ _ _ _ h', amount0Gen_exact_of_le _ _ _ _ _ h ha]
  have hsa : (sa : Rat) ≠ 0 := by exact_mod_cast ha
  have hsb : (sb : Rat) ≠ 0 := by
    have : sb ≠ 0 := by omega
    exact_mod_cast this
  have hq := ne_of_gt q96R_pos
  have hp : ((pow10 d : Nat) : Rat) ≠ 0 := by unfold pow10; positivity
  rw [← q96R_sq]
  field_simp
  ring

/-- **token0 amount on the mirror vs token1 amount on the pool, with the slack explicit**: the mirror's `get_amount0` is the
    pool's `get_amount1` plus `l · ((2^192 − sb·sa')/sa' − (2^192 − sa·sb')/sb') / 2^96 / 10^d`. -/
theorem C09_std_amount0_mirror_eps (sa sb sa' sb' : Nat) (l : Int) (dec : Bool) (d : Nat)
    (h : sa ≤ sb) (h' : sa' ≤ sb') (ha' : sa' ≠ 0) :
    amount0Gen NumCtx.exact sa' sb' l dec d = amount1Gen NumCtx.exact sa sb l dec d +
      (l : Rat) * (((2 ^ 192 - (sb : Rat) * sa') / sa') - ((2 ^ 192 - (sa : Rat) * sb') / sb')) / q96R / ((pow10 d : Nat) : Rat) := by
  rw [amount0Gen_exact_of_le _ _ _ _ _ h' ha', amount1Gen_exact_of_le _ _ _ _ _ h]
  have hsa : (sa' : Rat) ≠ 0 := by exact_mod_cast ha'
  have hsb : (sb' : Rat) ≠ 0 := by
    have : sb' ≠ 0 := by omega
    exact_mod_cast this
  have hq := ne_of_gt q96R_pos
  have hp : ((pow10 d : Nat) : Rat) ≠ 0 := by unfold pow10; positivity
  rw [← q96R_sq]
  field_simp
  ring

/-- **exact orientation algebra of `get_amounts`' two building blocks**: with reciprocal bounds
    (`sa·sb' = 2^192 = sb·sa'`) the mirror's token1 amount is the pool's token0 amount and vice versa, exactly -/
theorem C09_std_amounts_mirror_exact (sa sb sa' sb' : Nat) (l : Int) (dec : Bool) (d : Nat)
    (h : sa ≤ sb) (h' : sa' ≤ sb') (e1 : sa * sb' = 2 ^ 192) (e2 : sb * sa' = 2 ^ 192) :
    amount1Gen NumCtx.exact sa' sb' l dec d = amount0Gen NumCtx.exact sa sb l dec d ∧
    amount0Gen NumCtx.exact sa' sb' l dec d = amount1Gen NumCtx.exact sa sb l dec d := by
  have ha : sa ≠ 0 := by rintro rfl; simp at e1
  have ha' : sa' ≠ 0 := by rintro rfl; simp at e2
  have q1 : (sa : Rat) * sb' = 2 ^ 192 := by exact_mod_cast e1
  have q2 : (sb : Rat) * sa' = 2 ^ 192 := by exact_mod_cast e2
  constructor
  · rw [C09_std_amount1_mirror_eps sa sb sa' sb' l dec d h h' ha, q1, q2]
    simp
  · rw [C09_std_amount0_mirror_eps sa sb sa' sb' l dec d h h' ha', q1, q2]
    simp

theorem Uni.amountsAt_in_range_mirror_exact {s s' sa sb sa' sb' : Nat} (l : Int) (dec : Bool) (d0 d1 : Nat)
    (e1 : sa * sb' = 2 ^ 192) (e2 : sb * sa' = 2 ^ 192) (e3 : s * s' = 2 ^ 192) (hin : sa < s ∧ s < sb) :
    amountsAt NumCtx.exact s' sa' sb' l dec d1 d0 =
      ((amountsAt NumCtx.exact s sa sb l dec d0 d1).2, (amountsAt NumCtx.exact s sa sb l dec d0 d1).1) := by
  have hA : sa' < s' := recip_lt (by positivity) e3 e2 hin.2
  have hB : s' < sb' := recip_lt (by positivity) e1 e3 hin.1
  unfold amountsAt
  rw [if_neg (by omega), if_pos hB, if_neg (by omega), if_pos hin.2,
    (C09_std_amounts_mirror_exact s sb sa' s' l dec d0 (by omega) (by omega) e3 e2).1,
    (C09_std_amounts_mirror_exact sa s s' sb' l dec d1 (by omega) (by omega) e1 e3).2]

/-- **`get_token_amounts` on the mirror, price inside the range, reciprocal sqrt prices**: the regimes correspond
    (`sa < s < sb` ⟺ `sa' < s' < sb'`) and the two amounts are exchanged exactly.  (TickMath's sqrt prices are reciprocal
    only up to `C09_kernel_reciprocity`; the slack is the one of `C09_std_amount1_mirror_eps`.) -/
theorem C09_std_tokenAmounts_in_range_mirror_exact (pool : Pool) (s s' : Nat) (lo up : Int) (l : Int) (dec : Bool)
    (hlo : tickOk lo = true) (hup : tickOk up = true)
    (e1 : sqrtAt lo * sqrtAt (-lo) = 2 ^ 192) (e2 : sqrtAt up * sqrtAt (-up) = 2 ^ 192) (e3 : s * s' = 2 ^ 192)
    (hin : sqrtAt lo < s ∧ s < sqrtAt up) :
    tokenAmountsStd NumCtx.exact (mPool pool) s' (-up) (-lo) l dec =
      (tokenAmountsStd NumCtx.exact pool s lo up l dec).map (fun r => (r.2, r.1)) := by
  unfold tokenAmountsStd
  by_cases hl : l = 0
  · rw [if_pos hl, if_pos hl]; rfl
  · have hlt : sqrtAt (-up) < sqrtAt (-lo) := recip_lt (by positivity) e1 e2 (by omega)
    rw [if_neg hl, if_neg hl, amountsGen_of_ok _ _ _ _ _ _ hlo hup (by omega),
      amountsGen_of_ok _ _ _ _ _ _ (by rw [tickOk_neg, hup]) (by rw [tickOk_neg, hlo]) (by omega)]
    exact congrArg Except.ok (amountsAt_in_range_mirror_exact l dec pool.d0 pool.d1 e1 e2 e3 hin)

/-- tick 0 is its own mirror and TickMath is exactly reciprocal there: `sqrtAt 0 = 2^96` -/
example : sqrtAt 0 * sqrtAt (-0) = 2 ^ 192 := by decide +kernel

/-- a reciprocal pair other than `2^96·2^96`; the exact corollaries apply to it -/
example : (2 ^ 100 : Nat) * 2 ^ 92 = 2 ^ 192 := by decide +kernel

/-- tick 200000 meets the hypothesis `tickOk` of the `eps` forms -/
example : tickOk 200000 = true ∧ sqrtAt 200000 ≠ 0 := by decide +kernel

/-- reciprocity of TickMath for an arbitrary non-zero valid tick (either sign), in rational form -/
theorem C09_std_tick_reciprocity (t : Int) (h : tickOk t = true) (ht0 : t ≠ 0) :
    |(sqrtAt t : Rat) * (sqrtAt (-t) : Rat) - 2 ^ 192| ≤ 2 * max (sqrtAt t : Rat) (sqrtAt (-t) : Rat) := by
  have key := sqrtAt_recip t h ht0
  have k1 : (sqrtAt t : Rat) * (sqrtAt (-t) : Rat) ≤ 2 ^ 192 + 2 * max (sqrtAt t : Rat) (sqrtAt (-t) : Rat) := by
    exact_mod_cast key.1
  have k2 : (2 : Rat) ^ 192 ≤ (sqrtAt t : Rat) * (sqrtAt (-t) : Rat) + 2 * max (sqrtAt t : Rat) (sqrtAt (-t) : Rat) := by
    exact_mod_cast key.2
  rw [abs_le]
  constructor <;> linarith

/-- **the mirror's token1 amount of a position vs the pool's token0 amount, TickMath's own sqrt prices, as a bound**
    (the regime "price below the range" of the pool = "above" of the mirror): they differ by at most
    `|l| · (2·max(s(lo), s(−lo)) / s(lo) + 2·max(s(up), s(−up)) / s(up)) / 2^96 / 10^d` — about `4·|l| / (2^96·10^d)` times
    `max(1, 2^192 / s²)`, i.e. a few units of the last place of the integer math. -/
theorem C09_std_amount1_mirror_tick_bound (lo up : Int) (l : Int) (dec : Bool) (d : Nat)
    (hlo : tickOk lo = true) (hup : tickOk up = true) (hlo0 : lo ≠ 0) (hup0 : up ≠ 0)
    (h : sqrtAt lo ≤ sqrtAt up) (h' : sqrtAt (-up) ≤ sqrtAt (-lo)) :
    |amount1Gen NumCtx.exact (sqrtAt (-up)) (sqrtAt (-lo)) l dec d - amount0Gen NumCtx.exact (sqrtAt lo) (sqrtAt up) l dec d| ≤
      |(l : Rat)| * (2 * max (sqrtAt lo : Rat) (sqrtAt (-lo) : Rat) / (sqrtAt lo : Rat) +
                    2 * max (sqrtAt up : Rat) (sqrtAt (-up) : Rat) / (sqrtAt up : Rat)) / q96R / ((pow10 d : Nat) : Rat) := by
  rw [C09_std_amount1_mirror_eps (sqrtAt lo) (sqrtAt up) (sqrtAt (-up)) (sqrtAt (-lo)) l dec d h h' (sqrtAt_pos_all lo).ne']
  have r1 := C09_std_tick_reciprocity lo hlo hlo0
  have r2 := C09_std_tick_reciprocity up hup hup0
  have pa : (0 : Rat) < (sqrtAt lo : Rat) := by exact_mod_cast sqrtAt_pos_all lo
  have pb : (0 : Rat) < (sqrtAt up : Rat) := by exact_mod_cast sqrtAt_pos_all up
  have hq := q96R_pos
  have hp : (0 : Rat) < ((pow10 d : Nat) : Rat) := by unfold pow10; positivity
  rw [add_sub_cancel_left, abs_div, abs_div, abs_mul, abs_of_pos hq, abs_of_pos hp]
  apply div_le_div_of_nonneg_right _ (le_of_lt hp)
  apply div_le_div_of_nonneg_right _ (le_of_lt hq)
  apply mul_le_mul_of_nonneg_left _ (abs_nonneg _)
  calc |((sqrtAt lo : Rat) * (sqrtAt (-lo) : Rat) - 2 ^ 192) / (sqrtAt lo : Rat) -
          ((sqrtAt up : Rat) * (sqrtAt (-up) : Rat) - 2 ^ 192) / (sqrtAt up : Rat)|
      ≤ |((sqrtAt lo : Rat) * (sqrtAt (-lo) : Rat) - 2 ^ 192) / (sqrtAt lo : Rat)| +
          |((sqrtAt up : Rat) * (sqrtAt (-up) : Rat) - 2 ^ 192) / (sqrtAt up : Rat)| := abs_sub _ _
    _ ≤ _ := by
      rw [abs_div, abs_div, abs_of_pos pa, abs_of_pos pb]
      exact add_le_add (div_le_div_of_nonneg_right r1 (le_of_lt pa)) (div_le_div_of_nonneg_right r2 (le_of_lt pb))

/-- **On a range bound the concrete kernel's regime (below / inside / above) is not mirror-symmetric**: at the price of tick
    −1990 the token0 = quote pool computes a sqrt price `≤ sqrtAt (−1990)` (on the bound: one-sided regime), its mirror one
    `< sqrtAt 1990` (strictly inside).  With one offered amount zero `get_liquidity` is discontinuous there (one side asks
    for the whole value in the other token, the other mints liquidity 0).  This is why the harness counts and does not
    compare states whose price is within 1e-9 of a range bound (ASSUMPTIONS; the same policy for add by price / by tick /
    by value / remove / views); the fee accrual on a bound is discrete in the ticks and is treated in `Proofs/C09/Fee.lean`. -/
theorem C09_std_regime_on_bound_not_mirrored : onBoundRegimesDiffer toyPool (-1990) = true := by decide +kernel

/-- **No sqrt-price map makes the code's kernel satisfy the exact mirror law** (the reason the statements above carry their
    slack explicitly, and `C09_orchestration` is a statement about the orchestration code, not about this kernel): on the
    token0 = quote pool the prices `10^60` and `4·10^60` both have sqrt price 0 (the Decimal square root of `1/p` times `2^96`
    is below 1), on its mirror they have two different sqrt prices — `priceToSqrt (mPool p) x = ms (priceToSqrt p x)` would
    need `ms 0` to be both. -/
theorem C09_std_kernel_has_no_exact_mirror :
    ¬ ∃ ms : Nat → Nat, KernMirror (Kern.std NumCtx.exact sqx) (Kern.std NumCtx.exact sqx) toyPool ms := by
  rintro ⟨ms, hk⟩
  have h1 := hk.priceToSqrt (10 ^ 60)
  have h2 := hk.priceToSqrt (4 * 10 ^ 60)
  have e : priceToSqrtStd NumCtx.exact toyPool (10 ^ 60) = .ok 0 ∧ priceToSqrtStd NumCtx.exact toyPool (4 * 10 ^ 60) = .ok 0 ∧
      priceToSqrtStd NumCtx.exact (mPool toyPool) (10 ^ 60) = .ok 79228162514264337593543950336000000000000000000000000000000 ∧
      priceToSqrtStd NumCtx.exact (mPool toyPool) (4 * 10 ^ 60) = .ok 158456325028528675187087900672000000000000000000000000000000 := by
    decide +kernel
  simp only [Kern.std, e.1, e.2.1, e.2.2.1, e.2.2.2, Except.map] at h1 h2
  have a := Except.ok.inj h1
  have b := Except.ok.inj h2
  omega

/-- TickMath itself is not exactly reciprocal one tick away from 0 (so the `…_exact` corollaries do not apply to TickMath's
    sqrt prices of ticks ±1, as they do at tick 0; for TickMath the `…_eps` forms with `C09_kernel_reciprocity` are the statement) -/
theorem C09_std_tickmath_not_exactly_reciprocal : sqrtAt 1 * sqrtAt (-1) ≠ 2 ^ 192 := by decide +kernel

end Demeter
