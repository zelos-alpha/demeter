/-
  C09 — the read-only views and the estimate helpers under the token-order mirror:
  `get_market_balance`, `get_position_amount`, `get_position_status`, `estimate_amount`, `estimate_liquidity`
  (`Demeter/Uni/Views.lean`).

  The three views commute with the mirror exactly for every pair of kernels related by the mirror law and every
  arithmetic context.  `estimate_amount` splits `value` as `v1 = value / (r + 1)`, `v0 = value − v1`; on the mirror the
  ratio is `1 / r` and the split is `value / (1/r + 1)`, `value −` that: the same two numbers in exact arithmetic only,
  so its theorem is for a kernel whose context is exact, and needs the two orientations' oracles to be mirror images
  (`tickReal' = −tickReal`, `ratio' = 1 / ratio` — libm oracles in the code).  `estimate_liquidity` in range follows
  from it and the kernel law; its one-sided branches do integer arithmetic on the two bounds' sqrt prices directly
  (`mulDiv sa sb Q96`), which the abstract law does not cover — see `C09_estimate_liquidity_in_range_mirror_partial`.
-/
import Proofs.Lemmas.UniMirror
import Proofs.Lemmas.UniValueSplit
import Proofs.Lemmas.Exact
namespace Demeter.Uni
open Demeter

theorem getValue_mirror (cx : NumCtx) (pool : Pool) (a0 a1 price : Rat) :
    getValue cx (mPool pool) a1 a0 price = getValue cx pool a0 a1 price := by
  unfold getValue
  rw [mPool_conv]

/-- fees are accumulated in base/quote terms (identical), deposits per token (exchanged) -/
theorem balanceLoop_mirror {K K' : Kern} {pool : Pool} {ms : Nat → Nat} (hk : KernMirror K K' pool ms) (sqrt : Nat) :
    ∀ (ps : List Pos) (bf qf d0 d1 : Rat),
      balanceLoop K' (mPool pool) (ms sqrt) (ps.map mPos) (bf, qf, d1, d0) =
        (balanceLoop K pool sqrt ps (bf, qf, d0, d1)).map (fun r => (r.1, r.2.1, r.2.2.2, r.2.2.1))
  | [], _, _, _, _ => rfl
  | p :: ps, bf, qf, d0, d1 => by
    simp only [List.map_cons, balanceLoop, mPos_transferred]
    by_cases ht : p.transferred = true
    · simp only [ht, if_true]
      exact balanceLoop_mirror hk sqrt ps bf qf d0 d1
    · simp only [ht, Bool.false_eq_true, if_false]
      have ha := hk.amounts sqrt p.lower p.upper p.liq p.liqDec
      rw [mPos_lower, mPos_upper, mPos_liq, mPos_liqDec, ha, mPos_pending0, mPos_pending1, mPool_conv, hk.cx]
      cases K.amounts pool sqrt p.lower p.upper p.liq p.liqDec with
      | error e => rfl
      | ok a => exact balanceLoop_mirror hk sqrt ps _ _ _ _

end Demeter.Uni

namespace Demeter
open Demeter.Uni

/-- **`get_market_balance()` is the same on a market and on its token-order mirror**: net value, liquidity value,
    uncollected base / quote fees, base / quote held in positions, position count — for any kernels related by the mirror
    law and any arithmetic context; also the same exception when it raises. -/
theorem C09_getMarketBalance_mirror {K K' : Kern} {pool : Pool} {ms : Nat → Nat} (hk : KernMirror K K' pool ms) (s : State) :
    getMarketBalance K' (mPool pool) (mState s) = getMarketBalance K pool s := by
  unfold getMarketBalance
  rw [priceOf_mirror]
  cases priceOf s with
  | error e => rfl
  | ok price =>
    simp only []
    rw [hk.priceToSqrt]
    cases K.priceToSqrt pool price with
    | error e => rfl
    | ok sqrt =>
      simp only [Except.map, mState_positions]
      rw [balanceLoop_mirror hk sqrt s.positions 0 0 0 0]
      cases balanceLoop K pool sqrt s.positions (0, 0, 0, 0) with
      | error e => rfl
      | ok r =>
        simp only [Except.map, mPool_conv, hk.cx, filter_live_map_mPos, List.length_map]

/-- **`get_position_amount(key)`**: the amounts of the mirrored position on the mirrored market are the original's,
    token0 and token1 exchanged -/
theorem C09_getPositionAmount_mirror {K K' : Kern} {pool : Pool} {ms : Nat → Nat} (hk : KernMirror K K' pool ms) (s : State)
    (lo up : Int) :
    getPositionAmount K' (mPool pool) (mState s) (-up) (-lo) =
      (getPositionAmount K pool s lo up).map (fun r => (r.2, r.1)) := by
  unfold getPositionAmount
  rw [mState_positions, findPos_mirror, priceOf_mirror]
  cases findPos s.positions lo up with
  | none => rfl
  | some p =>
    simp only [Option.map]
    cases priceOf s with
    | error e => rfl
    | ok price =>
      simp only []
      rw [hk.priceToSqrt]
      cases K.priceToSqrt pool price with
      | error e => rfl
      | ok sqrt =>
        simp only [Except.map, mPos_liq, mPos_liqDec]
        exact hk.amounts sqrt lo up p.liq p.liqDec

/-- the list `get_position_status` returns, with the per-token entries exchanged:
    liquidity, liq amounts (0,1), liq value, pending (0,1), pending value, totals (0,1), total value, H, L, P -/
def mStatus : List Rat → List Rat
  | [l, l0, l1, lv, p0, p1, pv, a0, a1, av, h, lw, p] => [l, l1, l0, lv, p1, p0, pv, a1, a0, av, h, lw, p]
  | v => v

/-- **`get_position_status(key)`**: liquidity, values (liquidity / pending / total), H, L, P identical; per-token
    amounts exchanged; same exception when it raises -/
theorem C09_getPositionStatus_mirror {K K' : Kern} {pool : Pool} {ms : Nat → Nat} (hk : KernMirror K K' pool ms) (s : State)
    (lo up : Int) :
    getPositionStatus K' (mPool pool) (mState s) (-up) (-lo) = (getPositionStatus K pool s lo up).map mStatus := by
  unfold getPositionStatus
  rw [C09_getPositionAmount_mirror hk, mState_positions, findPos_mirror, priceOf_mirror]
  cases findPos s.positions lo up with
  | none => rfl
  | some p =>
    simp only [Option.map]
    cases priceOf s with
    | error e => rfl
    | ok price =>
      cases getPositionAmount K pool s lo up with
      | error e => rfl
      | ok a =>
        simp only [Except.map, mPos_pending0, mPos_pending1, mPos_liq, hk.cx, getValue_mirror, mPos_initPrice, mPos_upperPrice,
          mPos_lowerPrice]
        split <;> rfl

/-- **`estimate_amount(value, lower, upper)`** for a kernel with the exact context: with mirrored oracles
    (`tickReal' = −tickReal`, `ratio' = 1 / ratio`), a non-zero price and a non-zero ratio (a price strictly inside the
    range), the split of `value` over the two tokens on the mirror is the original's, exchanged; same rejection
    otherwise.  (In the 35-digit context the two splits `value / (r + 1)` and `value − value / (1/r + 1)` differ by
    rounding: measured by the harness at 0.1 %.) -/
theorem C09_estimateAmount_mirror_exact {K K' : Kern} (pool : Pool) (hcx : K.cx = NumCtx.exact) (hcx' : K'.cx = NumCtx.exact)
    (s : State) (value : Rat) (lo up : Int) (tickReal ratio : Rat) (hr : ratio ≠ 0)
    (hprice : ∀ x, priceOf s = .ok x → x ≠ 0) :
    estimateAmount K' (mPool pool) (mState s) value (-up) (-lo) (-tickReal) (1 / ratio) =
      (estimateAmount K pool s value lo up tickReal ratio).map (fun r => (r.2, r.1)) := by
  unfold estimateAmount
  rw [priceOf_mirror]
  cases hp : priceOf s with
  | error e => rfl
  | ok price =>
    have hp0 : price ≠ 0 := hprice price hp
    have hrv0 := valueRatio_ne_zero pool.q0 hr hp0
    simp only [hcx, hcx', NumCtx.exact_add, NumCtx.exact_sub, NumCtx.exact_mul, NumCtx.exact_div, mPool_q0, valueRatio_mirror,
      hp0, Bool.and_false, decide_false, Bool.false_eq_true, if_false, Int.cast_neg, neg_lt_neg_iff,
      Bool.and_comm (decide (tickReal < (up : Rat))), Bool.not_not]
    simp only [one_div_add_one_eq_zero hrv0]
    refine ite_mirror (Except.map fun r : Rat × Rat => (r.2, r.1)) (fun _ => rfl) fun _ => ?_
    refine ite_mirror (Except.map fun r : Rat × Rat => (r.2, r.1)) (fun _ => rfl) fun hz => ?_
    rw [split_recip value hrv0 hz, sub_sub_cancel]
    rfl

/-- **`estimate_liquidity(value, position)`, price inside the range (partial).**  With mirrored oracles, an exact
    context, both bound ticks valid and both orientations' current ticks strictly inside the range, the helper returns
    the same liquidity and the exchanged amounts on the mirror.
    Missing for the full statement: the two one-sided branches compute `value·10^d·⌊sa·sb/2^96⌋ // (sb − sa)` and
    `value·10^d·2^96 // (sb − sa)` from the bounds' sqrt prices by integer arithmetic of their own; they are mirror images
    only up to the reciprocity error of the concrete kernel (`C09_std_amount1_mirror_eps` quantifies the same slack for
    the amounts) and up to the floor-tick asymmetry of `cur` for a price within one tick of a bound (measured). -/
theorem C09_estimate_liquidity_in_range_mirror_partial {K K' : Kern} {pool : Pool} {ms : Nat → Nat}
    (hk : KernMirror K K' pool ms) (hcx : K.cx = NumCtx.exact) (s : State) (value : Rat) (lo up : Int)
    (est est' : Int) (tickReal ratio : Rat) (hr : ratio ≠ 0) (hprice : ∀ x, priceOf s = .ok x → x ≠ 0)
    (ls us : Nat) (hls : K.tickToSqrt lo = .ok ls) (hus : K.tickToSqrt up = .ok us)
    (hin : ∀ x sqrt, priceOf s = .ok x → K.priceToSqrt pool x = .ok sqrt →
      (lo < tickOfSqrt 64 est sqrt ∧ tickOfSqrt 64 est sqrt < up) ∧
      (-up < tickOfSqrt 64 est' (ms sqrt) ∧ tickOfSqrt 64 est' (ms sqrt) < -lo)) :
    estimateLiquidity K' (mPool pool) (mState s) value (-up) (-lo) est' (-tickReal) (1 / ratio) =
      (estimateLiquidity K pool s value lo up est tickReal ratio).map (fun r => (r.1, r.2.2, r.2.1)) := by
  have hcx' : K'.cx = NumCtx.exact := by rw [hk.cx, hcx]
  unfold estimateLiquidity
  rw [priceOf_mirror]
  cases hp : priceOf s with
  | error e => rfl
  | ok price =>
    simp only []
    rw [hk.priceToSqrt]
    cases hs : K.priceToSqrt pool price with
    | error e => rfl
    | ok sqrt =>
      obtain ⟨⟨h1, h2⟩, h3, h4⟩ := hin price sqrt hp hs
      simp only [Except.map, hk.tickToSqrt, hls, hus]
      rw [if_neg (by omega), if_neg (by omega), if_neg (by omega), if_neg (by omega)]
      rw [C09_estimateAmount_mirror_exact pool hcx hcx' s value lo up tickReal ratio hr hprice]
      cases estimateAmount K pool s value lo up tickReal ratio with
      | error e => rfl
      | ok a =>
        obtain ⟨a0, a1⟩ := a
        simp only [Except.map]
        rw [hk.newPos]
        cases K.newPos pool sqrt lo up a0 a1 <;> rfl

end Demeter
