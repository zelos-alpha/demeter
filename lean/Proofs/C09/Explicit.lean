/-
  C09 — operations with a caller-chosen pool price (`sqrt_price_x96=` of `_add_liquidity_by_tick`,
  `add_liquidity_by_tick`, `remove_liquidity`; `tick=` of `add_liquidity_by_tick`) under the token-order mirror.
  `C09_orchestration` excludes them (`Op.mirrorable`); here they are covered: an explicit sqrt price is mirrored through the
  kernel's own sqrt-price map `ms` of the mirror law, an explicit execution tick is negated.  Everything else as in
  `C09_orchestration` (which is the special case without such arguments).
-/
import Proofs.Lemmas.UniMirrorRun
import Proofs.C09.Witness
namespace Demeter
open Demeter.Uni

/-- **Orchestration commutes with the token-order mirror, caller-chosen pool prices included.**  As
    `C09_orchestration`, for every operation except `add_liquidity_by_value`: an explicit `sqrt_price_x96` argument is
    handed to the mirror as `ms sqrt` (the mirror law's own sqrt-price correspondence), an explicit `tick` as `−tick`. -/
theorem C09_orchestration_explicit_price {K K' : Kern} {pool : Pool} {ms : Nat → Nat} (hk : KernMirror K K' pool ms)
    (ht : TickErr K pool) (hne : pool.tok0 ≠ pool.tok1) (minError : Rat) :
    ∀ (ops : List Op) (s : State), (∀ op ∈ ops, op.mirrorableS = true) → WalletHas pool s.wallet →
      (runE K' (mPool pool) minError (mState s) (ops.map (mOpS ms))).1 = mOutcomes ops (runE K pool minError s ops).1 ∧
      (runE K' (mPool pool) minError (mState s) (ops.map (mOpS ms))).2 = mState (runE K pool minError s ops).2 :=
  runE_mirror hk ht hne minError

/-- `C09_orchestration` is the special case without caller-chosen prices -/
theorem C09_orchestration_explicit_price_extends (ms : Nat → Nat) (op : Op) (h : op.mirrorable = true) :
    mOpS ms op = mOp op ∧ op.mirrorableS = true :=
  mOpS_of_mirrorable ms op h

/-- an add at an explicit sqrt price (4: above the range, only token1), an add at an explicit execution tick, a removal
    valued at an explicit sqrt price (1: below the range, everything comes back as token0) -/
def gridOpsExplicit : List Op :=
  [.addRaw 5 7 0 10 (some 4), .addByTick (-10) 10 (some 3) (some 3) none (some 5) true, .remove 0 10 none true (some 1) true]

/-- non-vacuity of `C09_orchestration_explicit_price`: the grid kernel of `Proofs/C09/Witness.lean`, an accepted run with
    all three kinds of caller-chosen price, evaluated on the pool and (mirrored through `Grid.inv`) on its mirror -/
example :
    (∀ op ∈ gridOpsExplicit, op.mirrorableS = true) ∧ (∃ op ∈ gridOpsExplicit, op.mirrorable = false) ∧
    (runE Grid.gridKern toyPool 0 gridState gridOpsExplicit).1 =
      [.ok [0, 10, 0, 7, 7], .ok [-10, 10, 3, 0, 2], .ok [0, 7 / 2]] ∧
    (runE Grid.gridKern (mPool toyPool) 0 (mState gridState) (gridOpsExplicit.map (mOpS Grid.inv))).1 =
      [.ok [-10, 0, 7, 0, 7], .ok [-10, 10, 3, 0, 2], .ok [0, 7 / 2]] := by
  exact ⟨by decide, ⟨_, List.mem_cons_self .., rfl⟩, by decide +kernel⟩

end Demeter
