/-
  C09 — the caller-chosen execution price of `add_liquidity_by_tick` under the token-order mirror.

  `C09_orchestration` (Proofs/C09.lean) leaves out operations that carry a caller-chosen pool price.  For
  `add_liquidity_by_tick` that price is the optional `tick` argument (every integer in the tick range is a tick; on the
  mirrored pool the same price is the tick `-t`, in particular `1 ↔ -1` and `0 ↔ 0`) or `sqrt_price_x96` (mirrored through
  the kernel's `ms`).  Here the commutation (`step_mirror`, `addByTick_mirror`) is stated for them as well: "not given" is
  `none` and nothing else, an explicit tick is used whatever its value.  The defect repaired by /repo 40ebfb6 (`tick = -1`
  taken for "not given") is exactly a violation of `C09_explicit_tick_mirror`: with it the mirrored call at `-t = -1` falls
  back to the market price (`sqrtOrTickSentinel`, `C09_sentinel_rule_breaks_mirror`).
-/
import Proofs.Lemmas.UniMirrorRun
namespace Demeter
open Demeter.Uni

/-- **An explicit execution tick is mirrored as a tick.**  `add_liquidity_by_tick(lower, upper, base, quote, tick = t)`
    on a pool and `add_liquidity_by_tick(-upper, -lower, base, quote, tick = -t)` on its token-order mirror give the same
    outcome (same exception class, or the same used amounts and liquidity with the position key mirrored) and mirrored
    economic states — for **every** integer `t`, `-1`, `0` and `1` included, given or not given (`none ↔ none`), for every
    pair of kernels related by the mirror law and every arithmetic context. -/
theorem C09_explicit_tick_mirror {K K' : Kern} {pool : Pool} {ms : Nat → Nat} (hk : KernMirror K K' pool ms)
    (ht : TickErr K pool) (hne : pool.tok0 ≠ pool.tok1) (minError : Rat) (s : State) (lo up : Int) (b q : Option Rat)
    (t : Option Int) (trim : Bool) (hw : WalletHas pool s.wallet) :
    MirrorStep (.addByTick lo up b q none t trim) (step K pool minError s (.addByTick lo up b q none t trim))
      (step K' (mPool pool) minError (mState s) (mOp (.addByTick lo up b q none t trim))) :=
  step_mirror hk ht hne minError s _ rfl hw

/-- the same with an explicit `sqrt_price_x96` (it overrides `tick`); the mirror's sqrt price is the kernel's `ms` image -/
theorem C09_explicit_sqrt_mirror {K K' : Kern} {pool : Pool} {ms : Nat → Nat} (hk : KernMirror K K' pool ms)
    (ht : TickErr K pool) (hne : pool.tok0 ≠ pool.tok1) (s : State) (lo up : Int) (b q : Option Rat)
    (x : Nat) (t : Option Int) (trim : Bool) (hw : WalletHas pool s.wallet) :
    MirrorStep (.addByTick lo up b q (some x) t trim) (addByTick K pool s lo up b q (some x) t trim)
      (addByTick K' (mPool pool) (mState s) (-up) (-lo) b q (some (ms x)) (t.map (fun y => -y)) trim) :=
  addByTick_mirror hk ht s lo up b q (some x) t trim hw hne

def Uni.Op.mirrorableT : Op → Bool
  | .addByTick _ _ _ _ sq _ _ => sq.isNone
  | op => op.mirrorable

theorem Uni.mOpS_of_mirrorableT (ms : Nat → Nat) (op : Op) (h : op.mirrorableT = true) :
    mOpS ms op = mOp op ∧ op.mirrorableS = true := by
  cases op with
  | addByTick lo up b q sq t trim =>
    have hsq : sq = none := by simpa [Uni.Op.mirrorableT] using h
    subst hsq; exact ⟨rfl, rfl⟩
  | _ => exact mOpS_of_mirrorable ms _ h

/-- `C09_orchestration` for sequences that may also contain `add_liquidity_by_tick(..., tick = t)` with any explicit `t`
    (mirrored as `-t`): step by step the same outcomes, and the mirror of the final economic state. -/
theorem C09_orchestration_explicit_tick {K K' : Kern} {pool : Pool} {ms : Nat → Nat} (hk : KernMirror K K' pool ms)
    (ht : TickErr K pool) (hne : pool.tok0 ≠ pool.tok1) (minError : Rat) :
    ∀ (ops : List Op) (s : State), (∀ op ∈ ops, op.mirrorableT = true) → WalletHas pool s.wallet →
      (runE K' (mPool pool) minError (mState s) (ops.map mOp)).1 = mOutcomes ops (runE K pool minError s ops).1 ∧
      (runE K' (mPool pool) minError (mState s) (ops.map mOp)).2 = mState (runE K pool minError s ops).2 :=
  runE_mirror_of hk ht hne minError (Uni.mOpS_of_mirrorableT ms)

/-- what the repaired defect looked like in the model: a sentinel test `tick ≠ -1` makes the explicit tick `-1` fall back
    to the market price while its mirror image `+1` is used — the two execution prices are not mirror images.
    (`sqrtOrTickSentinel` is the rule of /repo before 40ebfb6.) -/
def Uni.sqrtOrTickSentinel (K : Kern) : Option Nat → Int → Except Err (Option Nat)
  | some x, _ => .ok (some x)
  | none, t => if t = -1 then .ok none else match K.tickToSqrt t with
    | .ok x => .ok (some x)
    | .error e => .error e

theorem C09_sentinel_rule_breaks_mirror (K : Kern) (x : Nat) (h : K.tickToSqrt 1 = .ok x) :
    Uni.sqrtOrTickSentinel K none 1 = .ok (some x) ∧ Uni.sqrtOrTickSentinel K none (-1) = .ok none := by
  constructor
  · simp [Uni.sqrtOrTickSentinel, h]
  · simp [Uni.sqrtOrTickSentinel]

/-- the explicit tick `-1` is looked up like any other tick; only `none` is "not given" -/
example (K : Kern) : sqrtOrTick K none (some (-1)) = (match K.tickToSqrt (-1) with | .ok x => .ok (some x) | .error e => .error e) ∧
    sqrtOrTick K none none = .ok none := ⟨rfl, rfl⟩

end Demeter
