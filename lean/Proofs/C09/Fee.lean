/-
  C09 — the fee accrual step (`V3CoreLib.update_fee`) under the token-order mirror.

  `update_fee` classifies a tick with the half-open range `[lower, upper)` (`tick >= upper` is "above",
  `tick < lower` is "below").  Negating ticks turns `[lower, upper)` into `(-upper, -lower]`, so a tick that sits
  exactly on a bound changes class in the mirror.  For a *moving* tick this does not matter: the crossing weight is
  the overlap of the closed tick path with the closed range, which is symmetric.  For a *stationary* tick on a bound
  it does: on the lower bound the pool accrues the whole bar and its mirror (tick on the upper bound) accrues nothing,
  and vice versa (`C09_fails_fee_mirror_on_lower_bound`, known finding `mirror.fee.stationary-on-bound`; this is
  Uniswap's own half-open convention).  Everywhere else the step commutes with the mirror exactly (`C09_fee_mirror`).
-/
import Demeter.Uni.Mirror
import Proofs.Lemmas.UniFee
namespace Demeter.Uni
open Demeter

def applyFeeCase (cx : NumCtx) (pool : Pool) (row : Row) (p : Pos) : FeeCase → Except Err Pos
  | .skip => .ok p
  | .full => calcAmounts cx pool row p 1
  | .nanError => .error .value
  | .part n d =>
    let w := cx.div (n : Rat) (d : Rat)
    if w > Gen.uniWeightAlarm then .error .runtime else calcAmounts cx pool row p w

theorem updateFee_eq_apply (cx : NumCtx) (pool : Pool) (last : Option Int) (row : Row) (p : Pos) :
    updateFee cx pool last row p = applyFeeCase cx pool row p (feeCase last row.closeTick p.lower p.upper) := by
  unfold updateFee applyFeeCase
  cases feeCase last row.closeTick p.lower p.upper <;> rfl

theorem calcAmounts_mirror (cx : NumCtx) (pool : Pool) (row : Row) (p : Pos) (w : Rat) :
    calcAmounts cx (mPool pool) (mRow row) (mPos p) w = (calcAmounts cx pool row p w).map mPos := by
  unfold calcAmounts
  by_cases hc : row.curLiq = 0
  · have hc' : (mRow row).curLiq = 0 := hc
    rw [if_pos hc, if_pos hc']
    rfl
  · have hc' : ¬ (mRow row).curLiq = 0 := hc
    rw [if_neg hc, if_neg hc']
    rfl

theorem applyFeeCase_mirror (cx : NumCtx) (pool : Pool) (row : Row) (p : Pos) (c : FeeCase) :
    applyFeeCase cx (mPool pool) (mRow row) (mPos p) c = (applyFeeCase cx pool row p c).map mPos := by
  cases c with
  | skip => rfl
  | full => exact calcAmounts_mirror cx pool row p 1
  | nanError => rfl
  | part n d =>
    simp only [applyFeeCase]
    split
    · rfl
    · exact calcAmounts_mirror cx pool row p _

theorem applyFeeCase_part_self (cx : NumCtx) (h1 : cx.rnd 1 = 1) (pool : Pool) (row : Row) (p : Pos) (n : Int) (hn : 0 < n) :
    applyFeeCase cx pool row p (.part n n) = applyFeeCase cx pool row p .full := by
  have hq : ((n : Int) : Rat) ≠ 0 := by exact_mod_cast (ne_of_gt hn)
  have hw : cx.div (n : Rat) (n : Rat) = 1 := by
    unfold NumCtx.div
    rw [div_self hq, h1]
  simp only [applyFeeCase, hw]
  rw [if_neg (by decide)]

theorem overlap_neg (prev close lower upper : Int) :
    overlap (-prev) (-close) (-upper) (-lower) = overlap prev close lower upper := by
  unfold overlap
  rw [Int.neg_max_neg, Int.neg_min_neg, Int.neg_min_neg, Int.neg_max_neg, neg_sub_neg]

theorem intAbs_neg_sub_neg (x y : Int) : intAbs (-x - -y) = intAbs (x - y) := by
  rw [neg_sub_neg, intAbs_comm]

/-- the decision depends on the orientation only through "both closes inside the half-open range" -/
theorem feeSpec_mirror_of_iff (prev close lower upper : Int)
    (hi : (inside (-upper) (-lower) (-prev) ∧ inside (-upper) (-lower) (-close)) ↔
      (inside lower upper prev ∧ inside lower upper close)) :
    feeSpec (-prev) (-close) (-upper) (-lower) = feeSpec prev close lower upper := by
  unfold feeSpec
  rw [overlap_neg, intAbs_neg_sub_neg]
  exact if_congr hi rfl rfl

/-- the decisions are the same, except that a path with exactly one end on a bound and the rest inside is "both inside" in
    one orientation and "crossing with weight n/n" in the other (`applyFeeCase_part_self`) -/
theorem applyFeeCase_feeSpec_mirror (cx : NumCtx) (h1 : cx.rnd 1 = 1) (pool : Pool) (row : Row) (p : Pos)
    (prev close lower upper : Int) (hb : ¬ (prev = close ∧ (close = lower ∨ close = upper))) :
    applyFeeCase cx pool row p (feeSpec (-prev) (-close) (-upper) (-lower)) =
      applyFeeCase cx pool row p (feeSpec prev close lower upper) := by
  unfold feeSpec
  rw [overlap_neg, intAbs_neg_sub_neg]
  by_cases hin : inside lower upper prev ∧ inside lower upper close <;>
    by_cases hin' : inside (-upper) (-lower) (-prev) ∧ inside (-upper) (-lower) (-close)
  · rw [if_pos hin, if_pos hin']
  · have hpos : 0 < intAbs (prev - close) := intAbs_pos (by unfold inside at hin hin'; omega)
    rw [if_pos hin, if_neg hin', overlap_inside _ _ _ _ hin.1 hin.2, if_neg (not_le.mpr hpos),
      applyFeeCase_part_self cx h1 _ _ _ _ hpos]
  · have hpos : 0 < intAbs (prev - close) := intAbs_pos (by unfold inside at hin hin'; omega)
    have ho := overlap_inside _ _ _ _ hin'.1 hin'.2
    rw [overlap_neg, intAbs_neg_sub_neg] at ho
    rw [if_neg hin, if_pos hin', ho, if_neg (not_le.mpr hpos), applyFeeCase_part_self cx h1 _ _ _ _ hpos]
  · rw [if_neg hin, if_neg hin']

theorem feeCase_mirror_off_bounds (prev close lower upper : Int) (h : lower < upper)
    (hp : prev ≠ lower ∧ prev ≠ upper) (hc : close ≠ lower ∧ close ≠ upper) :
    feeCase (some (-prev)) (-close) (-upper) (-lower) = feeCase (some prev) close lower upper := by
  rw [feeCase_eq_spec _ _ _ _ h, feeCase_eq_spec _ _ _ _ (by omega : -upper < -lower)]
  exact feeSpec_mirror_of_iff _ _ _ _ (by unfold inside; omega)

theorem feeCase_mirror_fresh (close lower upper : Int) (hc : close ≠ lower ∧ close ≠ upper) :
    feeCase none (-close) (-upper) (-lower) = feeCase none close lower upper := by
  have h : inRange (-upper) (-lower) (-close) = 0 ↔ inRange lower upper close = 0 := by
    rw [inRange_eq_zero, inRange_eq_zero]; unfold inside; omega
  unfold feeCase
  simp only [h]

theorem updateFee_mirror_of_apply (cx : NumCtx) (pool : Pool) (last last' : Option Int) (row : Row) (p : Pos)
    (h : applyFeeCase cx pool row p (feeCase last' (-row.closeTick) (-p.upper) (-p.lower)) =
      applyFeeCase cx pool row p (feeCase last row.closeTick p.lower p.upper)) :
    updateFee cx (mPool pool) last' (mRow row) (mPos p) = (updateFee cx pool last row p).map mPos := by
  rw [updateFee_eq_apply, updateFee_eq_apply, ← h]
  exact applyFeeCase_mirror cx pool row p _

end Demeter.Uni

namespace Demeter
open Demeter.Uni

/-- **The fee accrual step commutes with the token-order mirror** unless the tick is *stationary on a range bound*
    (`prev = close` and that tick is `lower` or `upper`).  Any pool, data row, position with a non-empty range, any
    arithmetic context that represents 1 exactly (`NumCtx.exact`, CPython's 35 digits): the mirrored pool's
    `update_fee` on the mirrored row / position / previous tick yields the mirror of the original's result — the same
    accrual with token0/token1 exchanged, or the same exception. -/
theorem C09_fee_mirror (cx : NumCtx) (h1 : cx.rnd 1 = 1) (pool : Pool) (prev : Int) (row : Row) (p : Pos)
    (hlu : p.lower < p.upper)
    (hb : ¬ (prev = row.closeTick ∧ (row.closeTick = p.lower ∨ row.closeTick = p.upper))) :
    updateFee cx (mPool pool) (some (-prev)) (mRow row) (mPos p) = (updateFee cx pool (some prev) row p).map mPos := by
  refine updateFee_mirror_of_apply cx pool _ _ row p ?_
  rw [feeCase_eq_spec _ _ _ _ (by omega), feeCase_eq_spec _ _ _ _ hlu]
  exact applyFeeCase_feeSpec_mirror cx h1 pool row p prev _ _ _ hb

/-- the same for every arithmetic context when neither close sits on a bound (the decision itself is then identical) -/
theorem C09_fee_mirror_off_bounds (cx : NumCtx) (pool : Pool) (prev : Int) (row : Row) (p : Pos) (hlu : p.lower < p.upper)
    (hp : prev ≠ p.lower ∧ prev ≠ p.upper) (hc : row.closeTick ≠ p.lower ∧ row.closeTick ≠ p.upper) :
    updateFee cx (mPool pool) (some (-prev)) (mRow row) (mPos p) = (updateFee cx pool (some prev) row p).map mPos :=
  updateFee_mirror_of_apply cx pool _ _ row p (congrArg _ (feeCase_mirror_off_bounds _ _ _ _ hlu hp hc))

/-- first bar of a fresh market (`last_tick` = nan): the step commutes with the mirror unless the close is on a bound
    (there one orientation accrues and the other raises `ValueError` from `int(nan)`) -/
theorem C09_fee_mirror_fresh (cx : NumCtx) (pool : Pool) (row : Row) (p : Pos)
    (hc : row.closeTick ≠ p.lower ∧ row.closeTick ≠ p.upper) :
    updateFee cx (mPool pool) none (mRow row) (mPos p) = (updateFee cx pool none row p).map mPos :=
  updateFee_mirror_of_apply cx pool _ _ row p (congrArg _ (feeCase_mirror_fresh _ _ _ hc))

/-- the whole `update()` loop over the positions -/
theorem C09_fee_mirror_loop (cx : NumCtx) (h1 : cx.rnd 1 = 1) (pool : Pool) (prev : Int) (row : Row) :
    ∀ (ps : List Pos), (∀ p ∈ ps, p.lower < p.upper ∧
        ¬ (prev = row.closeTick ∧ (row.closeTick = p.lower ∨ row.closeTick = p.upper))) →
      updateLoop cx (mPool pool) (some (-prev)) (mRow row) (ps.map mPos) =
        ((updateLoop cx pool (some prev) row ps).1.map mPos, (updateLoop cx pool (some prev) row ps).2)
  | [], _ => rfl
  | p :: ps, h => by
    have hp := h p (List.mem_cons_self ..)
    have ih := C09_fee_mirror_loop cx h1 pool prev row ps (fun q hq => h q (List.mem_cons_of_mem _ hq))
    simp only [List.map_cons, updateLoop]
    rw [C09_fee_mirror cx h1 pool prev row p hp.1 hp.2]
    cases updateFee cx pool (some prev) row p with
    | error e => rfl
    | ok p' => simp only [Except.map, ih, List.map_cons]

/-- both contexts of interest represent 1 exactly -/
theorem C09_fee_mirror_contexts : NumCtx.exact.rnd 1 = 1 ∧ NumCtx.py.rnd 1 = 1 := by
  refine ⟨rfl, ?_⟩
  decide +kernel

def feeWitnessPool : Pool :=
  { tok0 := "a", tok1 := "b", d0 := 0, d1 := 0, feeRate := 1 / 100, spacing := 10, q0 := true, decFac := 1 }
def feeWitnessRow : Row := { closeTick := 1000, curLiq := 100, in0 := 500, in1 := 700, price := 1 }
def feeWitnessPos : Pos :=
  { lower := 1000, upper := 2000, pending0 := 0, pending1 := 0, liq := 50, lowerPrice := 1, upperPrice := 2, initPrice := 1,
    transferred := false }

/-- **Known finding `mirror.fee.stationary-on-bound`** (by design: Uniswap's half-open range `[lower, upper)`).
    A tick that stays exactly on the lower bound for a bar: the pool counts the bar as in range, its token-order mirror
    (tick −1000, on the *upper* bound of the mirrored range `[−2000, −1000)`) counts it as above.  So the statement of
    `C09_fee_mirror` without `hb` is false: pool A accrues 2.5 / 3.5, its exact mirror accrues 0. -/
theorem C09_fails_fee_mirror_on_lower_bound :
    feeCase (some 1000) 1000 1000 2000 = .full ∧ feeCase (some (-1000)) (-1000) (-2000) (-1000) = .skip ∧
    updateFee NumCtx.exact feeWitnessPool (some 1000) feeWitnessRow feeWitnessPos =
      .ok { feeWitnessPos with pending0 := 5 / 2, pending1 := 7 / 2 } ∧
    updateFee NumCtx.exact (mPool feeWitnessPool) (some (-1000)) (mRow feeWitnessRow) (mPos feeWitnessPos) =
      .ok (mPos feeWitnessPos) ∧
    ¬ (updateFee NumCtx.exact (mPool feeWitnessPool) (some (-1000)) (mRow feeWitnessRow) (mPos feeWitnessPos) =
        (updateFee NumCtx.exact feeWitnessPool (some 1000) feeWitnessRow feeWitnessPos).map mPos) := by
  decide +kernel

/-- the mirror image: stationary on the upper bound, the pool accrues nothing and its mirror accrues the whole bar -/
theorem C09_fails_fee_mirror_on_upper_bound :
    feeCase (some 2000) 2000 1000 2000 = .skip ∧ feeCase (some (-2000)) (-2000) (-2000) (-1000) = .full := by
  decide +kernel

/-- non-vacuity of `C09_fee_mirror`: a crossing that ends on the lower bound (one end on a bound is covered), with a
    non-zero accrual on both sides -/
example : ¬ ((1500 : Int) = feeWitnessRow.closeTick ∧ (feeWitnessRow.closeTick = feeWitnessPos.lower ∨ feeWitnessRow.closeTick = feeWitnessPos.upper)) ∧
    feeWitnessPos.lower < feeWitnessPos.upper ∧
    updateFee NumCtx.exact feeWitnessPool (some 1500) feeWitnessRow feeWitnessPos =
      .ok { feeWitnessPos with pending0 := 5 / 2, pending1 := 7 / 2 } ∧
    updateFee NumCtx.exact (mPool feeWitnessPool) (some (-1500)) (mRow feeWitnessRow) (mPos feeWitnessPos) =
      .ok (mPos { feeWitnessPos with pending0 := 5 / 2, pending1 := 7 / 2 }) := by
  decide +kernel

end Demeter
