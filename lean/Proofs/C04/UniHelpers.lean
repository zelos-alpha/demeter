/-
  C04, Uniswap part, multi-step helpers: whatever `remove_liquidity(collect=True)`, `remove_all_liquidity` or
  `add_liquidity_by_value` returns, so also when it raises, the state left behind is exactly what the constituent
  transactions that completed (each an accepted single transaction) produced — a failing constituent left no trace.
-/
import Proofs.Lemmas.UniInv
namespace Demeter.Uni
open Demeter

def Accepted (K : Kern) (pool : Pool) (me : Rat) : State → List Op → Prop
  | _, [] => True
  | s, op :: ops => (∃ v, (step K pool me s op).1 = .ok v) ∧ Accepted K pool me (step K pool me s op).2 ops

def TxPath (K : Kern) (pool : Pool) (me : Rat) (s s' : State) : Prop :=
  ∃ txs : List Op, (∀ t ∈ txs, t.atomic = true) ∧ Accepted K pool me s txs ∧ s' = runOps K pool me s txs

theorem TxPath.refl (K : Kern) (pool : Pool) (me : Rat) (s : State) : TxPath K pool me s s :=
  ⟨[], (fun _ h => by cases h), trivial, rfl⟩

theorem Accepted.append {K : Kern} {pool : Pool} {me : Rat} : ∀ {s : State} {a b : List Op},
    Accepted K pool me s a → Accepted K pool me (runOps K pool me s a) b → Accepted K pool me s (a ++ b)
  | _, [], _, _, hb => hb
  | s, op :: _, _, ha, hb => ⟨ha.1, Accepted.append (s := (step K pool me s op).2) ha.2 hb⟩

theorem TxPath.trans {K : Kern} {pool : Pool} {me : Rat} {a b c : State} (h1 : TxPath K pool me a b)
    (h2 : TxPath K pool me b c) : TxPath K pool me a c := by
  obtain ⟨t1, a1, c1, e1⟩ := h1
  obtain ⟨t2, a2, c2, e2⟩ := h2
  refine ⟨t1 ++ t2, ?_, ?_, ?_⟩
  · intro t ht; rcases List.mem_append.mp ht with h | h
    · exact a1 t h
    · exact a2 t h
  · exact Accepted.append c1 (by rw [← e1]; exact c2)
  · rw [runOps_append, ← e1]; exact e2

theorem TxPath.single {K : Kern} {pool : Pool} {me : Rat} {s : State} (op : Op) (ha : op.atomic = true)
    {v : List Rat} (hok : (step K pool me s op).1 = .ok v) : TxPath K pool me s (step K pool me s op).2 :=
  ⟨[op], (fun t ht => by simp at ht; subst ht; exact ha), ⟨⟨v, hok⟩, trivial⟩, rfl⟩

theorem TxPath.step {K : Kern} {pool : Pool} {me : Rat} {s : State} (hi : PosImpliesWallet pool s) (op : Op)
    (ha : op.atomic = true) : TxPath K pool me s (step K pool me s op).2 := by
  rcases step_atomic K pool me s op hi ha with h | ⟨v, hv⟩
  · rw [h]; exact TxPath.refl ..
  · exact TxPath.single op ha hv

/-- `remove_liquidity` is `remove_liquidity(collect=False)`, then (if asked) `collect_fee` on what that left -/
theorem remove_path (K : Kern) (pool : Pool) (me : Rat) (s : State) (lo up : Int) (l : Option Int) (c : Bool)
    (sq : Option Nat) (rd : Bool) (hi : PosImpliesWallet pool s) :
    TxPath K pool me s (remove K pool s lo up l c sq rd).2 := by
  have p1 : TxPath K pool me s (removeNoCollect K pool s lo up l sq).2 := by
    rw [← remove_noCollect K pool s lo up l sq rd]
    exact TxPath.step hi (.remove lo up l false sq rd) rfl
  rcases remove_state K pool s lo up l c sq rd with h | h
  · rw [h]; exact p1
  · rw [h]
    exact p1.trans (TxPath.step ((removeNoCollect_wrel K pool s lo up l sq).inv hi) (.collect lo up none none rd true) rfl)

theorem removeAllLoop_path (K : Kern) (pool : Pool) (me : Rat) : ∀ (ks : List (Int × Int)) (s : State),
    PosImpliesWallet pool s → TxPath K pool me s (removeAllLoop K pool ks s).2
  | [], s, _ => TxPath.refl ..
  | (lo, up) :: ks, s, hi => by
    unfold removeAllLoop
    have h := remove_path K pool me s lo up none true none true hi
    have hw := (wrel_stepRel K pool).remove s lo up none true none true
    split
    · rename_i heq; rw [heq] at h; exact h
    · rename_i heq; rw [heq] at h hw
      exact TxPath.trans h (removeAllLoop_path K pool me ks _ (hw.inv hi))

/-- `add_liquidity_by_value` is at most a `swap` and then an `add_liquidity_by_tick`; each of the two is an accepted
    single transaction or left no trace -/
theorem TxPath.swapThenAdd {K : Kern} {pool : Pool} {me : Rat} {s s' : State} (hi : PosImpliesWallet pool s)
    (h : SwapThenAdd K pool s s') : TxPath K pool me s s' := by
  obtain ⟨s1, h1, h2⟩ := h
  have p1 : TxPath K pool me s s1 ∧ PosImpliesWallet pool s1 := by
    rcases h1 with rfl | ⟨a, f, t, rfl⟩
    · exact ⟨TxPath.refl .., hi⟩
    · rw [← step_swap_snd K pool me]
      exact ⟨TxPath.step hi (.swap a f t none true) rfl, ((wrel_stepRel K pool).step me s _).inv hi⟩
  refine p1.1.trans ?_
  rcases h2 with rfl | ⟨lo, up, b, q, rfl⟩
  · exact TxPath.refl ..
  · exact TxPath.step p1.2 (.addByTick lo up b q none none true) rfl

theorem TxPath.ofStep {K : Kern} {pool : Pool} {me : Rat} {s : State} (hi : PosImpliesWallet pool s) (op : Op) :
    TxPath K pool me s (Uni.step K pool me s op).2 := by
  by_cases ha : op.atomic = true
  · exact TxPath.step hi op ha
  · cases op <;> simp [Op.atomic] at ha
    case remove lo up l c sq rd => simp only [Uni.step]; exact remove_path K pool me s lo up l c sq rd hi
    case removeAll => simp only [Uni.step]; exact removeAllLoop_path K pool me _ s hi
    case addByValue lo up v trim o =>
      simp only [Uni.step]; exact TxPath.swapThenAdd hi (addByValue_swapThenAdd me s lo up v trim o)

end Demeter.Uni

namespace Demeter
open Demeter.Uni

/-- **Multi-step helpers, per constituent transaction.** Whatever operation raises — a single transaction or
    one of the helpers `remove_liquidity(collect=True)`, `remove_all_liquidity`, `add_liquidity_by_value` — the
    state it leaves behind is the result of running a list of *accepted single transactions* from the state
    before (for a single transaction the empty list does, by `C04_uni_reject_noop`). The constituent that failed
    left no trace.  The same holds when nothing raises (`TxPath.ofStep`): `e` and `hrej` only name the case of interest. -/
theorem C04_uni_helper_per_tx (K : Kern) (pool : Pool) (minError : Rat) (s : State) (op : Op) (e : Err)
    (hinv : PosImpliesWallet pool s) (hrej : (step K pool minError s op).1 = .error e) :
    ∃ txs : List Op, (∀ t ∈ txs, t.atomic = true) ∧ Accepted K pool minError s txs ∧
      (step K pool minError s op).2 = runOps K pool minError s txs :=
  TxPath.ofStep hinv op

end Demeter
