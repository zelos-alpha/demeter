/-
  C04, Uniswap part — a rejected `UniLpMarket` operation leaves wallet, positions, status and action log as they
  were, for every numeric kernel and every arithmetic context: every check precedes the first mutation.
-/
import Proofs.Lemmas.UniAtomic
import Proofs.Lemmas.UniInv
import Proofs.Fixtures.Uni
namespace Demeter
open Demeter.Uni

/-- **A rejected single transaction changes nothing**: for every public operation of the market that is one
    transaction (add_liquidity, add_liquidity_by_tick, `_add_liquidity_by_tick`, remove_liquidity without
    collect, collect_fee, swap, buy, sell, even_rebalance, transfer in/out), every rejection cause, every state
    satisfying the wallet invariant, every kernel and context: if the call raises, the state afterwards *is*
    the state before — wallet, positions, status row, `last_tick`, action log, even `has_update`. -/
theorem C04_uni_reject_noop (K : Kern) (pool : Pool) (minError : Rat) (s : State) (op : Op) (e : Err)
    (hinv : PosImpliesWallet pool s) (hatomic : op.atomic = true)
    (hrej : (step K pool minError s op).1 = .error e) :
    (step K pool minError s op).2 = s :=
  (step_atomic K pool minError s op hinv hatomic).noop hrej

/-- the hypothesis of `C04_uni_reject_noop` is an invariant: it holds for a market without positions and is
    preserved by every operation (accepted or rejected, atomic or helper), hence in every reachable state -/
theorem C04_uni_wallet_invariant (K : Kern) (pool : Pool) (minError : Rat) :
    (∀ s : State, s.positions = [] → PosImpliesWallet pool s) ∧
    (∀ (s : State) (ops : List Op), PosImpliesWallet pool s → PosImpliesWallet pool (runOps K pool minError s ops)) :=
  ⟨fun _ h hne => absurd h hne, fun s ops hi => ((wrel_stepRel K pool).runOps minError ops s).inv hi⟩

/-- the wallet never loses a token -/
theorem C04_uni_wallet_keys (K : Kern) (pool : Pool) (minError : Rat) (s : State) (ops : List Op) (tok : String)
    (h : (AList.get? s.wallet tok).isSome = true) :
    (AList.get? (runOps K pool minError s ops).wallet tok).isSome = true :=
  ((wrel_stepRel K pool).runOps minError ops s).1 tok h

end Demeter

namespace Demeter.Uni

/-- the exception a call ended with, as a value `decide` can compare (`Except Err α` has no decidable equality) -/
def errOf {α : Type} : Except Err α → Option Err
  | .error e => some e
  | .ok _ => none

theorem errOf_eq {α : Type} {r : Except Err α} {e : Err} (h : errOf r = some e) : r = .error e := by
  cases r with
  | error e' => simp only [errOf, Option.some.injEq] at h; rw [h]
  | ok v => simp [errOf] at h

end Demeter.Uni

namespace Demeter
open Demeter.Uni

/-- Before the repair (`addRawOld`: positions first, then the debits): a request that needs 5 of each token with
    only 1 of token1 in the wallet is rejected, yet leaves a position with liquidity 7 and token0 debited. -/
theorem C04_uni_add_fails_before_fix :
    errOf (addRawOld toyKern toyPool toyState 5 5 0 10 (some 1)).1 = some .assertion ∧
    (addRawOld toyKern toyPool toyState 5 5 0 10 (some 1)).2.positions.length = 1 ∧
    AList.get? (addRawOld toyKern toyPool toyState 5 5 0 10 (some 1)).2.wallet "a" = some 5 := by
  decide +kernel

example : errOf (addRaw toyKern toyPool toyState 5 5 0 10 (some 1)).1 = some .assertion ∧
    (addRaw toyKern toyPool toyState 5 5 0 10 (some 1)).2 = toyState := by decide +kernel

/-- hypotheses of `C04_uni_reject_noop` are satisfiable with a rejected and with an accepted call -/
example : PosImpliesWallet toyPool toyState ∧ (Op.addRaw 5 5 0 10 (some 1)).atomic = true ∧
    (step toyKern toyPool 0 toyState (.addRaw 5 5 0 10 (some 1))).1 = .error .assertion ∧
    errOf (step toyKern toyPool 0 { toyState with wallet := [("a", 10), ("b", 10)] } (.addRaw 5 5 0 10 (some 1))).1 = none := by
  refine ⟨fun h => absurd rfl h, rfl, errOf_eq (by decide +kernel), by decide +kernel⟩

end Demeter
