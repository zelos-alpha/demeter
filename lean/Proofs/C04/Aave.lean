/-
  C04 (Aave part) — a rejected Aave operation leaves wallet, supplies, borrows and the action log exactly as they
  were: `St.core` (the five caches may have been *filled* by the checks a rejected call performed; by C13 they
  stay coherent, so every view as observed is unchanged too).

  Model: `Demeter.Aave` = `/repo/demeter/aave/market.py` after the repairs 07ef1e2 (withdraw undoes its trial
  deduction before the health-factor raise), 236eb3f (supply checks the collateral flag before debiting the wallet),
  8d1be35 (non-positive amounts rejected up front), 65bb898 (change_collateral writes the flag back when the
  health-factor read raises).  All theorems hold for every arithmetic context and need **no hypothesis at all** on the
  state or the bar's data (every rejection cause, including `KeyError`s from missing data and arithmetic errors from
  zero indices or prices).  `update()` is in AaveUpdate.lean.
-/
import Proofs.Lemmas.AaveEffect
import Proofs.Fixtures.Aave
namespace Demeter
open Aave

variable {cx : ACtx} {env : Env}

/-- **any state and any bar data**: whichever user operation is rejected and for whatever cause (including exceptions
    from missing rows and zero indices), supplies, borrows, wallet and action log are exactly as before. -/
theorem C04_aave_reject_noop_any_state (s : St) (op : Op) (hu : op ≠ .update) (e : Err)
    (h : (step cx env s op).1 = .error e) : (step cx env s op).2.core = s.core :=
  core_eq_of_frame (step_rejected_moved s h hu).1

/-- **supply** rejected (closed market, non-positive amount, token not usable as collateral, unknown token, zero
    index, collateral flag different from the existing supply, wallet short, token not in the wallet) ⇒ nothing changed. -/
theorem C04_aave_supply_reject_noop (s : St) (tok : String) (amount : Rat) (coll : Bool) (e : Err)
    (h : (step cx env s (.supply tok amount coll)).1 = .error e) :
    (step cx env s (.supply tok amount coll)).2.core = s.core :=
  C04_aave_reject_noop_any_state s _ nofun e h

/-- **withdraw** rejected (closed, unknown token, nothing supplied, non-positive amount, more than the supply,
    health factor below 1 after the withdrawal, or the health-factor evaluation itself raising) ⇒ nothing changed:
    the trial deduction is undone on every path. -/
theorem C04_aave_withdraw_reject_noop (s : St) (tok : String) (amount : Option Rat) (e : Err)
    (h : (step cx env s (.withdraw tok amount)).1 = .error e) :
    (step cx env s (.withdraw tok amount)).2.core = s.core :=
  C04_aave_reject_noop_any_state s _ nofun e h

/-- **borrow** rejected (closed, non-positive amount, unknown token, borrowing disabled, no collateral, LTV 0,
    health factor not above 1, collateral cannot cover, `0 × inf` for `amount=None` without collateral) ⇒ nothing changed. -/
theorem C04_aave_borrow_reject_noop (s : St) (tok : String) (amount : Option Rat) (e : Err)
    (h : (step cx env s (.borrow tok amount)).1 = .error e) :
    (step cx env s (.borrow tok amount)).2.core = s.core :=
  C04_aave_reject_noop_any_state s _ nofun e h

/-- **repay** (cash or collateral) rejected (closed, unknown token, no such debt, collateral token not supplied /
    not collateral, non-positive amount, more than the debt, wallet short, token not in the wallet) ⇒ nothing
    changed; in particular once the collateral has been reduced the debt reduction cannot fail. -/
theorem C04_aave_repay_reject_noop (s : St) (tok : String) (amount : Option Rat) (withColl : Bool)
    (collTok : Option String) (e : Err)
    (h : (step cx env s (.repay tok amount withColl collTok)).1 = .error e) :
    (step cx env s (.repay tok amount withColl collTok)).2.core = s.core :=
  C04_aave_reject_noop_any_state s _ nofun e h

/-- **change_collateral** rejected — closed market, nothing supplied (`KeyError`), token not admitted as collateral
    (checked before anything is written), health factor below 1 after switching the flag off, **or the health-factor
    evaluation itself raising** (a held token without a price / risk row in this bar, a zero index) ⇒ nothing changed: the
    flag is written back on both failure paths (repair 65bb898; before it the second one kept the flipped flag,
    `C04_aave_fails_changeCollateral_hf_raises_pre_fix`).  Coherence, under which that evaluation cannot raise, is not assumed. -/
theorem C04_aave_changeCollateral_reject_noop (s : St) (tok : String) (coll : Bool) (e : Err)
    (h : (step cx env s (.changeCollateral tok coll)).1 = .error e) :
    (step cx env s (.changeCollateral tok coll)).2.core = s.core :=
  C04_aave_reject_noop_any_state s _ nofun e h

/-- a **rejected read** (`get_supply` / `get_borrow` of an absent token, `get_max_borrow_amount` without
    collateral, a `KeyError` from missing data, `quantize` overflow) ⇒ nothing changed; nor does an accepted one. -/
theorem C04_aave_read_noop (s : St) (v : View) : (step cx env s (.read v)).2.core = s.core :=
  core_eq_of_frame (reads_readView (cx := cx) (env := env) v s).1.1

/-- **closed market**: every write (`write_func`) is refused with `DemeterError` and the whole state — caches
    included — is untouched. -/
theorem C04_aave_closed_noop (s : St) (hc : env.isOpen = false) (op : Op)
    (hop : ∀ v, op ≠ .read v) (hnb : op ≠ .newBar) : step cx env s op = (.error .closed, s) := by
  cases op with
  | supply t a c => exact aave_unitM_err (by unfold supply; exact aave_guardOpen_closed hc _ s)
  | withdraw t a => exact aave_unitM_err (by unfold withdraw; exact aave_guardOpen_closed hc _ s)
  | borrow t a => exact aave_unitM_err (by unfold borrow; exact aave_guardOpen_closed hc _ s)
  | repay t a w c => exact aave_unitM_err (by unfold repay; exact aave_guardOpen_closed hc _ s)
  | changeCollateral t c => exact aave_unitM_err (by unfold changeCollateral; exact aave_guardOpen_closed hc _ s)
  | update => exact aave_unitM_err (by unfold liquidate; exact aave_guardOpen_closed hc _ s)
  | read v => exact absurd rfl (hop v)
  | newBar => exact absurd rfl hnb

/-- the special case of coherent states -/
theorem C04_aave_reject_noop (s : St) (_hs : Good cx env s) (op : Op) (hu : op ≠ .update) (e : Err)
    (h : (step cx env s op).1 = .error e) : (step cx env s op).2.core = s.core :=
  C04_aave_reject_noop_any_state s op hu e h

example : c04AaveErrIs (step c04AaveCx c04AaveEnv c04AaveSt (.withdraw "WETH" (some 6))).1 .hfLow = true := by decide +kernel
example : (step c04AaveCx c04AaveEnv c04AaveSt (.withdraw "WETH" (some 6))).2.supplies = c04AaveSt.supplies := by
  decide +kernel
example : c04AaveErrIs (step c04AaveCx c04AaveEnv c04AaveSt (.supply "WETH" 2 false)).1 .flagMismatch = true := by decide +kernel
example : (step c04AaveCx c04AaveEnv c04AaveSt (.supply "WETH" 2 false)).2.wallet = [("WETH", 5)] := by decide +kernel
example : c04AaveErrIs (step c04AaveCx c04AaveEnv c04AaveSt (.borrow "USDC" (some (-1)))).1 .zeroAmount = true := by decide +kernel


def c04AaveEnvNoPrice : Env := { c04AaveEnv with price := [("WETH", 1000)] }

/-- `change_collateral` as it was before the repair 65bb898: flag flipped, `health_factor` read with no handler -/
def c04ChangeCollateralPreFix (cx : ACtx) (env : Env) (tok : String) (coll : Bool) : M Unit := do
  guardOpen env
  let info ← lookupSupply tok
  if info.coll == coll then setUpdated
  else do
    commitFlag tok { info with coll := coll }
    if !coll then do
      let hf ← healthFactor cx env
      if hf.ltR Gen.aaveHfThreshold then do
        commitFlag tok info
        M.throw .hfLow
      else pure ()
    else pure ()
    setUpdated

example : c04AaveErrIs (step c04AaveCx c04AaveEnvNoPrice c04AaveSt (.changeCollateral "WETH" false)).1 .keyPrice = true := by
  decide +kernel
example : (step c04AaveCx c04AaveEnvNoPrice c04AaveSt (.changeCollateral "WETH" false)).2.supplies = c04AaveSt.supplies := by
  decide +kernel

/-- **witness of the pre-fix behaviour**: 10 WETH collateral, 7000 USDC debt, a bar whose price vector lacks USDC:
    `change_collateral(WETH, False)` raised `KeyError` and left `_supplies[WETH].collateral == False` — a rejected call
    that changed the position. -/
theorem C04_aave_fails_changeCollateral_hf_raises_pre_fix :
    c04AaveErrIs (c04ChangeCollateralPreFix c04AaveCx c04AaveEnvNoPrice "WETH" false c04AaveSt).1 .keyPrice = true ∧
    (c04ChangeCollateralPreFix c04AaveCx c04AaveEnvNoPrice "WETH" false c04AaveSt).2.core ≠ c04AaveSt.core := by
  decide +kernel

end Demeter
