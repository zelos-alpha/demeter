/-
  C04 (Deribit part) — a rejected buy / sell / deposit / withdraw leaves cash, positions, the visible order
  book, the broker wallet, the cached balance and the action log exactly as they were.

  Model: Demeter/Deribit.lean — the repaired code (before /repo 763165f `buy` wrote the depleted asks back
  before the balance check, before 4fb272a `sell` credited cash and consumed bids before the holding check).
  Every theorem holds for every arithmetic context: no rounding or float behaviour can make a rejected
  call leave a trace.
-/
import Proofs.Lemmas.DeribitDeal
import Proofs.Fixtures.Deribit
namespace Demeter
open Demeter.Deribit

/-- **rejected ⇒ nothing changed**, for every operation of the market, every state, every rejection cause -/
theorem C04_deribit_reject_noop (cx : DCtx) (c : TokenCfg) (s s' : DState) (op : Op) (e : Err)
    (h : step cx c s op = (.error e, s')) : s' = s :=
  step_err h

/-- the same, as the predicate the harness evaluates on the implementation's snapshots: either the call
    succeeded or the post-state equals the pre-state -/
theorem C04_deribit_ok_or_unchanged (cx : DCtx) (c : TokenCfg) (s : DState) (op : Op) :
    (∃ r, (step cx c s op).1 = .ok r) ∨ (step cx c s op).2 = s := by
  rcases h : step cx c s op with ⟨o, s'⟩
  cases o with
  | ok r => exact Or.inl ⟨r, rfl⟩
  | error e => exact Or.inr (C04_deribit_reject_noop cx c s s' op e h)

theorem Deribit.runOps_all_rejected (cx : DCtx) (c : TokenCfg) (s : DState) (ops : List Op)
    (h : ∀ op ∈ ops, ∃ e, (step cx c s op).1 = .error e) : runOps cx c s ops = s :=
  runOps_preserves (P := (· = s)) cx c ops s rfl (fun o ho s' hs' => by
    obtain ⟨e, he⟩ := h o ho
    rw [hs']
    exact step_err (e := e) (Prod.ext he rfl))

/-- a whole strategy step list: the state after a sequence in which *every* call was rejected is the
    initial state (rejections do not accumulate traces).  The hypothesis asks rejection at every state; the lemma above
    asks it at `s` only, which is all the proof uses. -/
theorem C04_deribit_all_rejected_sequence (cx : DCtx) (c : TokenCfg) (s : DState) (ops : List Op)
    (h : ∀ s₀ op, op ∈ ops → ∃ e, (step cx c s₀ op).1 = .error e) : runOps cx c s ops = s :=
  Deribit.runOps_all_rejected cx c s ops (fun op hop => h s op hop)

/-- the closed-market gate (`write_func`): buy and sell are rejected on a bar without data, state intact;
    deposit and withdraw are not gated (they are not `write_func`s) -/
theorem C04_deribit_closed_market_gate (cx : DCtx) (c : TokenCfg) (s : DState) (r : Req) (h : s.flagOpen = false) :
    step cx c s (.buy r) = (.error (.demeter "market-closed"), s) ∧
    step cx c s (.sell r) = (.error (.demeter "market-closed"), s) :=
  closed_gate cx c s r h

-- every rejection cause is reachable (the instrument of C15's example with other depths, beside a closed one)

def Deribit.c04Instr : Instr :=
  { Deribit.exInstr with asks := [⟨57 / 2000, 5, false⟩, ⟨29 / 1000, 605, false⟩],
                         bids := [⟨28 / 1000, 51, false⟩, ⟨55 / 2000, 585, true⟩] }
def Deribit.c04Closed : Instr := { Deribit.c04Instr with name := "ETH-22SEP23-1700-C", stateOpen := false }
def Deribit.c04Pos : Position :=
  { name := "ETH-22SEP23-1650-C", expiry := 30000, strike := 1650, kind := .call, amount := 2, avgBuy := 3 / 100,
    buyAmt := 2, avgSell := 0, sellAmt := 0 }
def Deribit.c04State : DState :=
  { cash := 1 / 10, positions := [("ETH-22SEP23-1650-C", Deribit.c04Pos)], book := [Deribit.c04Instr, Deribit.c04Closed],
    wallet := [("ETH", 1)], allowNeg := false, actions := [], cache := none, flagOpen := true, now := 360, price := 1650, priceDec := false }
def Deribit.c04Req (n : String) (a : Rat) (p m : Option Rat := none) : Req :=
  { name := n, amount := a, priceTok := p, priceUsd := none, mult := m }

section
open Deribit
private def outc (o : Op) : Outcome := (step DCtx.exact ethCfg c04State o).1
example : outc (.buy (c04Req "ETH-NOPE" 1)) = .error (.demeter "not-in-orderbook") := by decide +kernel
example : outc (.buy (c04Req "ETH-22SEP23-1700-C" 1)) = .error (.demeter "instrument-not-open") := by decide +kernel
example : outc (.buy (c04Req "ETH-22SEP23-1650-C" (1 / 100))) = .error (.demeter "below-min-amount") := by decide +kernel
example : outc (.buy (c04Req "ETH-22SEP23-1650-C" 1 (some (6 / 100)))) = .error (.demeter "no-order-at-price") := by decide +kernel
example : outc (.buy (c04Req "ETH-22SEP23-1650-C" 6 (some (57 / 2000)))) = .error (.demeter "insufficient-depth") := by decide +kernel
example : outc (.buy (c04Req "ETH-22SEP23-1650-C" 100000)) = .error (.demeter "insufficient-depth") := by decide +kernel
example : outc (.buy (c04Req "ETH-22SEP23-1650-C" 10)) = .error .insufficientBalance := by decide +kernel
example : outc (.sell (c04Req "ETH-22SEP23-1650-C" 3)) = .error (.demeter "exceeds-holding") := by decide +kernel
example : (step DCtx.exact ethCfg { c04State with positions := [] } (.sell (c04Req "ETH-22SEP23-1650-C" 1))).1 =
    .error (.demeter "not-held") := by decide +kernel
example : outc (.sell (c04Req "ETH-22SEP23-1650-C" 1 none (some 0))) = .error .divisionByZero := by decide +kernel
example : outc (.deposit 2) = .error .assertion := by decide +kernel
example : outc (.deposit (-1)) = .error (.demeter "negative-amount") := by decide +kernel
example : (step DCtx.exact ethCfg { c04State with wallet := [] } (.deposit 1)).1 = .error (.demeter "unknown-token") := by decide +kernel
example : outc (.withdraw 1) = .error .insufficientBalance := by decide +kernel
example : outc (.withdraw (-1)) = .error (.demeter "negative-amount") := by decide +kernel
example : (step DCtx.exact ethCfg { c04State with flagOpen := false } (.buy (c04Req "ETH-22SEP23-1650-C" 1))).1 =
    .error (.demeter "market-closed") := by decide +kernel
-- and accepted calls do change the state, so the theorem is not about a constant function
example : outc (.buy (c04Req "ETH-22SEP23-1650-C" 2)) = .ok (.trade [⟨57 / 2000, 2⟩] (6 / 10000)) := by decide +kernel
example : (step DCtx.exact ethCfg c04State (.buy (c04Req "ETH-22SEP23-1650-C" 2))).2 ≠ c04State := by decide +kernel
end

end Demeter
