/-
  C04, Squeeth part — a rejected vault operation leaves wallet, vaults, pool positions and the action list intact.
  The public vault operations (open_deposit_mint, deposit, deposit/withdraw_uni_position, burn_and_withdraw,
  liquidate) run inside `SqueethMarket._atomic`; `update` is a loop of such transactions.  The long side
  (`buy_squeeth` / `sell_squeeth`) has no transaction wrapper: it is the pool's `buy` / `sell`, which make every check
  and every computation that can raise before the first wallet movement — their atomicity (Proofs/Lemmas/UniAtomic) is
  carried over.  Proved for every arithmetic context.
-/
import Proofs.Lemmas.SqueethLong
namespace Demeter
open Squeeth Gen

/-- **every operation a strategy can call on the Squeeth market** — the vault operations and the long side — leaves the state
    unchanged when it is rejected -/
theorem C04_squeeth_user_operation_rejected_leaves_state_intact (cx : NumCtx) (e : Env) (s : State) (op : Op)
    (hop : op.isAtomic = true ∨ op.isTrade = true) (h : (step cx e s op).err ≠ none) : (step cx e s op).st = s := by
  obtain ⟨er, hr⟩ := step_rejected hop h
  rw [hr]; rfl

/-- **rejected ⇒ unchanged**: every public vault operation, every rejection cause, every state, every context.
    `State` = wallet, vaults (+ id counter), the pool's positions, the action list. -/
theorem C04_squeeth_rejected_leaves_state_intact (cx : NumCtx) (e : Env) (s : State) (op : Op)
    (hop : op.isAtomic = true) (h : (step cx e s op).err ≠ none) : (step cx e s op).st = s :=
  C04_squeeth_user_operation_rejected_leaves_state_intact cx e s op (.inl hop) h

/-- a rejected operation returns nothing -/
theorem C04_squeeth_rejected_returns_nothing (cx : NumCtx) (e : Env) (s : State) (op : Op)
    (hop : op.isAtomic = true) (h : (step cx e s op).err ≠ none) : (step cx e s op).out = [] := by
  obtain ⟨er, hr⟩ := step_rejected (.inl hop) h
  rw [hr]; rfl

/-- the wrapper does not change which calls are rejected, nor with which error -/
theorem C04_squeeth_same_verdict (cx : NumCtx) (e : Env) (s : State) (op : Op) :
    (step cx e s op).err = (stepBody cx e s op).err := by
  unfold step
  split
  · exact atomic_err _ _
  · rfl

/-- an accepted operation is exactly its body -/
theorem C04_squeeth_accepted_is_body (cx : NumCtx) (e : Env) (s : State) (op : Op)
    (h : (step cx e s op).err = none) : step cx e s op = stepBody cx e s op :=
  (step_ok h).2

/-- **a rejected `buy_squeeth` / `sell_squeeth` leaves the whole state unchanged**: both parameter forms, every rejection
    cause (no amount at all, a zero squeeth-row price under an ETH amount, negative amount, more than the wallet holds, token
    missing from the wallet, zero pool price), every state, every context -/
theorem C04_squeeth_rejected_trade_leaves_state_intact (cx : NumCtx) (e : Env) (s : State) (op : Op)
    (hop : op.isTrade = true) (h : (step cx e s op).err ≠ none) : (step cx e s op).st = s :=
  C04_squeeth_user_operation_rejected_leaves_state_intact cx e s op (.inr hop) h

/-- … and returns nothing -/
theorem C04_squeeth_rejected_trade_returns_nothing (cx : NumCtx) (e : Env) (s : State) (op : Op)
    (hop : op.isTrade = true) (h : (step cx e s op).err ≠ none) : (step cx e s op).out = [] := by
  obtain ⟨er, hr⟩ := step_rejected (.inr hop) h
  rw [hr]; rfl

namespace Squeeth
inductive ByLiquidations (cx : NumCtx) (e : Env) : State → State → Prop
  | refl (s : State) : ByLiquidations cx e s s
  | step (s : State) (vk : Nat) (s' : State) :
      (liquidateOp cx e s vk).err = none → ByLiquidations cx e (liquidateOp cx e s vk).st s' → ByLiquidations cx e s s'

theorem ByLiquidations.snoc {cx : NumCtx} {e : Env} {s t : State} (h : ByLiquidations cx e s t) (k : Nat) :
    ByLiquidations cx e s (liquidateOp cx e t k).st := by
  induction h with
  | refl s =>
    by_cases hl : (liquidateOp cx e s k).err = none
    · exact .step s k _ hl (.refl _)
    · obtain ⟨_, hr⟩ := atomic_fail hl
      rw [show liquidateOp cx e s k = _ from hr]
      exact .refl s
  | step s vk s' hok _ ih => exact .step s vk _ hok ih
end Squeeth

/-- **`update` per constituent transaction**: whatever happens — also when a `liquidate` inside it raises — the
    state `update` leaves behind is the result of the accepted `liquidate` calls made so far; the rejected call
    itself contributes nothing -/
theorem C04_squeeth_update_per_transaction (cx : NumCtx) (e : Env) (ks : List Nat) (s : State) :
    ByLiquidations cx e s (updateGo (liquidateOp cx e) cx e ks s).st :=
  updateGo_pres (P := ByLiquidations cx e s) _ cx e ks (fun _ k _ _ _ ht => ht.snoc k) s (.refl s)

/-- the pool refuses `remove_liquidity` on a position that is lent to a vault, touching nothing -/
theorem C04_squeeth_lent_position_guard (cx : NumCtx) (e : Env) (s : State) (pos : PosKey) (p : UPos)
    (hp : AList.get? s.positions pos = some p) (ht : p.transferred = true) :
    step cx e s (.uniRemove pos) = .fail (.demeter "transferred-out") s := by
  unfold step stepBody uniRemoveOp
  simp only [Op.isAtomic, Bool.false_eq_true, if_false, hp, ht, if_true]

namespace Squeeth
def c04Env : Env := { nf := 1/2, weth := 2000, osqth := 1/10, now := none, rows := [], uniPrice := 1/10, uniOpen := true, mean := fun _ => 0 }
def c04Pos : UPos := { liquidity := 10^19, pending0 := 0, pending1 := 0, transferred := false }
def c04State : State :=
  { wallet := [("WETH", 10), ("OSQTH", 5)],
    vaults := [(1, { coll := 3, short := 10, nft := none }), (2, { coll := 1, short := 1, nft := some (18000, 21000) })],
    maxId := 2, positions := [((21000, 25020), c04Pos), ((18000, 21000), { c04Pos with transferred := true })], log := [] }
def c04Cause (op : Op) : Option String := (step NumCtx.py c04Env c04State op).err.map Err.cause
end Squeeth

example : c04Cause (.openMint 1 66 none none) = some "unsafe" := by decide +kernel
example : c04Cause (.openMint (1/5) (1/10) none none) = some "dust" := by decide +kernel
example : c04Cause (.openMint 11 1 none none) = some "insufficient" := by decide +kernel
example : c04Cause (.openMint 1 1 (some 7) none) = some "key:vault" := by decide +kernel
example : c04Cause (.openMint 1 1 none (some (60, 120))) = some "position-not-in-pool" := by decide +kernel
example : c04Cause (.openMint 1 1 none (some (18000, 21000))) = some "already-transferred" := by decide +kernel
example : c04Cause (.deposit 1 11) = some "insufficient" := by decide +kernel
example : c04Cause (.deposit 1 (-1)) = some "negative-deposit" := by decide +kernel
example : c04Cause (.deposit 9 1) = some "key:vault" := by decide +kernel
example : c04Cause (.depositUni 2 (21000, 25020)) = some "already-has-nft" := by decide +kernel
example : c04Cause (.depositUni 1 (18000, 21000)) = some "already-transferred" := by decide +kernel
example : c04Cause (.withdrawUni 1 (18000, 21000)) = some "not-deposited" := by decide +kernel
example : c04Cause (.withdrawUni 9 (18000, 21000)) = some "vault-not-exist" := by decide +kernel
example : c04Cause (.burnWithdraw 1 0 2) = some "unsafe" := by decide +kernel
example : c04Cause (.burnWithdraw 1 6 0) = some "insufficient" := by decide +kernel
example : c04Cause (.burnWithdraw 9 1 1) = some "vault-not-exist" := by decide +kernel
example : c04Cause (.liquidate 1) = some "safe-vault" := by decide +kernel
example : c04Cause (.liquidate 9) = some "vault-not-exist" := by decide +kernel
example : c04Cause (.uniRemove (18000, 21000)) = some "transferred-out" := by decide +kernel
example : c04Cause (.buy none none) = some "amount-none" := by decide +kernel
example : c04Cause (.sell none none) = some "amount-none" := by decide +kernel
example : c04Cause (.buy (some 1000) none) = some "uni:AssertionError" := by decide +kernel
example : c04Cause (.buy none (some 100)) = some "uni:AssertionError" := by decide +kernel
example : c04Cause (.sell (some 6) none) = some "uni:AssertionError" := by decide +kernel
example : c04Cause (.buy (some (-1)) none) = some "uni:DemeterError" := by decide +kernel
example : c04Cause (.sell none (some (-1))) = some "uni:DemeterError" := by decide +kernel
example : ((step NumCtx.py { c04Env with osqth := 0 } c04State (.buy none (some 1))).err.map Err.cause) = some "uni:DivisionByZero" := by decide +kernel
example : ((step NumCtx.py { c04Env with uniPrice := 0 } c04State (.buy (some 1) none)).err.map Err.cause) = some "uni:DivisionByZero" := by decide +kernel
example : (step NumCtx.py c04Env c04State (.buy (some 1000) none)).st = c04State := by decide +kernel
-- a closed pool does not refuse a trade
example : (step NumCtx.py { c04Env with uniOpen := false } c04State (.buy (some 10) none)).err = none := by decide +kernel
example : (step NumCtx.py c04Env c04State (.sell none (some (1/10)))).st.wallet ≠ c04State.wallet := by decide +kernel
example : (step NumCtx.py c04Env c04State (.openMint 1 66 none none)).st = c04State := by decide +kernel

/-- why the wrapper is needed: the *body* of `open_deposit_mint` alone (the call without `_atomic`) leaves the new
    vault, the minted oSQTH and three action records behind when the collateral check fails -/
theorem C04_squeeth_body_alone_is_not_atomic :
    ¬ (∀ (e : Env) (s : State) (op : Op), (stepBody NumCtx.py e s op).err ≠ none → (stepBody NumCtx.py e s op).st = s) :=
  fun h => absurd (h c04Env c04State (.openMint 1 66 none none)) (by decide +kernel)

end Demeter
