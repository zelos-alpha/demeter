/-
  C04 (wallet/broker part) — a rejected wallet debit or broker swap leaves the wallet exactly as it was: every
  check (`fee_rate` range, price lookups, `Asset.sub`'s overdraft test) precedes the first mutation.
  The statements are about the model's "state the code leaves behind"; the correspondence run compares that
  state with the real wallet after the real exception.
-/
import Proofs.Lemmas.BrokerSwap
import Proofs.Lemmas.Wallet
namespace Demeter

/-- `Broker.subtract_from_balance` refused ⇒ no wallet is produced (the Python object is untouched: `Asset.sub`
    raises before assigning) — the model returns the error without a successor state. -/
theorem C04_wallet_debit_reject_noop (cx : NumCtx) (w : Wallet) (tok : String) (amount : Rat) (allowNeg : Bool)
    (e : WalletErr) (h : Wallet.debit cx w tok amount allowNeg = .error e) :
    (e = .insufficient ∧ ∃ b, AList.get? w tok = some b ∧ assetSub cx b amount allowNeg = none) ∨
    (e = .unknownToken ∧ AList.get? w tok = none ∧ allowNeg = false) :=
  Wallet.debit_error h

/-- a rejected `swap_by_from` leaves the wallet intact, whatever the cause -/
theorem C04_broker_swap_from_reject_noop (cx : NumCtx) (w w' : Wallet) (allowNeg : Bool) (f t : String)
    (amount feeRate : Rat) (p : Prices) (e : BrokerErr)
    (h : swapByFrom cx w allowNeg f t amount p feeRate = .error (e, w')) : w' = w :=
  (swapChecked_error ((swapByFrom_eq ..).symm.trans h)).1

/-- a rejected `swap_by_to` leaves the wallet intact, whatever the cause -/
theorem C04_broker_swap_to_reject_noop (cx : NumCtx) (w w' : Wallet) (allowNeg : Bool) (f t : String)
    (amount feeRate : Rat) (p : Prices) (e : BrokerErr)
    (h : swapByTo cx w allowNeg f t amount p feeRate = .error (e, w')) : w' = w :=
  (swapChecked_error ((swapByTo_eq ..).symm.trans h)).1

/-- `amount < 0` is refused by the second check, before any lookup or write -/
theorem C04_broker_swap_negative_rejected (cx : NumCtx) (w : Wallet) (allowNeg : Bool) (f t : String)
    (amount feeRate : Rat) (p : Prices) (hneg : amount < 0) :
    (∃ e, swapByFrom cx w allowNeg f t amount p feeRate = .error (e, w)) ∧
    (∃ e, swapByTo cx w allowNeg f t amount p feeRate = .error (e, w)) := by
  have key : ∀ k₁ k₂ quote, ∃ e, swapChecked cx w allowNeg f t amount p feeRate k₁ k₂ quote = .error (e, w) := by
    intro k₁ k₂ quote
    rcases swapChecked_cases cx w allowNeg f t amount p feeRate k₁ k₂ quote with ⟨e, _, _, he⟩ | ⟨_, _, _, h0, _⟩
    · exact ⟨e, he⟩
    · exact absurd hneg (Rat.not_lt.mpr h0)
  exact ⟨swapByFrom_eq .. ▸ key _ _ _, swapByTo_eq .. ▸ key _ _ _⟩

/-- whatever the class of the amount argument (Decimal, int, float), whatever `allow_negative_balance`: a swap either
    returns its one action record, or raises with the wallet exactly as it was — there is no third outcome (before the
    fix there was: `TypeError` after debit and credit, see the witness below) -/
theorem C04_broker_swap_any_argument_atomic (cx : NumCtx) (w : Wallet) (allowNeg : Bool) (f t : String)
    (a : PyAmount) (feeRate : Rat) (p : Prices) :
    ((∃ r, swapByFromArg cx w allowNeg f t a p feeRate = .ok r) ∨ (∃ e, swapByFromArg cx w allowNeg f t a p feeRate = .error (e, w))) ∧
    ((∃ r, swapByToArg cx w allowNeg f t a p feeRate = .ok r) ∨ (∃ e, swapByToArg cx w allowNeg f t a p feeRate = .error (e, w))) := by
  have key : ∀ x : Except (BrokerErr × Wallet) SwapResult, (∀ e w', x = .error (e, w') → w' = w) →
      (∃ r, x = .ok r) ∨ (∃ e, x = .error (e, w)) := by
    intro x hx
    cases x with
    | ok r => exact Or.inl ⟨r, rfl⟩
    | error ew => exact Or.inr ⟨ew.1, by rw [← hx ew.1 ew.2 rfl]⟩
  exact ⟨key _ (fun e w' h => C04_broker_swap_from_reject_noop cx w w' allowNeg f t _ feeRate p e h),
    key _ (fun e w' h => C04_broker_swap_to_reject_noop cx w w' allowNeg f t _ feeRate p e h)⟩

/-- with `allow_negative_balance` the wallet never refuses: the rejection causes left are the ones checked before the
    first mutation (fee range, negative amount, missing price, zero price) -/
theorem C04_broker_swap_allow_negative_causes (cx : NumCtx) (w w' : Wallet) (f t : String) (amount feeRate : Rat) (p : Prices)
    (e : BrokerErr) (h : swapByFrom cx w true f t amount p feeRate = .error (e, w') ∨ swapByTo cx w true f t amount p feeRate = .error (e, w')) :
    e ≠ .insufficient ∧ e ≠ .unknownToken := by
  have hcause : (e = .insufficient ∨ e = .unknownToken) → ∃ a e', Wallet.debit cx w f a true = .error e' :=
    h.elim (fun h => (swapChecked_error ((swapByFrom_eq ..).symm.trans h)).2)
      (fun h => (swapChecked_error ((swapByTo_eq ..).symm.trans h)).2)
  exact not_or.mp fun hc => (hcause hc).elim fun _ ⟨_, hd⟩ => Wallet.debit_true_ne_error _ _ _ _ _ hd

/-- the defect repaired by 83dd7db, on the reviewer's input: `swap_by_from(USDC, ETH, 100.5 : float)`, wallet
    1000 USDC / 1 ETH, a record callback attached: the unformatted body raised `TypeError` and left 899.5 USDC /
    1.05009925 ETH behind; the formatted call returns the record. -/
theorem C04_broker_swap_float_defect_before_fix :
    (match swapByFromUnformatted NumCtx.py [("USDC", 1000), ("ETH", 1)] false "USDC" "ETH" (.float (201/2)) (201/2)
              [("USDC", 1), ("ETH", 2000)] (3/1000) with
      | .error ew => some ew | .ok _ => none) = some ("TypeError", [("USDC", 1799/2), ("ETH", 4200397/4000000)]) ∧
    (swapByFromArg NumCtx.py [("USDC", 1000), ("ETH", 1)] false "USDC" "ETH" (.float (201/2))
              [("USDC", 1), ("ETH", 2000)] (3/1000)).toOption.map (·.wallet) = some [("USDC", 1799/2), ("ETH", 4200397/4000000)] := by
  decide +kernel

/-- rejections on concrete inputs — an overdraft, a missing price, a fee rate of 1 — so the `reject_noop` theorems are not vacuous -/
example : (swapByFrom NumCtx.py [("USDC", 10)] false "USDC" "ETH" 50 [("USDC", 1), ("ETH", 2000)] (3 / 1000)).toOption.isNone := by decide +kernel
example : (swapByFrom NumCtx.py [("USDC", 10)] false "USDC" "ETH" 5 [("USDC", 1)] (3 / 1000)).toOption.isNone := by decide +kernel
example : (swapByFrom NumCtx.py [("USDC", 10)] false "USDC" "ETH" 5 [("USDC", 1), ("ETH", 2000)] 1).toOption.isNone := by decide +kernel

example : (swapByFromArg NumCtx.py [("USDC", 10)] true "USDC" "ETH" (.float 50) [("USDC", 1), ("ETH", 2000)] (3 / 1000)).toOption.isSome := by decide +kernel
example : (swapByFromArg NumCtx.py [("USDC", 10)] false "USDC" "ETH" (.float 50) [("USDC", 1), ("ETH", 2000)] (3 / 1000)).toOption.isNone := by decide +kernel
example : (swapByToArg NumCtx.py [("USDC", 10)] true "USDC" "ETH" (.int 1) [("USDC", 1)] (3 / 1000)).toOption.isNone := by decide +kernel

end Demeter
