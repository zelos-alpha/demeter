/-
  C04 (Aave part, continued) — the end-of-bar `update()` (`_liquidate` → `_do_liquidate`): one `_do_liquidate` is atomic
  (every `raise` precedes the first mutation), so a raise of `update()` can only fall between whole liquidation steps; on a
  well-formed bar and state (`Aave.updWF`, a computable check) `update()` completes with the risk model's state.
-/
import Proofs.Fixtures.Aave
import Proofs.Lemmas.AaveWF
import Proofs.C12.RefineLoop
namespace Demeter
open Aave

variable {cx : ACtx} {env : Env}

/-- **`_do_liquidate` is atomic**: it returns with exactly one record appended, or raises with the core untouched. -/
theorem C04_aave_do_liquidate_atomic (hE : EnvOK env) (hP : EnvPos env) {s : St} (hs : Good cx env s)
    (ck dk : Option String) (dv : Rat) :
    match doLiquidate cx env ck dk dv s with
    | (.ok _, s') => s'.actions.length = s.actions.length + 1
    | (.error _, s') => s'.core = s.core ∧ s'.hasUpdate = s.hasUpdate := by
  rcases (doLiquidate_tri (cx := cx) hE hP ck dk dv s.frame).cases ⟨hs, rfl⟩ with ⟨_, s', hd, h⟩ | ⟨e, s', hd, h⟩ <;> rw [hd]
  · exact h.2
  · exact ⟨core_eq_of_frame h.2, congrArg Frame.hasUpdate h.2⟩

/-- **`update()` that raises before it recorded a liquidation leaves everything intact** (any arithmetic context). -/
theorem C04_aave_update_raise_noop (hE : EnvOK env) (hP : EnvPos env) {s : St} (hs : Good cx env s) (e : Err)
    (h : (step cx env s .update).1 = .error e) (hrec : (step cx env s .update).2.actions.length = s.actions.length) :
    (step cx env s .update).2.core = s.core ∧ (step cx env s .update).2.hasUpdate = s.hasUpdate := by
  have h' := aave_unitM_fst (m := liquidate cx env) h
  have hs2 : (step cx env s .update).2 = (liquidate cx env s).2 := aave_unitM_snd _ _
  rw [hs2] at hrec ⊢
  obtain ⟨_, _, hk⟩ := liquidate_post (cx := cx) hE hP hs
  have := hk e h' hrec
  exact ⟨core_eq_of_frame this, congrArg Frame.hasUpdate this⟩

/-- the log never shrinks, whatever `update()` does -/
theorem C04_aave_update_log_grows (hE : EnvOK env) (hP : EnvPos env) {s : St} (hs : Good cx env s) :
    s.actions.length ≤ (step cx env s .update).2.actions.length := by
  rw [show (step cx env s .update).2 = (liquidate cx env s).2 from aave_unitM_snd _ _]
  exact (liquidate_post (cx := cx) hE hP hs).2.1

/-- **`update()` completes on well-formed states** (exact arithmetic; open market; coherent state passing the computable
    check `updWF`): no exception, and the state is the model's — positions project to the risk model's final portfolio, wallet
    untouched, log extended by exactly the risk model's actions, `has_update` set, caches coherent. -/
theorem C04_aave_update_completes {env : Env} {s : St} (hs : Good aaveExact env s) (hwf : updWF env s = true)
    (hopen : env.isOpen = true) :
    ∃ s', step aaveExact env s .update = (.ok .unit, s') ∧
      proj env s' = (AaveRisk.liquidate NumCtx.exact (proj env s)).p ∧ s'.wallet = s.wallet ∧
      s'.actions = s.actions ++ (AaveRisk.liquidate NumCtx.exact (proj env s)).actions.map actionOf ∧
      s'.hasUpdate = true ∧ Good aaveExact env s' := by
  obtain ⟨hE, hP, hpwf⟩ := updWF_sound (cx := aaveExact) hwf hs
  obtain ⟨s', e', hp, hw, ha, hg, hm⟩ := C12_sm_update_refines (cx := aaveExact) hE hP hs hopen
  have hterm : (AaveRisk.liquidate aaveExact.toNumCtx (proj env s)).err = none := (C12_terminates (proj env s) hpwf).1
  rw [hterm] at hm
  exact ⟨s', aave_unitM_ok (Prod.ext hm.1 e'), hp, hw, ha, hm.2, hg⟩

/-- **the C04 clause for `update()`**: on an open market, in a coherent state, `update()` either completes, or raises — and
    then, unless a liquidation had already been recorded (the raise fell between two whole steps), nothing has changed; in
    exact arithmetic on a well-formed state (`updWF`) it completes. -/
theorem C04_aave_update_complete_or_noop {env : Env} {s : St} (hE : EnvOK env) (hP : EnvPos env) (hs : Good aaveExact env s) :
    ((step aaveExact env s .update).1 = .ok .unit ∨
      ∃ e, (step aaveExact env s .update).1 = .error e ∧
        ((step aaveExact env s .update).2.actions.length = s.actions.length → (step aaveExact env s .update).2.core = s.core)) ∧
    (updWF env s = true → env.isOpen = true → (step aaveExact env s .update).1 = .ok .unit) := by
  constructor
  · rcases hl : liquidate aaveExact env s with ⟨e | u, t⟩
    · have hr : (step aaveExact env s .update).1 = .error e := congrArg Prod.fst (aave_unitM_err hl)
      exact Or.inr ⟨e, hr, fun hrec => (C04_aave_update_raise_noop hE hP hs e hr hrec).1⟩
    · exact Or.inl (congrArg Prod.fst (aave_unitM_ok hl))
  · intro hwf hopen
    obtain ⟨s', h, _⟩ := C04_aave_update_completes hs hwf hopen
    rw [h]

-- the unhealthy account `c12rSt` (10 WETH against 10 000 USDC, HF 0.9075) passes the check, and `update()` completes
-- with one liquidation recorded
example : updWF c11rEnv c12rSt = true := by decide +kernel
example : (step aaveExact c11rEnv c12rSt .update).1 = .ok .unit ∧
    (step aaveExact c11rEnv c12rSt .update).2.actions.length = 1 := by decide +kernel
def c04uEnvNoPrice : Env := { c11rEnv with price := [("USDC", 1)] }
example : c04AaveErrIs (step aaveExact c04uEnvNoPrice c12rSt .update).1 .keyPrice = true := by decide +kernel
example : (step aaveExact c04uEnvNoPrice c12rSt .update).2.core = c12rSt.core := by decide +kernel

end Demeter
