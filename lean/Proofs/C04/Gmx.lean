/-
  C04, GMX part — a rejected `buy_glp` / `sell_glp` / `update` (v1) or `deposit` / `withdraw` (v2) leaves the wallet, the
  share holding, the pending reward and the action log exactly as they were: for every arithmetic context, every number
  type (v2: `Rat` and `Float` alike), every row, state and argument.  The models mirror the order of checks and mutations
  of the code, including the one path that has already changed something when it fails: v2 `deposit` whose
  second wallet debit is refused after the first went through writes the remembered balance back.
-/
import Proofs.Lemmas.GmxV1Reject
import Proofs.Lemmas.GmxV2Reject
import Batteries.Lean.Except  -- `DecidableEq (Except ε α)`, which the examples decide with
namespace Demeter
open Demeter.Gmx Demeter.Gmx2

/-- v1: every rejected operation is a no-op on (glp, reward, wallet, action log) — either setting of
    `broker.allow_negative_balance` -/
theorem C04_gmx_v1_reject_noop (cx : NumCtx) (env : GmxV1.Env) (s s' : GmxV1.State) (op : GmxV1.Op) (e : GmxV1.Err) (allowNeg : Bool)
    (h : GmxV1.step cx env s op allowNeg = (.error e, s')) : s' = s :=
  step_reject h

theorem Gmx.rejected_ops_are_skipped (cx : NumCtx) (env : GmxV1.Env) (allowNeg : Bool) (ops : List GmxV1.Op) (s : GmxV1.State) :
    ops.foldl (fun st op => (GmxV1.step cx env st op allowNeg).2) s
      = ops.foldl (fun st op => match GmxV1.step cx env st op allowNeg with
          | (.ok _, st') => st'
          | (.error _, _) => st) s := by
  induction ops generalizing s with
  | nil => rfl
  | cons op ops ih =>
    simp only [List.foldl_cons]
    cases hs : GmxV1.step cx env s op allowNeg with
    | mk res s' =>
      cases res with
      | ok v => simp only []; exact ih s'
      | error e => simp only []; rw [step_reject hs]; exact ih s

/-- v1, along a sequence: the state after any list of operations equals the state after the accepted ones alone
    (`allow_negative_balance = False`, the broker's default; `Gmx.rejected_ops_are_skipped` is the same for either wallet mode) -/
theorem C04_gmx_v1_rejected_ops_are_skipped (cx : NumCtx) (env : GmxV1.Env) (ops : List GmxV1.Op) (s : GmxV1.State) :
    ops.foldl (fun st op => (GmxV1.step cx env st op).2) s
      = ops.foldl (fun st op => match GmxV1.step cx env st op with
          | (.ok _, st') => st'
          | (.error _, _) => st) s :=
  Gmx.rejected_ops_are_skipped cx env false ops s

section
variable {α : Type} [Add α] [Sub α] [Mul α] [Div α] [Neg α] [LT α] [LE α] [OfNat α 0] [DecidableLT α] [DecidableLE α]

/-- v2 deposit: every rejection cause (negative amount, pricing error, first or second wallet debit refused, token
    missing from the wallet) leaves (amount, wallet, action log) as they were — either setting of `allow_negative_balance` -/
theorem C04_gmx_v2_deposit_reject_noop (o : GmxV2.Ops α) (cx : NumCtx) (cfg : GmxV2.Config α) (ps : GmxV2.Pool α) (lk sk : String)
    (s s' : GmxV2.State α) (la sa : α) (e : GmxV2.Err) (allowNeg : Bool)
    (h : GmxV2.deposit o cx cfg ps lk sk s la sa allowNeg = (.error e, s')) : s' = s :=
  deposit_reject h

/-- v2 withdraw: negative amount, more than held, pricing error -/
theorem C04_gmx_v2_withdraw_reject_noop (o : GmxV2.Ops α) (cx : NumCtx) (cfg : GmxV2.Config α) (ps : GmxV2.Pool α) (lk sk : String)
    (s s' : GmxV2.State α) (amt : Option α) (e : GmxV2.Err)
    (h : GmxV2.withdraw o cx cfg ps lk sk s amt = (.error e, s')) : s' = s :=
  withdraw_reject h

/-- v2: an amount that is not a finite number (NaN compares false with everything, so neither `< 0` nor `> holding` would
    stop it; ±∞) is an invalid argument — rejected with `DemeterError` before anything is priced or changed, whatever the
    number type, pool, wallet mode and state -/
theorem C04_gmx_v2_nonfinite_deposit_rejected (o : GmxV2.Ops α) (cx : NumCtx) (cfg : GmxV2.Config α) (ps : GmxV2.Pool α) (lk sk : String)
    (s : GmxV2.State α) (la sa : α) (allowNeg : Bool) (h : o.isFinite la = false ∨ o.isFinite sa = false) :
    GmxV2.deposit o cx cfg ps lk sk s la sa allowNeg = (.error .demeter, s) := by
  unfold GmxV2.deposit
  have : (!(o.isFinite la && o.isFinite sa)) = true := by
    rcases h with h | h <;> simp [h]
  rw [if_pos this]

/-- v2: finite, non-negative amounts whose pricing leaves the double range (the minted amount comes out as `inf` /
    `nan`) are rejected with `DemeterError` before the wallet is touched, in either wallet mode -/
theorem C04_gmx_v2_nonfinite_mint_rejected (o : GmxV2.Ops α) (cx : NumCtx) (cfg : GmxV2.Config α) (ps : GmxV2.Pool α) (lk sk : String)
    (s : GmxV2.State α) (la sa : α) (allowNeg : Bool) (r : GmxV2.LPResult α) (tag : String)
    (hfin : (o.isFinite la && o.isFinite sa) = true) (hneg : ¬ (la < 0 ∨ sa < 0))
    (hm : GmxV2.mintAmount o cfg ps la sa = .ok (r, tag)) (hr : o.isFinite r.gmAmount = false) :
    GmxV2.deposit o cx cfg ps lk sk s la sa allowNeg = (.error .demeter, s) := by
  unfold GmxV2.deposit
  simp only [hfin, Bool.not_true, Bool.false_eq_true, if_false, hneg, hm, hr, Bool.not_false, if_true]

theorem C04_gmx_v2_nonfinite_withdraw_rejected (o : GmxV2.Ops α) (cx : NumCtx) (cfg : GmxV2.Config α) (ps : GmxV2.Pool α) (lk sk : String)
    (s : GmxV2.State α) (amt : Option α) (h : o.isFinite (amt.getD s.amount) = false) :
    GmxV2.withdraw o cx cfg ps lk sk s amt = (.error .demeter, s) := by
  unfold GmxV2.withdraw
  simp only [h, Bool.not_false, if_true]
end

/-- non-vacuity for the IEEE instantiation the driver runs: NaN and +∞ are not finite, 1.5 is (kernel-evaluated `Float` is
    opaque, so this is stated through the instantiation's own field and checked at run time by the correspondence runs) -/
example : GmxV2.floatOps.isFinite = Float.isFinite := rfl

/-- the restore step of v2 `deposit` restores exactly: after a successful first debit, writing the remembered balance back
    gives the original wallet (the example marked "the restore path" below takes it) -/
theorem C04_gmx_v2_restore_is_exact (cx : NumCtx) (w w1 : Wallet) (k : String) (a b : Rat)
    (hb : AList.get? w k = some b) (hd : Wallet.debit cx w k a false = .ok w1) : AList.set w1 k b = w := by
  obtain ⟨b0, b', hb0, _, rfl⟩ := Wallet.debit_false_ok hd
  rw [hb] at hb0; cases hb0
  exact AList.set_restore hb _

namespace GmxC04Demo
open GmxV1

def env : Env :=
  { rows := [{ name := "weth", price := 2000 * 10 ^ 30, usdg := 4 * 10 ^ 24, weight := 1 },
             { name := "usdc", price := 10 ^ 30, usdg := 5 * 10 ^ 24, weight := 1 }],
    tokenSet := ["weth", "usdc"], glpSupply := 8 * 10 ^ 24, aum := 10 ^ 37, usdgSupply := 10 ^ 25,
    interval := 10 ^ 15, glpPrice := 5 / 4, wavaxPrice := 30 * 10 ^ 30 }
def st : State := { glp := 8, reward := 1, wallet := [("WETH", 3)], actions := [.buy "WETH" 1 5] }

example : step NumCtx.py env st (.buy "weth" 18 (-1)) = (.error .demeter, st) := by decide +kernel
example : step NumCtx.py env st (.buy "weth" 18 4) = (.error .assertion, st) := by decide +kernel          -- insufficient balance
example : step NumCtx.py env st (.buy "usdc" 6 4) = (.error .demeter, st) := by decide +kernel            -- token not in the wallet
example : step NumCtx.py env st (.buy "doge" 8 1) = (.error .key, st) := by decide +kernel
example : step NumCtx.py { env with aum := 0 } st (.buy "weth" 18 1) = (.error .divZero, st) := by decide +kernel
example : step NumCtx.py { env with aum := 0 } st (.buy "weth" 18 0) = (.error .invalidOp, st) := by decide +kernel
example : step NumCtx.py env st (.buy "weth" 18 (10 ^ 20)) = (.error .invalidOp, st) := by decide +kernel   -- quantize overflow
example : step NumCtx.py env st (.sell "weth" 18 (-1)) = (.error .demeter, st) := by decide +kernel
example : step NumCtx.py env st (.sell "weth" 18 9) = (.error .demeter, st) := by decide +kernel           -- more than held
example : step NumCtx.py { env with glpSupply := 0 } st (.sell "weth" 18 1) = (.error .divZero, st) := by decide +kernel
example : step NumCtx.py { env with glpSupply := 0 } st .update = (.error .divZero, st) := by decide +kernel
example : (step NumCtx.py env st (.buy "weth" 18 1)).2 ≠ st := by decide +kernel

end GmxC04Demo

namespace GmxC04DemoV2
open GmxV2

def cfg : Config Rat :=
  { impactExponent := 2, impactFactorPos := 1 / 5000000000, impactFactorNeg := 1 / 2500000000, depositFeePos := 1 / 2000,
    depositFeeNeg := 7 / 10000, withdrawFeePos := 1 / 2000, withdrawFeeNeg := 7 / 10000 }
def pool : Pool Rat :=
  { longAmount := 5000, shortAmount := 30000000, virtualLong := none, virtualShort := none, poolValue := 40000000, supply := 40000000,
    impactPool := 1000000, longPrice := 2000, shortPrice := 1 }
def sq (x _ : Rat) : Rat := x * x
def st : State Rat := { amount := 5, wallet := [("WETH", 10), ("USDC", 100)], actions := [] }

/-- outcome class and the three state components, as decidable data -/
def obs (r : Except Err (LPResult Rat × String) × State Rat) : Option Err × Rat × Wallet × Nat :=
  ((match r.1 with | .error e => some e | .ok _ => none), r.2.amount, r.2.wallet, r.2.actions.length)
def obsW (r : Except Err (LPResult Rat) × State Rat) : Option Err × Rat × Wallet × Nat :=
  ((match r.1 with | .error e => some e | .ok _ => none), r.2.amount, r.2.wallet, r.2.actions.length)
def same (e : Err) : Option Err × Rat × Wallet × Nat := (some e, st.amount, st.wallet, st.actions.length)

example : obs (deposit (ratOps sq) NumCtx.py cfg pool "WETH" "USDC" st (-1) 0) = same .demeter := by decide +kernel
example : obs (deposit (ratOps sq) NumCtx.py cfg pool "WETH" "USDC" st 11 0) = same .assertion := by decide +kernel        -- long token short
/-- the restore path: 1 WETH is affordable, 1000 USDC is not — the WETH debit is undone -/
example : obs (deposit (ratOps sq) NumCtx.py cfg pool "WETH" "USDC" st 1 1000) = same .assertion := by decide +kernel
example : obs (deposit (ratOps sq) NumCtx.py cfg pool "WETH" "DAI" st 1 1) = same .demeter := by decide +kernel            -- short token not in the wallet
example : obs (deposit (ratOps sq) NumCtx.py cfg pool "DAI" "USDC" st 1 1) = same .demeter := by decide +kernel
example : obs (deposit (ratOps sq) NumCtx.py cfg { pool with supply := 0 } "WETH" "USDC" st 1 0) = same .zeroDiv := by decide +kernel
/-- negative impact larger than the deposit (pool 60 G USD long-heavy): RuntimeError -/
example : obs (deposit (ratOps sq) NumCtx.py cfg { pool with longAmount := 30000000 } "WETH" "USDC" st 1 0) = same .runtime := by decide +kernel
example : obsW (withdraw (ratOps sq) NumCtx.py cfg pool "WETH" "USDC" st (some (-1))) = same .demeter := by decide +kernel
example : obsW (withdraw (ratOps sq) NumCtx.py cfg pool "WETH" "USDC" st (some 6)) = same .demeter := by decide +kernel
example : obsW (withdraw (ratOps sq) NumCtx.py cfg { pool with supply := 0 } "WETH" "USDC" st none) = same .zeroDiv := by decide +kernel
example : (obs (deposit (ratOps sq) NumCtx.py cfg pool "WETH" "USDC" st 1 50)).1 = none := by decide +kernel

end GmxC04DemoV2

end Demeter
