/-
  Tie.Deribit — `round_decimal` (demeter/deribit/helper.py) and `DeribitOptionMarket.get_trade_fee` / `get_deliver_fee`
  (demeter/deribit/market.py) as GENERATED by tools/py2lean.py coincide with the hand-written model Demeter/Deribit.lean
  (`roundDec`, `tradeFee`, `deliverFee`), for every rounding context, on the model's domain:

  * the exponent is non-positive (both configured tokens have negative `min_fee_decimal`; `_partial`: for a positive
    exponent the code quantizes a second time, `val.quantize(Decimal(0))`, which is the identity on the value — not proved here);
  * the quantized coefficient fits the decimal precision (otherwise CPython raises `InvalidOperation`, which the model
    does not represent for fees): hypothesis `Fits`.
-/
import Demeter.Gen.PyDeribitMarket
import Demeter.Deribit
import Proofs.Tie.Basic
import Proofs.Lemmas.Exact
namespace Demeter
open Tie Py Deribit

def Tie.Fits (x : Rat) (e : Int) : Prop :=
  ¬ ((Py.quantValue .halfUp x e / Py.tenPow e).num.natAbs ≥ 10 ^ Gen.decimalPrec)

theorem Tie.quantValue_roundDec (x : Rat) (e : Int) : Py.quantValue .halfUp x e = roundDec e x := rfl

theorem Tie_deribit_round_decimal_partial (x : Rat) (e : Int) (he : e ≤ 0) (hf : Fits x e) :
    Py.deribit_round_decimal x e = .ok (roundDec e x) := by
  unfold Py.deribit_round_decimal Py.quantize
  have hne : ¬ e > 0 := by omega
  unfold Fits at hf
  rw [quantValue_roundDec] at hf
  simp only [hf, hne, if_false, quantValue_roundDec, bind, Except.bind, pure, Except.pure, not_true_eq_false, ite_self]

theorem Tie_deribit_get_trade_fee (cx : DCtx) (c : TokenCfg) (amount premium : Rat) (he : c.feeExp ≤ 0)
    (hf : Fits (min (cx.num.mul c.tradeFee amount) (cx.num.mul maxFeeRate premium)) c.feeExp) :
    Py.deribit_get_trade_fee cx.num c.tradeFee c.feeExp amount premium = .ok (tradeFee cx c amount premium) := by
  unfold Py.deribit_get_trade_fee tradeFee
  -- the rate cap is whatever literal the source holds: the model's `maxFeeRate` is regenerated from the same line
  unfold maxFeeRate Gen.deribitMaxFeeRate at hf ⊢
  rw [ite_gt_eq_min, Tie_deribit_round_decimal_partial _ _ he hf]

theorem Tie_deribit_get_deliver_fee (cx : DCtx) (c : TokenCfg) (amount premium : Rat) (he : c.feeExp ≤ 0)
    (hf : Fits (min (cx.num.mul c.deliveryFee amount) (cx.num.mul maxFeeRate premium)) c.feeExp) :
    Py.deribit_get_deliver_fee cx.num c.deliveryFee c.feeExp amount premium = .ok (deliverFee cx c amount premium) := by
  unfold Py.deribit_get_deliver_fee deliverFee
  unfold maxFeeRate Gen.deribitMaxFeeRate at hf ⊢
  rw [ite_gt_eq_min, Tie_deribit_round_decimal_partial _ _ he hf]

-- both configured tokens have a non-positive fee exponent, and an ordinary fee fits the precision
example : ethCfg.feeExp ≤ 0 ∧ btcCfg.feeExp ≤ 0 := by decide
example : Fits (123456789 / 100000000) (-4) := by unfold Fits; decide +kernel

end Demeter
