/-
  Tie.Wallet — `Asset.add` / `Asset.sub` (demeter/broker/_typing.py) as GENERATED by tools/py2lean.py coincide with the hand-written
  model `assetAdd` / `assetSub` (Demeter/Wallet.lean) that every market model's wallet is built on (C01, C03, C04).

  The method mutates `self.balance`; the translator reads it as a function `balance on entry ↦ balance on exit` (Unit.state, see README).
  `abs()` of a Decimal rounds through the context in CPython (`Py.dabs`); the model takes the plain absolute value of the already rounded
  quotient.  The two agree for every context whose rounding leaves the absolute value of a rounded number alone (`AbsFix`, which reads
  only `rnd` of the context): one that rounds nothing (`AbsFix_exact`), and an idempotent odd rounding (`AbsFix_of_idem_odd`).  CPython's
  35 digits are odd everywhere but idempotent only below the exponent bound (`Num_round35_idem`): for `NumCtx.py` `AbsFix` stays a hypothesis.
-/
import Demeter.Gen.PyBrokerTyping
import Demeter.Wallet
import Proofs.Tie.Basic
-- the leaf `simp` sets carry the monad's equations (`bind`, `pure`, …) uniformly: which leaves still hold one depends on how the
-- generated code is laid out, and the harmless rewrites of the source (README) change that
set_option linter.unusedSimpArgs false
namespace Demeter
open Tie Py

def Tie.AbsFix (cx : NumCtx) : Prop := ∀ x : Rat, cx.rnd (ratAbs (cx.rnd x)) = ratAbs (cx.rnd x)

theorem Tie.AbsFix_exact : AbsFix { rnd := id, dsqrt := id } := fun _ => rfl

theorem Tie.AbsFix_of_idem_odd (cx : NumCtx) (hidem : ∀ x, cx.rnd (cx.rnd x) = cx.rnd x) (hodd : ∀ x, cx.rnd (-x) = -cx.rnd x) :
    AbsFix cx := by
  intro x
  unfold ratAbs
  split
  · rw [hodd, hidem]
  · exact hidem x

theorem Tie_wallet_asset_add (cx : NumCtx) (balance amount : Rat) :
    Py.asset_add cx balance amount = .ok (assetAdd cx balance amount) := rfl

theorem Tie.dabs_eq (cx : NumCtx) (h : AbsFix cx) (x : Rat) : Py.dabs cx (cx.rnd x) = ratAbs (cx.rnd x) := h x

/-- the result of `Asset.sub` as the model reports it: `none` is the code's `AssertionError` -/
def Tie.subResult : Option Rat → Py.M Rat
  | some r => .ok r
  | none => .error (Py.Err.Raised "AssertionError")

theorem Tie_wallet_asset_sub (cx : NumCtx) (h : AbsFix cx) (balance amount : Rat) (allowNeg : Bool) :
    Py.asset_sub cx balance amount allowNeg = subResult (assetSub cx balance amount allowNeg) := by
  unfold Py.asset_sub assetSub assetDust Gen.assetSubDust
  dsimp only
  generalize (if balance ≠ 0 then balance else amount) = base
  by_cases hb : base = 0
  · simp [hb, subResult, bind, Except.bind, pure, Except.pure]
  · cases allowNeg
    · have hd := Py.ddiv_ok cx (cx.sub balance amount) base hb
      have ha : Py.dabs cx (cx.div (cx.sub balance amount) base) = ratAbs (cx.div (cx.sub balance amount) base) := dabs_eq cx h _
      simp only [hb, hd, ha, bind, Except.bind, pure, Except.pure, if_false, Bool.false_eq_true]
      -- the threshold is whatever literal the source holds (it is regenerated on both sides): split on the comparison itself
      split
      · rfl
      · by_cases h2 : cx.sub balance amount < 0
        · simp only [h2, if_true, subResult, throw, throwThe, MonadExceptOf.throw]
        · simp only [h2, if_false, subResult]
    · simp [hb, subResult, bind, Except.bind, pure, Except.pure]
