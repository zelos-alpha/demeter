/-
  Tie.Basic — what the tie proofs share about the translated language, free of any model: the equations by which a `do` block in
  `Except` is evaluated, the operations of the Python prelude (`Demeter.Py`, over `Int`) on arguments that are `Nat`s, as the hand-written
  models have them, and one lemma per loop shape (`for` = fold, comprehension = map, with or without failing iterations).
-/
import Demeter.PyPrelude
-- the tie files keep their helpers in `Demeter.Tie` and open it
namespace Demeter.Tie end Demeter.Tie
namespace Demeter.Py

-- stated for every error type: the models are `Except` programs too
theorem ok_bind {ε α β : Type} (a : α) (f : α → Except ε β) : (Except.ok a >>= f) = f a := rfl

theorem error_bind {ε α β : Type} (e : ε) (f : α → Except ε β) : ((Except.error e : Except ε α) >>= f) = Except.error e := rfl

theorem pure_eq {ε α : Type} (a : α) : (pure a : Except ε α) = Except.ok a := rfl

theorem throw_eq {ε α : Type} (e : ε) : (throw e : Except ε α) = Except.error e := rfl

theorem ite_bind {ε α β : Type} (c : Prop) [Decidable c] (a b : Except ε α) (k : α → Except ε β) :
    (if c then a else b) >>= k = if c then a >>= k else b >>= k := by split <;> rfl

theorem floordiv_ok (a b : Int) (h : b ≠ 0) : floordiv a b = .ok (Int.fdiv a b) := by
  simp [floordiv, h]

theorem floordiv_zero (a : Int) : floordiv a 0 = .error .ZeroDivisionError := by
  simp [floordiv]

theorem floordiv_nat (a b : Nat) (h : b ≠ 0) : floordiv (a : Int) (b : Int) = .ok (((a / b : Nat)) : Int) := by
  have hb : (b : Int) ≠ 0 := by omega
  rw [floordiv_ok _ _ hb, Int.fdiv_eq_ediv_of_nonneg _ (by omega)]
  simp

theorem fmod_nat (a b : Nat) : Int.fmod (a : Int) (b : Int) = ((a % b : Nat) : Int) := by
  rw [Int.fmod_eq_emod_of_nonneg _ (by omega)]
  simp

theorem band_nat (a b : Nat) : band (a : Int) (b : Int) = ((a &&& b : Nat) : Int) := rfl

theorem shr_nat (a n : Nat) : ((a : Int) >>> n) = ((a >>> n : Nat) : Int) := rfl

theorem ipow_nat (a : Int) (n : Nat) : ipow a (n : Int) = .ok (a ^ n) := by
  have : ¬ ((n : Int) < 0) := by omega
  simp [ipow, this]

theorem ddiv_ok (cx : NumCtx) (a b : Rat) (h : b ≠ 0) : ddiv cx a b = .ok (cx.div a b) := by
  simp [ddiv, h]

/-- `d`: whatever default the model's total read uses -/
theorem index_natCast {α : Type} (xs : List α) (i : Nat) (h : i < xs.length) (d : α) :
    index xs ((i : Nat) : Int) = .ok (xs.getD i d) := by
  unfold index
  have h0 : ¬ (((i : Nat) : Int) < 0) := by omega
  simp [h0, List.getD, h]

theorem range_one (n : Nat) : range 1 (n : Int) = (List.range' 1 (n - 1)).map (fun (k : Nat) => (k : Int)) := by
  unfold range
  have : ((n : Int) - 1).toNat = n - 1 := by omega
  rw [this, List.range_eq_range']
  apply List.ext_getElem
  · simp
  · intro i h1 h2
    simp only [List.getElem_map, List.getElem_range']
    omega

/-!
  A `for` of the source is a `forIn` over a list with the mutable variables as the state.  A tie proof gives the effect of ONE
  iteration (`h`); these lemmas turn it into the model's fold.  The list may be a view (`map f`) of the list the model folds over,
  so that `step` can use what the view dropped. -/

theorem forIn_map_ok {ι α σ : Type} (l : List ι) (f : ι → α) (body : α → σ → M (ForInStep σ)) (step : σ → ι → σ)
    (h : ∀ i ∈ l, ∀ r, body (f i) r = .ok (.yield (step r i))) (acc : σ) :
    forIn (l.map f) acc body = .ok (l.foldl step acc) := by
  induction l generalizing acc with
  | nil => rfl
  | cons i rest ih =>
    rw [List.map_cons, List.forIn_cons, h i List.mem_cons_self]
    exact ih (fun j hj => h j (List.mem_cons_of_mem _ hj)) _

theorem mapM_map_ok {ι α β : Type} (l : List ι) (f : ι → α) (g : α → M β) (v : ι → β)
    (h : ∀ i ∈ l, g (f i) = .ok (v i)) : (l.map f).mapM g = .ok (l.map v) := by
  induction l with
  | nil => rfl
  | cons i rest ih =>
    rw [List.map_cons, List.mapM_cons, h i List.mem_cons_self, ih (fun j hj => h j (List.mem_cons_of_mem _ hj))]
    rfl

theorem forIn_mapError {ε α σ : Type} (E : ε → Err) (l : List α) (body : α → σ → M (ForInStep σ)) (g : σ → α → Except ε σ)
    (h : ∀ x ∈ l, ∀ r, body x r = ((g r x).map ForInStep.yield).mapError E) (acc : σ) :
    forIn l acc body = (l.foldlM g acc).mapError E := by
  induction l generalizing acc with
  | nil => rfl
  | cons x rest ih =>
    rw [List.forIn_cons, List.foldlM_cons, h x List.mem_cons_self]
    cases g acc x with
    | error e => rfl
    | ok r => exact ih (fun y hy => h y (List.mem_cons_of_mem _ hy)) r

theorem mapM_mapError {ε α β : Type} (E : ε → Err) (l : List α) (f : α → M β) (g : α → Except ε β)
    (h : ∀ x ∈ l, f x = (g x).mapError E) : l.mapM f = (l.mapM g).mapError E := by
  induction l with
  | nil => rfl
  | cons x rest ih =>
    rw [List.mapM_cons, List.mapM_cons, h x List.mem_cons_self, ih (fun y hy => h y (List.mem_cons_of_mem _ hy))]
    cases g x with
    | error e => rfl
    | ok b => cases List.mapM g rest <;> rfl

theorem foldl_pair {α σ τ : Type} (f : σ → α → σ) (g : τ → α → τ) (l : List α) (a : σ) (b : τ) :
    l.foldl (fun (r : σ × τ) x => (f r.1 x, g r.2 x)) (a, b) = (l.foldl f a, l.foldl g b) := by
  induction l generalizing a b with
  | nil => rfl
  | cons x rest ih => exact ih _ _

end Demeter.Py
