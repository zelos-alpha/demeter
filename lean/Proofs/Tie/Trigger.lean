/-
  Tie.Trigger — the decision logic of the time triggers (demeter/strategy/trigger.py) as GENERATED by tools/py2lean.py coincides with
  the hand-written model Demeter/Trigger.lean that C18's theorems are about.

  Times are whole seconds from a minute-aligned epoch (`Int`), timedeltas whole seconds.  An object field that a method reads and writes
  (`PeriodTrigger._next_match`) is a parameter (value on entry) and part of the result (value on exit).  The `while` loop of
  `PeriodTrigger.when` is translated with a fuel bound: the tie holds for every `fuel ≥ (now - next).toNat`, which is what the model's
  `advance` uses, and a positive period (the constructor's `_check_time_delta` guarantees it: `Tie_trigger_check_time_delta`).
  NOT translated: `PeriodsTrigger.when` (element assignment into a list inside nested loops) and the constructors (they call `to_minute`
  on their arguments; tied by differential execution only).
-/
import Demeter.Gen.PyTrigger
import Demeter.Trigger
import Proofs.Tie.Basic
import Proofs.Lemmas.CoreAdvance
namespace Demeter
open Py Core

theorem Tie_trigger_to_minute (t : Int) : Py.trig_to_minute t = .ok (toMinute t) := by
  have e : Int.fmod t 60 = t % 60 := Int.fmod_eq_emod_of_nonneg t (by decide)
  simp only [Py.trig_to_minute, pure_eq, Py.floorMinute, e, toMinute, Gen.coreMinuteSec]

/-- `_check_time_delta` raises `DemeterError` exactly when the model's `badDelta` says so -/
theorem Tie_trigger_check_time_delta (δ : Int) :
    Py.trig_check_time_delta δ = if badDelta δ then .error (Py.Err.Raised "DemeterError") else .ok () := by
  have e : Int.fmod δ 60 = δ % 60 := Int.fmod_eq_emod_of_nonneg δ (by decide)
  unfold Py.trig_check_time_delta badDelta Gen.coreTrigDeltaMod Gen.coreTrigDeltaLow
  by_cases h1 : δ % 60 = 0 <;> by_cases h2 : δ ≤ 0 <;>
    simp only [e, h1, h2, ne_eq, not_true_eq_false, not_false_eq_true, or_true, or_self, or_false, ↓reduceIte, error_bind, pure_eq,
      throw, throwThe, MonadExceptOf.throw, bne_self_eq_false, bne_iff_ne, decide_true, decide_false, Bool.or_true, Bool.or_self,
      Bool.or_false, Bool.false_eq_true]

theorem Tie_trigger_at_time_when (now t : Int) : Py.trig_at_time_when now t = .ok (whenT now (.atTime t)).1 := by
  simp only [Py.trig_at_time_when, pure_eq, ← Bool.beq_eq_decide_eq, whenT]

theorem Tie_trigger_at_time_is_out_date (now t : Int) : Py.trig_at_time_is_out_date t now = .ok (outOfDate now (.atTime t)) := by
  simp only [Py.trig_at_time_is_out_date, pure_eq, ge_iff_le, outOfDate]

theorem Tie_trigger_at_times_when (now : Int) (ts : List Int) : Py.trig_at_times_when now ts = .ok (whenT now (.atTimes ts)).1 := by
  simp only [Py.trig_at_times_when, pure_eq, whenT, List.contains_eq_mem]

namespace Tie

theorem listMax_cons (x : Int) (l : List Int) : ∃ m, Core.listMax (x :: l) = some m := by
  unfold Core.listMax
  cases Core.listMax l <;> exact ⟨_, rfl⟩

theorem listMax_eq : ∀ (l : List Int), Py.listMax l = match Core.listMax l with | some m => .ok m | none => .error .ValueError
  | [] => rfl
  | [x] => rfl
  | x :: y :: l => by
    have ih := listMax_eq (y :: l)
    unfold Py.listMax Core.listMax
    rw [ih]
    obtain ⟨m, h⟩ := listMax_cons y l
    simp only [h, ok_bind, pure_eq]

end Tie
open Tie

/-- `AtTimesTrigger.is_out_date`: `ValueError` exactly for the trigger built from an empty list (`outErr`), otherwise the model's answer -/
theorem Tie_trigger_at_times_is_out_date (now : Int) (ts : List Int) :
    Py.trig_at_times_is_out_date ts now =
      match outErr (.atTimes ts) with
      | some _ => .error .ValueError
      | none => .ok (outOfDate now (.atTimes ts)) := by
  unfold Py.trig_at_times_is_out_date
  rw [listMax_eq]
  cases ts with
  | nil => rfl
  | cons x xs =>
    obtain ⟨m, h⟩ := listMax_cons x xs
    simp only [ok_bind, pure_eq, ge_iff_le, outErr, outOfDate, h]

theorem Tie_trigger_range_when (now s e : Int) : Py.trig_range_when now s e = .ok (whenT now (.range s e)).1 := by
  simp only [Py.trig_range_when, pure_eq, Bool.decide_and, whenT]

theorem Tie_trigger_range_is_out_date (now s e : Int) : Py.trig_range_is_out_date e now = .ok (outOfDate now (.range s e)) := by
  simp only [Py.trig_range_is_out_date, pure_eq, ge_iff_le, outOfDate]

theorem Tie_trigger_ranges_when (now : Int) (rs : List (Int × Int)) :
    Py.trig_ranges_when now rs = .ok (whenT now (.ranges rs)).1 := by
  unfold Py.trig_ranges_when whenT
  induction rs with
  | nil => rfl
  | cons r rs ih =>
    simp only [List.any_cons]
    by_cases h : r.1 ≤ now ∧ now < r.2
    · simp only [bind, Except.bind, forIn, pure, Except.pure, List.forIn'_cons, h, and_self, ↓reduceIte, decide_true, Bool.and_self, Bool.true_or]
    · have h' : (decide (r.1 ≤ now) && decide (now < r.2)) = false := by simpa using h
      simp only [h', Bool.false_or]
      rw [← ih]
      simp only [bind, Except.bind, forIn, pure, Except.pure, List.forIn'_cons, h, ↓reduceIte]

theorem Tie_trigger_ranges_is_out_date (now : Int) (rs : List (Int × Int)) :
    Py.trig_ranges_is_out_date rs now =
      match outErr (.ranges rs) with
      | some _ => .error .ValueError
      | none => .ok (outOfDate now (.ranges rs)) := by
  unfold Py.trig_ranges_is_out_date
  rw [listMax_eq]
  cases rs with
  | nil => rfl
  | cons x xs =>
    obtain ⟨m, h⟩ := listMax_cons x.2 (xs.map (·.2))
    simp only [ok_bind, pure_eq, ge_iff_le, outErr, outOfDate, List.map_cons, h]

theorem Tie_trigger_period_reset (δ pend : Int) (imm : Bool) (next : Option Int) :
    (Py.trig_period_reset next).map (fun n => TrigKind.period δ imm pend n) = .ok (TrigKind.period δ imm pend next).reset := by
  simp only [Except.map, Py.trig_period_reset, pure_eq, TrigKind.reset]

namespace Tie

/-- the translated `while self._next_match < snapshot.timestamp: self._next_match = self._next_match + self._delta` with enough fuel
    is the model's `advance` -/
theorem whileFuel_advance (δ now : Int) (hδ : 0 < δ) : ∀ (fuel : Nat) (n : Int), (now - n).toNat ≤ fuel →
    Py.whileFuel (fun next_match => do
        let t1 ← Py.unwrap next_match
        pure (decide (t1 < now))) (fun next_match => do
        let mut next_match := next_match
        let t2 ← Py.unwrap next_match
        next_match := (some (t2 + δ))
        pure next_match) fuel (some n) = .ok (some (advance δ n now))
  | 0, n, hf => by
    have h : ¬ n < now := by omega
    simp only [Py.whileFuel, Py.unwrap, ok_bind, pure_eq, h, decide_false, Bool.false_eq_true, ↓reduceIte, advance_ge (Int.not_lt.mp h)]
  | f + 1, n, hf => by
    by_cases h : n < now
    · simp only [Py.whileFuel, Py.unwrap, ok_bind, pure_eq, h, decide_true, if_true]
      rw [advance_lt hδ h]
      exact whileFuel_advance δ now hδ f (n + δ) (by omega)
    · simp only [Py.whileFuel, Py.unwrap, ok_bind, pure_eq, h, decide_false, Bool.false_eq_true, ↓reduceIte, advance_ge (Int.not_lt.mp h)]

end Tie

/-- `_next_match` of a `PeriodTrigger` object -/
def Tie.periodNext : TrigKind → Option Int
  | .period _ _ _ n => n
  | _ => none

/-- `PeriodTrigger.when`: the answer and the field `_next_match` afterwards are the model's, for a positive period (what the constructor
    admits) and any fuel that covers the distance to the current bar -/
theorem Tie_trigger_period_when (fuel : Nat) (now δ pend : Int) (imm : Bool) (next : Option Int) (hδ : 0 < δ)
    (hf : ∀ n, next = some n → (now - n).toNat ≤ fuel) :
    Py.trig_period_when fuel now δ pend imm next =
      .ok ((whenT now (.period δ imm pend next)).1, periodNext (whenT now (.period δ imm pend next)).2) := by
  cases next with
  | none => simp only [Py.trig_period_when, ↓reduceIte, pure_eq, whenT, periodNext]
  | some n =>
    have hw := whileFuel_advance δ now hδ fuel n (hf n rfl)
    unfold Py.trig_period_when
    simp only [reduceCtorEq, if_false, pure_eq] at hw ⊢
    rw [hw]
    simp only [whenT, stepOne, periodNext, Py.unwrap, ok_bind]
    by_cases h : advance δ n now = now <;> simp only [h, ↓reduceIte]
