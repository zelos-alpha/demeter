/-
  Tie.UniCore — `V3CoreLib` of demeter/uniswap/core.py as GENERATED by tools/py2lean.py (Demeter/Gen/PyUniswapCore.lean) coincides with
  the hand-written models Demeter/Uni/Kernel.lean (the kernel of C03/C04/C09), Demeter/LiqMath.lean (C07) and Demeter/Uni/Fee.lean (C08):
  every rounding context, results and exception classes.
-/
import Demeter.Gen.PyUniswapCore
import Demeter.Uni
import Proofs.Tie.LiqMath
import Proofs.Tie.UniHelper
import Proofs.Lemmas.UniFee
namespace Demeter
open Tie Py

/-- `get_token_amounts(pool, pos, sqrt_price_x96, liquidity)` with an `int` liquidity; the inputs the code reads from its objects are the
    model's: `pool.token0/1.decimal = pool.d0/d1`, `pos.lower_tick/upper_tick = lo/up` -/
theorem Tie_unicore_get_token_amounts (cx : NumCtx) (pool : Uni.Pool) (s : Nat) (lo up l : Int) :
    Py.unicore_get_token_amounts cx pool.d0 pool.d1 lo up s l
      = unicoreRes (Uni.tokenAmountsStd cx pool s lo up l false) := by
  unfold Py.unicore_get_token_amounts Uni.tokenAmountsStd
  by_cases h : l = 0
  · simp only [h, if_true, pure_eq, unicoreRes]
  · simp only [h, if_false, get_amounts_int]
    cases Uni.amountsGen cx s lo up l false pool.d0 pool.d1 <;> rfl

/-- `close_position(pool, position_info, liquidity, sqrt_price_x96)` -/
theorem Tie_unicore_close_position (cx : NumCtx) (pool : Uni.Pool) (s : Nat) (lo up l : Int) :
    Py.unicore_close_position cx pool.d0 pool.d1 lo up l s
      = unicoreRes (Uni.tokenAmountsStd cx pool s lo up l false) :=
  Tie_unicore_get_token_amounts cx pool s lo up l

/-- `get_token_amounts` when the position's liquidity is held as a (whole-valued) Decimal: the products with it round (`dec = true` in the model) -/
theorem Tie_unicore_get_token_amounts_dliq (cx : NumCtx) (pool : Uni.Pool) (s : Nat) (lo up l : Int) :
    Py.unicore_get_token_amounts_dliq cx pool.d0 pool.d1 lo up s (l : Rat)
      = unicoreRes (Uni.tokenAmountsStd cx pool s lo up l true) := by
  unfold Py.unicore_get_token_amounts_dliq Uni.tokenAmountsStd
  by_cases h : l = 0
  · simp only [h, Int.cast_zero, if_true, pure_eq, unicoreRes]
  · have h' : ¬ ((l : Rat) = 0) := by exact_mod_cast h
    simp only [h, h', if_false, get_amounts_dec]
    cases Uni.amountsGen cx s lo up l true pool.d0 pool.d1 <;> rfl

theorem Tie_unicore_close_position_dliq (cx : NumCtx) (pool : Uni.Pool) (s : Nat) (lo up l : Int) :
    Py.unicore_close_position_dliq cx pool.d0 pool.d1 lo up (l : Rat) s
      = unicoreRes (Uni.tokenAmountsStd cx pool s lo up l true) :=
  Tie_unicore_get_token_amounts_dliq cx pool s lo up l

/-- the same against the model of C07 (Demeter/LiqMath.lean), which is about a natural liquidity and valid ticks -/
theorem Tie_unicore_close_position_liqmath (cx : NumCtx) (s : Nat) (lo up : Int) (l d0 d1 : Nat)
    (ha : tickOk lo = true) (hb : tickOk up = true) :
    Py.unicore_close_position cx d0 d1 lo up l s = .ok (closePosition cx s lo up l d0 d1) := by
  unfold Py.unicore_close_position Py.unicore_get_token_amounts closePosition
  by_cases h : l = 0
  · simp only [h, Nat.cast_zero, if_true, pure_eq]
  · have h' : ¬ ((l : Int) = 0) := by omega
    simp only [h, h', if_false, Tie_liqmath_get_amounts cx s lo up l d0 d1 ha hb, ok_bind, pure_eq]

/-- `new_position(pool, token0_amount, token1_amount, lower_tick, upper_tick, sqrt_price_x96)`: used amounts, liquidity and the
    `PositionInfo(lower_tick, upper_tick)` it builds -/
theorem Tie_unicore_new_position (cx : NumCtx) (pool : Uni.Pool) (s : Nat) (lo up : Int) (a0 a1 : Rat) :
    Py.unicore_new_position cx pool.d0 pool.d1 a0 a1 lo up s
      = unicoreRes ((Uni.newPosStd cx pool s lo up a0 a1).map (fun r => (r.1, r.2.1, r.2.2, (lo, up)))) := by
  unfold Py.unicore_new_position Uni.newPosStd
  by_cases hab : tickOk lo = true ∧ tickOk up = true
  · obtain ⟨ha, hb⟩ := hab
    rw [Tie_liqmath_get_liquidity cx s lo up a0 a1 pool.d0 pool.d1 ha hb]
    simp only [ha, hb, Bool.not_true, Bool.or_self, Bool.false_eq_true, if_false]
    cases getLiquidity cx s lo up a0 a1 pool.d0 pool.d1 with
    | none => rfl
    | some l =>
      simp only [ok_bind, get_amounts_int]
      cases Uni.amountsGen cx s lo up l false pool.d0 pool.d1 <;> rfl
  · rw [get_liquidity_bad_tick _ _ _ _ _ _ _ _ hab]
    have : (!tickOk lo || !tickOk up) = true := by
      revert hab; cases tickOk lo <;> cases tickOk up <;> decide
    rw [if_pos this]
    rfl

/-- the same against the model of C07: `newPosition` of Demeter/LiqMath.lean (valid ticks; a liquidity that is not negative) -/
theorem Tie_unicore_new_position_liqmath (cx : NumCtx) (s : Nat) (lo up : Int) (a0 a1 : Rat) (d0 d1 : Nat)
    (ha : tickOk lo = true) (hb : tickOk up = true)
    (hl : ∀ l, getLiquidity cx s lo up a0 a1 d0 d1 = some l → 0 ≤ l) :
    Py.unicore_new_position cx d0 d1 a0 a1 lo up s
      = (match newPosition cx s lo up a0 a1 d0 d1 with
         | some r => .ok (r.1, r.2.1, r.2.2, (lo, up))
         | none => .error .ZeroDivisionError) := by
  unfold Py.unicore_new_position newPosition
  rw [Tie_liqmath_get_liquidity cx s lo up a0 a1 d0 d1 ha hb]
  cases hg : getLiquidity cx s lo up a0 a1 d0 d1 with
  | none => rfl
  | some l =>
    obtain ⟨n, rfl⟩ := Int.eq_ofNat_of_zero_le (hl l hg)
    simp only [ok_bind, Tie_liqmath_get_amounts cx s lo up n d0 d1 ha hb, pure_eq, Int.toNat_natCast]

/-- `in_range(tick)` (a closure over `pos`: it reads `pos.lower_tick`, `pos.upper_tick`) -/
theorem Tie_unicore_in_range (lo up t : Int) :
    Py.unicore_update_fee_in_range lo up t = .ok (Uni.inRange lo up t) := by
  unfold Py.unicore_update_fee_in_range Uni.inRange
  by_cases h1 : t ≥ up
  · simp only [h1, if_true, pure_eq]
  · by_cases h2 : t < lo <;> simp only [h1, h2, if_true, if_false, pure_eq]

theorem Tie.insertAsc_eq (x : Int) (l : List Int) : Py.insertAsc x l = Uni.insertSorted x l := by
  induction l with
  | nil => rfl
  | cons y ys ih => simp only [Py.insertAsc, Uni.insertSorted, ih]

theorem Tie.sorted_eq (l : List Int) : Py.sorted l = Uni.sortInts l := by
  induction l with
  | nil => rfl
  | cons x xs ih => simp only [Py.sorted, Uni.sortInts, ih, insertAsc_eq]

theorem Tie.iabs_eq (x : Int) : Py.iabs x = Uni.intAbs x := by
  unfold Py.iabs Uni.intAbs
  split <;> omega

/-- `calc_amounts(weight)` (a closure over `position`, `state`, `pool`): the two pending amounts it leaves in `position`;
    the inputs it reads are the model's (`position.liquidity = p.liq`, `state.currentLiquidity = row.curLiq`, `state.inAmount0/1 = row.in0/1`
    — Decimals, as the data loader fills them —, `pool.token0/1.decimal`, `pool.fee_rate`) -/
theorem Tie_unicore_calc_amounts (cx : NumCtx) (pool : Uni.Pool) (row : Uni.Row) (p : Uni.Pos) (w : Rat) :
    Py.unicore_update_fee_calc_amounts cx p.liq row.curLiq row.in0 row.in1 pool.d0 pool.d1 pool.feeRate p.pending0 p.pending1 w
      = unicoreRes ((Uni.calcAmounts cx pool row p w).map (fun q => (q.pending0, q.pending1))) := by
  unfold Py.unicore_update_fee_calc_amounts Uni.calcAmounts Py.ddiv
  by_cases hc : row.curLiq = 0
  · by_cases hl : p.liq = 0 <;>
      simp only [hc, hl, Int.cast_zero, if_true, if_false, Int.cast_eq_zero, error_bind, unicoreRes, unicoreErr, Except.map]
  · simp only [hc, if_false, Tie_unihelper_from_atomic_unit_dec, ok_bind, pure_eq, unicoreRes, Except.map]

/-- `update_fee(last_tick, pool, pos, position, state)` for an integer `last_tick` (the `nan` of a fresh market is a float: outside the
    translated reading): the pending amounts it leaves in `position`, or the exception it raises -/
theorem Tie_unicore_update_fee (cx : NumCtx) (pool : Uni.Pool) (row : Uni.Row) (p : Uni.Pos) (lt : Int) :
    Py.unicore_update_fee cx p.liq row.curLiq row.in0 row.in1 pool.d0 pool.d1 pool.feeRate p.lower p.upper row.closeTick
        p.pending0 p.pending1 lt
      = unicoreRes ((Uni.updateFee cx pool (some lt) row p).map (fun q => (q.pending0, q.pending1))) := by
  unfold Py.unicore_update_fee Uni.updateFee Uni.feeCase
  -- `bind` is unfolded and the leaves are closed by full `simp` so that the proof also goes through on the harmless rewrites
  -- of `update_fee` listed in Proofs/Tie/README.md (R6–R9: the same-side case as an early `return`, locals extracted)
  simp only [Tie_unicore_in_range, bind, Except.bind]
  by_cases hsame : Uni.inRange p.lower p.upper row.closeTick = Uni.inRange p.lower p.upper lt
  · by_cases hin : Uni.inRange p.lower p.upper row.closeTick = 0
    · simp only [hsame, if_true, Tie_unicore_calc_amounts]
      rw [← hsame, hin]
      cases Uni.calcAmounts cx pool row p 1 <;> simp [unicoreRes, Except.map, pure, Except.pure]
    · simp only [hsame, if_true]
      rw [← hsame]
      simp [hin, unicoreRes, Except.map, pure, Except.pure]
  · simp only [hsame, if_false, sorted_eq]
    have hlen : (Uni.sortInts [p.lower, p.upper, lt, row.closeTick]).length = 4 := by rw [Uni.sortInts_length]; rfl
    have h2 := index_natCast (Uni.sortInts [p.lower, p.upper, lt, row.closeTick]) 2 (by omega) 0
    have h1 := index_natCast (Uni.sortInts [p.lower, p.upper, lt, row.closeTick]) 1 (by omega) 0
    simp only [Nat.cast_ofNat, Nat.cast_one] at h2 h1
    simp only [h2, h1, iabs_eq]
    generalize (Uni.sortInts [p.lower, p.upper, lt, row.closeTick]).getD 2 0 = r2
    generalize (Uni.sortInts [p.lower, p.upper, lt, row.closeTick]).getD 1 0 = r1
    by_cases hr : r2 = r1
    · simp [hr, unicoreRes, Except.map, pure, Except.pure]
    · have hne : lt ≠ row.closeTick := fun h => hsame (by rw [h])
      have hd : ((Uni.intAbs (lt - row.closeTick) : Int) : Rat) ≠ 0 := by
        have : Uni.intAbs (lt - row.closeTick) ≠ 0 := (Uni.intAbs_pos (by omega)).ne'
        exact_mod_cast this
      simp only [hr, if_false, ddiv_ok _ _ _ hd, Gen.uniWeightAlarm]
      generalize cx.div ((r2 - r1 : Int) : Rat) ((Uni.intAbs (lt - row.closeTick) : Int) : Rat) = w
      by_cases hw : w > 1
      · simp [hw, unicoreRes, unicoreErr, Except.map, throw_eq]
      · simp only [hw, if_false, Tie_unicore_calc_amounts]
        cases Uni.calcAmounts cx pool row p w <;> simp [unicoreRes, Except.map, pure, Except.pure]

end Demeter

-- non-vacuity: the generated definitions compute (exact context), both outcomes and every branch of `update_fee` are reachable
namespace Demeter
open Py
private def exPool : Uni.Pool := { tok0 := "USDC", tok1 := "WETH", d0 := 6, d1 := 18, feeRate := 5 / 10000, spacing := 10, q0 := true, decFac := 1 }
private def exRow : Uni.Row := { closeTick := 150, curLiq := 1000, in0 := 2000000, in1 := 0, price := 1 }
private def exPos : Uni.Pos := { lower := 100, upper := 200, pending0 := 0, pending1 := 0, liq := 10, lowerPrice := 0, upperPrice := 0, initPrice := 0, transferred := false }

/-- both closes inside the range: the whole fee share -/
example : Py.unicore_update_fee NumCtx.exact 10 1000 2000000 0 6 18 (5 / 10000) 100 200 150 0 0 120 = .ok (1 / 100000, 0) := by decide +kernel
/-- the close crossed the upper bound from inside: (200 − 150) / (250 − 150) of it -/
example : Py.unicore_update_fee NumCtx.exact 10 1000 2000000 0 6 18 (5 / 10000) 100 200 250 0 0 150 = .ok (1 / 200000, 0) := by decide +kernel
/-- both closes above: nothing -/
example : Py.unicore_update_fee NumCtx.exact 10 1000 2000000 0 6 18 (5 / 10000) 100 200 250 7 0 300 = .ok (7, 0) := by decide +kernel
/-- no liquidity in the pool row: the division raises -/
example : Py.unicore_update_fee NumCtx.exact 10 0 2000000 0 6 18 (5 / 10000) 100 200 150 0 0 120 = .error .DivisionByZero := by decide +kernel
example : Uni.updateFee NumCtx.exact exPool (some 150) { exRow with closeTick := 250 } exPos
    = .ok { exPos with pending0 := 1 / 200000 } := by decide +kernel
example : Py.unicore_get_token_amounts NumCtx.exact 6 18 100 200 (2 ^ 96) 0 = .ok (0, 0) := by decide +kernel
example : Py.unicore_new_position NumCtx.exact 6 18 1 1 887273 0 (2 ^ 96) = .error .AssertionError := by decide +kernel
end Demeter
