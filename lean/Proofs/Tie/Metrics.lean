/-
  Tie.Metrics — the two functions of demeter/result/metrics/calculator.py that compute with Python floats only, as GENERATED by
  tools/py2lean.py in float mode (Demeter/Gen/PyMetricsCalculator.lean), against the model Demeter/Metrics.lean at the exact-rational
  instantiation (the model is written over `Rat`): `return_value` and the drawdown scan `_withdraw_with_high_low` (a `for i in range(1, len(arr))`
  loop over a list, with index reads that the tie shows never leave the list).
-/
import Demeter.Gen.PyMetricsCalculator
import Proofs.Lemmas.MetricsDrawdown
import Proofs.Tie.Basic
namespace Demeter
open Py Metrics

namespace Tie

theorem index_nth (xs : List Rat) (i : Nat) (h : i < xs.length) : Py.index xs ((i : Nat) : Int) = .ok (Metrics.nth xs i) :=
  Py.index_natCast xs i h 0

theorem newHigh_le_of_lt (xs : List Rat) (s : HL) (k : Nat) (h : s.iHigh < k) : newHigh xs s k ≤ k :=
  le_trans (newHigh_le xs s k) (max_le h.le (Nat.sub_le k 1))

theorem hlStep_iHigh_lt (xs : List Rat) (s : HL) (k : Nat) (h : s.iHigh < k) : (hlStep xs s k).iHigh < k + 1 := by
  have : (hlStep xs s k).iHigh = newHigh xs s k := by rw [hlStep_eq]; split <;> rfl
  rw [this]
  exact Nat.lt_succ_of_le (newHigh_le_of_lt xs s k h)

end Tie
open Tie

theorem Tie_metrics_return_value (a b : Rat) : Py.metrics_return_value a b = .ok (Metrics.returnValue a b) := rfl

/-- the loop state of the translated scan `(_dp, i_high, g_withdraw, g_high, g_low)` for a model state and the current `_dp` -/
def Tie.hlEnc (dp : Rat) (s : HL) : Rat × Int × Rat × Int × Int := (dp, (s.iHigh : Int), s.g, (s.gHigh : Int), (s.gLow : Int))

/-- `_dp` after one iteration (the model does not keep it: it is a temporary of the scan) -/
def Tie.dpStep (xs : List Rat) (s : HL) (dp : Rat) (i : Nat) : Rat :=
  let iHigh := if nth xs s.iHigh < nth xs (i - 1) then i - 1 else s.iHigh
  if 0 < nth xs iHigh then (nth xs iHigh - nth xs i) / nth xs iHigh else dp

def Tie.hlPairStep (xs : List Rat) (p : Rat × HL) (i : Nat) : Rat × HL := (dpStep xs p.2 p.1 i, hlStep xs p.2 i)

namespace Tie

theorem dpStep_eq (xs : List Rat) (s : HL) (dp : Rat) (i : Nat) :
    dpStep xs s dp i = if 0 < nth xs (newHigh xs s i) then dd xs (newHigh xs s i) i else dp := rfl

theorem hlPair_snd (xs : List Rat) (l : List Nat) (p : Rat × HL) :
    (l.foldl (hlPairStep xs) p).2 = l.foldl (hlStep xs) p.2 := by
  induction l generalizing p with
  | nil => rfl
  | cons k r ih => simp only [List.foldl_cons, ih, hlPairStep]

end Tie

/-- the body is whatever the translator generated: it is only asked to satisfy `hstep` -/
theorem Tie.forIn_scan (xs : List Rat) (body : Int → (Rat × Int × Rat × Int × Int) → Py.M (ForInStep (Rat × Int × Rat × Int × Int)))
    (hstep : ∀ (k : Nat) (dp : Rat) (s : HL), 1 ≤ k → k < xs.length → s.iHigh < k →
      body (k : Int) (hlEnc dp s) = .ok (.yield (hlEnc (dpStep xs s dp k) (hlStep xs s k))))
    (k m : Nat) (hk : 1 ≤ k) (hb : k + m ≤ xs.length) (dp : Rat) (s : HL) (hi : s.iHigh < k) :
    forIn ((List.range' k m).map (fun (j : Nat) => (j : Int))) (hlEnc dp s) body
      = .ok (hlEnc ((List.range' k m).foldl (hlPairStep xs) (dp, s)).1 ((List.range' k m).foldl (hlPairStep xs) (dp, s)).2) := by
  induction m generalizing k dp s with
  | zero => rfl
  | succ m ih =>
    rw [List.range'_succ, List.map_cons, List.forIn_cons, hstep k dp s hk (by omega) hi]
    exact ih (k + 1) (by omega) (by omega) _ _ (hlStep_iHigh_lt xs s k hi)

/-- a Python-float reading of the rationals: `x == 0` is equality with 0 (the other operations are not used by the scan) -/
def Tie.ratFloatOps (pw : Rat → Rat → Rat) : Py.FloatOps Rat :=
  { isZero := fun x => decide (x = 0), pow := pw, isFinite := fun _ => true, isIntegral := fun x => decide (x.den = 1) }

/-- `_withdraw_with_high_low(arr)`: the drawdown scan of the model (`Metrics.withdrawHighLow`: maximal relative drawdown and the indices of its peak and
    trough), for every list — every `arr[...]` of the loop stays inside the list and the guarded division never raises -/
theorem Tie_metrics_withdraw_with_high_low (pw : Rat → Rat → Rat) (xs : List Rat) :
    Py.metrics_withdraw_with_high_low (ratFloatOps pw) xs
      = .ok ((withdrawHighLow xs).g, ((withdrawHighLow xs).gHigh : Int), ((withdrawHighLow xs).gLow : Int)) := by
  unfold Py.metrics_withdraw_with_high_low withdrawHighLow hlRun
  rw [range_one]
  have h0 : ((0 : Rat), (0 : Int), (0 : Rat), (0 : Int), (0 : Int)) = hlEnc 0 hlInit := by
    unfold hlEnc hlInit
    simp [Gen.metricsMddInit, Gen.metricsMddInitHigh, Gen.metricsMddInitLow]
  simp only [h0]
  by_cases hlen : xs.length = 0
  · simp [hlen, hlEnc, bind, Except.bind, pure, Except.pure]
  · rw [forIn_scan xs _ ?hstep 1 (xs.length - 1) (Nat.le_refl 1) (by omega) 0 hlInit (by unfold hlInit; simp)]
    case hstep =>
      intro k dp s hk hlt hi
      have hH : newHigh xs s k < xs.length := lt_of_le_of_lt (newHigh_le_of_lt xs s k hi) hlt
      have e1 : ((k : Nat) : Int) - 1 = ((k - 1 : Nat) : Int) := by omega
      have e2 : (if nth xs s.iHigh < nth xs (k - 1) then ((k - 1 : Nat) : Int) else (s.iHigh : Int)) = ((newHigh xs s k : Nat) : Int) := by
        unfold newHigh
        split <;> rfl
      simp only [hlEnc, e1, index_nth xs s.iHigh (by omega), index_nth xs (k - 1) (by omega), bind, Except.bind, e2,
        index_nth xs _ hH, index_nth xs k hlt, Py.fdiv, ratFloatOps]
      rw [hlStep_eq]
      rw [dpStep_eq]
      unfold dd
      generalize newHigh xs s k = H
      by_cases hp : 0 < nth xs H
      · have hne : ¬ nth xs H = 0 := ne_of_gt hp
        by_cases hg : s.g < (nth xs H - nth xs k) / nth xs H <;> simp [hp, hne, hg, pure, Except.pure]
      · simp [hp, pure, Except.pure]
    simp only [bind, Except.bind, pure, Except.pure, hlEnc, hlPair_snd]

end Demeter

/- the translated scan computes; a list that falls from 10 to 4 after a peak -/
namespace Demeter
open Py
example : Py.metrics_withdraw_with_high_low (Tie.ratFloatOps (fun x _ => x)) [5, 10, 8, 4, 6] = .ok (3 / 5, 1, 3) := by decide +kernel
example : Py.metrics_withdraw_with_high_low (Tie.ratFloatOps (fun x _ => x)) [] = .ok (0, 0, 0) := by decide +kernel
end Demeter
