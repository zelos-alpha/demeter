/-
  Tie.AaveRisk — the definitions GENERATED from demeter/aave/core.py (Demeter/Gen/PyAaveCore.lean) coincide with the
  portfolio-shaped model of C11/C12 (Demeter/AaveRisk/Basic.lean, Ops.lean), for every rounding context.

  The code receives two dicts (token ↦ USD value) and the risk-parameter frame; the model keeps `Supply`/`Debt` records
  that carry their row.
-/
import Demeter.Gen.PyAaveCore
import Demeter.AaveRisk
import Proofs.Tie.Basic
-- the leaf `simp` sets carry the monad's equations (`bind`, `pure`, …) uniformly: which leaves still hold one depends on how the
-- generated code is laid out, and the harmless rewrites of the source (README) change that
set_option linter.unusedSimpArgs false
namespace Demeter
open Tie Py AaveRisk

/-- `{token: value}` of the collaterals, in dict order -/
def Tie.collDict (cx : NumCtx) (p : Portfolio) : List (String × Rat) := (collaterals p).map (fun s => (s.tok, s.value cx))
def Tie.debtDict (cx : NumCtx) (p : Portfolio) : List (String × Rat) := p.debts.map (fun d => (d.tok, d.value cx))
/-- `risk_parameters.loc[name].column` for the rows carried by the supplies -/
def Tie.rowFrame (p : Portfolio) : String → String → Py.M Rat := fun k col =>
  match findSupply? p.supplies k with
  | none => .error .KeyError
  | some s =>
    if col = "reserveLiquidationThreshold" then .ok s.row.lt
    else if col = "baseLTVasCollateral" then .ok s.row.ltv
    else if col = "reserveLiquidationBonus" then .ok s.row.bonus
    else .error (.Raised "AttributeError")

/-- the supplies are the items of a dict: looking a supply's token up finds that supply -/
def Tie.KeysOk (p : Portfolio) : Prop := ∀ s ∈ p.supplies, findSupply? p.supplies s.tok = some s

def Tie.xopt : AaveRisk.XRat → Py.XDec
  | some r => .fin r
  | none => .inf

theorem Tie_aaverisk_safe_div (cx : NumCtx) (a b : Rat) :
    Py.aave_safe_div cx a b = .ok (xopt (AaveRisk.safeDiv cx a b)) := by
  unfold Py.aave_safe_div AaveRisk.safeDiv
  by_cases h : b = 0
  · simp [h, xopt, bind, Except.bind, pure, Except.pure]
  · simp [h, xopt, ddiv_ok _ _ _ h, bind, Except.bind, pure, Except.pure]

theorem Tie.dsum_eq' (cx : NumCtx) (xs : List Rat) : Py.dsum cx xs = AaveRisk.dsum cx xs := rfl

theorem Tie.mem_coll {p : Portfolio} {s : Supply} (h : s ∈ collaterals p) : s ∈ p.supplies :=
  (List.mem_filter.mp h).1

theorem Tie.rowFrame_lt (p : Portfolio) (hk : KeysOk p) (s : Supply) (hs : s ∈ p.supplies) :
    rowFrame p s.tok "reserveLiquidationThreshold" = .ok s.row.lt := by
  unfold rowFrame; rw [hk s hs]; simp

theorem Tie.rowFrame_ltv (p : Portfolio) (hk : KeysOk p) (s : Supply) (hs : s ∈ p.supplies) :
    rowFrame p s.tok "baseLTVasCollateral" = .ok s.row.ltv := by
  unfold rowFrame; rw [hk s hs]; simp

theorem Tie_aaverisk_health_factor (cx : NumCtx) (p : Portfolio) (hk : KeysOk p) :
    Py.aave_health_factor cx (collDict cx p) (debtDict cx p) (rowFrame p) = .ok (xopt (AaveRisk.healthFactor cx p)) := by
  unfold Py.aave_health_factor AaveRisk.healthFactor weightedLt totalDebt collDict debtDict
  rw [mapM_map_ok (collaterals p) _ _ (fun s => cx.mul (s.value cx) s.row.lt)
    (fun s hs => by dsimp only; rw [rowFrame_lt p hk s (mem_coll hs)]; rfl)]
  simp only [ok_bind, Tie_aaverisk_safe_div, dsum_eq', List.map_map, pure_eq]
  rfl

theorem Tie_aaverisk_max_ltv (cx : NumCtx) (p : Portfolio) (hk : KeysOk p) :
    Py.aave_max_ltv cx (collDict cx p) (rowFrame p) = .ok (xopt (AaveRisk.maxLtv cx p)) := by
  unfold Py.aave_max_ltv AaveRisk.maxLtv weightedLtv totalCollateral collDict
  dsimp only
  rw [forIn_map_ok (collaterals p) _ _ (fun r s => cx.add r (cx.mul (s.value cx) s.row.ltv))]
  · simp only [ok_bind, Tie_aaverisk_safe_div, dsum_eq', AaveRisk.dsum, List.map_map, List.foldl_map, pure_eq]
    rfl
  · intro s hs r
    rw [rowFrame_ltv p hk s (mem_coll hs)]
    rfl

theorem Tie_aaverisk_total_liquidation_threshold (cx : NumCtx) (p : Portfolio) (hk : KeysOk p) :
    Py.aave_total_liquidation_threshold cx (collDict cx p) (rowFrame p) = .ok (xopt (AaveRisk.liqThreshold cx p)) := by
  unfold Py.aave_total_liquidation_threshold AaveRisk.liqThreshold weightedLt totalCollateral collDict
  dsimp only
  rw [forIn_map_ok (collaterals p) _ _ (fun (r : Rat × Rat) s => (cx.add r.1 (s.value cx), cx.add r.2 (cx.mul (s.value cx) s.row.lt)))]
  · rw [foldl_pair (fun a (s : Supply) => cx.add a (s.value cx)) (fun b (s : Supply) => cx.add b (cx.mul (s.value cx) s.row.lt))]
    simp only [ok_bind, Tie_aaverisk_safe_div, pure_eq, AaveRisk.dsum, List.foldl_map]
  · intro s hs r
    rw [rowFrame_lt p hk s (mem_coll hs)]
    rfl

theorem Tie.hasKey_coll (cx : NumCtx) (p : Portfolio) (hk : KeysOk p) (s : Supply) (hs : s ∈ p.supplies) :
    Py.hasKey (collDict cx p) s.tok = s.coll := by
  unfold Py.hasKey collDict collaterals
  rw [List.any_map]
  cases hc : s.coll with
  | true =>
    rw [List.any_eq_true]
    exact ⟨s, List.mem_filter.mpr ⟨hs, hc⟩, by simp⟩
  | false =>
    rw [List.any_eq_false]
    intro x hx
    have hx' := List.mem_filter.mp hx
    intro heq
    have hxt : x.tok = s.tok := by simpa using heq
    have e1 := hk x hx'.1
    have e2 := hk s hs
    rw [hxt, e2] at e1
    have : s = x := Option.some.inj e1
    rw [this] at hc
    rw [hc] at hx'
    exact absurd hx'.2 (by decide)

/-- the model has one `arith` error for the two decimal signals -/
def Tie.arithLike (r : Py.M Rat) : Except Cause Rat → Prop
  | .ok v => r = .ok v
  | .error _ => r = .error .DivisionByZero ∨ r = .error .InvalidOperation

theorem Tie_aaverisk_get_min_withdraw_kept_amount (cx : NumCtx) (p : Portfolio) (hk : KeysOk p) (s : Supply) (hs : s ∈ p.supplies) :
    arithLike (Py.aave_get_min_withdraw_kept_amount cx s.tok (collDict cx p) (debtDict cx p) (rowFrame p) s.row.price)
      (minWithdrawKept cx p s) := by
  unfold Py.aave_get_min_withdraw_kept_amount minWithdrawKept
  rw [hasKey_coll cx p hk s hs]
  cases s.coll with
  | false => simp [arithLike, pure, Except.pure]
  | true =>
    unfold collDict
    dsimp only
    rw [forIn_map_ok (collaterals p) _ _ (fun r x => if x.tok ≠ s.tok then cx.add r (cx.mul x.row.lt (x.value cx)) else r)]
    rotate_left
    · intro x hx r
      split
      · rw [rowFrame_lt p hk x (mem_coll hx)]; rfl
      · rfl
    simp only [rowFrame_lt p hk s hs, bind, Except.bind, not_true_eq_false, if_false, Bool.true_eq_false]
    unfold Py.ddiv
    by_cases h1 : s.row.lt = 0
    · simp only [h1, if_true, arithLike]
      generalize cx.sub _ _ = n
      by_cases hn : n = 0 <;> simp [hn]
    · simp only [h1, if_false]
      by_cases h2 : s.row.price = 0
      · simp only [h2, if_true, arithLike]
        split <;> simp
      · simp only [h2, if_false, arithLike]
        unfold othersLt totalDebt debtDict
        simp only [dsum_eq', AaveRisk.dsum, List.map_map, List.foldl_map, List.foldl_filter, decide_eq_true_eq, Gen.arHfLiqThreshold]
        rfl

theorem Tie.keysOk_of_pairwise (p : Portfolio) (h : p.supplies.Pairwise (fun a b => a.tok ≠ b.tok)) : KeysOk p := by
  unfold KeysOk findSupply?
  generalize p.supplies = l at h
  induction l with
  | nil => intro s hs; cases hs
  | cons a rest ih =>
    intro s hs
    rw [List.pairwise_cons] at h
    rw [List.find?_cons]
    rcases List.mem_cons.mp hs with rfl | hmem
    · simp
    · have hne : a.tok ≠ s.tok := h.1 s hmem
      simp only [hne, decide_false]
      exact ih h.2 s hmem

/-! non-vacuity of `KeysOk` -/
example : KeysOk { supplies := [⟨"WETH", 2, true, ⟨1, 1, 1500, 4/5, 17/20, 1/20, true, true⟩⟩,
                                ⟨"USDC", 100, false, ⟨1, 1, 1, 4/5, 17/20, 1/20, true, true⟩⟩], debts := [] } :=
  keysOk_of_pairwise _ (by decide)

end Demeter
