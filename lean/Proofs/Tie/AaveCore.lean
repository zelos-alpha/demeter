/-
  Tie.AaveCore — the definitions GENERATED from demeter/aave/core.py (`AaveV3CoreLib`, Demeter/Gen/PyAaveCore.lean)
  coincide with the hand-written model (Demeter/Aave/Basic.lean, Demeter/Aave/Views.lean), for every rounding context.
-/
import Demeter.Gen.PyAaveCore
import Demeter.Aave
import Proofs.Tie.Basic
-- the leaf `simp` sets carry the monad's equations (`bind`, `pure`, …) uniformly: which leaves still hold one depends on how the
-- generated code is laid out, and the harmless rewrites of the source (README) change that
set_option linter.unusedSimpArgs false
namespace Demeter
open Tie Py Aave

/-- the risk-parameter frame of a model environment, as the translated code reads it (`.loc[name].column`) -/
def Tie.riskFrame (env : Aave.Env) : String → String → Py.M Rat := fun k col =>
  match env.riskOf k with
  | .error _ => .error .KeyError
  | .ok r =>
    if col = "reserveLiquidationThreshold" then .ok r.lt
    else if col = "baseLTVasCollateral" then .ok r.ltv
    else if col = "reserveLiquidationBonus" then .ok r.bonus
    else .error (.Raised "AttributeError")

def Tie.xdec : Aave.XRat → Py.XDec
  | .fin r => .fin r
  | .inf => .inf

/-- a model result as a result of the translated code (the only exception these functions raise is the `KeyError`
    of a missing risk-parameter row) -/
def Tie.ofRes {α β : Type} (f : α → β) : Aave.Res α → Py.M β
  | .ok a => .ok (f a)
  | .error _ => .error .KeyError

theorem Tie_aave_safe_div (cx : ACtx) (a b : Rat) :
    Py.aave_safe_div cx.toNumCtx a b = .ok (xdec (safeDiv cx a b)) := by
  unfold Py.aave_safe_div safeDiv
  by_cases h : b = 0
  · simp [h, xdec, bind, Except.bind, pure, Except.pure]
  · simp [h, xdec, ddiv_ok _ _ _ h, bind, Except.bind, pure, Except.pure]

theorem Tie_aave_rate_to_apy (cx : ACtx) (rate : Rat) :
    Py.aave_rate_to_apy cx.toNumCtx cx.dpow rate = .ok (rateToApy cx rate) := by
  unfold Py.aave_rate_to_apy rateToApy
  simp [Gen.aaveSecondsInYear, pure, Except.pure]

/-- `get_amount`: the model multiplies inline (`cx.mul base index`) -/
theorem Tie_aave_get_amount (cx : ACtx) (base idx : Rat) :
    Py.aave_get_amount cx.toNumCtx base idx = .ok (cx.mul base idx) := by
  simp [Py.aave_get_amount, pure, Except.pure]

/-- `get_base_amount`: the model's `divE` (a zero index raises) -/
theorem Tie_aave_get_base_amount (cx : ACtx) (amount idx : Rat) :
    Py.aave_get_base_amount cx.toNumCtx amount idx
      = (match divE cx amount idx with
         | .ok v => .ok v
         | .error _ => .error (if amount = 0 then .InvalidOperation else .DivisionByZero)) := by
  unfold Py.aave_get_base_amount divE Py.ddiv
  by_cases h : idx = 0
  · by_cases h2 : amount = 0 <;> simp [h, h2, bind, Except.bind]
  · simp [h, bind, Except.bind, pure, Except.pure]

theorem Tie.riskFrame_lt (env : Aave.Env) (k : String) :
    riskFrame env k "reserveLiquidationThreshold" = ofRes (·.lt) (env.riskOf k) := by
  unfold riskFrame ofRes
  cases env.riskOf k <;> simp

theorem Tie.riskFrame_ltv (env : Aave.Env) (k : String) :
    riskFrame env k "baseLTVasCollateral" = ofRes (·.ltv) (env.riskOf k) := by
  unfold riskFrame ofRes
  cases env.riskOf k <;> simp

theorem Tie.dsum_eq (cx : ACtx) (xs : List Rat) : Py.dsum cx.toNumCtx xs = Aave.dsum cx xs := rfl

theorem Tie.ofRes_bind {α β γ : Type} (f : β → γ) (x : Aave.Res α) (k : α → Aave.Res β) :
    ofRes f (x >>= k) = ofRes id x >>= fun a => ofRes f (k a) := by cases x <;> rfl

theorem Tie_aave_health_factor (cx : ACtx) (env : Aave.Env) (colls bors : List (String × Rat)) :
    Py.aave_health_factor cx.toNumCtx colls bors (riskFrame env) = ofRes xdec (hfOf cx env colls bors) := by
  unfold Py.aave_health_factor hfOf
  rw [mapM_mapError (fun _ => .KeyError) colls _ (fun p => do let r ← env.riskOf p.1; pure (cx.mul p.2 r.lt)), ofRes_bind]
  · cases List.mapM (fun p => do let r ← env.riskOf p.1; pure (cx.mul p.2 r.lt)) colls with
    | error e => rfl
    | ok v => simp only [ofRes, Except.mapError, ok_bind, id, dsum_eq, Tie_aave_safe_div, pure_eq, vals]
  · intro ⟨k, s⟩ _
    dsimp only
    rw [riskFrame_lt]
    cases env.riskOf k <;> rfl

theorem Tie_aave_max_ltv (cx : ACtx) (env : Aave.Env) (colls : List (String × Rat)) :
    Py.aave_max_ltv cx.toNumCtx colls (riskFrame env) = ofRes xdec (maxLtvOf cx env colls) := by
  unfold Py.aave_max_ltv maxLtvOf
  dsimp only
  rw [forIn_mapError (fun _ => .KeyError) colls _ (fun acc p => do let r ← env.riskOf p.1; pure (cx.add acc (cx.mul p.2 r.ltv))),
    ofRes_bind]
  · cases List.foldlM (fun acc p => do let r ← env.riskOf p.1; pure (cx.add acc (cx.mul p.2 r.ltv))) (0 : Rat) colls with
    | error e => rfl
    | ok v => simp only [ofRes, Except.mapError, ok_bind, id, dsum_eq, Tie_aave_safe_div, pure_eq, vals]
  · intro ⟨k, s⟩ _ r
    rw [riskFrame_ltv]
    cases env.riskOf k <;> rfl

theorem Tie_aave_total_liquidation_threshold (cx : ACtx) (env : Aave.Env) (colls : List (String × Rat)) :
    Py.aave_total_liquidation_threshold cx.toNumCtx colls (riskFrame env) = ofRes xdec (liqThresholdOf cx env colls) := by
  unfold Py.aave_total_liquidation_threshold liqThresholdOf
  dsimp only
  rw [forIn_mapError (fun _ => .KeyError) colls _ (fun (acc : Rat × Rat) p => do
      let r ← env.riskOf p.1
      pure (cx.add acc.1 p.2, cx.add acc.2 (cx.mul p.2 r.lt))), ofRes_bind]
  · cases List.foldlM (fun (acc : Rat × Rat) p => do
          let r ← env.riskOf p.1
          pure (cx.add acc.1 p.2, cx.add acc.2 (cx.mul p.2 r.lt))) ((0 : Rat), (0 : Rat)) colls with
    | error e => rfl
    | ok v => simp only [ofRes, Except.mapError, ok_bind, id, Tie_aave_safe_div, pure_eq]
  · intro ⟨k, s⟩ _ r
    rw [riskFrame_lt]
    cases env.riskOf k <;> rfl

end Demeter
