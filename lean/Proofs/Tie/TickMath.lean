/-
  Tie.TickMath — `get_sqrt_ratio_at_tick` as GENERATED from demeter/uniswap/liquitidy_math.py
  (Demeter/Gen/PyLiquitidyMath.lean: the start value and the chain of nineteen `if abs_tick & mask != 0: ratio = (ratio * C) >> 128` on `Int`,
  the assertion, the `uint256.max // ratio` inversion that could raise, the final round-up) equals the hand-written model
  `sqrtAt` (Demeter/TickMath.lean: a fold over the generated table on `Nat`), for every tick; outside `|tick| ≤ bound` the
  code raises `AssertionError`.  `py_tick_eq` (the generated straight-line code is the fold over the generated table) is `rfl`.
  The inversion never divides by zero: `tickFold_pos` (the fold is bounded below by the "all bits set" product).
-/
import Demeter.Gen.PyLiquitidyMath
import Demeter.TickMath
import Proofs.Tie.Basic
import Proofs.Lemmas.TickUnroll
namespace Demeter
open Tie Gen Py

/-- the chain `if abs_tick & mask != 0: ratio = (ratio * c) >> shift` over a table, on `Int` as the code computes it -/
def Tie.foldI (a : Int) (sh : Nat) : List (Nat × Nat) → Int → Int
  | [], r => r
  | (m, c) :: rest, r => foldI a sh rest (if Py.band a (m : Int) ≠ 0 then (r * (c : Int)) >>> sh else r)

def Tie.finishI (r : Int) : Int :=
  (r >>> tickFinalShift) + (if Int.fmod r (tickFinalMod : Int) = 0 then 0 else 1)

/-- the generated definition, folded back over the generated table -/
def Tie.pyTick (tick : Int) : M Int :=
  let a := if tick ≥ 0 then tick else -tick
  if ¬ a ≤ (tickBound : Int) then .error .AssertionError else
  let r := foldI a tickShift tickTable (if Py.band a 1 ≠ 0 then (tickStartOdd : Int) else (tickStartEven : Int))
  if tick > 0 then
    Except.bind (floordiv (tickUintMax : Int) r) (fun v => .ok (finishI v))
  else .ok (finishI r)

theorem Tie.py_tick_eq (tick : Int) : Py.get_sqrt_ratio_at_tick tick = pyTick tick := by
  unfold Py.get_sqrt_ratio_at_tick pyTick
  rfl

theorem Tie.foldI_cast (a : Nat) (tbl : List (Nat × Nat)) (r : Nat) :
    foldI (a : Int) tickShift tbl (r : Int) = ((tickFold a tbl r : Nat) : Int) := by
  induction tbl generalizing r with
  | nil => rfl
  | cons p rest ih =>
    obtain ⟨m, c⟩ := p
    unfold foldI tickFold
    rw [← ih]
    rw [band_nat, ← Int.natCast_mul, shr_nat]
    by_cases h : a &&& m = 0 <;> simp [h]

theorem Tie.finishI_cast (r : Nat) :
    finishI (r : Int) = (((r >>> tickFinalShift) + (if r % tickFinalMod = 0 then 0 else 1) : Nat) : Int) := by
  unfold finishI
  rw [fmod_nat, shr_nat]
  by_cases h : r % tickFinalMod = 0
  · simp [h]
  · have h' : ((r : Int) % (tickFinalMod : Int)) ≠ 0 := by omega
    simp [h, h']

theorem Tie_tickmath_get_sqrt_ratio_at_tick (tick : Int) :
    Py.get_sqrt_ratio_at_tick tick
      = if tickOk tick then .ok ((sqrtAt tick : Nat) : Int) else .error .AssertionError := by
  rw [py_tick_eq]
  unfold pyTick tickOk sqrtAt tickRatio
  have habs : (if tick ≥ 0 then tick else -tick) = ((tick.natAbs : Nat) : Int) := by split <;> omega
  simp only [habs]
  generalize tick.natAbs = a
  by_cases hb : a ≤ tickBound
  · have hb' : ((a : Nat) : Int) ≤ (tickBound : Int) := by omega
    simp only [hb, hb', not_true_eq_false, if_false, decide_true, if_true]
    have h1 : Py.band (a : Int) 1 = ((a &&& 1 : Nat) : Int) := band_nat a 1
    have hstart : (if Py.band (a : Int) 1 ≠ 0 then (tickStartOdd : Int) else (tickStartEven : Int))
        = ((if a &&& 1 != 0 then tickStartOdd else tickStartEven : Nat) : Int) := by
      rw [h1]
      by_cases h : a &&& 1 = 0
      · have e1 : ¬ (((a &&& 1 : Nat) : Int) ≠ 0) := by omega
        have e2 : ¬ ((a &&& 1 != 0) = true) := by rw [h]; decide
        rw [if_neg e1, if_neg e2]
      · have e1 : (((a &&& 1 : Nat) : Int) ≠ 0) := by omega
        have e2 : ((a &&& 1 != 0) = true) := bne_iff_ne.mpr h
        rw [if_pos e1, if_pos e2]
    rw [hstart, foldI_cast]
    have hpos := tickFold_pos a
    by_cases ht : tick > 0
    · rw [if_pos ht, floordiv_nat _ _ (by omega)]
      simp only [ht, if_true, Except.bind, finishI_cast]
    · rw [if_neg ht]
      simp only [ht, if_false, finishI_cast]
  · have hb' : ¬ ((a : Nat) : Int) ≤ (tickBound : Int) := by omega
    simp [hb, hb']
