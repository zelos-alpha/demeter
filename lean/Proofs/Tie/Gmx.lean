/-
  Tie.Gmx — `GmxMarket.get_fee_basis_points` and `_collect_swap_fee` as GENERATED from demeter/gmx/market.py
  (Demeter/Gen/PyGmxMarket.lean) coincide with the hand-written model Demeter/GmxV1.lean (`feeBpsCore`, `afterFee`),
  for every rounding context.  The method's reads of `self` (the token's usdg amount in the data row, the target amount,
  the two basis-point settings) are parameters of the generated definition.
-/
import Demeter.Gen.PyGmxMarket
import Demeter.GmxV1
import Proofs.Tie.Basic
import Proofs.Lemmas.GmxRnd
-- `Tie_gmx_collect_swap_fee` carries both forms of its divisor (see there), one of them unused on any given source
set_option linter.unusedSimpArgs false
namespace Demeter
open Tie Py GmxV1

theorem Tie_gmx_collect_swap_fee (cx : NumCtx) (tok : String) (amount fee : Rat) :
    Py.gmx__collect_swap_fee cx tok amount fee = .ok (afterFee cx amount fee) := by
  unfold Py.gmx__collect_swap_fee afterFee
  -- the divisor may be written as a literal (`/ 10000`: emitted as `cx.div`) or as a named constant (emitted as the raising `Py.ddiv`)
  simp [Gen.gmxBpsDivisor, pure, Except.pure, bind, Except.bind, ddiv_ok _ _ _ (by norm_num : (10000 : Rat) ≠ 0)]

theorem Tie_gmx_get_fee_basis_points (cx : NumCtx) (tok : String) (initial usdgAmount target : Rat) (increase : Bool) :
    Py.gmx_get_fee_basis_points cx initial target (Gen.gmxMintBurnFeeBps : Int) (Gen.gmxTaxBps : Int) tok usdgAmount increase
      = .ok (feeBpsCore cx initial usdgAmount target increase).1 := by
  unfold Py.gmx_get_fee_basis_points feeBpsCore
  by_cases ht : target = 0
  · simp [ht, pure, Except.pure]
  · simp only [ht, if_false, ddiv_ok _ _ _ ht, bind, Except.bind, pure, Except.pure]
    -- the Python text caps the average before the one division; `feeFromDiffs_fst` is the model's fee in that shape
    rw [Gmx.feeFromDiffs_fst]
    have hn : (if ¬increase = true then (if usdgAmount > initial then 0 else cx.sub initial usdgAmount)
        else cx.add initial usdgAmount) = nextAmount cx initial usdgAmount increase := by
      unfold nextAmount; cases increase <;> rfl
    have hd : ∀ a b : Rat, (if a > b then cx.sub a b else cx.sub b a) = absDiff cx a b := fun _ _ => rfl
    have e60 : (((Gen.gmxTaxBps : Nat) : Int) : Rat) = 60 := by norm_num [Gen.gmxTaxBps]
    have e25 : (((Gen.gmxMintBurnFeeBps : Nat) : Int) : Rat) = 25 := by norm_num [Gen.gmxMintBurnFeeBps]
    simp only [hn, hd, e60, e25, Int.cast_add]
    exact (apply_ite Except.ok _ _ _).symm

end Demeter
