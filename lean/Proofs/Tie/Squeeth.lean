/-
  Tie.Squeeth — the liquidation and vault-safety arithmetic of `SqueethMarket` (demeter/squeeth/market.py) as GENERATED by
  tools/py2lean.py coincides with the hand-written model Demeter/Squeeth.lean that C14's theorems are about, for every rounding context.
  The TWAP prices and the effective collateral (which goes through the pool market) are inputs of the generated
  functions (read table of the translator); the vault's fields are read as values on entry and returned as values on exit.
-/
import Demeter.Gen.PySqueethMarket
import Proofs.Lemmas.SqueethBodies
-- the leaf `simp` sets carry the monad's equations (`bind`, `pure`, …) uniformly: which leaves still hold one depends on how the
-- generated code is laid out, and the harmless rewrites of the source (README) change that
set_option linter.unusedSimpArgs false
namespace Demeter
open Tie Py Squeeth

theorem Tie_squeeth_single_liquidation_amount (cx : NumCtx) (e : Env) (maxIn maxLiq : Rat) :
    Py.sq_get_single_liquidation_amount cx (twap e .osqth) maxIn maxLiq = .ok (singleLiq cx e maxIn maxLiq) := by
  simp [Py.sq_get_single_liquidation_amount, singleLiq, Gen.sqLiquidationBounty, pure, Except.pure]

theorem Tie_squeeth_liquidation_result (cx : NumCtx) (e : Env) (maxAmt short coll : Rat) :
    Py.sq_get_liquidation_result cx (twap e .osqth) maxAmt short coll = .ok (liquidationResult cx e maxAmt short coll) := by
  unfold Py.sq_get_liquidation_result liquidationResult Gen.sqLiqDivisor Gen.sqMinDeposit
  simp only [Tie_squeeth_single_liquidation_amount, bind, Except.bind, pure, Except.pure]
  generalize singleLiq cx e maxAmt (cx.div short 2) = r1
  generalize singleLiq cx e maxAmt short = r2
  generalize (1 : Rat) / 2 = m
  by_cases h1 : coll ≥ r1.2 <;> by_cases h2 : cx.sub coll r1.2 < m
  · by_cases h3 : r2.2 > coll <;> simp [h1, h2, h3]
  · by_cases h3 : r1.2 > coll <;> simp [h1, h2, h3]
  · by_cases h3 : r1.2 > coll <;> simp [h1, h2, h3]
  · by_cases h3 : r1.2 > coll <;> simp [h1, h2, h3]

/-- `Tie.reduceDebtVault`, tied below to `_get_reduce_debt_result_in_vault`, IS what the model's `reduceDebtBody` (the subject of the C14
    theorems) does once the position is redeemed -/
theorem Tie_squeeth_reduceDebtBody_uses_vault_math (cx : NumCtx) (e : Env) (s s1 : State) (vk : Nat) (v : Vault) (pos : PosKey) (p : UPos)
    (payBounty : Bool) (f0 f1 : Rat) (out : List Rat)
    (hv : AList.get? s.vaults vk = some v) (hn : v.nft = some pos) (hp : AList.get? s.positions pos = some p) (ht : p.transferred = true)
    (hr : uniRedeem cx e (s.setPos pos { p with transferred := false }) pos false = (⟨none, s1, out⟩, f0, f1)) :
    let r := reduceDebtVault cx e v f0 f1 payBounty
    let s2 := s1.setVault vk r.2
    let s3 := if r.1.2.1 > 0 then creditW cx s2 Gen.sqOsqthName r.1.2.1 else s2
    reduceDebtBody cx e s vk payBounty =
      (.ok (s3.record (.reduceDebt vk pos f0 f1 r.1.1 r.1.2.1 r.1.2.2 r.2.short r.2.coll)) [r.1.1, r.1.2.1, r.1.2.2, f0], r.1.2.2) :=
  reduceDebtBody_of_redeem hv hn hp ht hr

theorem Tie_squeeth_reduce_debt_bounty (cx : NumCtx) (e : Env) (eth osqth : Rat) :
    Py.sq_get_reduce_debt_bounty cx (twap e .osqth) eth osqth = .ok (cx.mul (cx.add (cx.mul osqth (twap e .osqth)) eth) Gen.sqReduceDebtBounty) := by
  simp [Py.sq_get_reduce_debt_bounty, Gen.sqReduceDebtBounty, pure, Except.pure]

/-- `_get_reduce_debt_result_in_vault`: the returned triple and the vault's three fields afterwards -/
theorem Tie_squeeth_reduce_debt_result_in_vault (cx : NumCtx) (e : Env) (v : Vault) (nftId : Option Int) (wEth wOsqth : Rat) (payBounty : Bool) :
    Py.sq_get_reduce_debt_result_in_vault cx (twap e .osqth) v.short v.coll nftId wEth wOsqth payBounty =
      .ok ((reduceDebtVault cx e v wEth wOsqth payBounty).1,
           (reduceDebtVault cx e v wEth wOsqth payBounty).2.short, (reduceDebtVault cx e v wEth wOsqth payBounty).2.coll, none) := by
  unfold Py.sq_get_reduce_debt_result_in_vault reduceDebtVault
  cases payBounty <;> by_cases h : wOsqth > v.short <;>
    simp [Tie_squeeth_reduce_debt_bounty, h, bind, Except.bind, pure, Except.pure]

/-- `get_vault_status` called without `twap_eth_price` (the TWAP of WETH is then taken): given the vault's debt and its effective collateral `total`,
    the pair (above water, dust) — exactly the pair the model's `vaultStatus` computes from `debtEth` and `effColl` -/
theorem Tie_squeeth_get_vault_status (cx : NumCtx) (e : Env) (short total : Rat) :
    Py.sq_get_vault_status cx (twap e .weth) short total e.nf none =
      .ok (if short = 0 then (true, false)
           else (decide (cx.mul total Gen.sqCrDen ≥ cx.mul (debtEth cx e short) Gen.sqCrNum), decide (total < Gen.sqMinDeposit))) := by
  unfold Py.sq_get_vault_status debtEth Gen.sqCrDen Gen.sqCrNum Gen.sqMinDeposit Gen.sqIndexScale
  by_cases h : short = 0
  · simp [h, bind, Except.bind, pure, Except.pure]
  · simp [h, Py.unwrap, bind, Except.bind, pure, Except.pure]

/-- … and that pair is what `vaultStatus` returns for a vault of the state -/
theorem Tie_squeeth_vaultStatus_uses_status_math (cx : NumCtx) (e : Env) (s : State) (vk : Nat) (v : Vault) (total : Rat)
    (hv : AList.get? s.vaults vk = some v) (ht : effColl cx e s vk = .ok total) :
    vaultStatus cx e s vk =
      .ok (if v.short = 0 then (true, false)
           else (decide (cx.mul total Gen.sqCrDen ≥ cx.mul (debtEth cx e v.short) Gen.sqCrNum), decide (total < Gen.sqMinDeposit))) := by
  rw [vaultStatus_eq hv, ht]
  split <;> rfl
