/-
  Tie.Gmx2Exec — `ExecuteDepositUtils.calc_token_amount`, `get_mint_amount` and `ExecuteWithdrawUtils.getOutputAmount` of demeter/gmx/gmx_v2/ as
  GENERATED by tools/py2lean.py (float mode) coincide with the model's `calcTokenAmount`, `mintAmount`, `outputAmount` (Demeter/GmxV2.lean) for
  every number type `α` and every `Ops α`.  Code and model are walked in step with `Tie.Sim` (Tie/Gmx2): the results are related, not equal
  (the code returns a field the model drops and the other way round), and where the model makes a step the code does not (a second `impactAmountWithCap` on the short side,
  result unused), `impact_ok_of_calc` shows that step cannot fail there (`Sim.skip`).
-/
import Demeter.Gen.PyGmx2ExecuteDepositUtils
import Demeter.Gen.PyGmx2ExecuteWithdrawUtils
import Proofs.Tie.Gmx2
import Batteries.Lean.Except  -- `DecidableEq (Except ε α)`, for the examples at the end
set_option linter.unusedSectionVars false
namespace Demeter
open Tie Py GmxV2

section
variable {α : Type} [Add α] [Sub α] [Mul α] [Div α] [Neg α] [LT α] [LE α] [OfNat α 0] [DecidableLT α] [DecidableLE α]

/-- `getSwapImpactAmountWithCap`: its callers use the first component only, which is the model's -/
theorem Tie.impact_sim (o : Ops α) (isInt : α → Bool) (price impact pool : α) :
    Sim (fun a b => a.1 = b.1) (Py.gmx2_getSwapImpactAmountWithCap (fops o isInt) price impact pool)
      (GmxV2.impactAmountWithCap o price impact pool) := by
  rw [Tie_gmx2_getSwapImpactAmountWithCap]
  unfold GmxV2.impactAmountWithCap
  cases GmxV2.fdiv o impact price with
  | error e => rfl
  | ok amt =>
    by_cases h : impact > 0
    · by_cases h2 : amt > pool <;> simp [h, h2, gmx2Res, Sim, bind, Except.bind, pure, Except.pure]
    · simp [h, gmx2Res, Sim, bind, Except.bind, pure, Except.pure]

/-- the relation keeps the two components both sides have -/
theorem Tie.calc_sim (o : Ops α) (isInt : α → Bool) (cfg : Config α) (ps : Pool α) (priceIn priceOut amount impact pool : α) :
    Sim (fun r m => (r.1, r.2.2) = (m.1, m.2.1))
      (Py.gmx2_calc_token_amount (fops o isInt) cfg.depositFeePos cfg.depositFeeNeg cfg.withdrawFeePos cfg.withdrawFeeNeg
        ps.poolValue ps.supply ps.impactPool priceIn priceOut amount impact (some pool))
      (GmxV2.calcTokenAmount o cfg ps priceIn priceOut amount impact pool) := by
  unfold Py.gmx2_calc_token_amount GmxV2.calcTokenAmount GmxV2.positiveImpactMint GmxV2.afterNegativeImpact
  simp only [Tie_gmx2_getSwapFees, feeFactor, Option.getD, if_true, decide_eq_true_eq, ite_bind, bind_assoc, pure_bind, throw_eq, error_bind]
  -- the part after the positive impact, whatever was minted for it
  have last : ∀ (after m1 : α) (c : Bool), Sim (fun r m => (r.1, r.2.2) = (m.1, m.2.1))
      (gmx2_usdToMarketTokenAmount (fops o isInt) (after * priceIn) ps.poolValue ps.supply >>= fun t4 =>
        pure (m1 + t4, after, (if impact > 0 then cfg.depositFeePos else cfg.depositFeeNeg) * amount))
      (usdToGm o (after * priceIn) ps.poolValue ps.supply >>= fun m2 =>
        pure (m1 + m2, (if impact > 0 then cfg.depositFeePos else cfg.depositFeeNeg) * amount, c)) :=
    fun after m1 c => (Sim.of_eq (Tie_gmx2_usdToMarketTokenAmount o isInt _ _ _)).bind fun _ _ h => by subst h; exact rfl
  refine Sim.ite (fun _ => (impact_sim o isInt priceOut impact pool).bind fun t1 x (h1 : t1.1 = x.1) => ?_) (fun _ => ?_)
  · rw [h1]
    refine (Sim.of_eq (Tie_gmx2_usdToMarketTokenAmount o isInt _ _ _)).bind fun t2 m h2 => ?_
    subst h2
    -- the negative-impact part is the same text in both branches
    refine Sim.ite (fun _ => (impact_sim o isInt priceIn impact ps.impactPool).bind fun t3 y (h3 : t3.1 = y.1) => ?_) (fun _ => last _ _ _)
    rw [h3]; exact Sim.ite (fun _ => rfl) (fun _ => last _ _ _)
  · refine Sim.ite (fun _ => (impact_sim o isInt priceIn impact ps.impactPool).bind fun t3 y (h3 : t3.1 = y.1) => ?_) (fun _ => last _ _ _)
    rw [h3]; exact Sim.ite (fun _ => rfl) (fun _ => last _ _ _)

/-- `calc_token_amount(pool_config, pool_status, tokenInPrice, tokenOutPrice, amount, priceImpactUsd, impactPoolAmount)`: minted GM and the fee
    (`fees.totalFee`); the model also says whether the positive impact was capped, the code also returns `fees.amountAfterFees` -/
theorem Tie_gmx2_calc_token_amount (o : Ops α) (isInt : α → Bool) (cfg : Config α) (ps : Pool α) (priceIn priceOut amount impact pool : α) :
    (Py.gmx2_calc_token_amount (fops o isInt) cfg.depositFeePos cfg.depositFeeNeg cfg.withdrawFeePos cfg.withdrawFeeNeg
        ps.poolValue ps.supply ps.impactPool priceIn priceOut amount impact (some pool)).map (fun r => (r.1, r.2.2))
      = gmx2Res ((GmxV2.calcTokenAmount o cfg ps priceIn priceOut amount impact pool).map (fun r => (r.1, r.2.1))) :=
  (Tie.calc_sim o isInt cfg ps priceIn priceOut amount impact pool).map_eq

/-- `impactAmountWithCap` can fail only in the division `impact / priceOut`, which `calcTokenAmount` has made on a positive impact -/
theorem Tie.impact_ok_of_calc (o : Ops α) (cfg : Config α) (ps : Pool α) (priceIn priceOut amount impact pool pool' : α)
    (r : α × α × Bool) (h : GmxV2.calcTokenAmount o cfg ps priceIn priceOut amount impact pool = .ok r) (hp : impact > 0) :
    ∃ r', GmxV2.impactAmountWithCap o priceOut impact pool' = .ok r' := by
  unfold GmxV2.calcTokenAmount GmxV2.positiveImpactMint GmxV2.impactAmountWithCap at h
  unfold GmxV2.impactAmountWithCap
  simp only [hp, if_true, bind, Except.bind] at h ⊢
  cases hd : GmxV2.fdiv o impact priceOut with
  | error e => simp [hd] at h
  | ok a =>
    by_cases hc : a > pool' <;> simp [hc, pure, Except.pure]

/-- an `LPResult` of the code is the tuple of its nine fields, in the order of the class definition -/
def Tie.lpTuple (r : LPResult α) : α × α × α × α × α × α × α × α × α :=
  (r.longAmount, r.shortAmount, r.totalUsd, r.gmAmount, r.gmUsd, r.longFee, r.shortFee, r.feeUsd, r.priceImpactUsd)

/-- `ExecuteWithdrawUtils.getOutputAmount(pool_config, pool_status, marketTokenAmount)` = the model's `outputAmount` -/
theorem Tie_gmx2_getOutputAmount (o : Ops α) (isInt : α → Bool) (cfg : Config α) (ps : Pool α) (gm : α) (dl ds : Int) :
    Py.gmx2_getOutputAmount (fops o isInt) cfg.depositFeePos cfg.depositFeeNeg cfg.withdrawFeePos cfg.withdrawFeeNeg dl ds
        ps.longAmount ps.shortAmount ps.poolValue ps.supply ps.longPrice ps.shortPrice gm
      = gmx2Res ((GmxV2.outputAmount o cfg ps gm).map lpTuple) := by
  unfold Py.gmx2_getOutputAmount GmxV2.outputAmount
  simp only [Tie_gmx2_getTokenAmountsFromGM, Tie_gmx2_getSwapFees, Tie_gmx2_get_values, Tie_gmx2_get_gm_price, feeFactor,
    bind, Except.bind, pure, Except.pure]
  cases GmxV2.tokenAmountsFromGm o ps gm with
  | error e => rfl
  | ok ls =>
    obtain ⟨l, s⟩ := ls
    simp only [gmx2Res]
    cases GmxV2.fdiv o ps.poolValue ps.supply with
    | error e => rfl
    | ok p => simp [Except.map, lpTuple]

/-- `short` is the common tail of the three ways through the long side -/
theorem Tie.mint_sim (o : Ops α) (isInt : α → Bool) (cfg : Config α) (ps : Pool α) (longAmt shortAmt : α)
    (hdom : ∀ p : PoolParams α, impactInDomain o isInt cfg p) :
    Sim (fun t r => t = lpTuple r.1)
      (Py.gmx2_get_mint_amount (fops o isInt) cfg.impactFactorPos cfg.impactFactorNeg cfg.impactExponent
        cfg.depositFeePos cfg.depositFeeNeg cfg.withdrawFeePos cfg.withdrawFeeNeg
        ps.longAmount ps.shortAmount ps.virtualLong ps.virtualShort ps.poolValue ps.supply ps.impactPool ps.longPrice ps.shortPrice
        longAmt shortAmt)
      (GmxV2.mintAmount o cfg ps longAmt shortAmt) := by
  unfold Py.gmx2_get_mint_amount GmxV2.mintAmount GmxV2.sidePart GmxV2.poolLeft
  simp only [ite_bind, bind_assoc, pure_bind]
  refine (Sim.of_eq_map (Tie_gmx2_getPriceImpactUsd o isInt cfg ps _ _ hdom)).bind fun imp x (hx : imp = x.1) => ?_
  subst hx
  have last : ∀ {t : α → α × α × α × α × α × α × α × α × α} {r : α → LPResult α × String}, (∀ p, t p = lpTuple (r p).1) →
      Sim (fun t r => t = lpTuple r.1) (gmx2_get_gm_price (fops o isInt) ps.poolValue ps.supply >>= fun p => pure (t p))
        (GmxV2.fdiv o ps.poolValue ps.supply >>= fun p => pure (r p)) :=
    fun h => (Sim.of_eq (Tie_gmx2_get_gm_price o isInt _ _)).bind fun _ p e => e ▸ h p
  -- the short side, whatever the long side minted (`gm`), charged (`fee`, `feeUsd`), capped (`c`) and left of the impact pool
  have short : ∀ (gm fee feeUsd left : α) (c : Bool), Sim (fun t r => t = lpTuple r.1)
      (if shortAmt > 0 then do
          let t3 ← Py.fdiv (fops o isInt) (x.1 * (shortAmt * ps.shortPrice)) (longAmt * ps.longPrice + shortAmt * ps.shortPrice)
          let t4 ← gmx2_calc_token_amount (fops o isInt) cfg.depositFeePos cfg.depositFeeNeg cfg.withdrawFeePos cfg.withdrawFeeNeg
            ps.poolValue ps.supply ps.impactPool ps.shortPrice ps.longPrice shortAmt t3 (some left)
          let t5 ← gmx2_get_gm_price (fops o isInt) ps.poolValue ps.supply
          pure (longAmt, shortAmt, longAmt * ps.longPrice + shortAmt * ps.shortPrice, gm + t4.1, (gm + t4.1) * t5, fee, t4.2.2,
            feeUsd + t4.2.2 * ps.shortPrice, x.1)
        else do
          let t5 ← gmx2_get_gm_price (fops o isInt) ps.poolValue ps.supply
          pure (longAmt, shortAmt, longAmt * ps.longPrice + shortAmt * ps.shortPrice, gm, gm * t5, fee, 0, feeUsd, x.1))
      (if shortAmt > 0 then do
          let sh ← GmxV2.fdiv o (x.1 * (shortAmt * ps.shortPrice)) (longAmt * ps.longPrice + shortAmt * ps.shortPrice)
          let r ← calcTokenAmount o cfg ps ps.shortPrice ps.longPrice shortAmt sh left
          if sh > 0 then do
              let _ ← impactAmountWithCap o ps.longPrice sh left
              let gmPrice ← GmxV2.fdiv o ps.poolValue ps.supply
              pure ({ longAmount := longAmt, shortAmount := shortAmt, totalUsd := longAmt * ps.longPrice + shortAmt * ps.shortPrice,
                      gmAmount := gm + r.1, gmUsd := (gm + r.1) * gmPrice, longFee := fee, shortFee := r.2.1,
                      feeUsd := feeUsd + r.2.1 * ps.shortPrice, priceImpactUsd := x.1 },
                    x.2 ++ if (c || r.2.2) = true then "-capped" else "")
            else do
              let gmPrice ← GmxV2.fdiv o ps.poolValue ps.supply
              pure ({ longAmount := longAmt, shortAmount := shortAmt, totalUsd := longAmt * ps.longPrice + shortAmt * ps.shortPrice,
                      gmAmount := gm + r.1, gmUsd := (gm + r.1) * gmPrice, longFee := fee, shortFee := r.2.1,
                      feeUsd := feeUsd + r.2.1 * ps.shortPrice, priceImpactUsd := x.1 },
                    x.2 ++ if (c || r.2.2) = true then "-capped" else "")
        else do
          let gmPrice ← GmxV2.fdiv o ps.poolValue ps.supply
          pure ({ longAmount := longAmt, shortAmount := shortAmt, totalUsd := longAmt * ps.longPrice + shortAmt * ps.shortPrice,
                  gmAmount := gm, gmUsd := gm * gmPrice, longFee := fee, shortFee := 0, feeUsd := feeUsd, priceImpactUsd := x.1 },
                x.2 ++ if (c || false) = true then "-capped" else "")) := by
    intro gm fee feeUsd left c
    refine Sim.ite (fun _ => (Sim.of_eq (fdiv_eq o isInt _ _)).bind fun _ sh2 e => ?_) (fun _ => last fun _ => rfl)
    subst e
    refine (calc_sim o isInt cfg ps _ _ _ _ _).bind' fun t4 r4 hr4 h4 => ?_
    obtain ⟨e4, e5⟩ := Prod.mk.inj h4
    rw [e4, e5]
    split
    · obtain ⟨r', hr'⟩ := impact_ok_of_calc o cfg ps _ _ _ _ _ left _ hr4 ‹_›
      exact Sim.skip hr' (last fun _ => rfl)
    · exact last fun _ => rfl
  refine Sim.ite (fun _ => (Sim.of_eq (fdiv_eq o isInt _ _)).bind fun _ sh e => ?_) (fun _ => short _ _ _ _ _)
  subst e
  refine (calc_sim o isInt cfg ps _ _ _ _ _).bind fun t1 r1 h1 => ?_
  obtain ⟨e1, e2⟩ := Prod.mk.inj h1
  rw [e1, e2]
  refine Sim.ite (fun _ => (impact_sim o isInt _ _ _).bind fun t2 p (e3 : t2.1 = p.1) => ?_) (fun _ => short _ _ _ _ _)
  rw [e3]; exact short _ _ _ _ _

/-- `ExecuteDepositUtils.get_mint_amount(pool_config, pool_status, long_amount, short_amount)` = the `LPResult` of the model's `mintAmount`
    (which also names the branch taken) -/
theorem Tie_gmx2_get_mint_amount (o : Ops α) (isInt : α → Bool) (cfg : Config α) (ps : Pool α) (longAmt shortAmt : α)
    (hdom : ∀ p : PoolParams α, impactInDomain o isInt cfg p) :
    Py.gmx2_get_mint_amount (fops o isInt) cfg.impactFactorPos cfg.impactFactorNeg cfg.impactExponent
        cfg.depositFeePos cfg.depositFeeNeg cfg.withdrawFeePos cfg.withdrawFeeNeg
        ps.longAmount ps.shortAmount ps.virtualLong ps.virtualShort ps.poolValue ps.supply ps.impactPool ps.longPrice ps.shortPrice
        longAmt shortAmt
      = gmx2Res ((GmxV2.mintAmount o cfg ps longAmt shortAmt).map (fun r => lpTuple r.1)) :=
  (Tie.mint_sim o isInt cfg ps longAmt shortAmt hdom).eq_map

end

/-- `Rat` is the instantiation the C17 theorems are about; the base of each power is an absolute value -/
theorem Tie.impactInDomain_rat (pw : Rat → Rat → Rat) (isInt : Rat → Bool) (cfg : Config Rat) (he : ¬ cfg.impactExponent < 0)
    (p : PoolParams Rat) : impactInDomain (ratOps pw) isInt cfg p := by
  have habs : ∀ x : Rat, ¬ GmxV2.absv x < 0 := by
    intro x
    unfold GmxV2.absv
    split <;> grind
  exact ⟨powInDomain_of_not_neg _ _ _ _ (habs _) he, powInDomain_of_not_neg _ _ _ _ (habs _) he⟩

private def exCfg : Config Rat :=
  { impactExponent := 2, impactFactorPos := 1 / 1000000, impactFactorNeg := 2 / 1000000, depositFeePos := 5 / 10000, depositFeeNeg := 7 / 10000,
    withdrawFeePos := 5 / 10000, withdrawFeeNeg := 7 / 10000 }
private def exPool : Pool Rat :=
  { longAmount := 100, shortAmount := 150000, virtualLong := none, virtualShort := none, poolValue := 400000, supply := 200000, impactPool := 3,
    longPrice := 2000, shortPrice := 1 }
private def exOps : Ops Rat := ratOps (fun x _ => x * x)

example : ∀ p, impactInDomain exOps (fun _ => true) exCfg p := impactInDomain_rat _ _ exCfg (by decide)
/-- the generated code computes at `Rat`: a withdrawal of 1000 GM from the example pool (0.07 % fee), and a division by zero -/
example : Py.gmx2_getTokenAmountsFromGM (fops exOps (fun _ => true)) 100 150000 400000 200000 2000 1 1000 = .ok (4 / 7, 6000 / 7) := by
  decide +kernel
example : Py.gmx2_usdToMarketTokenAmount (fops exOps (fun _ => true)) 10 0 5 = .error .ZeroDivisionError := by decide +kernel
example : (Py.gmx2_getOutputAmount (fops exOps (fun _ => true)) exCfg.depositFeePos exCfg.depositFeeNeg exCfg.withdrawFeePos exCfg.withdrawFeeNeg
    18 6 100 150000 400000 200000 2000 1 1000).map (fun r => (r.1, r.2.2.2.2.1)) = .ok (4 / 7 - 7 / 10000 * (4 / 7), 2000) := by decide +kernel
/-- a deposit of 1 long token: the whole chain price impact → fees → minted GM runs through the generated code -/
example : (Py.gmx2_get_mint_amount (fops exOps (fun _ => true)) exCfg.impactFactorPos exCfg.impactFactorNeg exCfg.impactExponent
    exCfg.depositFeePos exCfg.depositFeeNeg exCfg.withdrawFeePos exCfg.withdrawFeeNeg
    100 150000 none none 400000 200000 3 2000 1 1 0).map (fun r => decide (r.2.2.2.1 > 0)) = .ok true := by decide +kernel

end Demeter
