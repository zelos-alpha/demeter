/-
  Tie.LiqMath — the definitions GENERATED from demeter/uniswap/liquitidy_math.py by tools/py2lean.py
  (Demeter/Gen/PyLiquitidyMath.lean) coincide with the hand-written model Demeter/LiqMath.lean, for every
  rounding context.
  The amount functions are tied once per typing (an `int` liquidity of either sign; `…_dliq`: a whole-valued Decimal liquidity) against
  `Uni.amount0Gen/amount1Gen/amountsGen` (what `V3CoreLib` runs), exceptions read by `Tie.unicoreRes`; the ties to Demeter/LiqMath.lean
  are the case of a natural liquidity.
-/
import Demeter.Gen.PyLiquitidyMath
import Demeter.LiqMath
import Proofs.Tie.Basic
import Proofs.Tie.TickMath
import Proofs.Lemmas.UniKernelStd
-- the simp sets also carry what harmless rewrites of the source need (`Tie.Q96_lit`, `Tie.Q96_rat`: `2**96` written out or named),
-- unused on the present source
set_option linter.unusedSimpArgs false
namespace Demeter
open Tie Py

/-- `mul_div` on the model's domain (naturals, non-zero denominator) -/
theorem Tie_liqmath_mul_div (a b d : Nat) (hd : d ≠ 0) :
    Py.mul_div a b d = .ok ((mulDiv a b d : Nat) : Int) := by
  unfold Py.mul_div mulDiv
  rw [← Int.natCast_mul, floordiv_nat (a * b) d hd]

/-- … and the exception the code raises for a zero denominator -/
theorem Tie_liqmath_mul_div_zero (a b : Int) : Py.mul_div a b 0 = .error .ZeroDivisionError := by
  unfold Py.mul_div
  rw [floordiv_zero]

/-- a negative first factor is what `get_liquidity` feeds `mul_div` when an amount is negative -/
theorem Tie.mul_div_int (w : Int) (b d : Nat) (hd : d ≠ 0) :
    Py.mul_div w b d = .ok ((w * (b : Int)) / (d : Int)) := by
  unfold Py.mul_div
  rw [floordiv_ok _ _ (by omega), Int.fdiv_eq_ediv_of_nonneg _ (Int.natCast_nonneg d)]

theorem Tie.sortPair_cast (sa sb : Nat) :
    (if ((sa : Int) > (sb : Int)) then ((sb : Int), (sa : Int)) else ((sa : Int), (sb : Int)))
      = (((min sa sb : Nat) : Int), ((max sa sb : Nat) : Int)) := by
  by_cases h : sa > sb
  · rw [if_pos (by omega), Nat.min_eq_right (by omega), Nat.max_eq_left (by omega)]
  · rw [if_neg (by omega), Nat.min_eq_left (by omega), Nat.max_eq_right (by omega)]

theorem Tie.sortPair_sub_cast (sa sb : Nat) :
    ((max sa sb : Nat) : Int) - ((min sa sb : Nat) : Int) = ((max sa sb - min sa sb : Nat) : Int) := by omega

theorem Tie.Q96_cast : ((2 : Int) ^ (96 : Nat)) = ((Q96 : Nat) : Int) := by decide
theorem Tie.Q96_lit : (79228162514264337593543950336 : Int) = ((Q96 : Nat) : Int) := by decide
theorem Tie.Q96_rat : (79228162514264337593543950336 : Rat) = ((Q96 : Nat) : Rat) := by unfold Q96; norm_num

theorem Tie.get_liquidity_for_amount0_int (sa sb : Nat) (w : Int) (h : sa ≠ sb) :
    Py.get_liquidity_for_amount0 sa sb w
      = .ok ((w * ((mulDiv (min sa sb) (max sa sb) Q96 : Nat) : Int)) / ((max sa sb - min sa sb : Nat) : Int)) := by
  unfold Py.get_liquidity_for_amount0
  simp only [sortPair_cast, sortPair_sub_cast, Q96_cast, Q96_lit, Tie_liqmath_mul_div _ _ Q96 (by decide),
    mul_div_int w _ _ (by omega : max sa sb - min sa sb ≠ 0), ok_bind]

theorem Tie_liqmath_get_liquidity_for_amount0 (sa sb amount : Nat) (h : sa ≠ sb) :
    Py.get_liquidity_for_amount0 sa sb amount = .ok ((liqForAmount0 sa sb amount : Nat) : Int) := by
  rw [get_liquidity_for_amount0_int sa sb amount h]
  unfold liqForAmount0 mulDiv
  rw [sortPair_eq]
  rfl

theorem Tie_liqmath_get_liquidity_for_amount0_zero (sa : Nat) (amount : Int) :
    Py.get_liquidity_for_amount0 sa sa amount = .error .ZeroDivisionError := by
  unfold Py.get_liquidity_for_amount0
  simp only [gt_iff_lt, lt_self_iff_false, if_false, Q96_cast, Q96_lit, Tie_liqmath_mul_div sa sa Q96 (by decide), sub_self,
    Tie_liqmath_mul_div_zero, ok_bind]

theorem Tie.get_liquidity_for_amount1_int (sa sb : Nat) (w : Int) (h : sa ≠ sb) :
    Py.get_liquidity_for_amount1 sa sb w
      = .ok ((w * ((Q96 : Nat) : Int)) / ((max sa sb - min sa sb : Nat) : Int)) := by
  unfold Py.get_liquidity_for_amount1
  simp only [sortPair_cast, sortPair_sub_cast, Q96_cast, Q96_lit, mul_div_int w _ _ (by omega : max sa sb - min sa sb ≠ 0)]

theorem Tie_liqmath_get_liquidity_for_amount1 (sa sb amount : Nat) (h : sa ≠ sb) :
    Py.get_liquidity_for_amount1 sa sb amount = .ok ((liqForAmount1 sa sb amount : Nat) : Int) := by
  rw [get_liquidity_for_amount1_int sa sb amount h]
  unfold liqForAmount1 mulDiv
  rw [sortPair_eq]
  rfl

theorem Tie_liqmath_get_liquidity_for_amount1_zero (sa : Nat) (amount : Int) :
    Py.get_liquidity_for_amount1 sa sa amount = .error .ZeroDivisionError := by
  unfold Py.get_liquidity_for_amount1
  simp only [gt_iff_lt, lt_self_iff_false, if_false, sub_self, Tie_liqmath_mul_div_zero]

/-- `to_wei`, every rounding context -/
theorem Tie_liqmath_to_wei (cx : NumCtx) (amount : Rat) (decimals : Nat) :
    Py.to_wei cx amount decimals = .ok (toWei cx amount decimals) := by
  unfold Py.to_wei toWei pow10
  rw [ipow_nat]
  simp only [ok_bind, pure_eq, Int.cast_pow, Int.cast_ofNat, Nat.cast_pow, Nat.cast_ofNat]

theorem Tie.pow10_cast (d : Nat) : (((10 : Int) ^ d : Int) : Rat) = ((pow10 d : Nat) : Rat) := by
  unfold pow10; push_cast; rfl

theorem Tie.get_amount0_int (cx : NumCtx) (sa sb : Nat) (l : Int) (d : Nat) (ha : 0 < sa) (hb : 0 < sb) :
    Py.get_amount0 cx sa sb l d = .ok (Uni.amount0Gen cx sa sb l false d) := by
  unfold Py.get_amount0 Uni.amount0Gen
  simp only [sortPair_cast, sortPair_eq, sortPair_sub_cast, Q96_cast, Q96_lit, ipow_nat,
    ddiv_ok _ _ _ (Nat.cast_ne_zero.2 (by omega : min sa sb ≠ 0)), ddiv_ok _ _ _ (Nat.cast_ne_zero.2 (by omega : max sa sb ≠ 0)),
    ddiv_ok _ _ _ (pow10_cast_pos d).ne', ok_bind, pow10_cast, Bool.false_eq_true, if_false, Int.cast_natCast]

theorem Tie.get_amount1_int (cx : NumCtx) (sa sb : Nat) (l : Int) (d : Nat) :
    Py.get_amount1 cx sa sb l d = .ok (Uni.amount1Gen cx sa sb l false d) := by
  unfold Py.get_amount1 Uni.amount1Gen Uni.q96R
  simp only [sortPair_cast, sortPair_eq, sortPair_sub_cast, Q96_cast, Q96_lit, Q96_rat, ipow_nat, ddiv_ok _ _ _ (pow10_cast_pos d).ne',
    ddiv_ok _ _ _ Q96_cast_pos.ne', ok_bind, pow10_cast, Bool.false_eq_true, if_false, Int.cast_natCast]

theorem Tie_liqmath_get_amount0 (cx : NumCtx) (sa sb l d : Nat) (ha : 0 < sa) (hb : 0 < sb) :
    Py.get_amount0 cx sa sb l d = .ok (getAmount0 cx sa sb l d) := by
  rw [get_amount0_int cx sa sb l d ha hb, Uni.amount0Gen_nat]

theorem Tie_liqmath_get_amount1 (cx : NumCtx) (sa sb l d : Nat) :
    Py.get_amount1 cx sa sb l d = .ok (getAmount1 cx sa sb l d) := by
  rw [get_amount1_int cx sa sb l d, Uni.amount1Gen_nat]

/-- the model's exception classes (`Uni.Err`) as the classes the code raises -/
def Tie.unicoreErr : Uni.Err → Py.Err
  | .demeter => .Raised "DemeterError"
  | .assertion => .AssertionError
  | .zeroDiv => .ZeroDivisionError
  | .key => .KeyError
  | .invalidOp => .InvalidOperation
  | .divByZero => .DivisionByZero
  | .notImpl => .Raised "NotImplementedError"
  | .runtime => .Raised "RuntimeError"
  | .attribute => .Raised "AttributeError"
  | .value => .ValueError

def Tie.unicoreRes {α : Type} : Except Uni.Err α → Py.M α
  | .ok v => .ok v
  | .error e => .error (unicoreErr e)

/-- the translated `get_amounts` (both sqrt prices computed and sorted, then the three-way branch with comparisons on `Int` casts)
    against the model's, for any pair of leg functions that agree: `get_amounts` and `get_amounts_dliq` differ in nothing else -/
theorem Tie.amounts_tie (F0 F1 : Int → Int → M Rat) (G0 G1 : Nat → Nat → Rat) (s : Nat) (ta tb : Int)
    (h0 : ∀ a b : Nat, 0 < a → 0 < b → F0 a b = .ok (G0 a b)) (h1 : ∀ a b : Nat, F1 a b = .ok (G1 a b)) :
    (do
      let sqrt := (s : Int)
      let mut sqrtA ← Py.get_sqrt_ratio_at_tick ta
      let mut sqrtB ← Py.get_sqrt_ratio_at_tick tb
      (sqrtA, sqrtB) := (if (sqrtA > sqrtB) then (sqrtB, sqrtA) else (sqrtA, sqrtB))
      if (sqrt ≤ sqrtA) then
        let amount0 ← F0 sqrtA sqrtB
        return (amount0, (0 : Rat))
      else
        if ((sqrtB > sqrt) ∧ (sqrt > sqrtA)) then
          let amount0 ← F0 sqrt sqrtB
          let amount1 ← F1 sqrtA sqrt
          return (amount0, amount1)
        else
          let amount1 ← F1 sqrtA sqrtB
          return ((0 : Rat), amount1))
    = unicoreRes (match Uni.sqrtAtE ta, Uni.sqrtAtE tb with
        | .error e, _ => .error e
        | _, .error e => .error e
        | .ok sa0, .ok sb0 =>
          let (sa, sb) := sortPair sa0 sb0
          if s ≤ sa then .ok (G0 sa sb, 0)
          else if s < sb then .ok (G0 s sb, G1 sa s)
          else .ok (0, G1 sa sb)) := by
  unfold Uni.sqrtAtE
  rw [Tie_tickmath_get_sqrt_ratio_at_tick, Tie_tickmath_get_sqrt_ratio_at_tick]
  by_cases ha : tickOk ta = true
  · by_cases hb : tickOk tb = true
    · simp only [ha, hb, if_true, ok_bind, sortPair_cast, sortPair_eq]
      have := sqrtAt_pos_all ta
      have := sqrtAt_pos_all tb
      by_cases c1 : s ≤ min (sqrtAt ta) (sqrtAt tb)
      · rw [if_pos (by omega), if_pos c1, h0 _ _ (by omega) (by omega)]; rfl
      · by_cases c2 : s < max (sqrtAt ta) (sqrtAt tb)
        · rw [if_neg (by omega), if_pos (by omega), if_neg c1, if_pos c2, h0 _ _ (by omega) (by omega), h1]; rfl
        · rw [if_neg (by omega), if_neg (by omega), if_neg c1, if_neg c2, h1]; rfl
    · simp only [ha, hb, if_true, Bool.false_eq_true, if_false, ok_bind, error_bind, unicoreRes, unicoreErr]
  · simp only [ha, Bool.false_eq_true, if_false, error_bind, unicoreRes, unicoreErr]

theorem Tie.get_amounts_int (cx : NumCtx) (s : Nat) (ta tb l : Int) (d0 d1 : Nat) :
    Py.get_amounts cx s ta tb l d0 d1 = unicoreRes (Uni.amountsGen cx s ta tb l false d0 d1) :=
  amounts_tie (fun a b => Py.get_amount0 cx a b l d0) (fun a b => Py.get_amount1 cx a b l d1)
    (fun a b => Uni.amount0Gen cx a b l false d0) (fun a b => Uni.amount1Gen cx a b l false d1) s ta tb
    (fun a b => get_amount0_int cx a b l d0) (fun a b => get_amount1_int cx a b l d1)

theorem Tie_liqmath_get_amounts (cx : NumCtx) (s : Nat) (ta tb : Int) (l d0 d1 : Nat)
    (ha : tickOk ta = true) (hb : tickOk tb = true) :
    Py.get_amounts cx s ta tb l d0 d1 = .ok (getAmounts cx s ta tb l d0 d1) := by
  rw [get_amounts_int, Uni.amountsGen_nat cx s ta tb l d0 d1 ha hb]
  rfl

/-- `get_liquidity`: the model's `none` is exactly the code's `ZeroDivisionError` (both ticks give the same sqrt price) -/
theorem Tie_liqmath_get_liquidity (cx : NumCtx) (s : Nat) (ta tb : Int) (a0 a1 : Rat) (d0 d1 : Nat)
    (ha : tickOk ta = true) (hb : tickOk tb = true) :
    Py.get_liquidity cx s ta tb a0 a1 d0 d1
      = (match getLiquidity cx s ta tb a0 a1 d0 d1 with
         | some l => .ok l
         | none => .error .ZeroDivisionError) := by
  unfold Py.get_liquidity getLiquidity
  rw [Tie_tickmath_get_sqrt_ratio_at_tick, Tie_tickmath_get_sqrt_ratio_at_tick]
  simp only [ha, hb, if_true, ok_bind, sortPair_cast, sortPair_eq, Tie_liqmath_to_wei]
  have hle : min (sqrtAt ta) (sqrtAt tb) ≤ max (sqrtAt ta) (sqrtAt tb) := by omega
  generalize min (sqrtAt ta) (sqrtAt tb) = x at hle ⊢
  generalize max (sqrtAt ta) (sqrtAt tb) = y at hle ⊢
  generalize toWei cx a0 d0 = w0
  generalize toWei cx a1 d1 = w1
  by_cases hxy : x = y
  · subst hxy
    rw [if_pos rfl]
    by_cases h1 : s ≤ x
    · rw [if_pos (by omega), Tie_liqmath_get_liquidity_for_amount0_zero]
    · rw [if_neg (by omega), if_neg (by omega), Tie_liqmath_get_liquidity_for_amount1_zero]
  · rw [if_neg hxy]
    by_cases h1 : s ≤ x
    · rw [if_pos (by omega), if_pos h1, get_liquidity_for_amount0_int x y w0 hxy, Nat.min_eq_left hle, Nat.max_eq_right hle]
    · rw [if_neg (by omega), if_neg h1]
      by_cases h2 : s < y
      · rw [if_pos (by omega), if_pos h2, get_liquidity_for_amount0_int s y w0 (by omega),
          get_liquidity_for_amount1_int x s w1 (by omega), Nat.min_eq_left h2.le, Nat.max_eq_right h2.le,
          Nat.min_eq_left (by omega : x ≤ s), Nat.max_eq_right (by omega : x ≤ s)]
        rfl
      · rw [if_neg (by omega), if_neg h2, get_liquidity_for_amount1_int x y w1 hxy, Nat.min_eq_left hle,
          Nat.max_eq_right hle]

-- a Decimal liquidity (integer-valued) is what a position holds after a partial removal

theorem Tie.get_amount0_dec (cx : NumCtx) (sa sb : Nat) (l : Int) (d : Nat) (ha : 0 < sa) (hb : 0 < sb) :
    Py.get_amount0_dliq cx sa sb (l : Rat) d = .ok (Uni.amount0Gen cx sa sb l true d) := by
  unfold Py.get_amount0_dliq Uni.amount0Gen Uni.q96R
  simp only [sortPair_cast, sortPair_eq, sortPair_sub_cast, Q96_cast, Q96_lit, Q96_rat, ipow_nat,
    ddiv_ok _ _ _ (Nat.cast_ne_zero.2 (by omega : min sa sb ≠ 0)), ddiv_ok _ _ _ (Nat.cast_ne_zero.2 (by omega : max sa sb ≠ 0)),
    ddiv_ok _ _ _ (pow10_cast_pos d).ne', ok_bind, pow10_cast, if_true, Int.cast_natCast]

theorem Tie.get_amount1_dec (cx : NumCtx) (sa sb : Nat) (l : Int) (d : Nat) :
    Py.get_amount1_dliq cx sa sb (l : Rat) d = .ok (Uni.amount1Gen cx sa sb l true d) := by
  unfold Py.get_amount1_dliq Uni.amount1Gen Uni.q96R
  simp only [sortPair_cast, sortPair_eq, sortPair_sub_cast, Q96_cast, Q96_lit, Q96_rat, ipow_nat, ddiv_ok _ _ _ (pow10_cast_pos d).ne',
    ddiv_ok _ _ _ Q96_cast_pos.ne', ok_bind, pow10_cast, if_true, Int.cast_natCast]

theorem Tie.get_amounts_dec (cx : NumCtx) (s : Nat) (ta tb l : Int) (d0 d1 : Nat) :
    Py.get_amounts_dliq cx s ta tb (l : Rat) d0 d1 = unicoreRes (Uni.amountsGen cx s ta tb l true d0 d1) :=
  amounts_tie (fun a b => Py.get_amount0_dliq cx a b l d0) (fun a b => Py.get_amount1_dliq cx a b l d1)
    (fun a b => Uni.amount0Gen cx a b l true d0) (fun a b => Uni.amount1Gen cx a b l true d1) s ta tb
    (fun a b => get_amount0_dec cx a b l d0) (fun a b => get_amount1_dec cx a b l d1)

/-- the assertion of `get_sqrt_ratio_at_tick` fires before anything else -/
theorem Tie.get_liquidity_bad_tick (cx : NumCtx) (s : Int) (ta tb : Int) (a0 a1 : Rat) (d0 d1 : Int)
    (h : ¬ (tickOk ta = true ∧ tickOk tb = true)) :
    Py.get_liquidity cx s ta tb a0 a1 d0 d1 = .error .AssertionError := by
  unfold Py.get_liquidity
  rw [Tie_tickmath_get_sqrt_ratio_at_tick, Tie_tickmath_get_sqrt_ratio_at_tick]
  by_cases ha : tickOk ta = true
  · have hb : ¬ tickOk tb = true := fun hb => h ⟨ha, hb⟩
    simp only [ha, hb, if_true, Bool.false_eq_true, if_false, ok_bind, error_bind]
  · simp only [ha, Bool.false_eq_true, if_false, error_bind]

-- non-vacuity: the generated definitions compute, and the hypotheses are satisfiable (the first two are Tie/TickMath's: that file has no
-- `DecidableEq (Except ε α)` to `decide` them with)
example : Py.get_sqrt_ratio_at_tick 0 = .ok 79228162514264337593543950336 := by decide
example : Py.get_sqrt_ratio_at_tick 887273 = .error .AssertionError := by decide
example : Py.get_liquidity_for_amount1 (2 ^ 96) (2 ^ 97) 1000 = .ok 1000 := by decide
example : Py.get_liquidity_for_amount1 5 5 1000 = .error .ZeroDivisionError := by decide
example : tickOk 887272 = true ∧ tickOk (-887272) = true := by decide
end Demeter
