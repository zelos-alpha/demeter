/-
  Tie.Gmx2 — the float code of demeter/gmx/gmx_v2/ (utils.py, MarketUtils.py, SwapPricingUtils.py; ExecuteDepositUtils.py and
  ExecuteWithdrawUtils.py follow in Tie/Gmx2Exec) as GENERATED by tools/py2lean.py in float mode (Demeter/Gen/PyGmx2*.lean: written over
  an abstract number type `α`, see Demeter/PyFloat.lean) coincides with the hand-written model Demeter/GmxV2.lean — for EVERY number type
  `α` and every `Ops α` (so in particular at `Rat`, where the theorems of C17 live, and at `Float`, which the driver runs).
-/
import Demeter.Gen.PyGmx2SwapPricingUtils
import Demeter.GmxV2
import Proofs.Tie.Basic
-- the leaf `simp` sets carry the monad's equations (`bind`, `pure`, …) uniformly: which leaves still hold one depends on how the
-- generated code is laid out, and the harmless rewrites of the source (README) change that
set_option linter.unusedSimpArgs false
set_option linter.unusedSectionVars false
namespace Demeter
open Tie Py GmxV2

section
variable {α : Type} [Add α] [Sub α] [Mul α] [Div α] [Neg α] [LT α] [LE α] [OfNat α 0] [DecidableLT α] [DecidableLE α]

/-- the model's non-field operations as the operations of the translated float code (`isInt`: is a float a whole number — only decides
    where `negative ** y` leaves the floats, which the hypotheses of the ties through `**` exclude) -/
def Tie.fops (o : Ops α) (isInt : α → Bool) : Py.FloatOps α :=
  { isZero := o.isZero, pow := o.pow, isFinite := o.isFinite, isIntegral := isInt }

def Tie.gmx2Err : GmxV2.Err → Py.Err
  | .demeter => .Raised "DemeterError"
  | .assertion => .AssertionError
  | .zeroDiv => .ZeroDivisionError
  | .runtime => .Raised "RuntimeError"
  | .overflow => .Raised "OverflowError"

def Tie.gmx2Res {β : Type} : Except GmxV2.Err β → Py.M β
  | .ok v => .ok v
  | .error e => .error (gmx2Err e)

theorem Tie.fdiv_eq (o : Ops α) (isInt : α → Bool) (a b : α) :
    Py.fdiv (fops o isInt) a b = gmx2Res (GmxV2.fdiv o a b) := by
  unfold Py.fdiv GmxV2.fdiv fops
  by_cases h : o.isZero b = true <;> simp [h, gmx2Res, gmx2Err]

theorem Tie.gmx2Res_bind {β γ : Type} (x : Except GmxV2.Err β) (g : β → Except GmxV2.Err γ) :
    gmx2Res (x >>= g) = gmx2Res x >>= fun a => gmx2Res (g a) := by
  cases x <;> rfl

/-!
  `Sim`, for the functions whose results are related to the model's and not equal to them (Tie/Gmx2Exec): the two fail together, with the
  mapped error, or succeed with related results.  The relation composes along `>>=` and `if`, so a tie for a function with sub-calls
  follows the text of the two programs; `Sim.map_eq` / `Sim.eq_map` give the equations the `Tie_*` theorems state. -/

namespace Tie
variable {β β' γ γ' δ : Type}

def Sim (R : β → γ → Prop) : Py.M β → Except GmxV2.Err γ → Prop
  | .ok a, .ok b => R a b
  | .error e, .error e' => e = gmx2Err e'
  | _, _ => False

theorem Sim.of_eq {x : Py.M β} {y : Except GmxV2.Err β} (h : x = gmx2Res y) : Sim Eq x y := by
  subst h; cases y <;> simp [Sim, gmx2Res]

/-- the continuation may use that the model's step succeeded -/
theorem Sim.bind' {R : β → γ → Prop} {S : β' → γ' → Prop} {x : Py.M β} {y : Except GmxV2.Err γ} {k : β → Py.M β'}
    {g : γ → Except GmxV2.Err γ'} (h : Sim R x y) (hk : ∀ a b, y = .ok b → R a b → Sim S (k a) (g b)) : Sim S (x >>= k) (y >>= g) := by
  cases x <;> cases y <;> simp only [Sim] at h
  · subst h; rfl
  · exact hk _ _ rfl h

theorem Sim.bind {R : β → γ → Prop} {S : β' → γ' → Prop} {x : Py.M β} {y : Except GmxV2.Err γ} {k : β → Py.M β'}
    {g : γ → Except GmxV2.Err γ'} (h : Sim R x y) (hk : ∀ a b, R a b → Sim S (k a) (g b)) : Sim S (x >>= k) (y >>= g) :=
  h.bind' fun a b _ => hk a b

/-- a step of the model that the code does not make and that cannot fail here -/
theorem Sim.skip {S : β' → γ' → Prop} {x : Py.M β'} {y : Except GmxV2.Err γ} {b : γ} {g : γ → Except GmxV2.Err γ'}
    (hy : y = .ok b) (h : Sim S x (g b)) : Sim S x (y >>= g) := by subst hy; exact h

theorem Sim.ite {R : β → γ → Prop} {c : Prop} [Decidable c] {x x' : Py.M β} {y y' : Except GmxV2.Err γ}
    (h : c → Sim R x y) (h' : ¬ c → Sim R x' y') : Sim R (if c then x else x') (if c then y else y') := by
  split
  · exact h ‹_›
  · exact h' ‹_›

theorem Sim.map_eq {x : Py.M β} {y : Except GmxV2.Err γ} {f : β → δ} {g : γ → δ} (h : Sim (fun a b => f a = g b) x y) :
    x.map f = gmx2Res (y.map g) := by
  cases x <;> cases y <;> simp only [Sim] at h
  · subst h; rfl
  · simp [Except.map, gmx2Res, h]

theorem Sim.of_eq_map {x : Py.M δ} {y : Except GmxV2.Err γ} {g : γ → δ} (h : x = gmx2Res (y.map g)) :
    Sim (fun a b => a = g b) x y := by
  subst h; cases y <;> simp [Except.map, gmx2Res, Sim]

theorem Sim.eq_map {x : Py.M δ} {y : Except GmxV2.Err γ} {g : γ → δ} (h : Sim (fun a b => a = g b) x y) :
    x = gmx2Res (y.map g) :=
  (id_map x).symm.trans (Sim.map_eq (f := id) h)

end Tie

theorem Tie_gmx2_diff (a b : α) : Py.gmx2_diff a b = .ok (GmxV2.diff a b) := rfl

theorem Tie_gmx2_toSigned (a : α) (p : Bool) : Py.gmx2_toSigned a p = .ok (GmxV2.toSigned a p) := by
  cases p <;> rfl

/-- `Calc.sumReturnUint256`: the model has it inlined in `nextPoolParams` -/
theorem Tie_gmx2_sumReturnUint256 (a b : α) :
    Py.gmx2_sumReturnUint256 a b = if a + b < 0 then .error (.Raised "RuntimeError") else .ok (a + b) := by
  unfold Py.gmx2_sumReturnUint256
  by_cases h : a + b < 0 <;> simp [h, pure, Except.pure, throw, throwThe, MonadExceptOf.throw, bind, Except.bind]

theorem Tie_gmx2_get_gm_price (o : Ops α) (isInt : α → Bool) (pv supply : α) :
    Py.gmx2_get_gm_price (fops o isInt) pv supply = gmx2Res (GmxV2.fdiv o pv supply) := by
  unfold Py.gmx2_get_gm_price
  rw [fdiv_eq]

theorem Tie_gmx2_applyFactor (value factor : α) : Py.gmx2_applyFactor value factor = .ok (factor * value) := rfl

/-- `x ** y` stays where the model follows CPython's `float_pow`: it is neither `0 ** negative` (ZeroDivisionError) nor
    `negative ** non-integer` (a complex number).  The model has no such case: it raises `OverflowError` (`powRaises`) or returns `o.pow x y`. -/
def Tie.powInDomain (o : Ops α) (isInt : α → Bool) (x y : α) : Prop :=
  ¬ (o.isZero x = true ∧ y < 0 ∧ o.isFinite y = true) ∧ ¬ (x < 0 ∧ o.isFinite x = true ∧ o.isFinite y = true ∧ ¬ isInt y = true)

/-- GMX: the base is an absolute difference, the exponent factor is 2 -/
theorem Tie.powInDomain_of_not_neg (o : Ops α) (isInt : α → Bool) (x y : α) (hx : ¬ x < 0) (hy : ¬ y < 0) :
    powInDomain o isInt x y :=
  ⟨fun h => hy h.2.1, fun h => hx h.1⟩

theorem Tie.fpow_eq (o : Ops α) (isInt : α → Bool) (x y : α) (h : powInDomain o isInt x y) :
    Py.fpow (fops o isInt) x y = if GmxV2.powRaises o x y then .error (.Raised "OverflowError") else .ok (o.pow x y) := by
  unfold Py.fpow Py.powOverflows GmxV2.powRaises
  have h1 := h.1
  have h2 := h.2
  simp only [fops] at h1 h2 ⊢
  simp only [h1, h2, if_false]
  rfl

/-- `PricingUtils.applyImpactFactor`: `diffUsd ** exponent * factor`; the model decides the `OverflowError` separately (`powRaises`) -/
theorem Tie_gmx2_applyImpactFactor (o : Ops α) (isInt : α → Bool) (d f e : α) (h : powInDomain o isInt d e) :
    Py.gmx2_applyImpactFactor (fops o isInt) d f e
      = if GmxV2.powRaises o d e then .error (.Raised "OverflowError") else .ok (GmxV2.applyImpactFactor o d f e) := by
  unfold Py.gmx2_applyImpactFactor GmxV2.applyImpactFactor
  rw [fpow_eq o isInt d e h]
  by_cases hr : GmxV2.powRaises o d e = true <;> simp [hr, bind, Except.bind, pure, Except.pure]

/-- `PricingUtils.getPriceImpactUsdForSameSideRebalance`: the same-side branch of the model's `impactOfParams` -/
theorem Tie_gmx2_getPriceImpactUsdForSameSideRebalance (o : Ops α) (isInt : α → Bool) (i n f e : α)
    (hi : powInDomain o isInt i e) (hn : powInDomain o isInt n e) :
    Py.gmx2_getPriceImpactUsdForSameSideRebalance (fops o isInt) i n f e
      = if GmxV2.powRaises o i e || GmxV2.powRaises o n e then .error (.Raised "OverflowError")
        else .ok (GmxV2.toSigned (GmxV2.diff (GmxV2.applyImpactFactor o i f e) (GmxV2.applyImpactFactor o n f e)) (decide (n < i))) := by
  unfold Py.gmx2_getPriceImpactUsdForSameSideRebalance
  rw [Tie_gmx2_applyImpactFactor o isInt i f e hi, Tie_gmx2_applyImpactFactor o isInt n f e hn]
  by_cases h1 : GmxV2.powRaises o i e = true
  · simp [h1, bind, Except.bind]
  · by_cases h2 : GmxV2.powRaises o n e = true
    · simp [h1, h2, bind, Except.bind]
    · simp [h1, h2, bind, Except.bind, Tie_gmx2_diff, Tie_gmx2_toSigned, pure, Except.pure]

/-- `PricingUtils.getPriceImpactUsdForCrossoverRebalance`: the crossover branch of `impactOfParams` -/
theorem Tie_gmx2_getPriceImpactUsdForCrossoverRebalance (o : Ops α) (isInt : α → Bool) (i n fp fn e : α)
    (hi : powInDomain o isInt i e) (hn : powInDomain o isInt n e) :
    Py.gmx2_getPriceImpactUsdForCrossoverRebalance (fops o isInt) i n fp fn e
      = if GmxV2.powRaises o i e || GmxV2.powRaises o n e then .error (.Raised "OverflowError")
        else .ok (GmxV2.toSigned (GmxV2.diff (GmxV2.applyImpactFactor o i fp e) (GmxV2.applyImpactFactor o n fn e))
                    (decide (GmxV2.applyImpactFactor o i fp e > GmxV2.applyImpactFactor o n fn e))) := by
  unfold Py.gmx2_getPriceImpactUsdForCrossoverRebalance
  rw [Tie_gmx2_applyImpactFactor o isInt i fp e hi, Tie_gmx2_applyImpactFactor o isInt n fn e hn]
  by_cases h1 : GmxV2.powRaises o i e = true
  · simp [h1, bind, Except.bind]
  · by_cases h2 : GmxV2.powRaises o n e = true
    · simp [h1, h2, bind, Except.bind]
    · simp [h1, h2, bind, Except.bind, Tie_gmx2_diff, Tie_gmx2_toSigned, pure, Except.pure]

/-- `getAdjustedSwapImpactFactors(pool_config)`: reads `swapImpactFactorPositive/Negative` -/
theorem Tie_gmx2_getAdjustedSwapImpactFactors (cfg : Config α) :
    Py.gmx2_getAdjustedSwapImpactFactors cfg.impactFactorPos cfg.impactFactorNeg = .ok (GmxV2.adjustedFactors cfg) := by
  unfold Py.gmx2_getAdjustedSwapImpactFactors GmxV2.adjustedFactors
  by_cases h : cfg.impactFactorPos > cfg.impactFactorNeg <;> simp [h, pure, Except.pure]

theorem Tie_gmx2_getAdjustedSwapImpactFactor (cfg : Config α) (p : Bool) :
    Py.gmx2_getAdjustedSwapImpactFactor cfg.impactFactorPos cfg.impactFactorNeg p
      = .ok (if p then (GmxV2.adjustedFactors cfg).1 else (GmxV2.adjustedFactors cfg).2) := by
  unfold Py.gmx2_getAdjustedSwapImpactFactor
  rw [Tie_gmx2_getAdjustedSwapImpactFactors]
  cases p <;> simp [bind, Except.bind, pure, Except.pure]

theorem Tie_gmx2_usdToMarketTokenAmount (o : Ops α) (isInt : α → Bool) (usd pv supply : α) :
    Py.gmx2_usdToMarketTokenAmount (fops o isInt) usd pv supply = gmx2Res (GmxV2.usdToGm o usd pv supply) := by
  unfold Py.gmx2_usdToMarketTokenAmount GmxV2.usdToGm
  rw [fdiv_eq]

theorem Tie_gmx2_marketTokenAmountToUsd (o : Ops α) (isInt : α → Bool) (gm pv supply : α) :
    Py.gmx2_marketTokenAmountToUsd (fops o isInt) gm pv supply = gmx2Res (GmxV2.fdiv o (pv * gm) supply) := by
  unfold Py.gmx2_marketTokenAmountToUsd
  rw [fdiv_eq]

/-- `getSwapImpactAmountWithCap`: the impact amount is the model's; the second component (`cappedDiffUsd`) is what the cap cut off, in USD —
    the model keeps only whether the cap applied -/
theorem Tie_gmx2_getSwapImpactAmountWithCap (o : Ops α) (isInt : α → Bool) (price impact pool : α) :
    Py.gmx2_getSwapImpactAmountWithCap (fops o isInt) price impact pool
      = gmx2Res (do
          let raw ← GmxV2.fdiv o impact price
          let r ← GmxV2.impactAmountWithCap o price impact pool
          pure (r.1, if r.2 then (raw - pool) * price else 0)) := by
  unfold Py.gmx2_getSwapImpactAmountWithCap GmxV2.impactAmountWithCap
  simp only [fdiv_eq]
  cases GmxV2.fdiv o impact price with
  | error e => by_cases h : impact > 0 <;> simp [h, gmx2Res, bind, Except.bind]
  | ok amt =>
    by_cases h : impact > 0
    · by_cases h2 : amt > pool <;> simp [h, h2, gmx2Res, bind, Except.bind, pure, Except.pure]
    · simp [h, gmx2Res, bind, Except.bind, pure, Except.pure]

/-- `getTokenAmountsFromGM(pool_status, marketTokenAmount)`: the fields it reads from `pool_status` are the model's `Pool` -/
theorem Tie_gmx2_getTokenAmountsFromGM (o : Ops α) (isInt : α → Bool) (ps : Pool α) (gm : α) :
    Py.gmx2_getTokenAmountsFromGM (fops o isInt) ps.longAmount ps.shortAmount ps.poolValue ps.supply ps.longPrice ps.shortPrice gm
      = gmx2Res (GmxV2.tokenAmountsFromGm o ps gm) := by
  unfold Py.gmx2_getTokenAmountsFromGM GmxV2.tokenAmountsFromGm
  simp only [Tie_gmx2_marketTokenAmountToUsd, fdiv_eq, gmx2Res_bind]
  rfl

theorem Tie_gmx2_get_values (amount price : α) (d : Int) : Py.gmx2_get_values amount price d = .ok (amount, amount * price) := rfl

/-- a `PoolParams` of the code is the tuple of its four fields -/
def Tie.ppTuple (p : PoolParams α) : α × α × α × α := (p.a, p.b, p.nextA, p.nextB)

/-- `getNextPoolAmountsParams(params, poolAmountForTokenA, poolAmountForTokenB)`: reads the two prices and the two USD deltas from `params` -/
theorem Tie_gmx2_getNextPoolAmountsParams (amtA amtB priceA priceB deltaA deltaB : α) :
    Py.gmx2_getNextPoolAmountsParams priceA priceB deltaA deltaB amtA amtB
      = gmx2Res ((GmxV2.nextPoolParams amtA amtB priceA priceB deltaA deltaB).map ppTuple) := by
  unfold Py.gmx2_getNextPoolAmountsParams GmxV2.nextPoolParams
  simp only [Tie_gmx2_sumReturnUint256]
  by_cases h1 : deltaA < 0 ∧ -deltaA > amtA * priceA
  · simp [h1, gmx2Res, gmx2Err, Except.map, bind, Except.bind, throw, throwThe, MonadExceptOf.throw]
  · by_cases h2 : deltaB < 0 ∧ -deltaB > amtB * priceB
    · simp [h1, h2, gmx2Res, gmx2Err, Except.map, bind, Except.bind, throw, throwThe, MonadExceptOf.throw, pure, Except.pure]
    · by_cases h3 : amtA * priceA + deltaA < 0
      · simp [h1, h2, h3, gmx2Res, gmx2Err, Except.map, bind, Except.bind, pure, Except.pure]
      · by_cases h4 : amtB * priceB + deltaB < 0 <;>
          simp [h1, h2, h3, h4, gmx2Res, gmx2Err, Except.map, bind, Except.bind, pure, Except.pure, ppTuple]

/-- `getNextPoolAmountsUsd(params, Amounts(long, short))` when token A is the long token (a deposit) -/
theorem Tie_gmx2_getNextPoolAmountsUsd (long short priceA priceB deltaA deltaB : α) :
    Py.gmx2_getNextPoolAmountsUsd priceA priceB deltaA deltaB true (long, short)
      = gmx2Res ((GmxV2.nextPoolParams long short priceA priceB deltaA deltaB).map ppTuple) := by
  unfold Py.gmx2_getNextPoolAmountsUsd
  simp only [if_true, Tie_gmx2_getNextPoolAmountsParams]

/-- both powers of `_getPriceImpactUsd` on these pool values stay where the model follows CPython (see `powInDomain`) -/
def Tie.impactInDomain (o : Ops α) (isInt : α → Bool) (cfg : Config α) (p : PoolParams α) : Prop :=
  powInDomain o isInt (GmxV2.diff p.a p.b) cfg.impactExponent ∧ powInDomain o isInt (GmxV2.diff p.nextA p.nextB) cfg.impactExponent

/-- `_getPriceImpactUsd(pool_config, pool_params)`: the impact of the model's `impactOfParams`; the `OverflowError` that one of the two `**`
    raises in the code is the model's `impactPowRaises` -/
theorem Tie_gmx2__getPriceImpactUsd (o : Ops α) (isInt : α → Bool) (cfg : Config α) (p : PoolParams α)
    (h : impactInDomain o isInt cfg p) :
    Py.gmx2__getPriceImpactUsd (fops o isInt) cfg.impactFactorPos cfg.impactFactorNeg cfg.impactExponent (ppTuple p)
      = if GmxV2.impactPowRaises o cfg p then .error (.Raised "OverflowError") else .ok (GmxV2.impactOfParams o cfg p).1 := by
  unfold Py.gmx2__getPriceImpactUsd GmxV2.impactOfParams GmxV2.impactPowRaises ppTuple
  simp only [Tie_gmx2_diff, bind, Except.bind, Tie_gmx2_getAdjustedSwapImpactFactor, Tie_gmx2_getAdjustedSwapImpactFactors,
    Tie_gmx2_getPriceImpactUsdForSameSideRebalance o isInt _ _ _ _ h.1 h.2,
    Tie_gmx2_getPriceImpactUsdForCrossoverRebalance o isInt _ _ _ _ _ h.1 h.2]
  by_cases hs : (decide (p.a ≤ p.b) = decide (p.nextA ≤ p.nextB))
  · by_cases hr : (GmxV2.powRaises o (GmxV2.diff p.a p.b) cfg.impactExponent
        || GmxV2.powRaises o (GmxV2.diff p.nextA p.nextB) cfg.impactExponent) = true
    · simp [hs, hr]
    · by_cases hp : GmxV2.diff p.nextA p.nextB < GmxV2.diff p.a p.b <;> simp [hs, hr, hp, pure, Except.pure]
  · by_cases hr : (GmxV2.powRaises o (GmxV2.diff p.a p.b) cfg.impactExponent
        || GmxV2.powRaises o (GmxV2.diff p.nextA p.nextB) cfg.impactExponent) = true
    · simp [hs, hr]
    · simp [hs, hr, pure, Except.pure]

/-- `getPriceImpactUsd(params, pool_status)` as `get_mint_amount` calls it (token A = long token, virtual inventory included): the impact of the
    model's `priceImpactUsd` (which also names the branch taken) -/
theorem Tie_gmx2_getPriceImpactUsd (o : Ops α) (isInt : α → Bool) (cfg : Config α) (ps : Pool α) (longUsd shortUsd : α)
    (hdom : ∀ p : PoolParams α, impactInDomain o isInt cfg p) :
    Py.gmx2_getPriceImpactUsd (fops o isInt) ps.longPrice ps.shortPrice longUsd shortUsd true true
        cfg.impactFactorPos cfg.impactFactorNeg cfg.impactExponent ps.longAmount ps.shortAmount ps.virtualLong ps.virtualShort
      = gmx2Res ((GmxV2.priceImpactUsd o cfg ps longUsd shortUsd).map (·.1)) := by
  unfold Py.gmx2_getPriceImpactUsd GmxV2.priceImpactUsd
  simp only [Tie_gmx2_getNextPoolAmountsUsd, Tie_gmx2_getNextPoolAmountsParams, bind, Except.bind]
  cases GmxV2.nextPoolParams ps.longAmount ps.shortAmount ps.longPrice ps.shortPrice longUsd shortUsd with
  | error e => simp [gmx2Res, Except.map]
  | ok pp =>
    simp only [gmx2Res, Except.map, Tie_gmx2__getPriceImpactUsd o isInt cfg pp (hdom pp)]
    by_cases hr : GmxV2.impactPowRaises o cfg pp = true
    · simp [hr, gmx2Err, throw, throwThe, MonadExceptOf.throw]
    · simp only [hr, Bool.false_eq_true, if_false]
      generalize GmxV2.impactOfParams o cfg pp = io
      obtain ⟨impact, same⟩ := io
      by_cases h0 : impact ≥ 0
      · simp [h0, pure, Except.pure]
      · simp only [h0, if_false, not_true_eq_false]
        cases ps.virtualLong with
        | none => simp [pure, Except.pure]
        | some vl =>
          cases ps.virtualShort with
          | none => simp [pure, Except.pure]
          | some vs =>
            simp only [Py.unwrap, reduceCtorEq, or_self, if_false, if_true]
            cases GmxV2.nextPoolParams vl vs ps.longPrice ps.shortPrice longUsd shortUsd with
            | error e => rfl
            | ok ppv =>
              simp only [Tie_gmx2__getPriceImpactUsd o isInt cfg ppv (hdom ppv)]
              by_cases hrv : GmxV2.impactPowRaises o cfg ppv = true
              · simp [hrv, gmx2Err, throw, throwThe, MonadExceptOf.throw]
              · simp only [hrv, Bool.false_eq_true, if_false]
                generalize GmxV2.impactOfParams o cfg ppv = iov
                obtain ⟨iv, _⟩ := iov
                by_cases hlt : iv < impact <;> simp [hlt, pure, Except.pure]

/-- the fee factor `getSwapFees` picks for a pricing type (`SwapPricingType`: Swap 1, Shift 2, Atomic 3, Deposit 4, Withdrawal 5) -/
def Tie.feeFactor (cfg : Config α) (pos : Bool) (t : Int) : α :=
  if t = 4 then (if pos then cfg.depositFeePos else cfg.depositFeeNeg)
  else if t = 5 then (if pos then cfg.withdrawFeePos else cfg.withdrawFeeNeg)
  else 0

/-- `getSwapFees(pool_config, amount, forPositiveImpact, swapPricingType)` = `SwapFees(amount − factor·amount, factor·amount)`: the fee lines of the
    model's `calcTokenAmount` (deposit) and `outputAmount` (withdrawal, negative-impact factor) -/
theorem Tie_gmx2_getSwapFees (cfg : Config α) (amount : α) (pos : Bool) (t : Int) :
    Py.gmx2_getSwapFees cfg.depositFeePos cfg.depositFeeNeg cfg.withdrawFeePos cfg.withdrawFeeNeg amount pos t
      = .ok (amount - feeFactor cfg pos t * amount, feeFactor cfg pos t * amount) := by
  unfold Py.gmx2_getSwapFees feeFactor
  simp only [Tie_gmx2_applyFactor, bind, Except.bind, pure, Except.pure]
  by_cases h1 : t = 1
  · subst h1; simp
  · by_cases h2 : t = 2
    · subst h2; simp
    · by_cases h3 : t = 3
      · subst h3; simp
      · by_cases h4 : t = 4
        · subst h4; cases pos <;> simp
        · by_cases h5 : t = 5
          · subst h5; cases pos <;> simp
          · simp [h1, h2, h3, h4, h5]

end
end Demeter
