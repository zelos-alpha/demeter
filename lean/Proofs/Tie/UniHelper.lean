/-
  Tie.UniHelper — the pure helpers of demeter/uniswap/helper.py as GENERATED by tools/py2lean.py
  (Demeter/Gen/PyUniswapHelper.lean) coincide with the hand-written models: `fromX96`/`toX96` (Demeter/TickPrice.lean),
  `sqrtAt` (TickMath), `fromAtomic` (Demeter/Uni/Fee.lean), `swapValuePart` (Demeter/Uni/Views.lean) — every rounding context.
-/
import Demeter.Gen.PyUniswapHelper
import Demeter.TickPrice
import Demeter.Uni
import Proofs.Tie.TickMath
import Proofs.Lemmas.Num
namespace Demeter
open Tie Py

theorem Tie_unihelper_from_x96 (tn : TickNum) (n : Nat) :
    Py.uni__from_x96 tn.cx (n : Int) = .ok (fromX96 tn n) := by
  unfold Py.uni__from_x96 fromX96 q96Rat
  simp only [pure_eq, Int.cast_natCast, Nat.cast_pow, Nat.cast_ofNat]
  norm_num

theorem Tie_unihelper_to_x96 (tn : TickNum) (sp : Rat) :
    Py.uni__to_x96 tn.cx sp = .ok (toX96 tn sp) := by
  unfold Py.uni__to_x96 toX96 q96Rat
  simp only [not_true_eq_false, if_false, pure_eq, Nat.cast_pow, Nat.cast_ofNat]
  norm_num

theorem Tie_unihelper_tick_to_sqrt_price_x96 (tick : Int) :
    Py.uni_tick_to_sqrt_price_x96 tick
      = if tickOk tick then .ok ((sqrtAt tick : Nat) : Int) else .error .AssertionError := by
  unfold Py.uni_tick_to_sqrt_price_x96
  rw [Tie_tickmath_get_sqrt_ratio_at_tick]

theorem Tie.pow10_int_ne (d : Nat) : (((10 : Int) ^ d : Int) : Rat) ≠ 0 := by
  exact_mod_cast (Int.pow_pos (by decide : (0 : Int) < 10)).ne'

theorem Tie_unihelper_from_atomic_unit (cx : NumCtx) (a : Int) (d : Nat) :
    Py.uni_from_atomic_unit cx a d = .ok (Uni.fromAtomic cx (a : Rat) d) := by
  unfold Py.uni_from_atomic_unit Uni.fromAtomic pow10
  simp only [ipow_nat, ddiv_ok _ _ _ (pow10_int_ne d), truncInt_int, ok_bind]
  congr 2

/-- the same source function read with a Decimal amount (what the pool data rows hold, and what `update_fee` passes): exactly the model's
    `fromAtomic`, truncation included -/
theorem Tie_unihelper_from_atomic_unit_dec (cx : NumCtx) (x : Rat) (d : Nat) :
    Py.uni_from_atomic_unit_dec cx x d = .ok (Uni.fromAtomic cx x d) := by
  unfold Py.uni_from_atomic_unit_dec Uni.fromAtomic pow10
  simp only [ipow_nat, ddiv_ok _ _ _ (pow10_int_ne d), ok_bind]
  congr 2

def Tie.uniErr : Uni.Err → Py.Err
  | .demeter => .Raised "DemeterError"
  | .invalidOp => .InvalidOperation
  | .divByZero => .DivisionByZero
  | .zeroDiv => .ZeroDivisionError
  | .assertion => .AssertionError
  | .key => .KeyError
  | _ => .Unsupported "not raised by the translated functions"

theorem Tie_unihelper_get_swap_value_with_part_balance_used (cx : NumCtx) (fromV toV total fee ratio : Rat) :
    Py.uni_get_swap_value_with_part_balance_used cx fromV toV total fee ratio
      = (match Uni.swapValuePart cx fromV toV total fee ratio with
         | .ok v => .ok v
         | .error e => .error (uniErr e)) := by
  unfold Py.uni_get_swap_value_with_part_balance_used Uni.swapValuePart Py.ddiv
  by_cases h0 : total > cx.add fromV toV
  · simp only [h0, if_true]
    rfl
  · simp only [h0, if_false]
    by_cases h1 : cx.add (cx.sub ratio (cx.mul ratio fee)) 1 = 0
    · by_cases h1n : cx.sub (cx.sub total (cx.mul ratio toV)) toV = 0 <;>
        simp only [h1, h1n, if_true, if_false, error_bind, uniErr]
    · simp only [h1, if_false, ok_bind]
      by_cases h2 : cx.add ratio 1 = 0
      · simp only [h2, if_true]
        generalize cx.sub total _ = nf
        by_cases hn : nf = 0 <;> simp only [hn, if_true, if_false, error_bind, uniErr]
      · simp only [h2, if_false, ok_bind, pure_eq]

/-- `get_swap_value` has no separate counterpart in the hand-written model: this is only its reading (not a tie) -/
theorem Tie.unihelper_get_swap_value_spec (cx : NumCtx) (fromV toV fee ratio : Rat) :
    Py.uni_get_swap_value cx fromV toV fee ratio
      = Py.ddiv cx (cx.sub fromV (cx.mul toV ratio)) (cx.add (cx.sub ratio (cx.mul ratio fee)) 1) := rfl

end Demeter
