/-
  C02 (rerun clause), closing the loop of Proofs/C02/Rerun2.lean: the "same strategy object at a later time" is COMPUTED from the first run
  (`strategyAfterRun2`: `initialize()` appends the same trigger objects in the state the first run left them in; `trigsAfterRun2`: the list
  handed back) and the second run `rerun2` is proved to show what the first showed — no `SameInit` hypothesis left.
-/
import Proofs.C02.Rerun2
namespace Demeter
open Core

namespace Core

def initTadds : List HStmt → List Trig
  | [] => []
  | .tadd t :: l => t :: initTadds l
  | _ :: l => initTadds l

theorem mem_initTadds {t : Trig} : ∀ {l : List HStmt}, HStmt.tadd t ∈ l → t ∈ initTadds l
  | [], h => by cases h
  | s :: l, h => by
    rcases List.mem_cons.mp h with rfl | h'
    · simp [initTadds]
    · have := mem_initTadds h'
      cases s <;> simp [initTadds, this]

theorem sameBody_leftover (T live : List Trig) (hinv : TInv T live) : ∀ (body : List HStmt), (∀ t ∈ initTadds body, t ∈ T) →
    SameBody (body.map (leftoverStmt live)) body
  | [], _ => trivial
  | s :: l, h => by
    simp only [List.map_cons, SameBody]
    refine ⟨?_, sameBody_leftover T live hinv l (fun t ht => h t (by cases s <;> simp [initTadds, ht]))⟩
    cases s with
    | tadd t =>
      exact hinv.found (h t (by simp [initTadds]))
    | op o => simp [leftoverStmt, SameStmt]
    | tdel i => simp [leftoverStmt, SameStmt]
    | boom e => simp [leftoverStmt, SameStmt]

end Core

/-- **C02 — the second run of the same strategy object reproduces the first.**  The strategy owns its trigger objects (`trigs`: in
    `strategy.triggers` when `run` is called; the `tadd`s of `g.init`: appended by `initialize()` on every run) — distinct objects (`hn`) — and
    whatever its other hooks install is new (`hbar`).  After `Actuator.run` — however it ended — the second run (`rerun2`: the list `run` handed
    back, `initialize()` appending the same objects in the state the first run left them in, fresh Actuator) shows the same calls, account rows,
    actions and outcome; and hands back the same list again. -/
theorem C02_rerun2 (cfg : Cfg) (trigs : List Trig) (g : GScript) (hn : ((trigs ++ initTadds g.init).map (·.id)).Nodup)
    (hbar : ∀ row, (g.bar row).Fresh ((trigs ++ initTadds g.init).map (·.id))) :
    (rerun2 cfg trigs g).obs = (runG2 cfg trigs g).obs ∧
    (trigsAfterRun2 cfg trigs g).map Trig.reset = trigs.map Trig.reset := by
  have hinv : TInv (trigs ++ initTadds g.init) (runG2 cfg trigs g).trigsLeft :=
    Core.runG2_tinv _ cfg trigs g (tinv_of_subset _ _ hn (fun t ht => List.mem_append_left _ ht))
      (fun t ht => tinv_of_subset _ _ hn (fun x hx => by
        rw [List.mem_singleton.mp hx]; exact List.mem_append_right _ (mem_initTadds ht))) hbar
  have hsame : SameInit (strategyAfterRun2 cfg trigs g) g :=
    ⟨Core.sameBody_leftover _ _ hinv g.init (fun t ht => List.mem_append_right _ ht), rfl, rfl, rfl⟩
  have hback : (trigsAfterRun2 cfg trigs g).map Trig.reset = trigs.map Trig.reset :=
    trigsAfterRun2_reset fun t' ht' t ht hid => hinv t' ht' t (List.mem_append_left _ ht) hid
  exact ⟨(C02_rerun2_any_leftover_state cfg _ trigs _ g hback hsame).1, hback⟩

example : ((Core.rr2Trigs ++ Core.initTadds Core.rr2G.init).map (·.id)).Nodup := by decide

example : Core.initTadds (strategyAfterRun2 Core.aliasCfg Core.rr2Trigs Core.rr2G).init = [⟨7, "late", .period 60 false 0 (some 180)⟩] := by decide +kernel

example : (rerun2 Core.aliasCfg Core.rr2Trigs Core.rr2G).trace.filterMap fireOfEv =
    [⟨0, 0, ""⟩, ⟨60, 7, "late"⟩, ⟨120, 0, ""⟩, ⟨120, 7, "late"⟩] := by decide +kernel

example : (rerun2 Core.aliasCfg Core.rr2Trigs Core.rr2G).obs = (runG2 Core.aliasCfg Core.rr2Trigs Core.rr2G).obs :=
  (C02_rerun2 Core.aliasCfg Core.rr2Trigs Core.rr2G (by decide) (fun _ => by
    refine ⟨?_, fun _ => ?_, fun _ => ?_, ?_, ?_, fun _ => ?_⟩ <;> (intro s hs; cases hs))).1

/-- resetting on entry only would leave object 7 silent in the second run -/
example : (rerun2ResetBeforeInit Core.aliasCfg Core.rr2Trigs Core.rr2G).trace.filterMap fireOfEv = [⟨0, 0, ""⟩, ⟨120, 0, ""⟩] := by decide +kernel

namespace Core

def HStmt.noTrig : HStmt → Prop
  | .tadd _ => False
  | .tdel _ => False
  | _ => True

theorem sameStmt_refl : ∀ s : HStmt, SameStmt s s
  | .op _ => rfl
  | .tadd _ => rfl
  | .tdel _ => rfl
  | .boom _ => rfl

theorem sameBody_refl : ∀ b : List HStmt, SameBody b b
  | [] => trivial
  | s :: b => ⟨sameStmt_refl s, sameBody_refl b⟩

theorem runStmts_noTrig (X : List Trig) (ts : Int) (h : Hook) (body : List HStmt) (hb : ∀ s ∈ body, s.noTrig) (st : St) :
    Keeps (fun st => st.trigs = X) st (runStmts ts h body st) := by
  refine runStmts_walk (Keeps.seq _) ts h (fun _ hq => hq) body (fun s hs st hq => ?_) st
  cases s with
  | op o => show (doOp ts h o st).2.trigs = X; rw [(doOp_frame ts h o st).2.1]; exact hq
  | tadd t | tdel t => exact False.elim (hb _ hs)
  | boom e => exact hq

end Core

/-- **reset on entry as a special case.**  When `initialize()` does not touch `strategy.triggers` (it trades, or raises), resetting the triggers
    after it is resetting them before it: `runG2` shows what `actuatorRunG` (Demeter/Actuator/Hooks.lean: reset when `run` is entered) shows —
    so every theorem about `actuatorRunG` / `actuatorRun` (C05, C18, Proofs/C02/Rerun.lean) is a theorem about the code's order for such
    strategies. -/
theorem C02_run2_is_reset_on_entry_when_initialize_installs_nothing (cfg : Cfg) (trigs : List Trig) (g : GScript)
    (h : ∀ s ∈ g.init, s.noTrig) : (runG2 cfg trigs g).obs = (actuatorRunG cfg trigs g).obs := by
  unfold actuatorRunG
  rw [startTrigs_eq, Core.runG2_eq, runG_eq]
  -- `initialize()` leaves the list as it found it, so the reset after it produces the state that `initialize()` on the reset list produces
  have key : ∀ ts0, ResR (initG2 cfg trigs g ts0) (initG cfg (trigs.map Trig.reset) g ts0) ∧
      ((initG cfg (trigs.map Trig.reset) g ts0).2.2 = none → initG2 cfg trigs g ts0 = initG cfg (trigs.map Trig.reset) g ts0) := by
    intro ts0
    obtain ⟨h1, h2, h3⟩ := initG_same cfg (trigs.map Trig.reset) trigs g g ts0 (map_reset_map_reset trigs) (sameBody_refl _)
    cases hr : (initG cfg trigs g ts0).2.2 with
    | some e =>
      rw [Core.initG2_err hr]
      exact ⟨⟨h1.symm, h2.symm, h3.symm⟩, fun h => by rw [h3, hr] at h; cases h⟩
    | none =>
      have htr : (initG cfg (trigs.map Trig.reset) g ts0).2.1.trigs = trigs.map Trig.reset :=
        initG_walk (Keeps.seq (fun st => st.trigs = trigs.map Trig.reset)) cfg _ g ts0 (st := ⟨[], trigs.map Trig.reset, [], [], []⟩)
          (fun _ => rfl) (Core.runStmts_noTrig _ ts0 .init g.init h) rfl
      have hfix : resetTrigs (initG cfg (trigs.map Trig.reset) g ts0).2.1 = (initG cfg (trigs.map Trig.reset) g ts0).2.1 := by
        generalize (initG cfg (trigs.map Trig.reset) g ts0).2.1 = q at htr
        cases q
        simp only [resetTrigs] at htr ⊢
        rw [htr, map_reset_map_reset]
      have hr' : (initG cfg (trigs.map Trig.reset) g ts0).2.2 = none := h3.trans hr
      have heq : initG2 cfg trigs g ts0 = initG cfg (trigs.map Trig.reset) g ts0 := by
        rw [Core.initG2_ok hr, ← h1, ← h2, hfix, ← hr']
      exact ⟨heq ▸ ⟨rfl, rfl, rfl⟩, fun _ => heq⟩
  exact (runFrom_resR rfl rfl rfl (map_reset_map_reset trigs).symm (fun ts0 => (key ts0).1) (fun ts0 => (key ts0).2)).1

def Core.oldG : GScript := { Core.aliasG with init := [.op ⟨0, true, "x", true⟩] }

example : (runG2 Core.aliasCfg Core.rr2Trigs Core.oldG).obs = (actuatorRunG Core.aliasCfg Core.rr2Trigs Core.oldG).obs :=
  C02_run2_is_reset_on_entry_when_initialize_installs_nothing _ _ _ (by
    intro s hs
    simp only [Core.oldG, List.mem_cons, List.not_mem_nil, or_false] at hs
    subst hs
    trivial)

example : (runG2 Core.aliasCfg Core.rr2Trigs Core.oldG).trace.filterMap fireOfEv = [⟨0, 0, ""⟩, ⟨120, 0, ""⟩] := by decide +kernel

end Demeter
