/-
  C02 — the views and the loop composed: the loop of Demeter/Actuator/CausalMarkets.lean — the oSQTH/WETH `UniLpMarket` and the
  `SqueethMarket`, stepped by their own model functions (`Uni.setStatus`, `Uni.step`, `Uni.update`, `Squeeth.step`), reading the supplied
  history only through the concrete view (row of bar k, Uniswap's shifted `price` column, Squeeth's TWAP window), driven by a closed-loop
  strategy (`Hooks`: the operations of bar k are a function of the bar number, the view of bar k and the strategy's own state) — has no
  look-ahead: `Local` is PROVED for its view, `C02_prefix` applies, for every strategy, every kernel, every starting state.
-/
import Demeter.Actuator.CausalMarkets
import Proofs.C02
import Proofs.Lemmas.Exact
import Proofs.Lemmas.SqueethWindow
namespace Demeter
open Core

/-- the view of the pair loop reads rows 0..k only -/
theorem C02_pair_market_view_local : pairMarketView.Local :=
  C02_pair_view_local _ _ (C02_pair_view_local _ _ C02_row_view_local (C02_shift_view_local _ _)) (C02_twap_view_local _)

/-- **C02 for the Uniswap + Squeeth pair, closed-loop strategies.**  Any kernel / pool / TWAP oracle `c`, any strategy `hooks` (it sees the bar
    number, the view of the bar and its own state), any starting state: two histories that share their first `pre.length` minutes give the same
    market states, wallets, vaults, positions and action logs after each of those bars — whatever comes later. -/
theorem C02_pair_markets_prefix (c : PairCfg) (hooks : Hooks) (pre suf₁ suf₂ : List PairRow) (s0 : PairSt) :
    ((pairLoop c hooks).run (pre ++ suf₁) s0).take pre.length = ((pairLoop c hooks).run (pre ++ suf₂) s0).take pre.length :=
  C02_prefix (pairLoop c hooks) C02_pair_market_view_local pre suf₁ suf₂ s0

theorem C02_pair_markets_prefix_each_bar (c : PairCfg) (hooks : Hooks) (pre suf₁ suf₂ : List PairRow) (s0 : PairSt) (k : Nat)
    (hk : k < pre.length) : ((pairLoop c hooks).run (pre ++ suf₁) s0)[k]? = ((pairLoop c hooks).run (pre ++ suf₂) s0)[k]? :=
  C02_prefix_each_bar (pairLoop c hooks) C02_pair_market_view_local pre suf₁ suf₂ s0 k hk

/-- `C02_pair_market_view_local` written out: the pair loop's view of bar k (the row, the pool's shifted price, the rows the TWAP looks at)
    is a function of rows 0..k -/
theorem C02_pair_markets_env_prefix (h₁ h₂ : List PairRow) (k : Nat) (he : h₁.take (k + 1) = h₂.take (k + 1)) :
    pairMarketView h₁ k = pairMarketView h₂ k := C02_pair_market_view_local h₁ h₂ k he

namespace Core

theorem take_eq_filter_key {α : Type} (key : α → Int) : ∀ (h : List α) (k : Nat) (r : α), h.Pairwise (fun a b => key a < key b) →
    h[k]? = some r → h.take (k + 1) = h.filter (fun x => decide (key x ≤ key r))
  | [], _, _, _, hk => by simp at hk
  | a :: l, 0, r, hs, hk => by
    simp only [List.getElem?_cons_zero, Option.some.injEq] at hk
    subst hk
    have hl : l.filter (fun x => decide (key x ≤ key a)) = [] := by
      apply List.filter_eq_nil_iff.mpr
      intro x hx
      have := (List.pairwise_cons.mp hs).1 x hx
      simp only [decide_eq_true_eq]; omega
    simp [hl]
  | a :: l, j + 1, r, hs, hk => by
    simp only [List.getElem?_cons_succ] at hk
    have hlt := (List.pairwise_cons.mp hs).1 r (List.mem_of_getElem? hk)
    have ih := take_eq_filter_key key l j r (List.pairwise_cons.mp hs).2 hk
    have ha : decide (key a ≤ key r) = true := by simp only [decide_eq_true_eq]; omega
    rw [List.take_succ_cons, ih, List.filter_cons, ha]
    rfl

/-- 6 = `TWAP_PERIOD − 1` minutes -/
theorem window_sorted (e : Squeeth.Env) (l : List PairRow) (hs : l.Pairwise (fun a b => a.t < b.t)) (now : Int) :
    Squeeth.window { e with rows := l.map sqRowOf } now = (l.filter (fun x => decide (now - 6 ≤ x.t) && decide (x.t ≤ now))).map sqRowOf := by
  rw [Squeeth.window_eq_filter _ now, List.filter_map]
  · rfl
  · intro r0 h0 r hr
    rw [List.head?_map] at h0
    obtain ⟨a, ha, rfl⟩ := Option.map_eq_some_iff.mp h0
    obtain ⟨x, hx, rfl⟩ := List.mem_map.mp hr
    exact (pairwise_bounds (R := fun a b => a.t ≤ b.t) (fun _ => Int.le_refl _) (hs.imp Int.le_of_lt) x hx).1 a ha

end Core

/-- **the TWAP window of the code's model is the view's window.**  For a supplied frame in time order (`h`, future rows included) and bar `k`
    (row `r`): `Squeeth.window` — `self.data[start:now]` with `start = now − (TWAP_PERIOD − 1) min` clamped to the first row — evaluated on the WHOLE
    frame selects exactly the rows `twapView` hands the loop (`7 = Gen.sqTwapPeriod = Gen.coreTwapPeriodMin`); and evaluated on the view's rows —
    what `pairStep` puts into `Squeeth.Env.rows` — it selects all of them.  So `SqueethMarket.get_twap_price` in `pairStep` computes what the code
    computes on the whole frame, from rows 0..k alone. -/
theorem C02_squeeth_window_of_whole_frame_is_the_view (h : List PairRow) (k : Nat) (r : PairRow) (hk : h[k]? = some r)
    (hs : h.Pairwise (fun a b => a.t < b.t)) (e : Squeeth.Env) :
    Gen.sqTwapPeriod = 7 ∧ Gen.coreTwapPeriodMin = 7 ∧
    Squeeth.window { e with rows := h.map sqRowOf } r.t = (twapView (fun x => x.t * 60) h k).map sqRowOf ∧
    Squeeth.window { e with rows := (twapView (fun x => x.t * 60) h k).map sqRowOf } r.t = (twapView (fun x => x.t * 60) h k).map sqRowOf := by
  have hview : twapView (fun x => x.t * 60) h k = h.filter (fun x => decide (r.t - 6 ≤ x.t) && decide (x.t ≤ r.t)) := by
    simp only [twapView, hk, take_eq_filter_key (·.t) h k r hs hk, List.filter_filter, Gen.coreTwapPeriodMin]
    apply List.filter_congr
    intro x _
    rw [Bool.eq_iff_iff]
    simp only [Bool.and_eq_true, decide_eq_true_eq]
    constructor
    · rintro ⟨h1, h2⟩
      have h3 := of_decide_eq_true h1
      exact ⟨by omega, h2⟩
    · rintro ⟨h1, h2⟩
      exact ⟨decide_eq_true (by omega), h2⟩
  refine ⟨rfl, rfl, ?_, ?_⟩
  · rw [window_sorted e h hs r.t, hview]
  · have hsub : (twapView (fun x => x.t * 60) h k).Pairwise (fun a b => a.t < b.t) := by
      rw [hview]; exact hs.sublist List.filter_sublist
    rw [window_sorted e _ hsub r.t]
    congr 1
    rw [hview, List.filter_filter]
    apply List.filter_congr
    intro x _
    rw [Bool.eq_iff_iff]
    simp only [Bool.and_eq_true, decide_eq_true_eq]
    constructor <;> rintro ⟨h1, h2⟩ <;> constructor <;> omega

def Core.exPool : Uni.Pool := { tok0 := "WETH", tok1 := "oSQTH", d0 := 18, d1 := 18, feeRate := 3 / 1000, spacing := 60, q0 := true, decFac := 1 }
def Core.exPC : PairCfg :=
  { K := Uni.Kern.std NumCtx.exact (fun x => x), pool := Core.exPool, minError := 0, priceOf := fun t => (t : Rat) / 100000,
    mean := fun l => l.sum / l.length }
def Core.exHooks : Hooks := fun _ v st =>
  match v.1.1 with
  | some r => if r.closeTick % 2 = 0 ∧ st.sq.vaults.length < 1 then [.sq (.openMint 1 0 none none)] else []
  | none => []
def Core.exU0 : Uni.State :=
  { positions := [], lastTick := none, row := none, ts := none, isOpen := false, hasUpdate := false, wallet := [("WETH", 10), ("oSQTH", 0)],
    allowNeg := false, actions := [] }
def Core.exS0 : PairSt := { uni := Core.exU0, sq := { wallet := [("WETH", 10), ("oSQTH", 0)], vaults := [], maxId := 0, positions := [], log := [] } }
def Core.exRow (t : Int) (o cl : Int) (w : Rat) : PairRow := ⟨t, o, cl, 1000, 5, 7, 3 / 10, w, 1 / 10⟩
def Core.exPre : List PairRow := [Core.exRow 0 23001 23003 1800, Core.exRow 1 23003 23004 1810]
def Core.exSuf₁ : List PairRow := [Core.exRow 2 23004 23001 1790]
def Core.exSuf₂ : List PairRow := [Core.exRow 2 23004 23010 1500, Core.exRow 3 23010 23020 1400]

def Core.PairSt.show (s : PairSt) : Option Int × Option Int × Option Rat × Nat × Option Rat :=
  (s.uni.lastTick, s.uni.row.map (·.closeTick), s.uni.row.map (·.price), s.sq.vaults.length, AList.get? s.sq.wallet "WETH")

/-- the loop does something: bar 0 is priced from its own open tick, bar 1 from the close of bar 0 (the shifted column), the strategy opens its
    vault on bar 1 (close tick 23004 is even) and 1 WETH leaves the wallet -/
example : ((pairLoop Core.exPC Core.exHooks).run (Core.exPre ++ Core.exSuf₁) Core.exS0).map Core.PairSt.show =
    [(none, some 23003, some (23001 / 100000), 0, some 10), (some 23003, some 23004, some (23003 / 100000), 1, some 9),
     (some 23004, some 23001, some (23004 / 100000), 1, some 9)] := by
  decide +kernel

example : ((pairLoop Core.exPC Core.exHooks).run (Core.exPre ++ Core.exSuf₁) Core.exS0).take 2 =
    ((pairLoop Core.exPC Core.exHooks).run (Core.exPre ++ Core.exSuf₂) Core.exS0).take 2 :=
  C02_pair_markets_prefix Core.exPC Core.exHooks Core.exPre Core.exSuf₁ Core.exSuf₂ Core.exS0

example : ((pairLoop Core.exPC Core.exHooks).run (Core.exPre ++ Core.exSuf₂) Core.exS0).map Core.PairSt.show =
    [(none, some 23003, some (23001 / 100000), 0, some 10), (some 23003, some 23004, some (23003 / 100000), 1, some 9),
     (some 23004, some 23010, some (23004 / 100000), 1, some 9), (some 23010, some 23020, some (23010 / 100000), 1, some 9)] := by
  decide +kernel

/-- nine minutes of data: at bar 7 the window is minutes 1..7 — minute 0 is too old, minute 8 is the future — also when the code's model is
    handed the whole frame -/
def Core.exLong : List PairRow := (List.range 9).map (fun (i : Nat) => Core.exRow (i : Int) 23000 23000 1800)

example : (twapView (fun x => x.t * 60) Core.exLong 7).map (·.t) = [1, 2, 3, 4, 5, 6, 7] := by decide

theorem Core.exLong_sorted : Core.exLong.Pairwise (fun a b => a.t < b.t) := by
  have h : (List.range 9).Pairwise (· < ·) := List.pairwise_lt_range
  exact List.pairwise_map.mpr (h.imp (by intro a b hab; show (a : Int) < (b : Int); exact_mod_cast hab))

example (e : Squeeth.Env) : Squeeth.window { e with rows := Core.exLong.map sqRowOf } 7 = (twapView (fun x => x.t * 60) Core.exLong 7).map sqRowOf :=
  (C02_squeeth_window_of_whole_frame_is_the_view Core.exLong 7 (Core.exRow 7 23000 23000 1800) rfl Core.exLong_sorted e).2.2.1

end Demeter
