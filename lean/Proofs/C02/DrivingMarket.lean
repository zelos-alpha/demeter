/-
  C02 at the level of `Actuator.run`.

  `C02_actuator_prefix` (Proofs/C02.lean) is about `runBars`, with the list of bars as an ARGUMENT.  `Actuator.run` computes that list
  itself: `get_test_range` (actuator.py) takes the index of the market whose frame has the most distinct timestamps in the WHOLE frame
  (`longestIdx`, `barIndex`).  Which market that is can be decided by rows that lie after bar k: the clause "bars 0..k depend only on the
  data of bars 0..k" is FALSE of `run` (and of the real Actuator: harness/c02.py, key `lookahead:bar-index:driving-market-changes-in-suffix`),
  witnessed here by two concrete configurations.  What does hold of `run`: the clause under the hypothesis that the two runs' bar indexes
  share the prefix (in particular: the same market defines the index and its frames agree on the prefix).
-/
import Proofs.Lemmas.CoreCausal
import Proofs.Lemmas.CoreTrig
import Proofs.Lemmas.CoreHooksPlain
import Proofs.Lemmas.CoreHooksBooks
import Proofs.Lemmas.CoreBarIndex
namespace Demeter
open Core

namespace Core

def Ext (st st' : St) : Prop := st.rows <+: st'.rows ∧ st.all <+: st'.all

theorem runBars_ext (cfg : Cfg) (sc : Script) (bars : List Int) (row : Nat) (st : St) : Ext st (runBars cfg sc row bars st).2.1 := by
  obtain ⟨_, _, s3, s4, _⟩ := runBars_sameObs cfg sc bars row st
  obtain ⟨b1, b2, _⟩ := runBarsG_books cfg (ofScript sc) bars row st
  exact ⟨by rw [s3, b2]; exact List.prefix_append _ _, by rw [s4, b1]; exact List.prefix_append _ _⟩

theorem runPrefix_append (cfg : Cfg) (trigs : List Trig) (sc : Script) (ts0 : Int) (pre suf : List Int) :
    runPrefix cfg trigs sc ts0 (pre ++ suf) = Res.andThen (runPrefix cfg trigs sc ts0 pre) (runBars cfg sc (0 + (ts0 :: pre).length) suf) := by
  rw [runPrefix_eq, runPrefix_eq, andThen_assoc]
  exact congrArg _ (funext fun st => runBars_append cfg sc (ts0 :: pre) suf 0 st)

theorem runPrefix_agree (c₁ c₂ : Cfg) (trigs : List Trig) (sc : Script) (ts0 : Int) (pre : List Int)
    (hag : ∀ t ∈ ts0 :: pre, AgreeAt c₁ c₂ t) : runPrefix c₂ trigs sc ts0 pre = runPrefix c₁ trigs sc ts0 pre := by
  unfold runPrefix
  simp only [← setAllFrom_agree c₁ c₂ ts0 0 0 _ _ (hag ts0 (List.mem_cons_self ..)).2]
  rw [runBars_agree c₁ c₂ sc (ts0 :: pre) 0 _ hag]

theorem runPrefix_ok (cfg : Cfg) (trigs : List Trig) (sc : Script) (ts0 : Int) (pre : List Int)
    (hok : (runPrefix cfg trigs sc ts0 pre).2.2 = none) :
    (priceAt cfg ts0).isSome ∧ (runPrefix cfg trigs sc ts0 pre).2.1.rows.map Prod.fst = ts0 :: pre := by
  have hb : (runBars cfg sc 0 (ts0 :: pre) (initRun cfg trigs sc ts0).2).2.2 = none := hok
  refine ⟨runBars_prices cfg sc (ts0 :: pre) 0 _ hb ts0 (List.mem_cons_self ..), ?_⟩
  show (runBars cfg sc 0 (ts0 :: pre) (initRun cfg trigs sc ts0).2).2.1.rows.map Prod.fst = _
  have hi : (initRun cfg trigs sc ts0).2.rows = [] := (runOps_rel (Frame.phaseRel ts0) .init sc.init (initSt cfg trigs ts0)).1
  rw [runBars_rows cfg sc (ts0 :: pre) 0 _ hb, hi]
  simp [List.map_map, Function.comp_def]

end Core

def Core.drvA : Cfg := ⟨[{ idx := [0, 60, 120], openCb := false }, { idx := [60, 120], openCb := false }], [0, 60, 120], 60, false⟩
def Core.drvB : Cfg := ⟨[{ idx := [0, 60, 120], openCb := false }, { idx := [60, 120, 180, 240], openCb := false }], [0, 60, 120, 180, 240], 60, false⟩
def Core.drvScript : Script :=
  { init := [], before := fun _ => [], fire := fun _ _ => [], openCb := fun _ _ => [], on := fun _ => [], after := fun _ => [], upd := fun _ _ => [] }

/-- **C02 is false of `Actuator.run` when the market that defines the bar index changes with data after bar k.**  Two configurations that
    supply the same data for every one of the bars 0, 60, 120 (same price row; per market the same `is_open` and the same row) — they differ
    only in rows stamped 180 and 240 of the second market and of the price frame — and the strategy that does nothing: both runs end normally,
    the first visits the bars 0, 60, 120, the second 60, 120, 180, 240, so already the first account row differs.  (`get_test_range`: the
    market with the most distinct timestamps in the whole frame; by design.) -/
theorem C02_fails_driving_market_changes_in_the_suffix :
    (∀ t ∈ [(0 : Int), 60, 120], AgreeAt Core.drvA Core.drvB t) ∧
    (run Core.drvA [] Core.drvScript).err = none ∧ (run Core.drvB [] Core.drvScript).err = none ∧
    (run Core.drvA [] Core.drvScript).rows = [(0, some 0), (60, some 60), (120, some 120)] ∧
    (run Core.drvB [] Core.drvScript).rows = [(60, some 60), (120, some 120), (180, some 180), (240, some 240)] ∧
    ¬ ((run Core.drvA [] Core.drvScript).rows.take 3 = (run Core.drvB [] Core.drvScript).rows.take 3) ∧
    ¬ ((run Core.drvA [] Core.drvScript).trace.take 3 = (run Core.drvB [] Core.drvScript).trace.take 3) ∧
    barIndex Core.drvA = [0, 60, 120] ∧ barIndex Core.drvB = [60, 120, 180, 240] :=
  ⟨by decide, by decide +kernel⟩

/-- **C02 for `Actuator.run`, same driving market.**  Two configurations that pass `_check_backtest`, whose bar indexes — as `run` computes
    them from the frames — share the prefix `ts0 :: pre`, and whose data agree on those bars.  If the first run gets through the prefix
    (`hok`), then: the second run does exactly the same up to there (same calls, same state — installed triggers with their private state,
    `has_update` flags, pending actions, account rows, action list — same outcome); both runs' traces start with the trace of the prefix;
    both runs' account rows start with the rows of the prefix, one row per bar of the prefix; both runs' action lists start with the actions
    recorded in the prefix.  Whatever comes later — more bars, other data, an exception — does not matter. -/
theorem C02_run_prefix_same_driving_market (c₁ c₂ : Cfg) (trigs : List Trig) (sc : Script) (ts0 : Int) (pre suf₁ suf₂ : List Int)
    (hc₁ : checkBacktest c₁ = none) (hc₂ : checkBacktest c₂ = none)
    (hb₁ : barIndex c₁ = ts0 :: pre ++ suf₁) (hb₂ : barIndex c₂ = ts0 :: pre ++ suf₂)
    (hag : ∀ t ∈ ts0 :: pre, AgreeAt c₁ c₂ t)
    (hok : (runPrefix c₁ trigs sc ts0 pre).2.2 = none) :
    runPrefix c₂ trigs sc ts0 pre = runPrefix c₁ trigs sc ts0 pre ∧
    (runPrefix c₁ trigs sc ts0 pre).1 <+: (run c₁ trigs sc).trace ∧ (runPrefix c₁ trigs sc ts0 pre).1 <+: (run c₂ trigs sc).trace ∧
    (runPrefix c₁ trigs sc ts0 pre).2.1.rows <+: (run c₁ trigs sc).rows ∧ (runPrefix c₁ trigs sc ts0 pre).2.1.rows <+: (run c₂ trigs sc).rows ∧
    (runPrefix c₁ trigs sc ts0 pre).2.1.rows.map Prod.fst = ts0 :: pre ∧
    (runPrefix c₁ trigs sc ts0 pre).2.1.all <+: (run c₁ trigs sc).actions ∧ (runPrefix c₁ trigs sc ts0 pre).2.1.all <+: (run c₂ trigs sc).actions := by
  have heq := runPrefix_agree c₁ c₂ trigs sc ts0 pre hag
  have hok₂ : (runPrefix c₂ trigs sc ts0 pre).2.2 = none := by rw [heq]; exact hok
  obtain ⟨hp, hrows⟩ := runPrefix_ok c₁ trigs sc ts0 pre hok
  have hp₂ : (priceAt c₂ ts0).isSome := by rw [← (hag ts0 (List.mem_cons_self ..)).1]; exact hp
  have a : ∀ (c : Cfg) (suf : List Int), (runPrefix c trigs sc ts0 pre).2.2 = none →
      (∃ later, (runPrefix c trigs sc ts0 (pre ++ suf)).1 = (runPrefix c trigs sc ts0 pre).1 ++ later) ∧
      Ext (runPrefix c trigs sc ts0 pre).2.1 (runPrefix c trigs sc ts0 (pre ++ suf)).2.1 := fun c suf h => by
    rw [runPrefix_append, andThen_ok h]
    exact ⟨⟨_, rfl⟩, runBars_ext c sc suf _ _⟩
  have a₁ := a c₁ suf₁ hok
  have a₂ := a c₂ suf₂ hok₂
  rw [heq] at a₂
  have r₁ := run_of_start (trigs := trigs) (sc := sc) (bars := pre ++ suf₁) (startOf_ok_iff.mpr ⟨hc₁, hb₁, hp⟩)
  have r₂ := run_of_start (trigs := trigs) (sc := sc) (bars := pre ++ suf₂) (startOf_ok_iff.mpr ⟨hc₂, hb₂, hp₂⟩)
  obtain ⟨⟨l₁, hl₁⟩, e₁⟩ := a₁
  obtain ⟨⟨l₂, hl₂⟩, e₂⟩ := a₂
  refine ⟨heq, ?_, ?_, ?_, ?_, hrows, ?_, ?_⟩
  · rw [r₁]; simp only []; rw [hl₁, List.append_assoc]; exact List.prefix_append _ _
  · rw [r₂]; simp only []; rw [hl₂, List.append_assoc]; exact List.prefix_append _ _
  · rw [r₁]; exact e₁.1
  · rw [r₂]; exact e₂.1
  · rw [r₁]; exact e₁.2
  · rw [r₂]; exact e₂.2

/-- … in particular the account rows of the bars of the prefix are the same rows in both runs -/
theorem C02_run_rows_of_prefix_same_driving_market (c₁ c₂ : Cfg) (trigs : List Trig) (sc : Script) (ts0 : Int) (pre suf₁ suf₂ : List Int)
    (hc₁ : checkBacktest c₁ = none) (hc₂ : checkBacktest c₂ = none)
    (hb₁ : barIndex c₁ = ts0 :: pre ++ suf₁) (hb₂ : barIndex c₂ = ts0 :: pre ++ suf₂)
    (hag : ∀ t ∈ ts0 :: pre, AgreeAt c₁ c₂ t)
    (hok : (runPrefix c₁ trigs sc ts0 pre).2.2 = none) :
    (run c₁ trigs sc).rows.take (pre.length + 1) = (run c₂ trigs sc).rows.take (pre.length + 1) ∧
    ((run c₁ trigs sc).rows.take (pre.length + 1)).map Prod.fst = ts0 :: pre := by
  obtain ⟨_, _, _, h₁, h₂, hr, _, _⟩ := C02_run_prefix_same_driving_market c₁ c₂ trigs sc ts0 pre suf₁ suf₂ hc₁ hc₂ hb₁ hb₂ hag hok
  have hlen : (runPrefix c₁ trigs sc ts0 pre).2.1.rows.length = pre.length + 1 := by
    have := congrArg List.length hr
    simpa using this
  have t : ∀ l, (runPrefix c₁ trigs sc ts0 pre).2.1.rows <+: l → l.take (pre.length + 1) = (runPrefix c₁ trigs sc ts0 pre).2.1.rows :=
    fun l h => by rw [← hlen]; exact (List.prefix_iff_eq_take.mp h).symm
  exact ⟨(t _ h₁).trans (t _ h₂).symm, by rw [t _ h₁]; exact hr⟩

/-- the loop stopped inside the common prefix (a trigger raised, a price row is missing, a `notify` loop did not end): the two runs are the
    same run -/
theorem C02_run_prefix_error_same_driving_market (c₁ c₂ : Cfg) (trigs : List Trig) (sc : Script) (ts0 : Int) (pre suf₁ suf₂ : List Int) (e : PyErr)
    (hc₁ : checkBacktest c₁ = none) (hc₂ : checkBacktest c₂ = none)
    (hb₁ : barIndex c₁ = ts0 :: pre ++ suf₁) (hb₂ : barIndex c₂ = ts0 :: pre ++ suf₂)
    (hag : ∀ t ∈ ts0 :: pre, AgreeAt c₁ c₂ t) (hp : (priceAt c₁ ts0).isSome)
    (herr : (runPrefix c₁ trigs sc ts0 pre).2.2 = some e) :
    run c₂ trigs sc = run c₁ trigs sc := by
  have heq := runPrefix_agree c₁ c₂ trigs sc ts0 pre hag
  have hp₂ : (priceAt c₂ ts0).isSome := by rw [← (hag ts0 (List.mem_cons_self ..)).1]; exact hp
  have r₁ := run_of_start (trigs := trigs) (sc := sc) (bars := pre ++ suf₁) (startOf_ok_iff.mpr ⟨hc₁, hb₁, hp⟩)
  have r₂ := run_of_start (trigs := trigs) (sc := sc) (bars := pre ++ suf₂) (startOf_ok_iff.mpr ⟨hc₂, hb₂, hp₂⟩)
  rw [r₁, r₂, runPrefix_append, runPrefix_append, andThen_err herr, andThen_err (by rw [heq]; exact herr), heq, herr]

/-- "the same market defines the index", on the frames: if no other market has more distinct timestamps than the first one, the run is over
    the first market's timestamps -/
theorem C02_first_market_drives (cfg : Cfg) (d : MarketCfg) (rest : List MarketCfg) (hm : cfg.markets = d :: rest)
    (h : ∀ m ∈ rest, (distinctTimes m.idx).length ≤ (distinctTimes d.idx).length) :
    barIndex cfg = frameIdx cfg.resample cfg.Δ (distinctTimes d.idx) := by
  unfold barIndex
  rw [hm]
  unfold longestIdx
  have := longestIdx_le _ rest h
  rw [if_neg (by omega)]

def Core.drvC : Cfg := ⟨[{ idx := [0, 60, 120], openCb := false }, { idx := [60, 120, 180], openCb := false }], [0, 60, 120, 180], 60, false⟩

example : barIndex Core.drvC = frameIdx false 60 (distinctTimes [0, 60, 120]) :=
  C02_first_market_drives Core.drvC _ _ rfl (by decide)

example : (run Core.drvA [] Core.drvScript).rows.take 3 = (run Core.drvC [] Core.drvScript).rows.take 3 ∧
    ((run Core.drvA [] Core.drvScript).rows.take 3).map Prod.fst = [0, 60, 120] :=
  C02_run_rows_of_prefix_same_driving_market Core.drvA Core.drvC [] Core.drvScript 0 [60, 120] [] [] (by decide) (by decide) (by decide) (by decide)
    (by decide)
    (by decide)

/-- **C02 for `Actuator.run`, stated on the frames.**  One-minute runs (no resampling) of two configurations in which the FIRST market's frame
    (one row per timestamp, in time order) has at least as many timestamps as every other market's — in both — and the two first-market frames
    share the timestamps `ts0 :: pre`; data agreeing on those bars; `_check_backtest` passed.  Then the runs agree on the bars `ts0 :: pre`
    (trace, account rows, actions, state), whatever rows follow in any frame — as long as they do not make another market the longest
    (`C02_fails_driving_market_changes_in_the_suffix`: if they do, the clause is false). -/
theorem C02_run_prefix_first_market_longest (c₁ c₂ : Cfg) (trigs : List Trig) (sc : Script) (ts0 : Int) (pre suf₁ suf₂ : List Int)
    (d₁ d₂ : MarketCfg) (r₁ r₂ : List MarketCfg) (hm₁ : c₁.markets = d₁ :: r₁) (hm₂ : c₂.markets = d₂ :: r₂)
    (hr₁ : c₁.resample = false) (hr₂ : c₂.resample = false)
    (hd₁ : d₁.idx = ts0 :: pre ++ suf₁) (hd₂ : d₂.idx = ts0 :: pre ++ suf₂)
    (hs₁ : d₁.idx.Pairwise (· < ·)) (hs₂ : d₂.idx.Pairwise (· < ·))
    (hl₁ : ∀ m ∈ r₁, (distinctTimes m.idx).length ≤ d₁.idx.length) (hl₂ : ∀ m ∈ r₂, (distinctTimes m.idx).length ≤ d₂.idx.length)
    (hc₁ : checkBacktest c₁ = none) (hc₂ : checkBacktest c₂ = none)
    (hag : ∀ t ∈ ts0 :: pre, AgreeAt c₁ c₂ t)
    (hok : (runPrefix c₁ trigs sc ts0 pre).2.2 = none) :
    runPrefix c₂ trigs sc ts0 pre = runPrefix c₁ trigs sc ts0 pre ∧
    (runPrefix c₁ trigs sc ts0 pre).1 <+: (run c₁ trigs sc).trace ∧ (runPrefix c₁ trigs sc ts0 pre).1 <+: (run c₂ trigs sc).trace ∧
    (run c₁ trigs sc).rows.take (pre.length + 1) = (run c₂ trigs sc).rows.take (pre.length + 1) ∧
    ((run c₁ trigs sc).rows.take (pre.length + 1)).map Prod.fst = ts0 :: pre ∧
    (runPrefix c₁ trigs sc ts0 pre).2.1.all <+: (run c₁ trigs sc).actions ∧ (runPrefix c₁ trigs sc ts0 pre).2.1.all <+: (run c₂ trigs sc).actions := by
  have b₁ : barIndex c₁ = ts0 :: pre ++ suf₁ := by
    rw [C02_first_market_drives c₁ d₁ r₁ hm₁ (by rw [Core.distinctTimes_sorted _ hs₁]; exact hl₁), Core.distinctTimes_sorted _ hs₁, hr₁, hd₁]
    rfl
  have b₂ : barIndex c₂ = ts0 :: pre ++ suf₂ := by
    rw [C02_first_market_drives c₂ d₂ r₂ hm₂ (by rw [Core.distinctTimes_sorted _ hs₂]; exact hl₂), Core.distinctTimes_sorted _ hs₂, hr₂, hd₂]
    rfl
  obtain ⟨e, t₁, t₂, _, _, _, a₁, a₂⟩ := C02_run_prefix_same_driving_market c₁ c₂ trigs sc ts0 pre suf₁ suf₂ hc₁ hc₂ b₁ b₂ hag hok
  obtain ⟨q₁, q₂⟩ := C02_run_rows_of_prefix_same_driving_market c₁ c₂ trigs sc ts0 pre suf₁ suf₂ hc₁ hc₂ b₁ b₂ hag hok
  exact ⟨e, t₁, t₂, q₁, q₂, a₁, a₂⟩

example : (run Core.drvA [] Core.drvScript).rows.take 3 = (run Core.drvC [] Core.drvScript).rows.take 3 :=
  (C02_run_prefix_first_market_longest Core.drvA Core.drvC [] Core.drvScript 0 [60, 120] [] [] _ _ _ _ rfl rfl rfl rfl rfl rfl
    (by decide) (by decide) (by decide) (by decide) (by decide) (by decide)
    (by decide)
    (by decide)).2.2.2.1

end Demeter
