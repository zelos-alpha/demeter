/-
  C02 (rerun clause) / C18 ("every bar grid (start …)") — running the same strategy object again.

  Trigger objects belong to the strategy and keep state (`PeriodTrigger._next_match`, `PeriodsTrigger._next_matches`); the bar
  loop drops out-of-date triggers from `strategy.triggers`.  `Actuator.run` (as repaired, /repo c510ccb) calls `reset()` on every
  installed trigger and puts the list it found back afterwards.  `actuatorRun` / `trigsAfterRun` (Demeter/Actuator.lean) reset when
  `run` is entered; the code resets after `initialize()` (Demeter/Actuator/Rerun.lean).  For strategies whose `initialize()` installs
  no trigger the two orders agree (`C02_run2_is_reset_on_entry_when_initialize_installs_nothing`, Proofs/C02/RerunObject.lean); the
  code's order is Proofs/C02/Rerun2.lean.  The model is switched by the generated source flag `Gen.coreRunResetsTriggers` — if the
  repair disappears from the source the flag turns false and the theorems below do not build.
-/
import Proofs.Lemmas.CoreHooksTrigs
import Proofs.Fixtures.Core
namespace Demeter
open Core

/-- the source still resets the triggers and hands the list back (generated from demeter/core/actuator.py) -/
theorem C02_run_resets_triggers_in_source : Gen.coreRunResetsTriggers = true := rfl

/-- **C02 — a rerun does not depend on what an earlier run left in the trigger objects**: whatever state the strategy's triggers
    are in (same objects: same positions, keyword arguments and constructor parameters), `Actuator.run` produces the same call
    trace, account rows, actions and outcome. -/
theorem C02_rerun_any_leftover_state (cfg : Cfg) (sc : Script) (trigs trigs' : List Trig)
    (h : trigs'.map Trig.reset = trigs.map Trig.reset) : actuatorRun cfg trigs' sc = actuatorRun cfg trigs sc := by
  unfold actuatorRun
  rw [startTrigs_eq, startTrigs_eq, h]

/-- **C02 — repeating the run with the same strategy object reproduces it exactly.**  After a run that ended normally the strategy
    holds `trigsAfterRun` (the list it had, each object in the state the loop left it in, retired ones included); running again —
    fresh account, same data, same script — gives the identical result, and the trigger objects end up in the same state again. -/
theorem C02_rerun_same_strategy_object (cfg : Cfg) (sc : Script) (trigs : List Trig) (hn : (trigs.map (·.id)).Nodup)
    (h : (actuatorRun cfg trigs sc).err = none) :
    actuatorRun cfg (trigsAfterRun cfg trigs sc) sc = actuatorRun cfg trigs sc ∧
    trigsAfterRun cfg (trigsAfterRun cfg trigs sc) sc = trigsAfterRun cfg trigs sc := by
  have key := rerun_after_reset cfg sc trigs hn
  have h1 := C02_rerun_any_leftover_state cfg sc trigs _ key
  refine ⟨h1, ?_⟩
  have hst : startTrigs (trigsAfterRun cfg trigs sc) = startTrigs trigs := by
    rw [startTrigs_eq, startTrigs_eq]; exact key
  have gen : ∀ T T' : List Trig, startTrigs T' = startTrigs T → trigsAfterRun cfg T' sc = trigsAfterRun cfg T sc := by
    intro T T' hT
    unfold trigsAfterRun actuatorRun
    rw [hT]
  exact gen _ _ hst

/- the unrepaired behaviour, as a kernel-checked witness: without the reset the second run of a 2-minute period trigger over
   four one-minute bars is silent (its due time, left by the first run, lies beyond the data) -/

theorem C02_unrepaired_rerun_is_silent :
    (run Core.rerunCfg Core.rerunTrigs Core.rerunScript).trace.filterMap fireOfEv = [⟨0, 0, ""⟩, ⟨60, 1, ""⟩, ⟨120, 0, ""⟩] ∧
    (run Core.rerunCfg (run Core.rerunCfg Core.rerunTrigs Core.rerunScript).trigsLeft Core.rerunScript).trace.filterMap fireOfEv = [] := by
  decide +kernel

example : (actuatorRun Core.rerunCfg (trigsAfterRun Core.rerunCfg Core.rerunTrigs Core.rerunScript) Core.rerunScript).trace.filterMap fireOfEv
    = [⟨0, 0, ""⟩, ⟨60, 1, ""⟩, ⟨120, 0, ""⟩] := by decide +kernel

example : (actuatorRun Core.rerunCfg Core.rerunTrigs Core.rerunScript).err = none := by decide +kernel

end Demeter
