/-
  C02 (rerun clause) for `Actuator.run` in the order the code has: `initialize()` FIRST, then `reset()` of whatever is
  installed; the list handed back is the COPY taken before `_run`.  Model: Demeter/Actuator/Rerun.lean (`runG2`, `trigsAfterRun2`).

  The run does not depend on the state the strategy's trigger objects are in, neither the ones the caller installed nor the ones `initialize()`
  installs (the same objects on every run: fix 7afdd12); so after any run, running the same strategy object again reproduces it.  With
  `triggers_before_run = self._strategy.triggers` (a reference; generated flag `coreRunSavesTriggerListByCopy` false; seeded C02-m7 / C05-m12)
  that is FALSE (kernel-checked witness below).  The rerun theorem is stated for `trigsAfterRun2`, which follows the flag: with the reference in
  the source this file does not build.
-/
import Demeter.Actuator.Rerun
import Proofs.Lemmas.CoreHooksRerun
namespace Demeter
open Core

namespace Core

theorem resetTrigs_idem (a : St) : resetTrigs (resetTrigs a) = resetTrigs a := by
  rw [resetTrigs_eq_iff]
  exact ⟨rfl, rfl, rfl, rfl, map_reset_map_reset _⟩

end Core

/-- the source takes a COPY of the trigger list before `_run` (generated from demeter/core/actuator.py: `list(self._strategy.triggers)`),
    resets after `initialize()`, and not only the triggers it was given on entry -/
theorem C02_source_saves_trigger_list_by_copy :
    Gen.coreRunSavesTriggerListByCopy = true ∧ Gen.coreRunResetsTriggers = true ∧ Gen.coreRunResetsGivenTriggersOnly = false := run2_flags

/-- **C02 — a run does not depend on the state an earlier run left in the strategy's trigger objects** — the ones installed when `run` is called
    (`T'` versus `T`: the same objects, equal after `reset()`) AND the ones `initialize()` installs (`g'` versus `g`: the same hooks, `initialize()`
    appends the same objects in other states): same calls, account rows, actions, outcome, and the same trigger objects left (up to their state). -/
theorem C02_rerun2_any_leftover_state (cfg : Cfg) (T' T : List Trig) (g' g : GScript) (hT : T'.map Trig.reset = T.map Trig.reset)
    (hg : SameInit g' g) :
    (runG2 cfg T' g').obs = (runG2 cfg T g).obs ∧ (runG2 cfg T' g').trigsLeft.map Trig.reset = (runG2 cfg T g).trigsLeft.map Trig.reset := by
  obtain ⟨hi, hb, hf, ht⟩ := hg
  rw [Core.runG2_eq, Core.runG2_eq]
  exact runFrom_resR hb hf ht hT (fun ts0 => (Core.initG2_same cfg T' T g' g ts0 hT hi).1) (fun ts0 => (Core.initG2_same cfg T' T g' g ts0 hT hi).2)

/-- what `run` hands back is, reset, what it found — whatever the hooks did (traded, installed NEW trigger objects — `Fresh`: objects that are
    none of the caller's —, removed triggers, raised) and however the run ended -/
theorem C02_rerun2_list_handed_back (cfg : Cfg) (trigs : List Trig) (g : GScript)
    (hn : (trigs.map (·.id)).Nodup) (hfresh : g.Fresh (trigs.map (·.id))) :
    (trigsAfterRun2 cfg trigs g).map Trig.reset = trigs.map Trig.reset :=
  trigsAfterRun2_reset (Core.runG2_tinv trigs cfg trigs g (tinv_self trigs hn) (fun _ ht => tinv_fresh (hfresh.1 _ ht)) hfresh.2)

/-- **C02 — repeating the run with the same strategy object reproduces it.**  After `Actuator.run` — however it ended — the strategy holds
    `trigsAfterRun2` (the list it had, the objects in the state the run left them in) and its `initialize()` will install the same objects again
    (`SameInit g' g`: in whatever state).  The second run shows the same calls, account rows, actions and outcome as the first, and hands back the
    same list again. -/
theorem C02_rerun2_same_strategy_object (cfg : Cfg) (trigs : List Trig) (g g' : GScript)
    (hn : (trigs.map (·.id)).Nodup) (hfresh : g.Fresh (trigs.map (·.id))) (hg : SameInit g' g) :
    (runG2 cfg (trigsAfterRun2 cfg trigs g) g').obs = (runG2 cfg trigs g).obs ∧
    (trigsAfterRun2 cfg trigs g).map Trig.reset = trigs.map Trig.reset :=
  ⟨(C02_rerun2_any_leftover_state cfg _ trigs g' g (C02_rerun2_list_handed_back cfg trigs g hn hfresh) hg).1,
   C02_rerun2_list_handed_back cfg trigs g hn hfresh⟩

/- the reference variant (seeded C02-m7 / C05-m12): kernel-checked witness

  A strategy whose `initialize()` does `self.triggers.append(self.t)` with `self.t = AtTimeTrigger(00:01)` built once, no trigger installed by
  the caller, three one-minute bars.  With the reference, the list handed back is the list object `initialize()` appended to — `[t]` — and the
  second run's `initialize()` appends `t` again: its action is called twice at 00:01.  (The model keeps one state per list SLOT, the code one per
  OBJECT; for a stateless class such as `AtTimeTrigger` there is no difference.) -/

def Core.aliasCfg : Cfg := { markets := [{ idx := [0, 60, 120], openCb := false }], priceIdx := [0, 60, 120], Δ := 60, resample := false }
def Core.aliasT : Trig := ⟨0, "", .atTime 60⟩
def Core.aliasG : GScript :=
  { init := [.tadd Core.aliasT],
    bar := fun _ => { before := [], fire := fun _ => [], openCb := fun _ => [], on := [], after := [], upd := fun _ => [], notify := fun _ => [] } }

theorem C02_alias_variant_breaks_rerun :
    trigsAfterRun2Alias Core.aliasCfg [] Core.aliasG = [Core.aliasT] ∧
    trigsAfterRun2Copy Core.aliasCfg [] Core.aliasG = [] ∧
    (runG2 Core.aliasCfg [] Core.aliasG).trace.filterMap fireOfEv = [⟨60, 0, ""⟩] ∧
    (runG2 Core.aliasCfg (trigsAfterRun2Alias Core.aliasCfg [] Core.aliasG) Core.aliasG).trace.filterMap fireOfEv = [⟨60, 0, ""⟩, ⟨60, 0, ""⟩] ∧
    ¬ ((runG2 Core.aliasCfg (trigsAfterRun2Alias Core.aliasCfg [] Core.aliasG) Core.aliasG).obs = (runG2 Core.aliasCfg [] Core.aliasG).obs) ∧
    (runG2 Core.aliasCfg (trigsAfterRun2Copy Core.aliasCfg [] Core.aliasG) Core.aliasG).obs = (runG2 Core.aliasCfg [] Core.aliasG).obs := by
  refine ⟨by decide +kernel, by decide +kernel, by decide +kernel, by decide +kernel, ?_, by decide +kernel⟩
  intro h
  have := congrArg (fun o => o.1.filterMap fireOfEv) h
  revert this
  decide +kernel

def Core.rr2Trigs : List Trig := [⟨0, "", .period 120 true 0 none⟩]
/-- `initialize()` installs a period trigger of its own (object 7) next to the caller's: the case that resetting on entry gets wrong -/
def Core.rr2G : GScript :=
  { init := [.tadd ⟨7, "late", .period 60 false 0 none⟩, .op ⟨0, true, "x", true⟩],
    bar := fun _ => { before := [], fire := fun _ => [], openCb := fun _ => [], on := [], after := [], upd := fun _ => [], notify := fun _ => [] } }
/-- the same strategy later: `initialize()` installs object 7 in the state the first run left it in (due at 180) -/
def Core.rr2G' : GScript := { Core.rr2G with init := [.tadd ⟨7, "late", .period 60 false 0 (some 180)⟩, .op ⟨0, true, "x", true⟩] }

example : SameInit Core.rr2G' Core.rr2G := ⟨⟨rfl, rfl, trivial⟩, rfl, rfl, rfl⟩
example : (Core.rr2Trigs.map (·.id)).Nodup := by decide
example : Core.rr2G.Fresh (Core.rr2Trigs.map (·.id)) := by
  refine ⟨?_, fun _ => ⟨?_, fun _ => ?_, fun _ => ?_, ?_, ?_, fun _ => ?_⟩⟩
  · intro s hs
    simp only [Core.rr2G, List.mem_cons, List.not_mem_nil, or_false] at hs
    rcases hs with rfl | rfl <;> simp [HStmt.fresh, Core.rr2Trigs]
  all_goals (intro s hs; cases hs)
example : (runG2 Core.aliasCfg Core.rr2Trigs Core.rr2G).trace.filterMap fireOfEv = [⟨0, 0, ""⟩, ⟨60, 7, "late"⟩, ⟨120, 0, ""⟩, ⟨120, 7, "late"⟩] := by decide +kernel
example : (trigsAfterRun2 Core.aliasCfg Core.rr2Trigs Core.rr2G) = [⟨0, "", .period 120 true 0 (some 240)⟩] := by decide +kernel
/-- resetting BEFORE `initialize()` (the order of `actuatorRunG`) is not enough here: object 7 would stay silent in the second run -/
example : (runG Core.aliasCfg (Core.rr2Trigs.map Trig.reset) Core.rr2G').trace.filterMap fireOfEv = [⟨0, 0, ""⟩, ⟨120, 0, ""⟩] := by decide +kernel

end Demeter
