/-
  C17 — GMX mint/redeem, v1 (GLP) part.  Theorems about Demeter.GmxV1 under the exact context (rational semantics of
  the Decimal code).
-/
import Proofs.Lemmas.GmxV1Step
import Proofs.Fixtures.Gmx
namespace Demeter
open Demeter.GmxV1 Demeter.Gmx

/-- **the v1 fee lies between 0 and base (25 bp) + tax (60 bp)**, for every token, USDG delta, direction and row with
    non-negative weights and USDG supply. -/
theorem C17_v1_fee_bounds {env : Env} (he : EnvNonneg env) {tok : String} {u f : Rat} {inc : Bool} {br : FeeBranch}
    (h : feeBps NumCtx.exact env tok u inc = .ok (f, br)) :
    0 ≤ f ∧ f ≤ ((Gen.gmxMintBurnFeeBps + Gen.gmxTaxBps : Nat) : Rat) ∧
      Gen.gmxMintBurnFeeBps = 25 ∧ Gen.gmxTaxBps = 60 ∧ Gen.gmxBpsDivisor = 10000 := by
  obtain ⟨h0, h1⟩ := rnd_exact.fee he h
  refine ⟨h0, ?_, rfl, rfl, rfl⟩
  have : ((Gen.gmxMintBurnFeeBps + Gen.gmxTaxBps : Nat) : Rat) = 85 := by norm_num [Gen.gmxMintBurnFeeBps, Gen.gmxTaxBps]
  rw [this]; exact h1

/-- **minted GLP = price × amount after fee / value per share, with the contract's round-down steps**: with
    `usdg x = ⌊⌊x·10^dec·P/10³⁰⌋·10¹⁸/10^dec⌋` (token wei × price rounded down, adjusted to USDG's 18 decimals, rounded down),
    the result is `⌊ usdg(a − a·fee/10⁴) · supply / ⌊aum/10¹²⌋ ⌋ / 10¹⁸`, where the fee is the fee rule evaluated at `usdg a`;
    the wallet is debited `a` and the holding grows by exactly the result. -/
theorem C17_v1_mint_round_down {env : Env} (he : EnvPos env) {s s' : State} {tok : String} {dec : Nat} {a g : Rat}
    (h : buyGlp NumCtx.exact env s tok dec a = (.ok g, s')) :
    ∃ r fee br, env.row? tok = some r ∧
      let usdg : Rat → Rat := fun x => ((⌊((⌊x * 10 ^ dec * r.price / 10 ^ 30⌋ : Int) : Rat) * 10 ^ 18 / 10 ^ dec⌋ : Int) : Rat)
      feeBps NumCtx.exact env tok (usdg a) true = .ok (fee, br) ∧
      g = ((⌊usdg (a - a * fee / 10000) * env.glpSupply / ((⌊env.aum / 10 ^ 12⌋ : Int) : Rat)⌋ : Int) : Rat) / 10 ^ 18 ∧
      s'.glp = s.glp + g ∧
      Wallet.debit NumCtx.exact s.wallet (walletKey tok) a false = .ok s'.wallet := by
  obtain ⟨r, fee, br, w, hr, hP, ha, hfee, _, _, haf0, _, _, hz, hg, hw, hs⟩ := Gmx.buyGlp_spec he h
  have husdg : ∀ x : Rat, 0 ≤ x → usdgOf x dec r.price
      = ((⌊((⌊x * 10 ^ dec * r.price / 10 ^ 30⌋ : Int) : Rat) * 10 ^ 18 / 10 ^ dec⌋ : Int) : Rat) := by
    intro x hx
    have h1 : 0 ≤ x * 10 ^ dec * r.price / 10 ^ 30 := by positivity
    unfold usdgOf
    rw [quantDown0_eq_floor (div_nonneg (mul_nonneg (quantDown0_nonneg h1) (by positivity)) (by positivity)), quantDown0_eq_floor h1]
  refine ⟨r, fee, br, hr, ?_, ?_, by rw [hs], by rw [hs]; exact hw⟩
  · simp only []; rw [← husdg a ha]; exact hfee
  · simp only []
    rw [eq_div_iff (by positivity), hg, quantDown0_eq_floor hz, ← husdg _ haf0]
    unfold aumU
    rw [quantDown0_eq_floor (div_nonneg he.aum (by positivity))]

/-- **redeemed tokens = USDG value of the GLP (rounded down to USDG wei) / price, adjusted to the token's decimals, minus
    the fee**: `R · (1 − fee/10⁴) / 10^dec` with `R = U / (P/10³⁰) · 10^dec / 10¹⁸` and `U = ⌊g·10¹⁸/supply · ⌊aum/10¹²⌋⌋`; the holding
    shrinks by `g`, the wallet is credited the result. -/
theorem C17_v1_redeem_round_down {env : Env} (he : EnvPos env) {s s' : State} {tok : String} {dec : Nat} {ga out : Rat}
    (h : sellGlp NumCtx.exact env s tok dec ga = (.ok out, s')) :
    let g := if ga = 0 then s.glp else ga
    let U : Rat := ((⌊g * 10 ^ 18 / env.glpSupply * ((⌊env.aum / 10 ^ 12⌋ : Int) : Rat)⌋ : Int) : Rat)
    ∃ r fee br, env.row? tok = some r ∧ feeBps NumCtx.exact env tok U false = .ok (fee, br) ∧
      (let R := U / (r.price / 10 ^ 30) * 10 ^ dec / 10 ^ 18
       out = (R - R * fee / 10000) / 10 ^ dec) ∧
      0 ≤ g ∧ g ≤ s.glp ∧ s'.glp = s.glp - g ∧
      s'.wallet = Wallet.credit NumCtx.exact s.wallet (walletKey tok) out := by
  intro g U
  obtain ⟨r, fee, br, hr, _, hg0, hgle, hfee, _, _, hy, hout, hs⟩ := Gmx.sellGlp_spec (g := g) he rfl h
  have hU : quantDown 0 (g * 10 ^ 18 / env.glpSupply * aumU env) = U := by
    rw [quantDown0_eq_floor hy]
    unfold aumU
    rw [quantDown0_eq_floor (div_nonneg he.aum (by positivity))]
  rw [hU] at hfee hout
  refine ⟨r, fee, br, hr, hfee, ?_, hg0, hgle, by rw [hs], by rw [hs]⟩
  rw [hout]
  field_simp

/-- **minted GLP follows price × amount / value per share up to the round-down steps, and only downwards**: with
    `p = P/10³⁰` (USD per token), `ideal = (a − a·fee/10⁴)·p·10¹⁸` USDG wei and value per share `⌊aum/10¹²⌋ / supply`,
    the USDG credited is in `(ideal − 10¹⁸/10^dec − 1, ideal]` and the GLP wei minted is in `(usdg·supply/⌊aum/10¹²⌋ − 1, usdg·supply/⌊aum/10¹²⌋]`. -/
theorem C17_v1_mint_value_per_share {env : Env} (he : EnvPos env) {s s' : State} {tok : String} {dec : Nat} {a g : Rat}
    (h : buyGlp NumCtx.exact env s tok dec a = (.ok g, s')) :
    ∃ r fee br usdg, env.row? tok = some r ∧ feeBps NumCtx.exact env tok (usdgOf a dec r.price) true = .ok (fee, br) ∧
      0 ≤ fee ∧ fee ≤ 85 ∧
      (let ideal := (a - a * fee / 10000) * (r.price / 10 ^ 30) * 10 ^ 18
       usdg ≤ ideal ∧ ideal < usdg + 10 ^ 18 / 10 ^ dec + 1) ∧
      g * 10 ^ 18 ≤ usdg * env.glpSupply / aumU env ∧ usdg * env.glpSupply / aumU env < g * 10 ^ 18 + 1 := by
  obtain ⟨r, fee, br, w, hr, hP, _, hfee, hf0, hf1, haf0, _, _, hz, hg, _⟩ := Gmx.buyGlp_spec he h
  refine ⟨r, fee, br, usdgOf (a - a * fee / 10000) dec r.price, hr, hfee, hf0, hf1,
    ⟨(usdgOf_bounds haf0 hP.le).2, usdgOf_gt haf0 hP.le⟩, ?_, ?_⟩
  · rw [hg]; exact quantDown0_le hz
  · rw [hg]; exact quantDown0_gt hz

/-- **redeemed tokens follow GLP × value per share / price, net of the fee, up to one USDG wei, and only downwards** -/
theorem C17_v1_redeem_value_per_share {env : Env} (he : EnvPos env) {s s' : State} {tok : String} {dec : Nat} {ga out : Rat}
    (h : sellGlp NumCtx.exact env s tok dec ga = (.ok out, s')) :
    let g := if ga = 0 then s.glp else ga
    ∃ r fee br U, env.row? tok = some r ∧ feeBps NumCtx.exact env tok U false = .ok (fee, br) ∧ 0 ≤ fee ∧ fee ≤ 85 ∧
      U ≤ g * 10 ^ 18 * (aumU env / env.glpSupply) ∧ g * 10 ^ 18 * (aumU env / env.glpSupply) < U + 1 ∧
      out = U / 10 ^ 18 / (r.price / 10 ^ 30) * (1 - fee / 10000) := by
  intro g
  obtain ⟨r, fee, br, hr, _, _, _, hfee, hf0, hf1, hy, hout, _⟩ := Gmx.sellGlp_spec (g := g) he rfl h
  have e : g * 10 ^ 18 * (aumU env / env.glpSupply) = g * 10 ^ 18 / env.glpSupply * aumU env := by ring
  refine ⟨r, fee, br, quantDown 0 (g * 10 ^ 18 / env.glpSupply * aumU env), hr, hfee, hf0, hf1, ?_, ?_, hout⟩
  · rw [e]; exact quantDown0_le hy
  · rw [e]; exact quantDown0_gt hy

/-- **same-bar round trip**: buying GLP with `a` tokens and selling any part `g' ≤ g` of the minted GLP for the same
    token in the same bar returns at most `a`. -/
theorem C17_v1_roundtrip_no_profit {env : Env} (he : EnvPos env) {s s1 s2 : State} {tok : String} {dec : Nat}
    {a g g' out : Rat}
    (hbuy : buyGlp NumCtx.exact env s tok dec a = (.ok g, s1))
    (hg' : 0 < g') (hle : g' ≤ g)
    (hsell : sellGlp NumCtx.exact env s1 tok dec g' = (.ok out, s2)) :
    out ≤ a := by
  simpa using Gmx.roundtrip_margin rnd_exact he hbuy hg' hle hsell

def Gmx.sellPieces (env : Env) (tok : String) (dec : Nat) : State → List Rat → Option (Rat × State)
  | s, [] => some (0, s)
  | s, p :: ps =>
    match sellGlp NumCtx.exact env s tok dec p with
    | (.ok out, s') => (Gmx.sellPieces env tok dec s' ps).map (fun x => (out + x.1, x.2))
    | (.error _, _) => none

theorem Gmx.sellPieces_le_value {env : Env} (he : EnvPos env) {tok : String} {dec : Nat} {r : TokenRow} (hr : env.row? tok = some r)
    (pieces : List Rat) (hpos : ∀ p ∈ pieces, 0 < p) (s s2 : State) (total : Rat)
    (h : Gmx.sellPieces env tok dec s pieces = some (total, s2)) :
    total * (r.price / 10 ^ 30) ≤ pieces.sum * (aumU env / env.glpSupply) := by
  induction pieces generalizing s total with
  | nil => simp only [Gmx.sellPieces, Option.some.injEq, Prod.mk.injEq] at h; rw [← h.1]; simp
  | cons p ps ih =>
    unfold Gmx.sellPieces at h
    cases hs : sellGlp NumCtx.exact env s tok dec p with
    | mk res s' =>
      rw [hs] at h
      cases res with
      | error e => simp at h
      | ok out =>
        simp only [] at h
        cases hrest : Gmx.sellPieces env tok dec s' ps with
        | none => rw [hrest] at h; simp at h
        | some x =>
          rw [hrest] at h
          obtain ⟨rfl, rfl⟩ := h
          obtain ⟨r', hr', _, h1⟩ := Gmx.sellGlp_value (g := p) he (by rw [if_neg (hpos p (List.mem_cons_self ..)).ne']) hs
          rw [hr] at hr'; cases hr'
          have h2 := ih (fun q m => hpos q (List.mem_cons_of_mem _ m)) s' x.1 (by rw [hrest])
          rw [List.sum_cons]
          calc (out + x.1) * (r.price / 10 ^ 30) = out * (r.price / 10 ^ 30) + x.1 * (r.price / 10 ^ 30) := by ring
            _ ≤ p * (aumU env / env.glpSupply) + ps.sum * (aumU env / env.glpSupply) := add_le_add h1 h2
            _ = (p + ps.sum) * (aumU env / env.glpSupply) := by ring

/-- **same-bar round trip, sold in pieces**: buy GLP with `a` tokens, then redeem it for the same token in ANY number of
    partial sales of any positive sizes adding up to at most the minted amount (other holdings may be in the account:
    the bound does not depend on the state): the tokens received in total never exceed `a`. -/
theorem C17_v1_roundtrip_in_pieces_no_profit {env : Env} (he : EnvPos env) {s s1 s2 : State} {tok : String} {dec : Nat}
    {a g total : Rat} (pieces : List Rat)
    (hbuy : buyGlp NumCtx.exact env s tok dec a = (.ok g, s1))
    (hpos : ∀ p ∈ pieces, 0 < p) (hsum : pieces.sum ≤ g)
    (hsell : Gmx.sellPieces env tok dec s1 pieces = some (total, s2)) :
    total ≤ a := by
  obtain ⟨r, hr, _, hb⟩ := Gmx.buyGlp_value he hbuy
  have hs := Gmx.sellPieces_le_value he hr pieces hpos s1 s2 total hsell
  have hP : 0 < r.price := he.price r (row_mem hr)
  have hp : 0 < r.price / 10 ^ 30 := by positivity
  have hV : 0 ≤ aumU env / env.glpSupply := div_nonneg (Gmx.aumU_nonneg he) (le_of_lt he.glpSupply)
  have : total * (r.price / 10 ^ 30) ≤ a * (r.price / 10 ^ 30) :=
    calc total * (r.price / 10 ^ 30) ≤ pieces.sum * (aumU env / env.glpSupply) := hs
      _ ≤ g * (aumU env / env.glpSupply) := mul_le_mul_of_nonneg_right hsum hV
      _ ≤ a * (r.price / 10 ^ 30) := hb
  exact le_of_mul_le_mul_right this hp

/-- **reward accrual**: one bar adds `interval × 60 × held / supply` to the pending reward (and nothing else changes);
    it is linear in the holding, i.e. pro rata to the share of the GLP supply. -/
theorem C17_v1_reward_pro_rata {env : Env} {s s' : State} {r : Rat}
    (h : update NumCtx.exact env s = (.ok r, s')) :
    r = env.interval * 60 * (s.glp / env.glpSupply) ∧ s'.reward = s.reward + r ∧ Gen.gmxRewardSeconds = 60 ∧
      s'.glp = s.glp ∧ s'.wallet = s.wallet ∧ s'.actions = s.actions := by
  rcases Gmx.update_cases NumCtx.exact env s with ⟨_, e, he⟩ | ⟨h0, _⟩
  · rw [he] at h; cases h
  · rw [Gmx.update_exact h0] at h
    obtain ⟨rfl, rfl⟩ := h
    exact ⟨rfl, rfl, rfl, rfl, rfl, rfl⟩

/-- **over-redemption is rejected and changes nothing** — for every arithmetic context. -/
theorem C17_v1_no_over_redeem (cx : NumCtx) (env : Env) (s : State) (tok : String) (dec : Nat) (g : Rat)
    (hg : s.glp < g) : sellGlp cx env s tok dec g = (.error .demeter, s) := by
  unfold sellGlp
  by_cases h0 : g = 0
  · subst h0
    simp only [if_true]
    rw [if_pos hg]
  · simp only [h0, if_false]
    by_cases hn : g < 0
    · rw [if_pos hn]
    · rw [if_neg hn, if_pos hg]

/-- an accepted sale pays out for at most the holding -/
theorem C17_v1_redeem_le_held {cx : NumCtx} {env : Env} {s s' : State} {tok : String} {dec : Nat} {ga out : Rat}
    (h : sellGlp cx env s tok dec ga = (.ok out, s')) :
    0 ≤ (if ga = 0 then s.glp else ga) ∧ (if ga = 0 then s.glp else ga) ≤ s.glp := by
  obtain ⟨h0, h1, _⟩ := Gmx.sellGlp_ok rfl h
  exact ⟨h0, h1⟩

/-- **the GLP holding never becomes negative**, whatever single operation is applied (accepted or rejected). -/
theorem C17_v1_holding_nonneg {env : Env} (he : EnvPos env) (s : State) (op : Op) (hs : 0 ≤ s.glp) :
    0 ≤ (step NumCtx.exact env s op).2.glp := by
  rcases Gmx.step_cases he s op with ⟨e, h⟩ | ⟨r, _, h⟩ | ⟨_, _, _, g, _, _, _, _, _, _, hg, _, _, h⟩ |
    ⟨_, _, _, g, _, _, _, _, _, _, hle, _, _, h⟩ <;> rw [h]
  exacts [hs, hs, add_nonneg hs hg, sub_nonneg.mpr hle]

/-- … and hence along every operation sequence on a frozen row. -/
theorem C17_v1_holding_nonneg_seq {env : Env} (he : EnvPos env) (ops : List Op) (s : State) (hs : 0 ≤ s.glp) :
    0 ≤ (ops.foldl (fun st op => (step NumCtx.exact env st op).2) s).glp := by
  exact List.foldlRecOn (motive := fun st => 0 ≤ st.glp) ops _ hs (fun st h op _ => C17_v1_holding_nonneg he st op h)

theorem Gmx.demoEnv_pos : EnvPos Gmx.demoEnv where
  weight := by intro r hr; simp [Gmx.demoEnv] at hr; rcases hr with rfl | rfl <;> norm_num
  usdgSupply := by norm_num [Gmx.demoEnv]
  price := by intro r hr; simp [Gmx.demoEnv] at hr; rcases hr with rfl | rfl <;> norm_num
  glpSupply := by norm_num [Gmx.demoEnv]
  aum := by norm_num [Gmx.demoEnv]

/-- buying with 1 WETH is accepted (rebate branch: fee 13 bp), mints 1597.92 GLP … -/
theorem Gmx.demo_buy : (buyGlp NumCtx.exact Gmx.demoEnv Gmx.demoState "weth" 18 1).1 = .ok (39948 / 25) := by decide +kernel

example : ∃ s1, buyGlp NumCtx.exact Gmx.demoEnv Gmx.demoState "weth" 18 1 = (.ok (39948 / 25), s1) :=
  ⟨_, Prod.ext Gmx.demo_buy rfl⟩

/-- … and selling it back in the same bar is accepted (tax branch) and returns 0.99500481 WETH < 1 -/
theorem Gmx.demo_sell :
    (sellGlp NumCtx.exact Gmx.demoEnv (buyGlp NumCtx.exact Gmx.demoEnv Gmx.demoState "weth" 18 1).2 "weth" 18 (39948 / 25)).1
      = .ok (99500481 / 100000000) := by decide +kernel

example : (sellGlp NumCtx.exact Gmx.demoEnv (buyGlp NumCtx.exact Gmx.demoEnv Gmx.demoState "weth" 18 1).2 "weth" 18 (39948 / 25)).1
    = .ok (99500481 / 100000000) := Gmx.demo_sell

example : feeBps NumCtx.exact Gmx.demoEnv "weth" (10 ^ 21) true = .ok (13, .rebate) := by decide +kernel
example : feeBps NumCtx.exact Gmx.demoEnv "weth" (10 ^ 21) false = .ok (37, .tax) := by decide +kernel

example : (update NumCtx.exact Gmx.demoEnv { Gmx.demoState with glp := 8 }).1 = .ok (3 / 50000000) := by decide +kernel

example : (sellGlp NumCtx.exact Gmx.demoEnv { Gmx.demoState with glp := 8 } "weth" 18 80).1 = .error .demeter := by decide +kernel

example : ((Gmx.sellPieces Gmx.demoEnv "weth" 18 (buyGlp NumCtx.exact Gmx.demoEnv Gmx.demoState "weth" 18 1).2 [1000, 14948 / 25]).map (·.1)).isSome = true := by
  decide +kernel

end Demeter
