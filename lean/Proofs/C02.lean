/-
  C02 — no look-ahead: bars 0..k depend only on the data of bars 0..k.

  Model: Demeter/Actuator/Causal.lean.  The bar loop is a fold over the supplied history whose per-bar *view* is what the
  code reads at bar k; one bar of the loop (strategy hooks, triggers, market updates, account row, notify) is an arbitrary
  function of the state so far and the view — so the theorem holds for every strategy, every market and every
  configuration.  For the abstract-market bar loop of Demeter/Actuator.lean the same is proved with the list of bars as an
  argument (`C02_actuator_*`); `run` picks its bars from the whole frames, and what holds of it is in Proofs/C02/DrivingMarket.lean.

  Not in the model (decided by measurement in harness/c02.py, labelled so): that the implementation's lookups *are* these
  views (two-suffix runs of the real Actuator) and that the supplied pandas frames are not mutated in place (hashing).
-/
import Demeter.Actuator.Causal
import Proofs.Lemmas.CoreCausal
import Proofs.Lemmas.CoreTrig
namespace Demeter
open Core

def Core.ViewFn.Local {D V : Type} (v : ViewFn D V) : Prop :=
  ∀ (h₁ h₂ : List D) (k : Nat), h₁.take (k + 1) = h₂.take (k + 1) → v h₁ k = v h₂ k

theorem core_getElem?_of_take {D : Type} {h₁ h₂ : List D} {n j : Nat} (h : h₁.take n = h₂.take n) (hj : j < n) :
    h₁[j]? = h₂[j]? := by
  rw [← List.getElem?_take_of_lt hj, h, List.getElem?_take_of_lt hj]

theorem C02_row_view_local {D : Type} : (rowView : ViewFn D (Option D)).Local := by
  intro h₁ h₂ k h
  exact core_getElem?_of_take h (Nat.lt_succ_self k)

/-- Uniswap's `price` column (`close.shift(1)`, first bar from its own open) reads bar k-1 (bar 0 for k = 0) -/
theorem C02_shift_view_local {D E : Type} (openOf closeOf : D → E) : (shiftView openOf closeOf).Local := by
  intro h₁ h₂ k h
  cases k with
  | zero => simp only [shiftView]; rw [core_getElem?_of_take h (Nat.lt_succ_self 0)]
  | succ j => simp only [shiftView]; rw [core_getElem?_of_take h (Nat.lt_succ_of_le (Nat.le_succ j))]

/-- Squeeth's TWAP window ends at the current bar -/
theorem C02_twap_view_local {D : Type} (ts : D → Int) : (twapView ts).Local := by
  intro h₁ h₂ k h
  simp only [twapView]
  rw [core_getElem?_of_take h (Nat.lt_succ_self k), h]

/-- the window is exactly the rows of bars `j ≤ k` not older than 6 minutes = `TWAP_PERIOD − 1` with `TWAP_PERIOD = 7` -/
theorem C02_twap_window_is_last_7_minutes {D : Type} (ts : D → Int) (h : List D) (k : Nat) (d : D) (hk : h[k]? = some d) (x : D) :
    Gen.coreTwapPeriodMin = 7 ∧ (x ∈ twapView ts h k ↔ x ∈ h.take (k + 1) ∧ ts d - 360 ≤ ts x) := by
  refine ⟨rfl, ?_⟩
  simp only [twapView, hk, List.mem_filter]
  constructor
  · rintro ⟨h1, h2⟩
    have := of_decide_eq_true h2
    simp only [Gen.coreTwapPeriodMin] at this
    exact ⟨h1, by omega⟩
  · rintro ⟨h1, h2⟩
    refine ⟨h1, decide_eq_true ?_⟩
    simp only [Gen.coreTwapPeriodMin]
    omega

/-- Deribit's hourly row is looked up among bars 0..k -/
theorem C02_hour_view_local {D : Type} (ts : D → Int) : (hourView ts).Local := by
  intro h₁ h₂ k h
  simp only [hourView]
  rw [core_getElem?_of_take h (Nat.lt_succ_self k), h]

/-- against Deribit's own frame: the lookup at a bar with time `now` reads only rows stamped `≤ now` — two books that agree on
    those rows give the same answer -/
theorem C02_hour_lookup_reads_past_only {R : Type} (b₁ b₂ : List (Int × R)) (now : Int)
    (h : b₁.filter (fun x => decide (x.1 ≤ now)) = b₂.filter (fun x => decide (x.1 ≤ now))) :
    hourLookup b₁ now = hourLookup b₂ now := by
  -- the row looked for is stamped `≤ now`, so rows stamped later can be dropped first
  have key : ∀ b : List (Int × R), hourLookup b now = (b.filter (fun x => decide (x.1 ≤ now))).find? (fun x => x.1 == now - now % 3600) := by
    intro b
    rw [List.find?_filter]
    unfold hourLookup
    congr 1
    funext x
    by_cases hx : x.1 = now - now % 3600
    · simp [hx, Int.emod_nonneg now (by norm_num : (3600 : Int) ≠ 0)]
    · simp [hx]
  rw [key b₁, key b₂, h]

theorem C02_pair_view_local {D V W : Type} (v : ViewFn D V) (w : ViewFn D W) (hv : v.Local) (hw : w.Local) :
    (pairView v w).Local := by
  intro h₁ h₂ k h
  simp only [pairView, hv h₁ h₂ k h, hw h₁ h₂ k h]

/-- a view that peeks one bar ahead is *not* local: the hypothesis of the main theorem excludes something -/
theorem C02_peeking_view_not_local : ¬ ViewFn.Local (fun (h : List Nat) k => h[k + 1]? : ViewFn Nat (Option Nat)) := by
  intro hl
  have := hl [0, 1] [0, 2] 0 rfl
  simp at this

/-- `resample(freq).first()`: the coarse bars 0..j are determined by the raw rows of bins 0..j (raw rows in time order) -/
theorem C02_resample_first_prefix {D : Type} (bin : D → Nat) (pre suf₁ suf₂ : List D) (j n₁ n₂ : Nat)
    (h₁ : ∀ x ∈ suf₁, j < bin x) (h₂ : ∀ x ∈ suf₂, j < bin x) (hn₁ : j < n₁) (hn₂ : j < n₂) :
    (coarsen bin (pre ++ suf₁) n₁).take (j + 1) = (coarsen bin (pre ++ suf₂) n₂).take (j + 1) := by
  apply List.ext_getElem?
  intro i
  simp only [coarsen, List.getElem?_take, List.getElem?_map]
  by_cases hi : i < j + 1
  · simp only [hi, if_true]
    rw [List.getElem?_range (by omega : i < n₁), List.getElem?_range (by omega : i < n₂)]
    simp only [Option.map_some, List.find?_append]
    have s : ∀ suf : List D, (∀ x ∈ suf, j < bin x) → suf.find? (fun x => bin x == i) = none := fun suf h => by
      apply List.find?_eq_none.mpr; intro x hx; have := h x hx; simp; omega
    rw [s suf₁ h₁, s suf₂ h₂]
  · simp [hi]

def Core.Loop.stateAfter {D V S O : Type} (L : Loop D V S O) (h : List D) : Nat → Nat → S → S
  | 0, _, s => s
  | n + 1, k, s => L.stateAfter h n (k + 1) (L.step s k (L.view h k)).1

theorem core_runFrom_take {D V S O : Type} (L : Loop D V S O) (h₁ h₂ : List D) :
    ∀ (m n₁ n₂ k : Nat) (s : S), m ≤ n₁ → m ≤ n₂ → (∀ j, k ≤ j → j < k + m → L.view h₁ j = L.view h₂ j) →
      (L.runFrom h₁ n₁ k s).take m = (L.runFrom h₂ n₂ k s).take m ∧ L.stateAfter h₁ m k s = L.stateAfter h₂ m k s
  | 0, _, _, _, _, _, _, _ => by simp [Loop.stateAfter]
  | m + 1, n₁ + 1, n₂ + 1, k, s, h1, h2, hv => by
    have e := hv k (le_refl k) (by omega)
    have ih := core_runFrom_take L h₁ h₂ m n₁ n₂ (k + 1) (L.step s k (L.view h₂ k)).1 (by omega) (by omega)
      (fun j hj1 hj2 => hv j (by omega) (by omega))
    simp only [Loop.runFrom, Loop.stateAfter, List.take_succ_cons, e]
    exact ⟨congrArg _ ih.1, ih.2⟩

theorem core_local_on_prefix {D V : Type} {v : ViewFn D V} (hloc : v.Local) (pre suf₁ suf₂ : List D) (j : Nat) (hj : j < pre.length) :
    v (pre ++ suf₁) j = v (pre ++ suf₂) j := by
  apply hloc
  rw [List.take_append_of_le_length (by omega), List.take_append_of_le_length (by omega)]

/-- **C02.**  For every loop whose view is local — every strategy, every market behaviour, every configuration, all of it
    inside `step` — and any two histories that agree on their first `pre.length` bars, the outputs (account rows, recorded
    actions, snapshots handed to the strategy) of those bars are identical, whatever comes later. -/
theorem C02_prefix {D V S O : Type} (L : Loop D V S O) (hloc : L.view.Local) (pre suf₁ suf₂ : List D) (s0 : S) :
    (L.run (pre ++ suf₁) s0).take pre.length = (L.run (pre ++ suf₂) s0).take pre.length := by
  unfold Loop.run
  exact (core_runFrom_take L _ _ pre.length _ _ 0 s0 (by simp) (by simp)
    (fun j _ hj => core_local_on_prefix hloc pre suf₁ suf₂ j (by omega))).1

/-- the same for every single bar `k` of the common prefix (all `k` at once) -/
theorem C02_prefix_each_bar {D V S O : Type} (L : Loop D V S O) (hloc : L.view.Local) (pre suf₁ suf₂ : List D) (s0 : S)
    (k : Nat) (hk : k < pre.length) : (L.run (pre ++ suf₁) s0)[k]? = (L.run (pre ++ suf₂) s0)[k]? :=
  core_getElem?_of_take (C02_prefix L hloc pre suf₁ suf₂ s0) hk

theorem C02_state_prefix {D V S O : Type} (L : Loop D V S O) (hloc : L.view.Local) (pre suf₁ suf₂ : List D) (s0 : S) :
    L.stateAfter (pre ++ suf₁) pre.length 0 s0 = L.stateAfter (pre ++ suf₂) pre.length 0 s0 :=
  (core_runFrom_take L _ _ pre.length pre.length pre.length 0 s0 (le_refl _) (le_refl _)
    (fun j _ hj => core_local_on_prefix hloc pre suf₁ suf₂ j (by omega))).2

/-- `runBars_agree` under the property's name: the bar loop consults the supplied data (market frames, price frame, resampled
    or not) only through the rows of the bars it visits: two configurations that supply the same data for the bars `bars` (`AgreeAt`: same price row, and per market
    the same `is_open`, the same row and the same open callback) produce the same trace, rows, actions and final state —
    whatever else their frames contain (in particular: later rows) -/
theorem C02_actuator_reads_own_bars_only (c₁ c₂ : Cfg) (sc : Script) (bars : List Int) (row : Nat) (st : St)
    (h : ∀ t ∈ bars, AgreeAt c₁ c₂ t) : runBars c₁ sc row bars st = runBars c₂ sc row bars st :=
  runBars_agree c₁ c₂ sc bars row st h

/-- **C02 for the bar loop of Demeter/Actuator.lean.**  Two runs whose bar indexes share the prefix `pre` and whose data agree
    on the bars of `pre` have the same call trace (hook calls with their snapshots, refreshes, operations and their outcomes,
    recorded actions, account rows, notifications) for those bars, and are in the same state after them — whatever comes later. -/
theorem C02_actuator_prefix (c₁ c₂ : Cfg) (sc : Script) (pre suf₁ suf₂ : List Int) (row : Nat) (st : St)
    (hag : ∀ t ∈ pre, AgreeAt c₁ c₂ t) (hok : (runBars c₁ sc row pre st).2.2 = none) :
    ∃ later₁ later₂,
      (runBars c₁ sc row (pre ++ suf₁) st).1 = (runBars c₁ sc row pre st).1 ++ later₁ ∧
      (runBars c₂ sc row (pre ++ suf₂) st).1 = (runBars c₁ sc row pre st).1 ++ later₂ ∧
      later₁ = (runBars c₁ sc (row + pre.length) suf₁ (runBars c₁ sc row pre st).2.1).1 ∧
      later₂ = (runBars c₂ sc (row + pre.length) suf₂ (runBars c₁ sc row pre st).2.1).1 := by
  have e := runBars_agree c₁ c₂ sc pre row st hag
  have hok₂ : (runBars c₂ sc row pre st).2.2 = none := by rw [← e]; exact hok
  refine ⟨_, _, ?_, ?_, rfl, rfl⟩
  · rw [runBars_append, andThen_ok hok]
  · rw [runBars_append, andThen_ok hok₂, ← e]

/-- **C02 — the triggers' state is causal too.**  After the bars `pre` (of a run that got through them) the installed trigger objects — with
    their private state: `PeriodTrigger._next_match`, `PeriodsTrigger._next_matches`, who has been retired — are exactly what the pure trigger
    fold `trigRun` leaves over the timestamps of `pre`: a function of the bars visited so far and the triggers as installed, and of nothing
    else — not of the market data, the prices, what the hooks do (from `notify` included), nor of any later bar. -/
theorem C02_trigger_state_after_k_bars (cfg : Cfg) (sc : Script) (pre : List Int) (row : Nat) (st : St)
    (hok : (runBars cfg sc row pre st).2.2 = none) :
    (runBars cfg sc row pre st).2.1.trigs = (trigRun pre st.trigs).2.1 ∧
    (runBars cfg sc row pre st).1.filterMap fireOfEv = (trigRun pre st.trigs).1 :=
  ⟨(runBars_trig cfg sc pre row st hok).2.1, (runBars_trig cfg sc pre row st hok).1⟩

/-- … hence two runs over different data, different scripts and different futures that share the bar prefix `pre` hold identical trigger
    objects after it and have called the same trigger actions on the same bars -/
theorem C02_trigger_state_prefix (c₁ c₂ : Cfg) (sc₁ sc₂ : Script) (pre : List Int) (row₁ row₂ : Nat) (st₁ st₂ : St)
    (htr : st₁.trigs = st₂.trigs)
    (h₁ : (runBars c₁ sc₁ row₁ pre st₁).2.2 = none) (h₂ : (runBars c₂ sc₂ row₂ pre st₂).2.2 = none) :
    (runBars c₁ sc₁ row₁ pre st₁).2.1.trigs = (runBars c₂ sc₂ row₂ pre st₂).2.1.trigs ∧
    (runBars c₁ sc₁ row₁ pre st₁).1.filterMap fireOfEv = (runBars c₂ sc₂ row₂ pre st₂).1.filterMap fireOfEv := by
  obtain ⟨a1, a2⟩ := C02_trigger_state_after_k_bars c₁ sc₁ pre row₁ st₁ h₁
  obtain ⟨b1, b2⟩ := C02_trigger_state_after_k_bars c₂ sc₂ pre row₂ st₂ h₂
  rw [a1, a2, b1, b2, htr]
  exact ⟨rfl, rfl⟩

/-- the row a frame supplies for the bar `ts` (first row of `[ts, ts + Δ)` after resampling, the row stamped `ts` otherwise) depends on
    the raw rows `< ts + Δ` only -/
theorem C02_frame_row_reads_own_bin_only (resample : Bool) (Δ ts : Int) (hΔ : 0 < Δ) (pre suf₁ suf₂ : List Int)
    (h₁ : ∀ x ∈ suf₁, ts + Δ ≤ x) (h₂ : ∀ x ∈ suf₂, ts + Δ ≤ x) :
    frameSrc resample Δ (pre ++ suf₁) ts = frameSrc resample Δ (pre ++ suf₂) ts := by
  unfold frameSrc
  cases resample with
  | true =>
    simp only [if_true, List.find?_append]
    have s : ∀ suf : List Int, (∀ x ∈ suf, ts + Δ ≤ x) → suf.find? (fun t => decide (ts ≤ t) && decide (t < ts + Δ)) = none :=
      fun suf h => by apply List.find?_eq_none.mpr; intro x hx; have := h x hx; simp; omega
    rw [s suf₁ h₁, s suf₂ h₂]
  | false =>
    have c : ∀ suf : List Int, (∀ x ∈ suf, ts + Δ ≤ x) → (pre ++ suf).contains ts = pre.contains ts := fun suf h => by
      have : ts ∉ suf := fun hx => by have := h ts hx; omega
      simp [this]
    simp only [Bool.false_eq_true, if_false, c suf₁ h₁, c suf₂ h₂]

def Core.exLoop : Loop (Int × Nat × Nat) (Option (Int × Nat × Nat) × Option Nat) (List Nat) (Nat × List Nat) :=
  { view := pairView rowView (shiftView (fun d => d.2.1) (fun d => d.2.2)),
    step := fun s k v => (s ++ v.2.toList, (k, s ++ v.2.toList)) }

example : Core.exLoop.view.Local := C02_pair_view_local _ _ C02_row_view_local (C02_shift_view_local _ _)

example : Core.exLoop.run [(0, 10, 11), (60, 11, 12), (120, 12, 9)] [] = [(0, [10]), (1, [10, 11]), (2, [10, 11, 12])] := by decide

example : (Core.exLoop.run ([(0, 10, 11), (60, 11, 12)] ++ [(120, 12, 9)]) []).take 2 =
    (Core.exLoop.run ([(0, 10, 11), (60, 11, 12)] ++ [(120, 500, 1), (180, 1, 1)]) []).take 2 :=
  C02_prefix Core.exLoop (C02_pair_view_local _ _ C02_row_view_local (C02_shift_view_local _ _))
    [(0, 10, 11), (60, 11, 12)] [(120, 12, 9)] [(120, 500, 1), (180, 1, 1)] []

def Core.exC1 : Cfg := ⟨[{ idx := [0, 60, 120], openCb := false }], [0, 60, 120], 60, false⟩
def Core.exC2 : Cfg := ⟨[{ idx := [0, 60, 180, 240], openCb := false }], [0, 60, 180, 240], 60, false⟩

example : ∀ t ∈ [(0 : Int), 60], AgreeAt Core.exC1 Core.exC2 t := by decide

example : ¬ AgreeAt Core.exC1 Core.exC2 120 := by decide

end Demeter
