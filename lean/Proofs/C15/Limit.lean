/-
  C15, limit orders at operation level — an accepted order that names a price (`price_in_token`, or `price_in_usd`
  converted with the instrument's underlying price) is exactly ONE fill, of the whole amount rounded to the contract
  step, at a level of the side the order is matched against (the normalised side, under the mark-price cap) whose
  price is within ±0.1 % of the requested price and which displays at least that amount.  That the order is one fill
  (and is charged once) needs the prices of the matched side to be distinct (`Deal.side_nodup`).
  Exact arithmetic (`DCtx.exact`: Decimal arithmetic exact, `Decimal(str(float)) = float`).
-/
import Proofs.C15
namespace Demeter
open Demeter.Deribit

namespace Deribit

@[simp] theorem normInstr_underlying (cx : DCtx) (i : Instr) : (normInstr cx i).underlying = i.underlying := rfl

end Deribit

/-- **a limit buy fills exactly the rounded amount, once, at one ask within ±0.1 % of the requested price**
    (exact arithmetic).  `p` is the requested price: `price_in_token`, else `price_in_usd / underlying_price`;
    `l` is a level of the normalised asks (under the mark-price cap if one is given) that displays at least the amount. -/
theorem C15_limit_fills_exactly_buy (c : TokenCfg) (s s' : DState) (r : Req) (fills : List Fill) (fee : Rat)
    (hlim : r.isLimit) (h : buy DCtx.exact c s r = (.ok (.trade fills fee), s')) :
    ∃ ins p, findInstr s.book r.name = some ins ∧
      (∀ t, r.priceTok = some t → p = t) ∧
      (∀ u, r.priceTok = none → r.priceUsd = some u → ins.underlying ≠ 0 ∧ p = u / ins.underlying) ∧
      ∃ l ∈ normSide DCtx.exact true ins.asks,
        fills = [⟨l.price, roundDec c.tradeExp r.amount⟩] ∧
        (1 - 1 / 1000) * p < l.price ∧ l.price < (1 + 1 / 1000) * p ∧
        roundDec c.tradeExp r.amount ≤ l.size ∧ (∀ m, r.mult = some m → l.price < m * ins.mark) := by
  obtain ⟨d, rfl, rfl, rfl⟩ := trade_deal (isBuy := true) h
  obtain ⟨p, l, ht, hu, hla, hl, hfills, h1, h2, hle⟩ := d.limit hlim
  refine ⟨d.ins, p, d.find, ht, hu, l, hl, hfills, h1, h2, hle, fun m hm => ?_⟩
  simp only [d.avail_buy, availAsks, hm, normInstr_asks, normInstr_mark, exact_num, NumCtx.exact_mul] at hla
  exact of_decide_eq_true (List.mem_filter.mp hla).2

/-- **a limit sell fills exactly the rounded amount, once, at one bid within ±0.1 % of the requested price** -/
theorem C15_limit_fills_exactly_sell (c : TokenCfg) (s s' : DState) (r : Req) (fills : List Fill) (fee : Rat)
    (hlim : r.isLimit) (h : sell DCtx.exact c s r = (.ok (.trade fills fee), s')) :
    ∃ ins p, findInstr s.book r.name = some ins ∧
      (∀ t, r.priceTok = some t → p = t) ∧
      (∀ u, r.priceTok = none → r.priceUsd = some u → ins.underlying ≠ 0 ∧ p = u / ins.underlying) ∧
      ∃ l ∈ normSide DCtx.exact false ins.bids,
        fills = [⟨l.price, roundDec c.tradeExp r.amount⟩] ∧
        (1 - 1 / 1000) * p < l.price ∧ l.price < (1 + 1 / 1000) * p ∧
        roundDec c.tradeExp r.amount ≤ l.size ∧ (∀ m, r.mult = some m → m ≠ 0 ∧ ins.mark / m < l.price) := by
  obtain ⟨d, rfl, rfl, rfl⟩ := trade_deal (isBuy := false) h
  obtain ⟨p, l, ht, hu, hla, hl, hfills, h1, h2, hle⟩ := d.limit hlim
  refine ⟨d.ins, p, d.find, ht, hu, l, hl, hfills, h1, h2, hle, fun m hm => ?_⟩
  obtain ⟨hm0, hav⟩ := availBids_cap (hm ▸ d.avail_sell)
  rw [hav] at hla
  exact ⟨hm0, of_decide_eq_true (List.mem_filter.mp hla).2⟩

/-- **a limit-priced buy fills at a level within ±0.1 % of the requested price**, only if that level shows at least the
    (rounded) amount, and as exactly one fill of that amount (the `price_in_token` buy case of `C15_limit_fills_exactly_buy`) -/
theorem C15_limit_price_within_tolerance (c : TokenCfg) (s s' : DState) (r : Req) (p : Rat) (fills : List Fill) (fee : Rat)
    (hp : r.priceTok = some p) (h : buy DCtx.exact c s r = (.ok (.trade fills fee), s')) :
    ∃ ins l, findInstr s.book r.name = some ins ∧ l ∈ normSide DCtx.exact true ins.asks ∧
      (1 - 1 / 1000) * p < l.price ∧ l.price < (1 + 1 / 1000) * p ∧ roundDec c.tradeExp r.amount ≤ l.size ∧
      fills = [⟨l.price, roundDec c.tradeExp r.amount⟩] := by
  obtain ⟨ins, q, hf, ht, _, l, hl, hfills, h1, h2, h3, _⟩ :=
    C15_limit_fills_exactly_buy c s s' r fills fee (Or.inl (by simp [hp])) h
  have hq := ht p hp
  subst hq
  exact ⟨ins, l, hf, hl, h1, h2, h3, hfills⟩

theorem C15_limit_buy_fills_rounded_amount (c : TokenCfg) (s s' : DState) (r : Req) (fills : List Fill) (fee : Rat)
    (hlim : r.isLimit) (h : buy DCtx.exact c s r = (.ok (.trade fills fee), s')) :
    fillSum fills = roundDec c.tradeExp r.amount := by
  obtain ⟨_, _, _, _, _, l, _, hf, _⟩ := C15_limit_fills_exactly_buy c s s' r fills fee hlim h
  rw [hf]; simp [fillSum]

theorem C15_limit_sell_fills_rounded_amount (c : TokenCfg) (s s' : DState) (r : Req) (fills : List Fill) (fee : Rat)
    (hlim : r.isLimit) (h : sell DCtx.exact c s r = (.ok (.trade fills fee), s')) :
    fillSum fills = roundDec c.tradeExp r.amount := by
  obtain ⟨_, _, _, _, _, l, _, hf, _⟩ := C15_limit_fills_exactly_sell c s s' r fills fee hlim h
  rw [hf]; simp [fillSum]

/-- **every accepted buy — market or limit — fills exactly the requested amount rounded to the contract step**
    (non-negative displayed sizes) -/
theorem C15_buy_fills_rounded_amount (c : TokenCfg) (s s' : DState) (r : Req) (fills : List Fill) (fee : Rat)
    (hb : BookInv s.book) (h : buy DCtx.exact c s r = (.ok (.trade fills fee), s')) :
    fillSum fills = roundDec c.tradeExp r.amount := by
  obtain ⟨d, rfl, rfl, rfl⟩ := trade_deal (isBuy := true) h
  exact (d.exact_fills hb).1

/-- **every accepted sell — market or limit — fills exactly the rounded amount** -/
theorem C15_sell_fills_rounded_amount (c : TokenCfg) (s s' : DState) (r : Req) (fills : List Fill) (fee : Rat)
    (hb : BookInv s.book) (h : sell DCtx.exact c s r = (.ok (.trade fills fee), s')) :
    fillSum fills = roundDec c.tradeExp r.amount := by
  obtain ⟨d, rfl, rfl, rfl⟩ := trade_deal (isBuy := false) h
  exact (d.exact_fills hb).1

/-- **an accepted order is for a positive number of contracts**: `check_transaction` refuses amounts below one contract
    step, and rounding (half up) an amount of at least one step to the step does not give zero -/
theorem C15_accepted_amount_positive (c : TokenCfg) (s s' : DState) (r : Req) (res : Res) :
    (buy DCtx.exact c s r = (.ok res, s') → 0 < roundDec c.tradeExp r.amount) ∧
    (sell DCtx.exact c s r = (.ok res, s') → 0 < roundDec c.tradeExp r.amount) :=
  ⟨fun h => (trade_ok (isBuy := true) h).elim fun d _ => d.amount_pos,
    fun h => (trade_ok (isBuy := false) h).elim fun d _ => d.amount_pos⟩

/-- position after any accepted buy, market or limit (non-negative displayed sizes): `a = round(amount) > 0` contracts are
    added, the average buy price is size-weighted -/
theorem C15_buy_position_total (c : TokenCfg) (s s' : DState) (r : Req) (fills : List Fill) (fee : Rat)
    (hb : BookNonneg s.book) (h : buy DCtx.exact c s r = (.ok (.trade fills fee), s')) :
    fillSum fills = roundDec c.tradeExp r.amount ∧ 0 < roundDec c.tradeExp r.amount ∧
    ∃ p', AList.get? s'.positions r.name = some p' ∧
      match AList.get? s.positions r.name with
      | none => p'.amount = fillSum fills ∧ p'.buyAmt = fillSum fills ∧ p'.avgBuy = fillCost fills / fillSum fills ∧
                p'.sellAmt = 0 ∧ p'.name = r.name
      | some p => p'.amount = p.amount + fillSum fills ∧ p'.buyAmt = p.buyAmt + fillSum fills ∧
                (p.buyAmt + fillSum fills ≠ 0 →
                  p'.avgBuy = (p.avgBuy * p.buyAmt + fillCost fills) / (p.buyAmt + fillSum fills)) := by
  have hfs := C15_buy_fills_rounded_amount c s s' r fills fee hb h
  have hpos := (C15_accepted_amount_positive c s s' r _).1 h
  exact ⟨hfs, hpos, C15_buy_position c s s' r fills fee h hfs⟩

theorem C15_sell_avg_price_total (c : TokenCfg) (s s' : DState) (r : Req) (fills : List Fill) (fee : Rat)
    (hb : BookNonneg s.book) (h : sell DCtx.exact c s r = (.ok (.trade fills fee), s')) :
    fillSum fills = roundDec c.tradeExp r.amount ∧ 0 < roundDec c.tradeExp r.amount ∧
    ∃ p, AList.get? s.positions r.name = some p ∧
      (p.amount - fillSum fills ≤ 0 → s'.positions = AList.erase s.positions r.name) ∧
      (¬ p.amount - fillSum fills ≤ 0 → ∃ p', AList.get? s'.positions r.name = some p' ∧
        p'.amount = p.amount - fillSum fills ∧ p'.sellAmt = p.sellAmt + fillSum fills ∧
        (p.sellAmt + fillSum fills ≠ 0 →
          p'.avgSell = (p.avgSell * p.sellAmt + fillCost fills) / (p.sellAmt + fillSum fills))) := by
  have hfs := C15_sell_fills_rounded_amount c s s' r fills fee hb h
  have hpos := (C15_accepted_amount_positive c s s' r _).2 h
  exact ⟨hfs, hpos, C15_sell_avg_price c s s' r fills fee h hfs⟩

/-- position after a limit buy: one fill of
    `a = round(amount)` at the level price `q`; a fresh position holds `a` at average `q`, an existing one grows by `a`
    and averages `(old avg × old bought + a × q) / (old bought + a)` -/
theorem C15_buy_position_limit (c : TokenCfg) (s s' : DState) (r : Req) (fills : List Fill) (fee : Rat)
    (hlim : r.isLimit) (h : buy DCtx.exact c s r = (.ok (.trade fills fee), s')) :
    ∃ q, fills = [⟨q, roundDec c.tradeExp r.amount⟩] ∧
    ∃ p', AList.get? s'.positions r.name = some p' ∧
      match AList.get? s.positions r.name with
      | none => p'.amount = roundDec c.tradeExp r.amount ∧ p'.buyAmt = roundDec c.tradeExp r.amount ∧ p'.avgBuy = q ∧
                p'.sellAmt = 0 ∧ p'.name = r.name
      | some p => p'.amount = p.amount + roundDec c.tradeExp r.amount ∧
                p'.buyAmt = p.buyAmt + roundDec c.tradeExp r.amount ∧
                (p.buyAmt + roundDec c.tradeExp r.amount ≠ 0 →
                  p'.avgBuy = (p.avgBuy * p.buyAmt + roundDec c.tradeExp r.amount * q) /
                    (p.buyAmt + roundDec c.tradeExp r.amount)) := by
  obtain ⟨_, _, _, _, _, l, _, hf, _⟩ := C15_limit_fills_exactly_buy c s s' r fills fee hlim h
  have hfs : fillSum fills = roundDec c.tradeExp r.amount := by rw [hf]; simp [fillSum]
  have hfc : fillCost fills = roundDec c.tradeExp r.amount * l.price := by rw [hf]; simp [fillCost]
  have hpos : roundDec c.tradeExp r.amount ≠ 0 := ((C15_accepted_amount_positive c s s' r _).1 h).ne'
  obtain ⟨p', hp', hm⟩ := C15_buy_position c s s' r fills fee h hfs
  refine ⟨l.price, hf, p', hp', ?_⟩
  rw [hfs, hfc] at hm
  cases hg : AList.get? s.positions r.name with
  | none =>
    rw [hg] at hm
    obtain ⟨h1, h2, h3, h4, h5⟩ := hm
    refine ⟨h1, h2, ?_, h4, h5⟩
    rw [h3]; exact mul_div_cancel_left₀ _ hpos
  | some p => rw [hg] at hm; exact hm

theorem C15_sell_avg_price_limit (c : TokenCfg) (s s' : DState) (r : Req) (fills : List Fill) (fee : Rat)
    (hlim : r.isLimit) (h : sell DCtx.exact c s r = (.ok (.trade fills fee), s')) :
    ∃ q, fills = [⟨q, roundDec c.tradeExp r.amount⟩] ∧
    ∃ p, AList.get? s.positions r.name = some p ∧
      (p.amount - roundDec c.tradeExp r.amount ≤ 0 → s'.positions = AList.erase s.positions r.name) ∧
      (¬ p.amount - roundDec c.tradeExp r.amount ≤ 0 → ∃ p', AList.get? s'.positions r.name = some p' ∧
        p'.amount = p.amount - roundDec c.tradeExp r.amount ∧ p'.sellAmt = p.sellAmt + roundDec c.tradeExp r.amount ∧
        (p.sellAmt + roundDec c.tradeExp r.amount ≠ 0 →
          p'.avgSell = (p.avgSell * p.sellAmt + roundDec c.tradeExp r.amount * q) /
            (p.sellAmt + roundDec c.tradeExp r.amount))) := by
  obtain ⟨_, _, _, _, _, l, _, hf, _⟩ := C15_limit_fills_exactly_sell c s s' r fills fee hlim h
  have hfs : fillSum fills = roundDec c.tradeExp r.amount := by rw [hf]; simp [fillSum]
  have hfc : fillCost fills = roundDec c.tradeExp r.amount * l.price := by rw [hf]; simp [fillCost]
  obtain ⟨p, hp, hm⟩ := C15_sell_avg_price c s s' r fills fee h hfs
  rw [hfs, hfc] at hm
  exact ⟨l.price, hf, p, hp, hm⟩

/-- **cash effect of a limit buy**: `a × q + fee` leaves the account, `fee = round(min(rate × a, 12.5 % × a × q))` -/
theorem C15_limit_buy_cost (c : TokenCfg) (s s' : DState) (r : Req) (fills : List Fill) (fee : Rat)
    (hlim : r.isLimit) (h : buy DCtx.exact c s r = (.ok (.trade fills fee), s')) :
    ∃ q, fills = [⟨q, roundDec c.tradeExp r.amount⟩] ∧
      s'.cash = s.cash - (roundDec c.tradeExp r.amount * q + fee) ∧ 0 ≤ s'.cash ∧
      fee = roundDec c.feeExp (min (c.tradeFee * roundDec c.tradeExp r.amount)
              (maxFeeRate * (roundDec c.tradeExp r.amount * q))) := by
  obtain ⟨_, _, _, _, _, l, _, hf, _⟩ := C15_limit_fills_exactly_buy c s s' r fills fee hlim h
  have hfc : fillCost fills = roundDec c.tradeExp r.amount * l.price := by rw [hf]; simp [fillCost]
  obtain ⟨h1, h2, h3, _⟩ := C15_buy_cost c s s' r fills fee h
  rw [hfc] at h1 h3
  exact ⟨l.price, hf, h1, h2, h3⟩

/-- **cash effect of a limit sell**: `a × q − fee` enters the account -/
theorem C15_limit_sell_proceeds (c : TokenCfg) (s s' : DState) (r : Req) (fills : List Fill) (fee : Rat)
    (hlim : r.isLimit) (h : sell DCtx.exact c s r = (.ok (.trade fills fee), s')) :
    ∃ q, fills = [⟨q, roundDec c.tradeExp r.amount⟩] ∧
      s'.cash = s.cash + (roundDec c.tradeExp r.amount * q - fee) ∧
      fee = roundDec c.feeExp (min (c.tradeFee * roundDec c.tradeExp r.amount)
              (maxFeeRate * (roundDec c.tradeExp r.amount * q))) := by
  obtain ⟨_, _, _, _, _, l, _, hf, _⟩ := C15_limit_fills_exactly_sell c s s' r fills fee hlim h
  have hfc : fillCost fills = roundDec c.tradeExp r.amount * l.price := by rw [hf]; simp [fillCost]
  obtain ⟨h1, h3, _⟩ := C15_sell_proceeds c s s' r fills fee h
  rw [hfc] at h1 h3
  exact ⟨l.price, hf, h1, h3⟩

section
open Deribit
def Deribit.exReqUsd (a u : Rat) : Req :=
  { name := "ETH-22SEP23-1650-C", amount := a, priceTok := none, priceUsd := some u, mult := none }

example : (exReq 7 (some (29005 / 1000000))).isLimit := Or.inl (by simp [exReq])
example : (exReqUsd 7 48).isLimit := Or.inr (by simp [exReqUsd])
-- 6.5 contracts at 0.029005 (0.029 is within 0.1 %): one fill of round(6.5) = 7 at 0.029
example : (buy DCtx.exact ethCfg exState (exReq (13 / 2) (some (29005 / 1000000)))).1 =
    .ok (.trade [⟨29 / 1000, 7⟩] (21 / 10000)) := by decide +kernel
-- priced in USD: 47.9 $ / 1651.94 = 0.028996…, within 0.1 % of the 0.029 ask
example : (buy DCtx.exact ethCfg exState (exReqUsd 7 (479 / 10))).1 = .ok (.trade [⟨29 / 1000, 7⟩] (21 / 10000)) := by
  decide +kernel
-- limit sell of what was bought: the 0.028 bid, in token and in USD (46.25 $ / 1651.94 = 0.0279974…)
example : (sell DCtx.exact ethCfg (buy DCtx.exact ethCfg exState (exReq 10 none)).2 (exReq (13 / 2) (some (28 / 1000)))).1 =
    .ok (.trade [⟨28 / 1000, 7⟩] (21 / 10000)) := by decide +kernel
example : (sell DCtx.exact ethCfg (buy DCtx.exact ethCfg exState (exReq 10 none)).2 (exReqUsd 7 (4625 / 100))).1 =
    .ok (.trade [⟨28 / 1000, 7⟩] (21 / 10000)) := by decide +kernel
-- outside the tolerance, or larger than the one matched level shows (the next level is not used): rejected
example : (buy DCtx.exact ethCfg exState (exReq 7 (some (2904 / 100000)))).1 = .error (.demeter "no-order-at-price") := by
  decide +kernel
example : (buy DCtx.exact ethCfg exState (exReq 6 (some (57 / 2000)))).1 = .error (.demeter "insufficient-depth") := by
  decide +kernel
example : roundDec ethCfg.tradeExp (13 / 2) ≠ 0 := by decide +kernel
end

end Demeter
