/-
  C15, sequences within a bar — `BookInv` (non-negative sizes; the raw sides may be unsorted and repeat a price, orders
  are matched against the normalised side) is kept by `runOps`, whatever buys and sells, accepted or rejected, a strategy
  issues between two refreshes of the book; hence every order of the sequence fills exactly its rounded amount
  (exact arithmetic).
-/
import Proofs.C15
namespace Demeter
open Demeter.Deribit

/-- **no level is overdrawn by one order**: after an accepted buy the asks are the normalised side (best first, one
    level per price) minus the fills; every level still shows a non-negative size, which is the old size minus what the
    fills took at that price — and the old size of a level is the total the raw data displays at that price -/
theorem C15_buy_never_overdraws (c : TokenCfg) (s s' : DState) (r : Req) (fills : List Fill) (fee : Rat)
    (hb : BookInv s.book) (h : buy DCtx.exact c s r = (.ok (.trade fills fee), s')) :
    ∃ ins, findInstr s.book r.name = some ins ∧
      s'.book = setAsks s.book r.name (newOrderList DCtx.exact (normSide DCtx.exact true ins.asks) fills) ∧
      (newOrderList DCtx.exact (normSide DCtx.exact true ins.asks) fills).map (·.size) =
        (normSide DCtx.exact true ins.asks).map (fun l => l.size - taken fills l.price) ∧
      (∀ l ∈ normSide DCtx.exact true ins.asks, taken fills l.price ≤ l.size ∧ l.size = rawAt ins.asks l.price) := by
  obtain ⟨d, rfl, rfl, rfl⟩ := trade_deal (isBuy := true) h
  exact ⟨d.ins, d.find, rfl, d.never_overdraws hb⟩

/-- **fills shrink the visible book until it is next refreshed, and never below zero**: along any sequence of
    operations inside a bar the book keeps non-negative sizes (the raw sides may be unsorted and repeat prices) -/
theorem C15_levels_never_overdrawn_in_a_bar (c : TokenCfg) (ops : List Op) (s : DState) (hb : BookInv s.book) :
    BookInv (runOps DCtx.exact c s ops).book :=
  runOps_bookInv c ops s hb

/-- … so the hypothesis of the fill-total theorems (non-negative displayed sizes) holds for *every* order of
    the sequence, not only the first: each accepted market buy in a bar fills exactly its rounded amount -/
theorem C15_every_order_of_a_sequence_fills_exactly (c : TokenCfg) (pre : List Op) (s s' : DState) (r : Req)
    (fills : List Fill) (fee : Rat) (hb : BookInv s.book) (hp : r.priceTok = none ∧ r.priceUsd = none)
    (h : buy DCtx.exact c (runOps DCtx.exact c s pre) r = (.ok (.trade fills fee), s')) :
    fillSum fills = roundDec c.tradeExp r.amount :=
  C15_buy_market_fills_rounded_amount c _ s' r fills fee (C15_levels_never_overdrawn_in_a_bar c pre s hb) hp h


example : BookInv Deribit.exState.book := by
  unfold BookInv; decide +kernel
example : ((runOps DCtx.exact ethCfg Deribit.exState
      [.buy (Deribit.exReq (19 / 2) none), .buy (Deribit.exReq 601 none)]).book.map (fun i => i.asks.map (·.size))) = [[0, 0, 196]] := by
  decide +kernel

end Demeter
