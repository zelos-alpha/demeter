/-
  C15, the bid side — an accepted sell rewrites the bids of its instrument (and nothing else of the book) to the
  normalised bids minus the fills; no bid level is drawn below zero; and inside a bar every accepted sell, whatever
  went before it, fills exactly its rounded amount (exact arithmetic; raw sides may be unsorted and repeat a price).
  The buy twin of the last, limit orders included, stands here too: it needs C15/Limit.lean, which C15/Seq.lean does not see.
-/
import Proofs.C15.Seq
import Proofs.C15.Limit
namespace Demeter
open Demeter.Deribit

/-- the book an accepted sell leaves is the old book with the bids of that instrument rewritten: the normalised side
    (best first, one level per price) minus the fills; the asks of every instrument are untouched (every context) -/
theorem C15_sell_book (cx : DCtx) (c : TokenCfg) (s s' : DState) (r : Req) (fills : List Fill) (fee : Rat)
    (h : sell cx c s r = (.ok (.trade fills fee), s')) :
    ∃ ins, findInstr s.book r.name = some ins ∧
      s'.book = setBids s.book r.name (newOrderList cx (normSide cx false ins.bids) fills) ∧
      s'.book.map (·.asks) = s.book.map (·.asks) := by
  obtain ⟨d, rfl, rfl, rfl⟩ := trade_deal (isBuy := false) h
  refine ⟨d.ins, d.find, rfl, ?_⟩
  rw [d.after_book, setSide_eq, List.map_map]
  apply List.map_congr_left
  intro i _
  simp only [Function.comp]
  split
  · exact i.withSide_other false _
  · rfl

/-- **no bid is overdrawn by one order**: after an accepted sell the bids are the normalised side minus the fills; every
    level still shows a non-negative size, which is the old size minus what the fills took at that price — and the old
    size of a level is the total the raw data displays at that price -/
theorem C15_sell_never_overdraws (c : TokenCfg) (s s' : DState) (r : Req) (fills : List Fill) (fee : Rat)
    (hb : BookInv s.book) (h : sell DCtx.exact c s r = (.ok (.trade fills fee), s')) :
    ∃ ins, findInstr s.book r.name = some ins ∧
      s'.book = setBids s.book r.name (newOrderList DCtx.exact (normSide DCtx.exact false ins.bids) fills) ∧
      (newOrderList DCtx.exact (normSide DCtx.exact false ins.bids) fills).map (·.size) =
        (normSide DCtx.exact false ins.bids).map (fun l => l.size - taken fills l.price) ∧
      (newOrderList DCtx.exact (normSide DCtx.exact false ins.bids) fills).map (·.price) =
        (normSide DCtx.exact false ins.bids).map (·.price) ∧
      (∀ l ∈ normSide DCtx.exact false ins.bids, taken fills l.price ≤ l.size ∧ l.size = rawAt ins.bids l.price) := by
  obtain ⟨d, rfl, rfl, rfl⟩ := trade_deal (isBuy := false) h
  obtain ⟨hsizes, hl⟩ := d.never_overdraws hb
  exact ⟨d.ins, d.find, rfl, hsizes, newOrderList_prices _ _ _, hl⟩

/-- **each accepted sell in a bar — market or limit, whatever buys and sells went before — fills exactly its rounded
    amount**: the non-negativity the fill-total theorem needs is an invariant of the bar -/
theorem C15_every_sell_of_a_sequence_fills_exactly (c : TokenCfg) (pre : List Op) (s s' : DState) (r : Req)
    (fills : List Fill) (fee : Rat) (hb : BookInv s.book)
    (h : sell DCtx.exact c (runOps DCtx.exact c s pre) r = (.ok (.trade fills fee), s')) :
    fillSum fills = roundDec c.tradeExp r.amount :=
  C15_sell_fills_rounded_amount c _ s' r fills fee (C15_levels_never_overdrawn_in_a_bar c pre s hb) h

/-- the same for buys, limit orders included (`C15_every_order_of_a_sequence_fills_exactly` is the market case) -/
theorem C15_every_buy_of_a_sequence_fills_exactly (c : TokenCfg) (pre : List Op) (s s' : DState) (r : Req)
    (fills : List Fill) (fee : Rat) (hb : BookInv s.book)
    (h : buy DCtx.exact c (runOps DCtx.exact c s pre) r = (.ok (.trade fills fee), s')) :
    fillSum fills = roundDec c.tradeExp r.amount :=
  C15_buy_fills_rounded_amount c _ s' r fills fee (C15_levels_never_overdrawn_in_a_bar c pre s hb) h

/-- … and a sell inside the sequence draws no bid below zero either -/
theorem C15_sell_in_a_sequence_never_overdraws (c : TokenCfg) (pre : List Op) (s s' : DState) (r : Req)
    (fills : List Fill) (fee : Rat) (hb : BookInv s.book)
    (h : sell DCtx.exact c (runOps DCtx.exact c s pre) r = (.ok (.trade fills fee), s')) :
    ∃ ins, findInstr (runOps DCtx.exact c s pre).book r.name = some ins ∧
      s'.book = setBids (runOps DCtx.exact c s pre).book r.name
        (newOrderList DCtx.exact (normSide DCtx.exact false ins.bids) fills) ∧
      ∀ l ∈ normSide DCtx.exact false ins.bids, taken fills l.price ≤ l.size := by
  obtain ⟨ins, hf, hbk, _, _, hl⟩ :=
    C15_sell_never_overdraws c _ s' r fills fee (C15_levels_never_overdrawn_in_a_bar c pre s hb) h
  exact ⟨ins, hf, hbk, fun l hl' => (hl l hl').1⟩

-- buy 60, then sell 55 (51 @ 0.028, 4 @ 0.0275): bids 51/585 become 0/581; asks as the buy left them
example : (sell DCtx.exact ethCfg (runOps DCtx.exact ethCfg Deribit.exState [.buy (Deribit.exReq 60 none)])
      (Deribit.exReq 55 none)).1 = .ok (.trade [⟨28 / 1000, 51⟩, ⟨55 / 2000, 4⟩] (165 / 10000)) := by decide +kernel
example : ((runOps DCtx.exact ethCfg Deribit.exState
      [.buy (Deribit.exReq 60 none), .sell (Deribit.exReq 55 none)]).book.map (fun i => (i.asks.map (·.size), i.bids.map (·.size)))) =
    [([0, 550, 197], [0, 581])] := by decide +kernel

end Demeter
