/-
  C15, books as the data files may hold them — rows of a side in any order, a price level split over several rows.
  `check_transaction` matches against `normalize_order_list(side)` (model: `normSide`, Demeter/Deribit.lean): that side
  is strictly best-first with one level per price, so "fills from the best price level outward" holds whatever the order
  of the rows.
-/
import Proofs.C15
namespace Demeter
open Demeter.Deribit

/-- **the side orders are matched against**: strictly best price first (asks ascending, bids descending), so one level
    per price; its prices are exactly the prices of the rows (every context) -/
theorem C15_normalised_side_best_first (cx : DCtx) (asc : Bool) (ls : List Level) :
    (normSide cx asc ls).Pairwise (fun a b => better asc a.price b.price = true) ∧
    (∀ p, p ∈ (normSide cx asc ls).map (·.price) ↔ p ∈ ls.map (·.price)) :=
  ⟨normSide_sortedLt cx asc ls, normSide_prices cx asc ls⟩

/-- … and each of its levels displays the total size the rows of that price display (exact arithmetic; with floats the
    sizes are added in row order with float addition, reproduced bit-exactly by the driver) -/
theorem C15_normalised_side_shows_total (asc : Bool) (ls : List Level) :
    ∀ y ∈ normSide DCtx.exact asc ls, y.size = rawAt ls y.price :=
  normSide_size asc ls

/-- a side already in the exchange's shape (strictly best-first) is matched as it stands -/
theorem C15_sorted_side_unchanged (cx : DCtx) (asc : Bool) (ls : List Level)
    (h : ls.Pairwise (fun a b => better asc a.price b.price = true)) : normSide cx asc ls = ls :=
  normSide_fixed h

theorem Deribit.Deal.market_best_first {cx : DCtx} {c : TokenCfg} {isBuy : Bool} {s : DState} {r : Req}
    (d : Deal cx c isBuy s r) (hp : r.priceTok = none ∧ r.priceUsd = none) :
    SortedLt isBuy d.avail ∧
      List.Forall₂ (fun (f : Fill) (l : Level) => f.price = cx.reprD l.price ∧ f.amount ≤ cx.reprD l.size) d.fills
        ((Deribit.nonEmpty d.avail).take d.fills.length) := by
  obtain ⟨f, hf⟩ := d.avail_eq
  refine ⟨hf ▸ List.Pairwise.filter f (normSide_sortedLt cx isBuy _), ?_⟩
  rcases d.matched with ⟨_, hpn, _⟩ | ⟨p, l, rest, hrp, _⟩
  · rw [d.fills_eq, hpn]
    exact C15_market_fills_prefix cx _ _
  · rw [reqPrice_none_iff.mpr hp] at hrp; cases hrp

/-- **a market buy fills from the best ask outward, whatever the order of the rows** (every context): the fills sit, in
    order, on an initial segment of the non-empty levels of the allowed asks, which are strictly ascending in price; each
    fill carries its level's printed price and takes no more than the level's printed size -/
theorem C15_market_buy_fills_best_first (cx : DCtx) (c : TokenCfg) (s s' : DState) (r : Req) (fills : List Fill) (fee : Rat)
    (hp : r.priceTok = none ∧ r.priceUsd = none) (h : buy cx c s r = (.ok (.trade fills fee), s')) :
    ∃ ins, findInstr s.book r.name = some ins ∧
      SortedLt true (availAsks cx (normInstr cx ins) r.mult) ∧
      List.Forall₂ (fun (f : Fill) (l : Level) => f.price = cx.reprD l.price ∧ f.amount ≤ cx.reprD l.size) fills
        ((Deribit.nonEmpty (availAsks cx (normInstr cx ins) r.mult)).take fills.length) := by
  obtain ⟨d, rfl, rfl, rfl⟩ := trade_deal (isBuy := true) h
  exact ⟨d.ins, d.find, d.avail_buy ▸ d.market_best_first hp⟩

/-- **a market sell fills from the best bid outward, whatever the order of the rows** -/
theorem C15_market_sell_fills_best_first (cx : DCtx) (c : TokenCfg) (s s' : DState) (r : Req) (fills : List Fill) (fee : Rat)
    (hp : r.priceTok = none ∧ r.priceUsd = none) (h : sell cx c s r = (.ok (.trade fills fee), s')) :
    ∃ ins bids, findInstr s.book r.name = some ins ∧ availBids cx (normInstr cx ins) r.mult = .ok bids ∧
      SortedLt false bids ∧
      List.Forall₂ (fun (f : Fill) (l : Level) => f.price = cx.reprD l.price ∧ f.amount ≤ cx.reprD l.size) fills
        ((Deribit.nonEmpty bids).take fills.length) := by
  obtain ⟨d, rfl, rfl, rfl⟩ := trade_deal (isBuy := false) h
  exact ⟨d.ins, d.avail, d.find, d.avail_sell, d.market_best_first hp⟩

-- the books of /repo commit 7a140af

namespace Deribit
/-- asks `[[0.06, 5], [0.05, 5], [0.055, 5]]` (rows not in price order), bids `[[0.02, 3], [0.028, 4.0], [0.02, 2.5], [0.028, 1]]` -/
def roughInstr : Instr :=
  { exInstr with asks := [⟨6 / 100, 5, false⟩, ⟨5 / 100, 5, false⟩, ⟨55 / 1000, 5, false⟩],
                 bids := [⟨2 / 100, 3, false⟩, ⟨28 / 1000, 4, true⟩, ⟨2 / 100, 5 / 2, true⟩, ⟨28 / 1000, 1, false⟩] }
/-- asks `[[0.05, 5], [0.05, 7]]`: one price level in two rows -/
def dupInstr : Instr := { exInstr with asks := [⟨5 / 100, 5, false⟩, ⟨5 / 100, 7, false⟩] }
def roughState (i : Instr) : DState := { exState with book := [i] }
end Deribit

section
open Deribit
example : normSide DCtx.exact true roughInstr.asks = [⟨5 / 100, 5, false⟩, ⟨55 / 1000, 5, false⟩, ⟨6 / 100, 5, false⟩] := by decide +kernel
example : normSide DCtx.exact false roughInstr.bids = [⟨28 / 1000, 5, true⟩, ⟨2 / 100, 11 / 2, true⟩] := by decide +kernel
-- a market buy of 3 is filled at the best ask 0.05, not at the first row (0.06); 8 take 5 @ 0.05 and 3 @ 0.055
example : (buy DCtx.exact ethCfg (roughState roughInstr) (exReq 3 none)).1 = .ok (.trade [⟨5 / 100, 3⟩] (9 / 10000)) := by decide +kernel
example : (buy DCtx.exact ethCfg (roughState roughInstr) (exReq 8 none)).1 =
    .ok (.trade [⟨5 / 100, 5⟩, ⟨55 / 1000, 3⟩] (24 / 10000)) := by decide +kernel
-- two rows at 0.05 are one level of 12: a limit buy of 2 is one fill, charged once; a market buy of 8 leaves 4 there, not -3
example : (buy DCtx.exact ethCfg (roughState dupInstr) (exReq 2 (some (5 / 100)))).1 = .ok (.trade [⟨5 / 100, 2⟩] (6 / 10000)) := by
  decide +kernel
example : (buy DCtx.exact ethCfg (roughState dupInstr) (exReq 2 (some (5 / 100)))).2.cash = 100 - (2 * (5 / 100) + 6 / 10000) := by
  decide +kernel
example : ((buy DCtx.exact ethCfg (roughState dupInstr) (exReq 8 none)).2.book.map (fun i => i.asks)) = [[⟨5 / 100, 4, true⟩]] := by
  decide +kernel
example : BookNonneg (roughState roughInstr).book := by
  unfold BookNonneg; decide +kernel
end

end Demeter
