/-
  C15, "fills shrink the visible book for the orders that follow" — the second order of a bar is checked against the
  book the first one wrote back: what is left for a following market order on the same instrument is the displayed total
  of the (normalised) side minus what the first order filled, and a following market order for more than that is rejected
  with "insufficient-depth" (nothing changes), although it might have fitted the book as it was before the first order.
  Buy side and sell side.  Exact arithmetic.
-/
import Proofs.C15
namespace Demeter
open Demeter.Deribit

/-- a market order within the displayed total passes `check_transaction` (any state, either side): the only thing
    that can still stop a buy is the cash check, a sell the holding check -/
theorem C15_market_order_within_depth_checked (c : TokenCfg) (book : List Instr) (r : Req) (ins : Instr) (isBuy : Bool)
    (avail : List Level)
    (hfind : findInstr book r.name = some ins) (hso : ins.stateOpen = true)
    (hmin : c.minAmount ≤ r.amount) (hm : r.priceTok = none ∧ r.priceUsd = none)
    (hav : availSide DCtx.exact (normInstr DCtx.exact ins) r.mult isBuy = .ok avail)
    (hdepth : roundDec c.tradeExp r.amount ≤ sizeSum avail) :
    checkTx DCtx.exact c book r isBuy =
      .ok { amount := roundDec c.tradeExp r.amount, ins := normInstr DCtx.exact ins, price := none } := by
  rw [checkTx_market hfind hso hmin hm hav, sumSizes_exact, if_neg (not_lt.mpr hdepth)]

namespace Deribit

theorem trade_beyond_depth_rejected {c : TokenCfg} {isBuy : Bool} {s : DState} {r : Req} {ins : Instr} {avail : List Level}
    (hopen : s.flagOpen = true) (hfind : findInstr s.book r.name = some ins) (hso : ins.stateOpen = true)
    (hmin : c.minAmount ≤ r.amount) (hm : r.priceTok = none ∧ r.priceUsd = none)
    (hav : availSide DCtx.exact (normInstr DCtx.exact ins) r.mult isBuy = .ok avail)
    (hdepth : sizeSum avail < roundDec c.tradeExp r.amount) :
    trade DCtx.exact c isBuy s r = (.error (.demeter "insufficient-depth"), s) := by
  have hck : checkTx DCtx.exact c s.book r isBuy = .error (.demeter "insufficient-depth") := by
    rw [checkTx_market hfind hso hmin hm hav, sumSizes_exact, if_pos hdepth]
  cases isBuy
  · simp [trade, sell, hopen, hck]
  · simp [trade, buy, hopen, hck]

theorem trade_following_sees_shrunken_book {c : TokenCfg} {isBuy : Bool} {s s' : DState} {r r2 : Req} {fills : List Fill}
    {fee : Rat} (h : trade DCtx.exact c isBuy s r = (.ok (.trade fills fee), s'))
    (hn : r2.name = r.name) (hm : r2.priceTok = none ∧ r2.priceUsd = none) (hmult : r2.mult = none)
    (hmin : c.minAmount ≤ r2.amount) :
    ∃ ins, findInstr s.book r.name = some ins ∧
      (∃ ins', findInstr s'.book r.name = some ins' ∧
        sizeSum (normSide DCtx.exact isBuy (ins'.side isBuy)) =
          sizeSum (normSide DCtx.exact isBuy (ins.side isBuy)) - fillSum fills) ∧
      (sizeSum (normSide DCtx.exact isBuy (ins.side isBuy)) - fillSum fills < roundDec c.tradeExp r2.amount →
        trade DCtx.exact c isBuy s' r2 = (.error (.demeter "insufficient-depth"), s')) ∧
      (roundDec c.tradeExp r2.amount ≤ sizeSum (normSide DCtx.exact isBuy (ins.side isBuy)) - fillSum fills →
        ∃ ck, checkTx DCtx.exact c s'.book r2 isBuy = .ok ck ∧ ck.amount = roundDec c.tradeExp r2.amount ∧ ck.price = none) := by
  obtain ⟨d, rfl, rfl, rfl⟩ := trade_deal h
  have hprices : ∀ f ∈ d.fills, f.price ∈ d.side.map (·.price) := fun f hf => by
    obtain ⟨l, hl, hp⟩ := d.fill_price hf
    exact List.mem_map.mpr ⟨l, hl, hp.symm⟩
  have hsum := sizeSum_newOrderList d.side d.fills hprices
  obtain ⟨ins', hfind', hside', hso'⟩ := findInstr_setSide d.find isBuy (newOrderList DCtx.exact d.side d.fills)
  have hnew : normSide DCtx.exact isBuy (ins'.side isBuy) = newOrderList DCtx.exact d.side d.fills := by
    rw [hside']; exact normSide_newOrderList _ _ _ _
  have hav' : availSide DCtx.exact (normInstr DCtx.exact ins') r2.mult isBuy = .ok (newOrderList DCtx.exact d.side d.fills) := by
    rw [hmult, ← hnew, ← normInstr_side]
    cases isBuy <;> rfl
  have hfind2 : findInstr d.after.book r2.name = some ins' := by rw [hn]; exact hfind'
  refine ⟨d.ins, d.find, ⟨ins', hfind', by rw [hnew]; exact hsum⟩, fun hlt => ?_, fun hle => ?_⟩
  · exact trade_beyond_depth_rejected (s := d.after) d.isOpen hfind2 (hso'.trans d.listed) hmin hm hav' (hsum ▸ hlt)
  · exact ⟨_, C15_market_order_within_depth_checked c d.after.book r2 ins' isBuy _ hfind2 (hso'.trans d.listed) hmin hm hav'
      (hsum ▸ hle), rfl, rfl⟩

end Deribit

/-- **a market buy for more than the allowed asks display is rejected** with "insufficient-depth", state unchanged
    (any state; `avail` = the normalised asks under the mark-price cap) -/
theorem C15_market_buy_beyond_depth_rejected (c : TokenCfg) (s : DState) (r : Req) (ins : Instr)
    (hopen : s.flagOpen = true) (hfind : findInstr s.book r.name = some ins) (hso : ins.stateOpen = true)
    (hmin : c.minAmount ≤ r.amount) (hm : r.priceTok = none ∧ r.priceUsd = none)
    (hdepth : sizeSum (availAsks DCtx.exact (normInstr DCtx.exact ins) r.mult) < roundDec c.tradeExp r.amount) :
    buy DCtx.exact c s r = (.error (.demeter "insufficient-depth"), s) :=
  Deribit.trade_beyond_depth_rejected (isBuy := true) hopen hfind hso hmin hm rfl hdepth

/-- **a market sell for more than the allowed bids display is rejected** with "insufficient-depth", state unchanged -/
theorem C15_market_sell_beyond_depth_rejected (c : TokenCfg) (s : DState) (r : Req) (ins : Instr) (bids : List Level)
    (hopen : s.flagOpen = true) (hfind : findInstr s.book r.name = some ins) (hso : ins.stateOpen = true)
    (hmin : c.minAmount ≤ r.amount) (hm : r.priceTok = none ∧ r.priceUsd = none)
    (hb : availBids DCtx.exact (normInstr DCtx.exact ins) r.mult = .ok bids)
    (hdepth : sizeSum bids < roundDec c.tradeExp r.amount) :
    sell DCtx.exact c s r = (.error (.demeter "insufficient-depth"), s) :=
  Deribit.trade_beyond_depth_rejected (isBuy := false) hopen hfind hso hmin hm hb hdepth

/-- **fills shrink the visible book for the following orders (buy side)**: after an accepted buy, a following market
    buy of the same instrument (without a mark-price cap) is checked against the asks the first one left — the normalised asks minus the fills,
    whose displayed total is the old total minus the filled amount — and is rejected with "insufficient-depth", changing
    nothing, as soon as its rounded amount exceeds that remainder (even if it fits the book as it was). -/
theorem C15_following_order_sees_shrunken_book (c : TokenCfg) (s s' : DState) (r r2 : Req) (fills : List Fill) (fee : Rat)
    (h : buy DCtx.exact c s r = (.ok (.trade fills fee), s'))
    (hn : r2.name = r.name) (hm : r2.priceTok = none ∧ r2.priceUsd = none) (hmult : r2.mult = none)
    (hmin : c.minAmount ≤ r2.amount) :
    ∃ ins, findInstr s.book r.name = some ins ∧
      (∃ ins', findInstr s'.book r.name = some ins' ∧
        sizeSum (normSide DCtx.exact true ins'.asks) = sizeSum (normSide DCtx.exact true ins.asks) - fillSum fills) ∧
      (sizeSum (normSide DCtx.exact true ins.asks) - fillSum fills < roundDec c.tradeExp r2.amount →
        buy DCtx.exact c s' r2 = (.error (.demeter "insufficient-depth"), s')) ∧
      (roundDec c.tradeExp r2.amount ≤ sizeSum (normSide DCtx.exact true ins.asks) - fillSum fills →
        ∃ ck, checkTx DCtx.exact c s'.book r2 true = .ok ck ∧ ck.amount = roundDec c.tradeExp r2.amount ∧ ck.price = none) :=
  Deribit.trade_following_sees_shrunken_book (isBuy := true) h hn hm hmult hmin

/-- **fills shrink the visible book for the following orders (sell side)**: after an accepted sell, a following market
    sell of the same instrument (without a mark-price cap) for more than the bids that are left is rejected with "insufficient-depth" -/
theorem C15_following_sell_sees_shrunken_book (c : TokenCfg) (s s' : DState) (r r2 : Req) (fills : List Fill) (fee : Rat)
    (h : sell DCtx.exact c s r = (.ok (.trade fills fee), s'))
    (hn : r2.name = r.name) (hm : r2.priceTok = none ∧ r2.priceUsd = none) (hmult : r2.mult = none)
    (hmin : c.minAmount ≤ r2.amount) :
    ∃ ins, findInstr s.book r.name = some ins ∧
      (∃ ins', findInstr s'.book r.name = some ins' ∧
        sizeSum (normSide DCtx.exact false ins'.bids) = sizeSum (normSide DCtx.exact false ins.bids) - fillSum fills) ∧
      (sizeSum (normSide DCtx.exact false ins.bids) - fillSum fills < roundDec c.tradeExp r2.amount →
        sell DCtx.exact c s' r2 = (.error (.demeter "insufficient-depth"), s')) ∧
      (roundDec c.tradeExp r2.amount ≤ sizeSum (normSide DCtx.exact false ins.bids) - fillSum fills →
        ∃ ck, checkTx DCtx.exact c s'.book r2 false = .ok ck ∧ ck.amount = roundDec c.tradeExp r2.amount ∧ ck.price = none) :=
  Deribit.trade_following_sees_shrunken_book (isBuy := false) h hn hm hmult hmin

-- the example book shows 5 + 605 + 197 = 807 asks: 800 fit; after buying 10, 797 are left and 800 are refused (798 too),
-- 797 are accepted.  Bids 51 + 585 = 636: after selling 40 of 700 held, 600 are refused.
section
open Deribit
example : (buy DCtx.exact ethCfg exState (exReq 800 none)).1 =
    .ok (.trade [⟨57 / 2000, 5⟩, ⟨29 / 1000, 605⟩, ⟨59 / 2000, 190⟩] (24 / 100)) := by decide +kernel
example : (buy DCtx.exact ethCfg (buy DCtx.exact ethCfg exState (exReq 10 none)).2 (exReq 800 none)).1 =
    .error (.demeter "insufficient-depth") := by decide +kernel
example : (buy DCtx.exact ethCfg (buy DCtx.exact ethCfg exState (exReq 10 none)).2 (exReq 798 none)).1 =
    .error (.demeter "insufficient-depth") := by decide +kernel
example : (buy DCtx.exact ethCfg (buy DCtx.exact ethCfg exState (exReq 10 none)).2 (exReq 797 none)).1 =
    .ok (.trade [⟨29 / 1000, 600⟩, ⟨59 / 2000, 197⟩] (2391 / 10000)) := by decide +kernel
example : sizeSum (normSide DCtx.exact true exInstr.asks) - fillSum [⟨57 / 2000, 5⟩, ⟨29 / 1000, 5⟩] = 797 := by decide +kernel
example : (sell DCtx.exact ethCfg (sell DCtx.exact ethCfg (buy DCtx.exact ethCfg exState (exReq 700 none)).2 (exReq 40 none)).2
    (exReq 600 none)).1 = .error (.demeter "insufficient-depth") := by decide +kernel
example : (sell DCtx.exact ethCfg (buy DCtx.exact ethCfg exState (exReq 700 none)).2 (exReq 600 none)).1 =
    .ok (.trade [⟨28 / 1000, 51⟩, ⟨55 / 2000, 549⟩] (18 / 100)) := by decide +kernel
end

end Demeter
