/-
  C15 under IEEE float semantics — the fill-total theorem does not need floats to be real numbers: it holds for every
  float context that satisfies three laws of IEEE-754 / CPython (`float(Decimal(repr(f))) == f`, `x - x == 0.0`,
  `repr(0.0)` reads as 0), provided Decimal arithmetic is exact (`FloatSane.rnd_id`: not the 35-digit context).
  The depth check of `check_transaction` and the fill loop of `_deduct_order_amount` agree because both read a size as
  `Decimal(repr(size))`.
-/
import Proofs.C15
namespace Demeter
open Demeter.Deribit

theorem Deribit.sumSizes_sane (cx : DCtx) (h : Deribit.FloatSane cx) (ls : List Level) : sumSizes cx ls = Deribit.reprSum cx ls := by
  have hadd : (fun acc (l : Level) => cx.num.add acc (cx.reprD l.size)) = fun acc l => acc + cx.reprD l.size := by
    funext acc l; simp only [NumCtx.add, h.rnd_id]
  unfold sumSizes Deribit.reprSum
  rw [hadd, foldl_add_eq, zero_add]

/-- fills exactly the requested amount, for IEEE floats: if the printed sizes are non-negative and the amount does not
    exceed their sum (what `check_transaction` checks), the fills add up to the amount -/
theorem C15_market_fill_total_any_float (cx : DCtx) (h : Deribit.FloatSane cx) (ls : List Level) (amount : Rat)
    (hs : ∀ l ∈ ls, 0 ≤ cx.reprD l.size) (h0 : 0 ≤ amount) (hle : amount ≤ Deribit.reprSum cx ls) :
    fillSum (deductMarket cx amount ls) = amount :=
  fillSum_deductMarket cx h ls amount hs h0 hle

/-- the exact-real context is one such context (so the theorem above is not vacuous) … -/
example : Deribit.FloatSane DCtx.exact := floatSane_exact

/-- … and on a book with float residue the depth check refuses 0.3 contracts: the printed depth is
    0.09999999999999999 + 0.2 (the exact binary values add up to more than 0.3) -/
example :
    let ls : List Level := [⟨29 / 1000, 9999999999999999 / 100000000000000000, true⟩, ⟨59 / 2000, 1 / 5, true⟩]
    ¬ ((3 : Rat) / 10 ≤ Deribit.reprSum DCtx.exact ls) := by decide +kernel

end Demeter
