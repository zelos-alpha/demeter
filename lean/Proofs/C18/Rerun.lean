/-
  C18 — "for every bar interval and start time", also for trigger objects that have been through a run before.

  `Actuator.run` starts every installed trigger afresh (after `initialize()`, before the first bar) and hands `strategy.triggers` back as
  it found it (Demeter/Actuator.lean `actuatorRun` / `trigsAfterRun`, switched by the generated source flag `Gen.coreRunResetsTriggers`;
  the hooks of a `Script` install no trigger, so resetting on entry, as `actuatorRun` does, is resetting after `initialize()`).
  So what a trigger object denotes in a run does not depend on the grids it has seen before: the theorems of Proofs/C18.lean about
  `trigRun` on freshly built triggers apply to every run of the same objects.
-/
import Proofs.C05
import Proofs.C02.Rerun
import Proofs.Fixtures.Core
namespace Demeter
open Core

/-- after a run over ANY grid and script, the same trigger objects run by a fresh actuator over any OTHER grid and script give exactly the
    run of these objects as first installed (trace, account rows, actions, outcome) -/
theorem C18_same_trigger_objects_on_another_grid (cfg₁ cfg₂ : Cfg) (sc₁ sc₂ : Script) (trigs : List Trig)
    (hn : (trigs.map (·.id)).Nodup) :
    actuatorRun cfg₂ (trigsAfterRun cfg₁ trigs sc₁) sc₂ = actuatorRun cfg₂ trigs sc₂ :=
  C02_rerun_any_leftover_state cfg₂ sc₂ trigs _ (Core.rerun_after_reset cfg₁ sc₁ trigs hn)

/-- the actions called in a second run of the same trigger objects are the calls of `trigRun` — the subject of C18's per-class theorems — over the
    second run's own bar index, from the triggers' initial states: periods count from the second run's first bar -/
theorem C18_second_run_fires_on_its_own_grid (cfg₁ cfg₂ : Cfg) (sc₁ sc₂ : Script) (trigs : List Trig)
    (hn : (trigs.map (·.id)).Nodup) (h₁ : (actuatorRun cfg₁ trigs sc₁).err = none) (h₂ : (actuatorRun cfg₂ trigs sc₂).err = none) :
    (actuatorRun cfg₂ (trigsAfterRun cfg₁ trigs sc₁) sc₂).trace.filterMap fireOfEv =
      (trigRun (barIndex cfg₂) (trigs.map Trig.reset)).1 := by
  rw [C18_same_trigger_objects_on_another_grid cfg₁ cfg₂ sc₁ sc₂ trigs hn]
  have := (C05_trigger_calls_are_trigRun cfg₂ (startTrigs trigs) sc₂ h₂).1
  rw [startTrigs_eq] at this
  exact this

/-- non-vacuity: the period trigger of `Core.rerunTrigs` (2 minutes, immediate) and its one-shot companion, first run over minutes 0..3, then
    over a grid that starts later: they fire on the second grid's own first bar and two minutes after it -/
def Core.rerunCfg2 : Cfg := { markets := [{ idx := [600, 660, 720, 780, 840], openCb := false }], priceIdx := [600, 660, 720, 780, 840], Δ := 60, resample := false }

example : (actuatorRun Core.rerunCfg2 (trigsAfterRun Core.rerunCfg Core.rerunTrigs Core.rerunScript) Core.rerunScript).trace.filterMap fireOfEv
    = [⟨600, 0, ""⟩, ⟨720, 0, ""⟩, ⟨840, 0, ""⟩] := by decide +kernel

end Demeter
