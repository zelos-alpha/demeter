/-
  C18 — several periods: why returning from `PeriodsTrigger.when` at the first due period (the code before fix 79587c6) is harmless on
  today's tree.  `when` first lets every period catch up (`while next < now: next += delta`, added by the off-grid repair) and only then
  compares; a period that was due on a bar but not advanced there (because an earlier period of the same trigger was due too and `when`
  returned) is put right by the catch-up of its next evaluation.
-/
import Proofs.Lemmas.CoreAdvance
namespace Demeter
open Core

/-- **C18 — a due period that was not advanced on its bar is put right by its next evaluation**: on every later bar it gives the answer and
    is left in the state of the period advanced on time -/
theorem C18_unadvanced_period_is_put_right (δ t now : Int) (hδ : 0 < δ) (h : t < now) :
    stepOne now δ t = stepOne now δ (t + δ) := by
  -- the first step of the catch-up from `t` is the move to `t + δ`
  unfold stepOne
  simp only [advance_lt hδ h]

/-- `PeriodsTrigger.when` returning at the first due period (the loop before 79587c6, with today's catch-up) -/
def Core.stepAllEarly (now : Int) : List Int → List Int → Bool × List Int
  | δ :: δs, n :: ns =>
    let r := stepOne now δ n
    if r.1 then (true, r.2 :: ns) else
      let rest := stepAllEarly now δs ns
      (rest.1, r.2 :: rest.2)
  | _, ns => (false, ns)

def Core.periodFires (step : Int → List Int → List Int → Bool × List Int) (δs : List Int) : List Int → List Int → List Int
  | [], _ => []
  | t :: ts, ns => let r := step t δs ns; (if r.1 then [t] else []) ++ periodFires step δs ts r.2

/-- periods of 2 and 3 minutes from minute 0 on one-minute bars 1..24 (and on 5-minute bars): both loops fire on the same bars — every
    multiple of 2 or 3 — although their private due times differ after minute 6 -/
example : periodFires stepAll [120, 180] (grid 60 60 24) [120, 180]
    = periodFires stepAllEarly [120, 180] (grid 60 60 24) [120, 180] ∧
    periodFires stepAll [120, 180] (grid 60 60 24) [120, 180]
      = [120, 180, 240, 360, 480, 540, 600, 720, 840, 900, 960, 1080, 1200, 1260, 1320, 1440] ∧
    (stepAll 360 [120, 180] [360, 360]).2 ≠ (stepAllEarly 360 [120, 180] [360, 360]).2 := by decide

example : periodFires stepAll [120, 180, 300] (grid 300 300 12) [120, 180, 300]
    = periodFires stepAllEarly [120, 180, 300] (grid 300 300 12) [120, 180, 300] := by decide +kernel

end Demeter
