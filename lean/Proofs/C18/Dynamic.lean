/-
  C18 — triggers installed and removed by hooks WHILE the bar loop iterates over `strategy.triggers`.

  `for trigger in self._strategy.triggers:` (actuator.py) runs over the live list, index by index (`dynLoop`, Demeter/Trigger.lean; the
  generated flag `coreTriggerLoopOverLiveList` says the source does).  The index loop is read as a cursor (`cursorLoop`): passed slots /
  slots ahead / how far the index is beyond the end.  Appending is harmless (the loop is the static loop over the list as it is at the end);
  a removal at or before the cursor makes the loop pass over the trigger in the next slot, so "fires on exactly the bars its specification
  denotes" FAILS for the trigger behind a self-removing one (known finding `Actuator.run:trigger-skipped-after-removal-during-loop`).
-/
import Proofs.Lemmas.CoreTrigger
namespace Demeter
open Core

/-- the source iterates `strategy.triggers` itself, not a copy (generated from demeter/core/actuator.py) -/
theorem C18_trigger_loop_iterates_live_list_in_source : Gen.coreTriggerLoopOverLiveList = true := rfl

namespace Core

def hasId (id : Nat) (l : List Trig) : Bool := l.any (·.id == id)

theorem hasId_tail {id : Nat} {a : Trig} {d : List Trig} (ha : ¬ a.id = id) (h : hasId id (a :: d) = true) : hasId id d = true := by
  simp only [hasId, List.any_cons, Bool.or_eq_true, beq_iff_eq] at h
  exact h.resolve_left ha

theorem eraseId_append_of_has (id : Nat) : ∀ (d td : List Trig), hasId id d = true → eraseId id (d ++ td) = eraseId id d ++ td
  | [], _, h => by simp [hasId] at h
  | a :: d, td, h => by
    simp only [List.cons_append, eraseId]
    by_cases ha : a.id = id
    · simp [ha]
    · simp only [ha, if_false]
      rw [eraseId_append_of_has id d td (hasId_tail ha h)]
      rfl

theorem eraseId_append_of_not (id : Nat) : ∀ (d td : List Trig), hasId id d = false → eraseId id (d ++ td) = d ++ eraseId id td
  | [], _, _ => rfl
  | a :: d, td, h => by
    simp only [hasId, List.any_cons, Bool.or_eq_false_iff, beq_eq_false_iff_ne] at h
    simp only [List.cons_append, eraseId, h.1, if_false]
    rw [eraseId_append_of_not id d td (by simpa [hasId] using h.2)]

theorem eraseId_length_of_has (id : Nat) : ∀ (d : List Trig), hasId id d = true → (eraseId id d).length + 1 = d.length
  | [], h => by simp [hasId] at h
  | a :: d, h => by
    simp only [eraseId]
    by_cases ha : a.id = id
    · simp [ha]
    · simp only [ha, if_false, List.length_cons]
      rw [eraseId_length_of_has id d (hasId_tail ha h)]

/-- the iterator's index -/
def Cursor.idx (c : Cursor) : Nat := c.done.length + c.debt

/-- the index is beyond the end only when nothing is ahead -/
def Cursor.OK (c : Cursor) : Prop := 0 < c.debt → c.todo = []

theorem Cursor.OK.debt_zero {c : Cursor} (h : c.OK) {t : Trig} {rest : List Trig} (htd : c.todo = t :: rest) : c.debt = 0 := by
  by_contra hne
  have := h (by omega)
  rw [htd] at this
  cases this

theorem Cursor.OK.pass {c : Cursor} (h : c.OK) {t : Trig} {rest : List Trig} (htd : c.todo = t :: rest) (t' : Trig) :
    c.list[c.idx]? = some t ∧ c.list.set c.idx t' = ({ c with done := c.done ++ [t'], todo := rest } : Cursor).list ∧
    ({ c with done := c.done ++ [t'], todo := rest } : Cursor).idx = c.idx + 1 ∧
    ({ c with done := c.done ++ [t'], todo := rest } : Cursor).OK := by
  have hdebt := h.debt_zero htd
  have hidx : c.idx = c.done.length := by simp [Cursor.idx, hdebt]
  have hlist : c.list = c.done ++ t :: rest := by simp [Cursor.list, htd]
  refine ⟨by rw [hidx, hlist]; exact getElem?_append_mid _ _ _, by rw [hidx, hlist, set_append_mid]; rfl,
    by simp [Cursor.idx, hdebt], fun h0 => ?_⟩
  simp only [hdebt] at h0; omega

theorem mut_del_has_nil {c : Cursor} {id : Nat} (h : hasId id c.done = true) (htd : c.todo = []) :
    c.mut (.del id) = { c with done := eraseId id c.done, debt := c.debt + 1 } := by
  unfold hasId at h; unfold Cursor.mut; simp only [h, if_true, htd]

theorem mut_del_has_cons {c : Cursor} {id : Nat} {u : Trig} {rest : List Trig} (h : hasId id c.done = true) (htd : c.todo = u :: rest) :
    c.mut (.del id) = { c with done := eraseId id c.done ++ [u], todo := rest } := by
  unfold hasId at h; unfold Cursor.mut; simp only [h, if_true, htd]

theorem mut_del_not {c : Cursor} {id : Nat} (h : hasId id c.done = false) :
    c.mut (.del id) = { c with todo := eraseId id c.todo } := by
  unfold hasId at h; unfold Cursor.mut; simp only [h, Bool.false_eq_true, if_false]

theorem cursor_mut_spec (m : TMut) (c : Cursor) (h : c.OK) :
    applyMut m c.list = (c.mut m).list ∧ (c.mut m).idx = c.idx ∧ (c.mut m).OK := by
  cases m with
  | add t =>
    unfold Cursor.mut
    by_cases hd : c.debt = 0
    · simp only [hd, if_true]
      refine ⟨by simp [applyMut, Cursor.list, List.append_assoc], by simp [Cursor.idx, hd], fun h0 => by simp at h0⟩
    · simp only [hd, if_false]
      have ht : c.todo = [] := h (by omega)
      refine ⟨by simp [applyMut, Cursor.list, ht], by simp [Cursor.idx]; omega, fun _ => ht⟩
  | del id =>
    cases hh : hasId id c.done with
    | true =>
      have hlen := eraseId_length_of_has id c.done hh
      cases htd : c.todo with
      | nil =>
        rw [mut_del_has_nil hh htd]
        refine ⟨?_, by simp only [Cursor.idx]; omega, fun _ => htd⟩
        simp only [applyMut, Cursor.list, htd, List.append_nil]
      | cons u rest =>
        have hdebt := h.debt_zero htd
        rw [mut_del_has_cons hh htd]
        refine ⟨?_, by simp only [Cursor.idx, List.length_append, List.length_singleton]; omega, fun h0 => by simp only [hdebt] at h0; omega⟩
        simp only [applyMut, Cursor.list, htd]
        rw [eraseId_append_of_has id c.done (u :: rest) hh]
        simp [List.append_assoc]
    | false =>
      rw [mut_del_not hh]
      refine ⟨?_, rfl, fun h0 => ?_⟩
      · simp only [applyMut, Cursor.list]
        exact eraseId_append_of_not id c.done c.todo hh
      · have := h h0
        simp [this, eraseId]

theorem cursor_muts_spec : ∀ (ms : List TMut) (c : Cursor), c.OK →
    applyMuts ms c.list = (Cursor.muts ms c).list ∧ (Cursor.muts ms c).idx = c.idx ∧ (Cursor.muts ms c).OK
  | [], c, h => ⟨rfl, rfl, h⟩
  | m :: ms, c, h => by
    obtain ⟨a1, a2, a3⟩ := cursor_mut_spec m c h
    obtain ⟨b1, b2, b3⟩ := cursor_muts_spec ms (c.mut m) a3
    exact ⟨by simp only [applyMuts, Cursor.muts]; rw [a1, b1], by simp only [Cursor.muts]; rw [b2, a2], b3⟩

-- the cases of `cursorLoop.induct`, here and below: out of fuel; nothing ahead; `when` raises; the trigger fires (`q` the rest of the loop
-- after its action); it does not fire
theorem dynLoop_eq_cursorLoop (mu : Nat → List TMut) (now : Int) (fuel : Nat) (c : Cursor) : c.OK →
    dynLoop mu now fuel c.idx c.list =
      ((cursorLoop mu now fuel c).1, (cursorLoop mu now fuel c).2.1.list, (cursorLoop mu now fuel c).2.2) := by
  fun_induction cursorLoop mu now fuel c with
  | case1 c =>
    intro h
    cases htd : c.todo with
    | nil => simp [dynLoop, Cursor.list, Cursor.idx, htd]
    | cons t rest => simp [dynLoop, Cursor.list, Cursor.idx, htd, h.debt_zero htd]
  | case2 fuel c htd =>
    intro _
    have : c.list[c.idx]? = none := List.getElem?_eq_none_iff.mpr (by simp [Cursor.list, Cursor.idx, htd])
    simp only [dynLoop, this]
  | case3 fuel c t rest htd e hw =>
    intro h
    simp only [dynLoop, (h.pass htd t).1, hw]
  | case4 fuel c t rest htd hw r c1 hf q ih =>
    intro h
    obtain ⟨hget, hset, hidx, hok⟩ := h.pass htd { t with k := r.2 }
    obtain ⟨m1, m2, m3⟩ := cursor_muts_spec (mu t.id) c1 hok
    simp only [dynLoop, hget, hw, hset, r, hf, if_true]
    rw [m1, ← hidx, ← m2, ih m3]
  | case5 fuel c t rest htd hw r c1 hf ih =>
    intro h
    obtain ⟨hget, hset, hidx, hok⟩ := h.pass htd { t with k := r.2 }
    simp only [dynLoop, hget, hw, hset, r, hf, Bool.false_eq_true, if_false]
    rw [← hidx, ih hok]

theorem cursorLoop_static (now : Int) (fuel : Nat) (c : Cursor) : c.todo.length ≤ fuel →
    (cursorLoop (fun _ => []) now fuel c).1 = (fireLoop now c.todo).1 ∧
    (cursorLoop (fun _ => []) now fuel c).2.1.list = c.done ++ (fireLoop now c.todo).2.1 ∧
    (cursorLoop (fun _ => []) now fuel c).2.2 = (fireLoop now c.todo).2.2 := by
  fun_induction cursorLoop (fun _ => []) now fuel c with
  | case1 c =>
    intro h
    have : c.todo = [] := List.length_eq_zero_iff.mp (by omega)
    simp [this, fireLoop, Cursor.list]
  | case2 fuel c htd => simp [fireLoop, Cursor.list, htd]
  | case3 fuel c t rest htd e hw => simp [fireLoop_cons_err hw, Cursor.list, htd]
  | case4 fuel c t rest htd hw r c1 hf q ih =>
    simp only [q, c1, r, Cursor.muts] at ih hf ⊢
    rw [htd, fireLoop_cons hw, if_pos hf]
    intro h
    obtain ⟨i1, i2, i3⟩ := ih (by simpa using h)
    exact ⟨congrArg _ i1, by rw [i2]; simp, i3⟩
  | case5 fuel c t rest htd hw r c1 hf ih =>
    simp only [c1, r] at ih hf ⊢
    rw [htd, fireLoop_cons hw, if_neg hf]
    intro h
    obtain ⟨i1, i2, i3⟩ := ih (by simpa using h)
    exact ⟨i1, by rw [i2]; simp, i3⟩

def TMut.isAdd : TMut → Bool
  | .add _ => true
  | .del _ => false

theorem cursor_muts_adds : ∀ (ms : List TMut) (c : Cursor), (∀ m ∈ ms, m.isAdd = true) → c.debt = 0 →
    ∃ A, Cursor.muts ms c = { c with todo := c.todo ++ A }
  | [], c, _, _ => ⟨[], by simp [Cursor.muts]⟩
  | m :: ms, c, hm, hd => by
    cases m with
    | del id => have := hm (.del id) (List.mem_cons_self ..); cases this
    | add t =>
      have h1 : c.mut (.add t) = { c with todo := c.todo ++ [t] } := by simp [Cursor.mut, hd]
      obtain ⟨A, hA⟩ := cursor_muts_adds ms (c.mut (.add t)) (fun x hx => hm x (List.mem_cons_of_mem _ hx)) (by rw [h1]; exact hd)
      exact ⟨t :: A, by simp only [Cursor.muts]; rw [hA, h1]; simp⟩

theorem cursorLoop_append_only (mu : Nat → List TMut) (hmu : ∀ id, ∀ m ∈ mu id, m.isAdd = true) (now : Int) (fuel : Nat) (c : Cursor) :
    c.debt = 0 → (cursorLoop mu now fuel c).2.2 ≠ some .diverges →
    ∃ A, (cursorLoop mu now fuel c).1 = (fireLoop now (c.todo ++ A)).1 ∧
         (cursorLoop mu now fuel c).2.1.list = c.done ++ (fireLoop now (c.todo ++ A)).2.1 ∧
         (cursorLoop mu now fuel c).2.2 = (fireLoop now (c.todo ++ A)).2.2 := by
  fun_induction cursorLoop mu now fuel c with
  | case1 c =>
    intro _ h
    cases htd : c.todo with
    | nil => exact ⟨[], by simp [fireLoop, Cursor.list, htd]⟩
    | cons t rest => simp [htd] at h
  | case2 fuel c htd => exact fun _ _ => ⟨[], by simp [fireLoop, Cursor.list, htd]⟩
  | case3 fuel c t rest htd e hw => exact fun _ _ => ⟨[], by simp [fireLoop_cons_err hw, Cursor.list, htd]⟩
  | case4 fuel c t rest htd hw r c1 hf q ih =>
    intro hd h
    -- the action appends `A1` behind what is ahead; the rest of the loop appends `A2`
    obtain ⟨A1, hA1⟩ := cursor_muts_adds (mu t.id) c1 (hmu t.id) hd
    simp only [q, hA1, c1, r] at ih h hf ⊢
    obtain ⟨A2, i1, i2, i3⟩ := ih hd h
    refine ⟨A1 ++ A2, ?_⟩
    rw [htd, List.cons_append, fireLoop_cons hw, if_pos hf, ← List.append_assoc]
    exact ⟨congrArg _ i1, by rw [i2]; simp, i3⟩
  | case5 fuel c t rest htd hw r c1 hf ih =>
    simp only [c1, r] at ih hf ⊢
    intro hd h
    obtain ⟨A2, i1, i2, i3⟩ := ih hd h
    refine ⟨A2, ?_⟩
    rw [htd, List.cons_append, fireLoop_cons hw, if_neg hf]
    exact ⟨i1, by rw [i2]; simp, i3⟩

theorem cursorLoop_succ_fire (mu : Nat → List TMut) (now : Int) (fuel : Nat) (d rest : List Trig) (t : Trig) (debt : Nat)
    (hw : whenErr t.k = none) (hf : (whenT now t.k).1 = true) :
    cursorLoop mu now (fuel + 1) ⟨d, t :: rest, debt⟩ =
      (⟨now, t.id, t.kw⟩ :: (cursorLoop mu now fuel (Cursor.muts (mu t.id) ⟨d ++ [{ t with k := (whenT now t.k).2 }], rest, debt⟩)).1,
       (cursorLoop mu now fuel (Cursor.muts (mu t.id) ⟨d ++ [{ t with k := (whenT now t.k).2 }], rest, debt⟩)).2.1,
       (cursorLoop mu now fuel (Cursor.muts (mu t.id) ⟨d ++ [{ t with k := (whenT now t.k).2 }], rest, debt⟩)).2.2) := by
  conv => lhs; unfold cursorLoop
  simp only [hw, hf, if_true]

end Core

/-- **C18 — the loop of the code under actions that change the list.**  Index-by-index iteration over the live list (`dynLoop`) is the cursor
    loop: from any position, for every list, every set of actions (append, remove — itself, an earlier one, a later one), every amount of fuel:
    same calls of the actions, same list afterwards, same outcome. -/
theorem C18_fired_set_with_dynamic_triggers_index_loop_is_cursor_loop (mu : Nat → List TMut) (now : Int) (fuel : Nat) (trigs : List Trig) :
    dynLoop mu now fuel 0 trigs =
      ((cursorLoop mu now fuel ⟨[], trigs, 0⟩).1, (cursorLoop mu now fuel ⟨[], trigs, 0⟩).2.1.list, (cursorLoop mu now fuel ⟨[], trigs, 0⟩).2.2) := by
  simpa [Cursor.idx, Cursor.list] using dynLoop_eq_cursorLoop mu now fuel ⟨[], trigs, 0⟩ (fun h => by simp at h)

/-- **C18 — actions that leave `strategy.triggers` alone**: the loop under mutation is the static loop (`fireLoop`, `trigPhase` of Demeter/Trigger.lean), on one bar -/
theorem C18_fired_set_with_dynamic_triggers_none_is_static_loop (now : Int) (extra : Nat) (trigs : List Trig) :
    trigPhaseD (fun _ => []) extra now trigs = trigPhase now trigs := by
  unfold trigPhaseD trigPhase
  rw [C18_fired_set_with_dynamic_triggers_index_loop_is_cursor_loop]
  obtain ⟨h1, h2, h3⟩ := cursorLoop_static now (trigs.length + extra) ⟨[], trigs, 0⟩ (by simp)
  simp only [List.nil_append] at h2
  simp only [h1, h2, h3]

/-- … and the whole run: `trigRunD` without list changes is `trigRun`, so `C18_fires_eq_denoted` and everything after it apply -/
theorem C18_fired_set_with_dynamic_triggers_none_is_static_run (extra : Nat) : ∀ (bars : List Int) (row : Nat) (trigs : List Trig),
    (trigRunD (fun _ _ => []) extra row bars trigs).1 = (trigRun bars trigs).1 ∧
    (trigRunD (fun _ _ => []) extra row bars trigs).2.2.1 = (trigRun bars trigs).2.1 ∧
    (trigRunD (fun _ _ => []) extra row bars trigs).2.2.2 = (trigRun bars trigs).2.2
  | [], _, _ => ⟨rfl, rfl, rfl⟩
  | t :: bars, row, trigs => by
    unfold trigRunD trigRun
    rw [C18_fired_set_with_dynamic_triggers_none_is_static_loop]
    dsimp only
    cases he : (trigPhase t trigs).2.2 with
    | some e => exact ⟨rfl, rfl, rfl⟩
    | none =>
      obtain ⟨i1, i2, i3⟩ := C18_fired_set_with_dynamic_triggers_none_is_static_run extra bars (row + 1) (trigPhase t trigs).2.1
      exact ⟨by rw [i1], i2, i3⟩

/-- **C18 — actions that only install triggers.**  If no action removes anything, the evaluation of a bar — unless it never ends (every installed
    trigger fires at once and installs another) — is the static loop over the list extended by the triggers installed on the way (`A`, in the order
    of installation): every trigger present at the start AND every trigger installed during the loop is evaluated exactly once on this bar, in list
    order, and its action is called iff its `when` answers true — a trigger fires on the very bar it is installed on if that bar is one of its
    times. -/
theorem C18_fired_set_with_dynamic_triggers_append_only_is_static_loop_over_final_list (mu : Nat → List TMut)
    (hmu : ∀ id, ∀ m ∈ mu id, m.isAdd = true) (now : Int) (fuel : Nat) (trigs : List Trig)
    (hend : (dynLoop mu now fuel 0 trigs).2.2 ≠ some .diverges) :
    ∃ A, (dynLoop mu now fuel 0 trigs).1 = (fireLoop now (trigs ++ A)).1 ∧
         (dynLoop mu now fuel 0 trigs).2.1 = (fireLoop now (trigs ++ A)).2.1 ∧
         (dynLoop mu now fuel 0 trigs).2.2 = (fireLoop now (trigs ++ A)).2.2 := by
  rw [C18_fired_set_with_dynamic_triggers_index_loop_is_cursor_loop] at hend ⊢
  obtain ⟨A, h1, h2, h3⟩ := cursorLoop_append_only mu hmu now fuel ⟨[], trigs, 0⟩ rfl hend
  exact ⟨A, h1, by simpa using h2, h3⟩

/-- **C18 — what a removal does, precisely.**  The running action removes a trigger that sits at or before the cursor (`id` among the passed slots
    `done`, which include the running trigger itself): the trigger `u` in the next slot slides into a passed slot AS IT IS — it is not evaluated on
    this bar: `when` is not called, its action does not run, a period trigger's next due time is not advanced — and the loop goes on behind it.
    With nothing ahead the index ends up beyond the end of the list, and a trigger appended afterwards by the same action lands in a passed slot
    too.  A removal ahead of the cursor takes the trigger out and changes nothing else. -/
theorem C18_fired_set_with_dynamic_triggers_removal_at_or_before_cursor_skips_next (done rest : List Trig) (u : Trig) (id : Nat)
    (h : hasId id done = true) :
    (Cursor.mut (.del id) ⟨done, u :: rest, 0⟩ = ⟨eraseId id done ++ [u], rest, 0⟩) ∧
    (Cursor.mut (.del id) ⟨done, [], 0⟩ = ⟨eraseId id done, [], 1⟩) ∧
    (∀ t, Cursor.mut (.add t) ⟨eraseId id done, [], 1⟩ = ⟨eraseId id done ++ [t], [], 0⟩) :=
  ⟨mut_del_has_cons h rfl, mut_del_has_nil h rfl, fun t => by simp [Cursor.mut]⟩

theorem C18_fired_set_with_dynamic_triggers_removal_ahead_of_cursor_is_clean (done todo : List Trig) (id : Nat)
    (h : hasId id done = false) : Cursor.mut (.del id) ⟨done, todo, 0⟩ = ⟨done, eraseId id todo, 0⟩ :=
  mut_del_not h

/-- … in terms of the loop itself: trigger `t` (in slot `done.length`) fires and its action removes `t` itself; the next trigger `u` is passed
    over and the loop continues with the slot behind `u` -/
theorem C18_fired_set_with_dynamic_triggers_self_removal_passes_over_the_next (mu : Nat → List TMut) (now : Int) (fuel : Nat)
    (done rest : List Trig) (t u : Trig) (hw : whenErr t.k = none) (hf : (whenT now t.k).1 = true) (hmu : mu t.id = [.del t.id])
    (hfresh : hasId t.id done = false) :
    dynLoop mu now (fuel + 1) done.length (done ++ t :: u :: rest) =
      (⟨now, t.id, t.kw⟩ :: (dynLoop mu now fuel (done ++ [u]).length ((done ++ [u]) ++ rest)).1,
       (dynLoop mu now fuel (done ++ [u]).length ((done ++ [u]) ++ rest)).2.1,
       (dynLoop mu now fuel (done ++ [u]).length ((done ++ [u]) ++ rest)).2.2) := by
  have e1 := dynLoop_eq_cursorLoop mu now (fuel + 1) ⟨done, t :: u :: rest, 0⟩ (fun h => by simp at h)
  have e2 := dynLoop_eq_cursorLoop mu now fuel ⟨done ++ [u], rest, 0⟩ (fun h => by simp at h)
  simp only [Cursor.idx, Cursor.list, Nat.add_zero] at e1 e2
  rw [e1, e2, cursorLoop_succ_fire mu now fuel done (u :: rest) t 0 hw hf]
  have hhas : hasId t.id (done ++ [{ t with k := (whenT now t.k).2 }]) = true := by simp [hasId]
  have herase : eraseId t.id (done ++ [{ t with k := (whenT now t.k).2 }]) = done := by
    rw [eraseId_append_of_not t.id done _ hfresh]
    simp [eraseId]
  have hm : Cursor.muts (mu t.id) ⟨done ++ [{ t with k := (whenT now t.k).2 }], u :: rest, 0⟩ = ⟨done ++ [u], rest, 0⟩ := by
    rw [hmu]
    simp only [Cursor.muts]
    have := mut_del_has_cons (c := ⟨done ++ [{ t with k := (whenT now t.k).2 }], u :: rest, 0⟩) (id := t.id) (u := u) (rest := rest) hhas rfl
    rw [this]
    simp only [herase]
  rw [hm]

/-- two triggers for 00:01, the first one's action removes the first trigger (a one-shot): on the bar 00:01 only the first one fires — the second,
    whose specification denotes exactly that bar, is never called (on 00:02 it is retired as out of date) -/
theorem C18_fails_trigger_behind_a_self_removing_one_misses_its_bar :
    let mu : Nat → Nat → List TMut := fun _ id => if id = 0 then [.del 0] else []
    let trigs := install [("", .atTime 60), ("", .atTime 60)]
    (trigRunD mu 0 0 [0, 60, 120] trigs).1 = [⟨60, 0, ""⟩] ∧
    [0, 60, 120].filter (denotes 0 (.atTime 60)) = [60] ∧
    (trigRun [0, 60, 120] trigs).1 = [⟨60, 0, ""⟩, ⟨60, 1, ""⟩] := by decide +kernel

/-- the appended case on a concrete run: a trigger installed by an action on bar 00:01 with a range covering the run fires on 00:01 itself
    and on every later bar.  (The theorems above are about one bar; none of them links `trigRunD` to `denotes` across bars.) -/
example :
    let mu : Nat → Nat → List TMut := fun row id => if row = 1 ∧ id = 0 then [.add ⟨5, "k", .range 0 1000⟩] else []
    (trigRunD mu 1 0 [0, 60, 120] (install [("", .atTime 60)])).1 = [⟨60, 0, ""⟩, ⟨60, 5, "k"⟩, ⟨120, 5, "k"⟩] ∧
    (trigRunD mu 1 0 [0, 60, 120] (install [("", .atTime 60)])).2.1 = [[0], [5], [5]] := by decide +kernel

/-- an action that keeps installing a trigger that fires at once never lets the loop end: the model says so -/
example : (dynLoop (fun id => [.add ⟨id + 1, "", .range 0 1000⟩]) 60 10 0 (install [("", .range 0 1000)])).2.2 = some .diverges := by decide +kernel

end Demeter
