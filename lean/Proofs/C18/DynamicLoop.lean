/-
  C18 — the trigger loop inside the bar loop of the general Actuator model (`fireLoopG`, Demeter/Actuator/Hooks.lean: actions that trade, install and
  remove triggers) is `dynLoop` (Demeter/Trigger.lean): operations, refreshes and records do not interfere with which triggers are evaluated.
-/
import Proofs.Lemmas.CoreTrig
import Proofs.Lemmas.Run
namespace Demeter
open Core

namespace Core

def noBoom (body : List HStmt) : Prop := ∀ s ∈ body, s.isBoom = false

theorem doStmt_trig_effect (ts : Int) (h : Hook) (s : HStmt) (st : St) (hs : s.isBoom = false) :
    (doStmt ts h s st).2.2 = none ∧ (doStmt ts h s st).1.filterMap fireOfEv = [] ∧
    (doStmt ts h s st).2.1.trigs = applyMuts (mutsOf [s]) st.trigs := by
  cases s with
  | op o => exact ⟨rfl, doOp_noFire ts h o st, (doOp_frame ts h o st).2.1⟩
  | tadd t => exact ⟨rfl, rfl, rfl⟩
  | tdel id => exact ⟨rfl, rfl, rfl⟩
  | boom e => cases hs

theorem runStmts_trig_effect (ts : Int) (h : Hook) : ∀ (body : List HStmt) (st : St), noBoom body →
    (runStmts ts h body st).2.2 = none ∧ (runStmts ts h body st).1.filterMap fireOfEv = [] ∧
    (runStmts ts h body st).2.1.trigs = applyMuts (mutsOf body) st.trigs
  | [], _, _ => ⟨rfl, rfl, rfl⟩
  | s :: ss, st, hb => by
    obtain ⟨a1, a2, a3⟩ := doStmt_trig_effect ts h s st (hb s (List.mem_cons_self ..))
    obtain ⟨b1, b2, b3⟩ := runStmts_trig_effect ts h ss (doStmt ts h s st).2.1 (fun x hx => hb x (List.mem_cons_of_mem _ hx))
    simp only [runStmts]
    rw [andThen_ok a1]
    refine ⟨b1, by simp only [List.filterMap_append, a2, b2]; rfl, ?_⟩
    show (runStmts ts h ss (doStmt ts h s st).2.1).2.1.trigs = _
    rw [b3, a3]
    have : mutsOf (s :: ss) = mutsOf [s] ++ mutsOf ss := by
      simp only [mutsOf, List.filterMap_cons, List.filterMap_nil]
      cases s.mutOf <;> rfl
    rw [this]
    exact (run_append (run := fun l ms => applyMuts ms l) (step := fun l m => applyMut m l) (fun _ => rfl) (fun _ _ _ => rfl) _ _ _).symm

end Core

/-- **C18 — through the bar loop of the general Actuator model**: with actions that trade and change the list but do not raise, from any state: the
    calls of the trigger actions, the list of installed triggers afterwards and the outcome of the loop are those of `dynLoop` with
    `mu id` = what the action of trigger `id` does to the list; so the theorems of Proofs/C18/Dynamic.lean describe what `Actuator.run` does. -/
theorem C18_fired_set_with_dynamic_triggers_through_the_bar_loop (b : BarScript) (hb : ∀ id, noBoom (b.fire id)) (ts : Int) :
    ∀ (fuel i : Nat) (st : St),
    (fireLoopG b ts fuel i st).1.filterMap fireOfEv = (dynLoop (fun id => mutsOf (b.fire id)) ts fuel i st.trigs).1 ∧
    (fireLoopG b ts fuel i st).2.1.trigs = (dynLoop (fun id => mutsOf (b.fire id)) ts fuel i st.trigs).2.1 ∧
    (fireLoopG b ts fuel i st).2.2 = (dynLoop (fun id => mutsOf (b.fire id)) ts fuel i st.trigs).2.2
  | 0, i, st => ⟨rfl, rfl, rfl⟩
  | fuel + 1, i, st => by
    unfold fireLoopG dynLoop
    cases hg : st.trigs[i]? with
    | none => exact ⟨rfl, rfl, rfl⟩
    | some t =>
      dsimp only
      cases hw : whenErr t.k with
      | some e => exact ⟨rfl, rfl, rfl⟩
      | none =>
        cases hf : (whenT ts t.k).1 with
        | false =>
          simp only [Bool.false_eq_true, if_false]
          exact C18_fired_set_with_dynamic_triggers_through_the_bar_loop b hb ts fuel (i + 1) _
        | true =>
          simp only [if_true]
          rw [andThen_okRes]
          obtain ⟨r1, r2, r3⟩ := runStmts_trig_effect ts (.fire t.id) (b.fire t.id)
            { st with trigs := st.trigs.set i { t with k := (whenT ts t.k).2 } } (hb t.id)
          rw [r1, andThen_mk_none]
          obtain ⟨q1, q2, q3⟩ := C18_fired_set_with_dynamic_triggers_through_the_bar_loop b hb ts fuel (i + 1)
            (runStmts ts (.fire t.id) (b.fire t.id) { st with trigs := st.trigs.set i { t with k := (whenT ts t.k).2 } }).2.1
          rw [r3] at q1 q2 q3
          refine ⟨?_, q2, q3⟩
          simp only [List.filterMap_append, List.filterMap_cons, fireOfEv, List.filterMap_nil, r2, q1]
          rfl

end Demeter
