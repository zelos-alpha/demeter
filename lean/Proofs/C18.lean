/-
  C18 — time triggers fire on exactly the bars their specification denotes.

  Model: Demeter/Trigger.lean (every class of demeter/strategy/trigger.py, as repaired by the three `fix:` commits listed
  in /verif/known_findings.jsonl, and the evaluation + retirement part of Actuator.run).  Times are seconds; a bar grid
  is any strictly increasing list of times (the arithmetic grids of the real loop are the instance `grid start Δ n`).
  `trigRun bars trigs` returns the calls of the actions in order, the triggers still installed, and the exception
  that ended the run, if any.
-/
import Proofs.Lemmas.CoreTrig
import Proofs.Lemmas.CoreBarIndex
namespace Demeter
open Core

theorem C18_denotes_atTime (t0 s t : Int) : denotes t0 (.atTime s) t = true ↔ t = toMinute s := by
  simp [denotes]

theorem C18_denotes_atTimes (t0 : Int) (ss : List Int) (t : Int) :
    denotes t0 (.atTimes ss) t = true ↔ ∃ s ∈ ss, t = toMinute s := by
  simp only [denotes, List.contains_iff_mem, List.mem_map]
  constructor
  · rintro ⟨s, hs, rfl⟩; exact ⟨s, hs, rfl⟩
  · rintro ⟨s, hs, rfl⟩; exact ⟨s, hs, rfl⟩

theorem C18_denotes_range (t0 s e t : Int) :
    denotes t0 (.range s e) t = true ↔ toMinute s ≤ t ∧ t < toMinute e := by
  simp [denotes]

theorem C18_denotes_ranges (t0 : Int) (rs : List (Int × Int)) (t : Int) :
    denotes t0 (.ranges rs) t = true ↔ ∃ r ∈ rs, toMinute r.1 ≤ t ∧ t < toMinute r.2 := by
  simp [denotes]

/-- every period after the delay: `t0 + pending + k·δ`, `k ≥ 1` (and `t0` itself if immediate).  For a
    non-negative delay the side condition `t0 < t` is implied. -/
theorem C18_denotes_period (t0 δ : Int) (imm : Bool) (pend t : Int) (hδ : 0 < δ) :
    denotes t0 (.period δ imm pend) t = true ↔
      (imm = true ∧ t = t0) ∨ (t0 < t ∧ ∃ k : Nat, 1 ≤ k ∧ t = t0 + pend + (k : Int) * δ) := by
  simp only [denotes, Bool.or_eq_true, Bool.and_eq_true, beq_iff_eq, decide_eq_true_eq, onLat_iff hδ, OnLat]
  constructor
  · rintro (h | ⟨h1, k, hk⟩)
    · exact Or.inl h
    · exact Or.inr ⟨h1, k + 1, by omega, by rw [hk]; push_cast; ring⟩
  · rintro (h | ⟨h1, k, hk1, hk⟩)
    · exact Or.inl h
    · refine Or.inr ⟨h1, k - 1, ?_⟩
      have : ((k - 1 : Nat) : Int) + 1 = k := by omega
      rw [this]; exact hk

theorem C18_denotes_period_nonneg_delay (t0 δ : Int) (imm : Bool) (pend t : Int) (hδ : 0 < δ) (hp : 0 ≤ pend) :
    denotes t0 (.period δ imm pend) t = true ↔
      (imm = true ∧ t = t0) ∨ (∃ k : Nat, 1 ≤ k ∧ t = t0 + pend + (k : Int) * δ) := by
  rw [C18_denotes_period t0 δ imm pend t hδ]
  constructor
  · rintro (h | ⟨_, h⟩)
    · exact Or.inl h
    · exact Or.inr h
  · rintro (h | ⟨k, hk1, hk⟩)
    · exact Or.inl h
    · refine Or.inr ⟨?_, k, hk1, hk⟩
      have : (1 : Int) * δ ≤ (k : Int) * δ := Int.mul_le_mul_of_nonneg_right (by omega) (le_of_lt hδ)
      omega

/-- several periods: the union of the single periods, independently of one another -/
theorem C18_denotes_periods (t0 : Int) (δs : List Int) (imm : Bool) (pend t : Int) :
    denotes t0 (.periods δs imm pend) t = true ↔
      (imm = true ∧ t = t0) ∨ ∃ δ ∈ δs, denotes t0 (.period δ false pend) t = true := by
  simp only [denotes, Bool.or_eq_true, Bool.and_eq_true, beq_iff_eq, decide_eq_true_eq, List.any_eq_true,
    Bool.false_and, Bool.false_eq_true, false_or]
  constructor
  · rintro (h | ⟨h1, δ, hδ, h2⟩)
    · exact Or.inl h
    · exact Or.inr ⟨δ, hδ, h1, h2⟩
  · rintro (h | ⟨δ, hδ, h1, h2⟩)
    · exact Or.inl h
    · exact Or.inr ⟨h1, δ, hδ, h2⟩

/-- a period is refused exactly when it is not a positive whole number of minutes -/
theorem C18_period_constructor (δ : Int) (imm : Bool) (pend : Int) :
    (∃ k, (TrigSpec.period δ imm pend).make = .ok k) ↔ 0 < δ ∧ δ % 60 = 0 := by
  simp only [make_period_iff, exists_and_left, exists_eq, and_true]

theorem C18_periods_constructor (δs : List Int) (imm : Bool) (pend : Int) :
    (∃ k, (TrigSpec.periods δs imm pend).make = .ok k) ↔ ∀ δ ∈ δs, 0 < δ ∧ δ % 60 = 0 := by
  simp only [make_periods_iff, exists_and_left, exists_eq, and_true]

/-- the strategy's triggers: (keyword arguments, specification, constructed object) in installation order -/
abbrev Core.Installed := List (String × TrigSpec × TrigKind)

def Core.Installed.trigs (l : Core.Installed) : List Trig := install (l.map fun p => (p.1, p.2.2))

theorem core_installed_wf (l : Core.Installed) (hmk : ∀ p ∈ l, p.2.1.make = .ok p.2.2) (hok : ∀ p ∈ l, SpecOK p.2.1) :
    ∀ t ∈ l.trigs, WF t.k := by
  intro t ht
  obtain ⟨q, hq, _, h2⟩ := installFrom_mem 0 _ t ht
  obtain ⟨p, hp, rfl⟩ := List.mem_map.mp hq
  rw [h2]
  exact WF_of_make (hmk p hp) (hok p hp)

theorem core_findTrig_installed (l : Core.Installed) (i : Nat) (hi : i < l.length) : findTrig i l.trigs = some ⟨i, l[i].1, l[i].2.2⟩ := by
  have hf := findTrig_installFrom 0 (l.map fun p => (p.1, p.2.2)) i (by simpa using hi)
  simpa [Core.Installed.trigs, install] using hf

/-- **C18.**  For every strictly increasing list of bar times, every list of installed time triggers (every class,
    every parameter choice the constructors accept and the code can evaluate), the run raises nothing and the calls of the
    action of trigger `i` are, in order, exactly one call per bar denoted by its specification, each with the keyword
    arguments supplied at construction — through evaluation *and* retirement. -/
theorem C18_fires_eq_denoted (bars : List Int) (hp : bars.Pairwise (· < ·)) (l : Core.Installed)
    (hmk : ∀ p ∈ l, p.2.1.make = .ok p.2.2) (hok : ∀ p ∈ l, SpecOK p.2.1) :
    (trigRun bars l.trigs).2.2 = none ∧
    ∀ (i : Nat) (hi : i < l.length),
      firesOf i (trigRun bars l.trigs).1 =
        (bars.filter (denotes (bars.headD 0) l[i].2.1)).map (fun t => ⟨t, i, l[i].1⟩) := by
  obtain ⟨h1, h2⟩ := trigRun_solo bars l.trigs (core_installed_wf l hmk hok) (install_nodup _)
  refine ⟨h1, fun i hi => ?_⟩
  rw [h2 i, core_findTrig_installed l i hi]
  show (soloFires bars l[i].2.2).map _ = _
  rw [solo_eq_denotes (hmk l[i] (List.getElem_mem hi)) bars hp]

/-- no call is made on behalf of anything but an installed trigger -/
theorem C18_calls_belong_to_triggers (bars : List Int) (l : Core.Installed)
    (hmk : ∀ p ∈ l, p.2.1.make = .ok p.2.2) (hok : ∀ p ∈ l, SpecOK p.2.1) :
    ∀ f ∈ (trigRun bars l.trigs).1, f.id < l.length := by
  intro f hf
  by_contra hge
  obtain ⟨_, h2⟩ := trigRun_solo bars l.trigs (core_installed_wf l hmk hok) (install_nodup _)
  have hnone : findTrig f.id l.trigs = none := by
    apply List.find?_eq_none.mpr
    intro t ht
    have hid : t.id ∈ l.trigs.map (·.id) := List.mem_map_of_mem ht
    rw [Core.Installed.trigs, install, installFrom_ids] at hid
    have := List.mem_range'_1.mp hid
    simp only [List.length_map] at this
    simp only [beq_iff_eq]; omega
  have := h2 f.id
  rw [hnone] at this
  have hm : f ∈ firesOf f.id (trigRun bars l.trigs).1 := by
    simp [firesOf, hf]
  rw [this] at hm
  cases hm

theorem core_count_map_fire (i : Nat) (kw : String) (t : Int) : ∀ L : List Int,
    (L.map (fun t => (⟨t, i, kw⟩ : Fire))).count ⟨t, i, kw⟩ = L.count t
  | [] => rfl
  | a :: L => by
    simp only [List.map_cons, List.count_cons, core_count_map_fire i kw t L]
    by_cases h : a = t <;> simp [h]

/-- each firing calls the action exactly once with the supplied keyword arguments: on a bar `t` the call
    `(t, i, kwargs i)` occurs once if `t` is denoted and not at all otherwise -/
theorem C18_once_with_kwargs (bars : List Int) (hp : bars.Pairwise (· < ·)) (l : Core.Installed)
    (hmk : ∀ p ∈ l, p.2.1.make = .ok p.2.2) (hok : ∀ p ∈ l, SpecOK p.2.1)
    (i : Nat) (hi : i < l.length) (t : Int) (ht : t ∈ bars) :
    (trigRun bars l.trigs).1.count ⟨t, i, l[i].1⟩ = if denotes (bars.headD 0) l[i].2.1 t then 1 else 0 := by
  have hmain := (C18_fires_eq_denoted bars hp l hmk hok).2 i hi
  have hcount : (trigRun bars l.trigs).1.count ⟨t, i, l[i].1⟩ = (firesOf i (trigRun bars l.trigs).1).count ⟨t, i, l[i].1⟩ := by
    rw [firesOf, List.count_filter]; simp
  rw [hcount, hmain]
  rw [core_count_map_fire]
  have hnd : bars.Nodup := hp.imp (fun h => ne_of_lt h)
  by_cases hd : denotes (bars.headD 0) l[i].2.1 t = true
  · rw [if_pos hd, List.count_filter (by simpa using hd)]
    have h1 := List.nodup_iff_count.mp hnd t
    have h2 := List.count_pos_iff.mpr ht
    omega
  · rw [if_neg hd]
    apply List.count_eq_zero_of_not_mem
    intro hm
    exact hd (List.mem_filter.mp hm).2

/-- every call made for trigger `i` carries the keyword arguments supplied at construction and happens on a bar -/
theorem C18_kwargs_passed (bars : List Int) (hp : bars.Pairwise (· < ·)) (l : Core.Installed)
    (hmk : ∀ p ∈ l, p.2.1.make = .ok p.2.2) (hok : ∀ p ∈ l, SpecOK p.2.1) (i : Nat) (hi : i < l.length) :
    ∀ f ∈ (trigRun bars l.trigs).1, f.id = i → f.kw = l[i].1 ∧ f.ts ∈ bars := by
  intro f hf hid
  have hmain := (C18_fires_eq_denoted bars hp l hmk hok).2 i hi
  have hm : f ∈ firesOf i (trigRun bars l.trigs).1 := by simp [firesOf, hf, hid]
  rw [hmain] at hm
  obtain ⟨t, ht, rfl⟩ := List.mem_map.mp hm
  exact ⟨rfl, (List.mem_filter.mp ht).1⟩

/-- several triggers do not influence one another: the bars on which trigger `i` fires inside any list of triggers
    are the bars on which it fires when it is the only trigger of the strategy -/
theorem C18_independent (bars : List Int) (l : Core.Installed)
    (hmk : ∀ p ∈ l, p.2.1.make = .ok p.2.2) (hok : ∀ p ∈ l, SpecOK p.2.1) (i : Nat) (hi : i < l.length) :
    (firesOf i (trigRun bars l.trigs).1).map (·.ts) =
      (trigRun bars (Core.Installed.trigs [l[i]])).1.map (·.ts) := by
  obtain ⟨_, h2⟩ := trigRun_solo bars l.trigs (core_installed_wf l hmk hok) (install_nodup _)
  have hmem : l[i] ∈ l := List.getElem_mem hi
  have hmk1 : ∀ p ∈ [l[i]], p.2.1.make = .ok p.2.2 := by intro p hp; rw [List.mem_singleton.mp hp]; exact hmk _ hmem
  have hok1 : ∀ p ∈ [l[i]], SpecOK p.2.1 := by intro p hp; rw [List.mem_singleton.mp hp]; exact hok _ hmem
  obtain ⟨_, h3⟩ := trigRun_solo bars (Core.Installed.trigs [l[i]]) (core_installed_wf [l[i]] hmk1 hok1) (install_nodup _)
  have hall : (trigRun bars (Core.Installed.trigs [l[i]])).1 = firesOf 0 (trigRun bars (Core.Installed.trigs [l[i]])).1 := by
    symm
    apply List.filter_eq_self.mpr
    intro f hf'
    have := C18_calls_belong_to_triggers bars [l[i]] hmk1 hok1 f hf'
    simp only [List.length_singleton] at this
    simp only [beq_iff_eq]; omega
  rw [hall, h2 i, h3 0, core_findTrig_installed l i hi, core_findTrig_installed [l[i]] 0 Nat.zero_lt_one]
  simp [List.map_map, Function.comp_def]

def Core.afterBars (ts : List Int) (k : TrigKind) : TrigKind := ts.foldl (fun k t => (whenT t k).2) k

theorem core_outOfDate_after (now : Int) (ts : List Int) (k : TrigKind) :
    outOfDate now (Core.afterBars ts k) = outOfDate now k := by
  induction ts generalizing k with
  | nil => rfl
  | cons t ts ih => simp only [Core.afterBars, List.foldl_cons] at ih ⊢; rw [ih, outOfDate_step]

/-- `is_out_date` answers true only when no later time is denoted — whatever the object's history -/
theorem C18_out_of_date_sound (sp : TrigSpec) (k : TrigKind) (hm : sp.make = .ok k) (ts : List Int) (t0 now t' : Int)
    (hout : outOfDate now (Core.afterBars ts k) = true) (hlt : now < t') : denotes t0 sp t' = false := by
  rw [core_outOfDate_after] at hout
  exact rep_out (last := none) hm hout hlt

/-- a trigger leaves `strategy.triggers` on a bar only if its `is_out_date` answered true on that bar, hence
    (previous theorem) only when it can never fire again; triggers that stay are evaluated on the next bar -/
theorem C18_retired_only_when_dead (now : Int) (trigs : List Trig) (hwf : ∀ t ∈ trigs, WF t.k)
    (hn : (trigs.map (·.id)).Nodup) (i : Nat) (x : Trig) (hx : findTrig i trigs = some x) :
    (findTrig i (trigPhase now trigs).2.1 = none ↔ outOfDate now (whenT now x.k).2 = true) ∧
    (outOfDate now (whenT now x.k).2 = false → findTrig i (trigPhase now trigs).2.1 = some (stepTrig now x)) := by
  rw [trigPhase_ok now trigs hwf]
  simp only [findTrig_phase now i trigs hn, hx]
  by_cases ho : outOfDate now (whenT now x.k).2 = true <;> simp [ho]

/-- period triggers are never retired -/
theorem C18_period_never_retired (now : Int) (ts : List Int) (sp : TrigSpec) (k : TrigKind) (hm : sp.make = .ok k)
    (hper : (∃ δ imm pend, sp = .period δ imm pend) ∨ (∃ δs imm pend, sp = .periods δs imm pend)) :
    outOfDate now (Core.afterBars ts k) = false := by
  rw [core_outOfDate_after]
  rcases hper with ⟨δ, imm, pend, rfl⟩ | ⟨δs, imm, pend, rfl⟩
  · obtain ⟨_, rfl⟩ := make_period_iff.mp hm; rfl
  · obtain ⟨_, rfl⟩ := make_periods_iff.mp hm; rfl

/-- the statement for the grids of the real loop: any start, any positive interval, any length -/
theorem C18_on_every_grid (start Δ : Int) (hΔ : 0 < Δ) (n : Nat) (l : Core.Installed)
    (hmk : ∀ p ∈ l, p.2.1.make = .ok p.2.2) (hok : ∀ p ∈ l, SpecOK p.2.1) :
    (trigRun (grid start Δ n) l.trigs).2.2 = none ∧
    ∀ (i : Nat) (hi : i < l.length),
      firesOf i (trigRun (grid start Δ n) l.trigs).1 =
        ((grid start Δ n).filter (denotes start l[i].2.1)).map (fun t => ⟨t, i, l[i].1⟩) := by
  have h := C18_fires_eq_denoted (grid start Δ n) (grid_pairwise start Δ hΔ n) l hmk hok
  cases n with
  | zero => simpa [grid] using h
  | succ m =>
    have hh : (grid start Δ (m + 1)).headD 0 = start := by
      simp [grid, List.range_succ_eq_map]
    rw [hh] at h
    exact h

/-- **C18 through the bar loop** (`Demeter.Core.run`, the model of `Actuator.run` with markets, hooks, operations, refreshes,
    updates and notifications around the triggers): in every run that ends normally, whatever the strategy's hooks and the
    markets do, the calls of the action of trigger `i` are exactly one per bar of the (resampled) bar index that its
    specification denotes, with the keyword arguments supplied. -/
theorem C18_through_the_bar_loop (cfg : Cfg) (sc : Script) (l : Core.Installed)
    (hmk : ∀ p ∈ l, p.2.1.make = .ok p.2.2) (hok : ∀ p ∈ l, SpecOK p.2.1)
    (hidx : (barIndex cfg).Pairwise (· < ·)) (h : (run cfg l.trigs sc).err = none) :
    ∀ (i : Nat) (hi : i < l.length),
      firesOf i ((run cfg l.trigs sc).trace.filterMap fireOfEv) =
        ((barIndex cfg).filter (denotes ((barIndex cfg).headD 0) l[i].2.1)).map (fun t => ⟨t, i, l[i].1⟩) := by
  intro i hi
  rw [(core_run_trig cfg l.trigs sc h).1]
  exact (C18_fires_eq_denoted (barIndex cfg) hidx l hmk hok).2 i hi

/-- what still raises: parameter lists the code cannot evaluate (reported, not repaired) -/
theorem C18_empty_lists_raise (t : Int) (bars : List Int) (kw : String) :
    (trigRun (t :: bars) (install [(kw, .atTimes [])])).2.2 = some .valueError ∧
    (trigRun (t :: bars) (install [(kw, .ranges [])])).2.2 = some .valueError ∧
    (∀ imm pend, (trigRun (t :: bars) (install [(kw, .periods [] imm pend none)])).2.2 = some .indexError) := by
  refine ⟨rfl, rfl, fun _ _ => rfl⟩

/-- the run raises on its first bar **iff** an installed trigger cannot be evaluated (an `AtTimesTrigger` / `TimeRangesTrigger` /
    `PeriodsTrigger` built from an empty list): with the previous theorems, every other run goes through -/
theorem C18_raises_iff_malformed (t : Int) (bars : List Int) (trigs : List Trig) (hn : (trigs.map (·.id)).Nodup) :
    (trigRun (t :: bars) trigs).2.2 ≠ none ↔ ∃ x ∈ trigs, ¬ WF x.k :=
  raises_iff_malformed t bars trigs hn

/-- `PeriodsTrigger.when` before its `fix:` commit (/verif/known_findings.jsonl): return at the first period that is due -/
def Core.stepAllOld (now : Int) : List Int → List Int → Bool × List Int
  | δ :: δs, n :: ns =>
    if n = now then (true, (n + δ) :: ns)
    else ((Core.stepAllOld now δs ns).1, n :: (Core.stepAllOld now δs ns).2)
  | _, ns => (false, ns)

def Core.oldPeriodsFires : List Int → List Int → List Int → List Int
  | [], _, _ => []
  | t :: bars, δs, ns =>
    (if (Core.stepAllOld t δs ns).1 then [t] else []) ++ Core.oldPeriodsFires bars δs (Core.stepAllOld t δs ns).2

/-- periods of 2 and 3 minutes on a 1-minute grid: the unrepaired loop never fires at minute 9 or 15, the repaired
    model (and the specification) do -/
theorem C18_unrepaired_periods_starve :
    Core.oldPeriodsFires (grid 60 60 19) [120, 180] [120, 180] = [120, 180, 240, 360, 480, 600, 720, 840, 960, 1080] ∧
    (grid 0 60 20).filter (denotes 0 (.periods [120, 180] false 0)) =
      [120, 180, 240, 360, 480, 540, 600, 720, 840, 900, 960, 1080] := by
  decide +kernel

/-- `PeriodTrigger.when` before its `fix:` commit: the due time is compared by equality only -/
def Core.oldPeriodFires : List Int → Int → Int → List Int
  | [], _, _ => []
  | t :: bars, δ, next => if next = t then t :: Core.oldPeriodFires bars δ (next + δ) else Core.oldPeriodFires bars δ next

/-- a 3-minute period on 5-minute bars from 08:00: the unrepaired comparison never fires (the first due time 08:03 is not a
    bar and is never advanced); the specification — and the repaired model — fire where the two lattices meet -/
theorem C18_unrepaired_period_silent_off_grid :
    Core.oldPeriodFires (grid 29100 300 11) 180 (28800 + 180) = [] ∧
    (grid 28800 300 12).filter (denotes 28800 (.period 180 false 0)) = [29700, 30600, 31500] ∧
    (trigRun (grid 28800 300 12) (install [("", .period 180 false 0 none)])).1.map (·.ts) = [29700, 30600, 31500] := by
  decide +kernel

/-- 2- and 3-minute periods with a 1-minute delay, an at-times trigger and a range on 1-minute bars from 08:03 -/
def Core.exampleInstalled : Core.Installed :=
  [("a", .periods [120, 180] true 60, .periods [120, 180] true 60 none),
   ("b", .atTimes [29100, 29225], .atTimes [29100, 29220]),
   ("c", .range 29040 29160, .range 29040 29160)]

example :
    (∀ p ∈ Core.exampleInstalled, p.2.1.make = .ok p.2.2) ∧ (∀ p ∈ Core.exampleInstalled, SpecOK p.2.1) ∧
    (trigRun (grid 28980 60 8) Core.exampleInstalled.trigs).1.map (fun f => (f.ts, f.id)) =
      [(28980, 0), (29040, 2), (29100, 1), (29100, 2), (29160, 0), (29220, 0), (29220, 1), (29280, 0), (29400, 0)] ∧
    (trigRun (grid 28980 60 8) Core.exampleInstalled.trigs).2.1.map (·.id) = [0] := by
  refine ⟨by decide +kernel, ?_, by decide +kernel, by decide +kernel⟩
  intro p hp
  simp only [Core.exampleInstalled, List.mem_cons, List.not_mem_nil, or_false] at hp
  rcases hp with rfl | rfl | rfl <;> simp [SpecOK]

/-- a 3-minute period on 5-minute bars fires where both lattices meet -/
example : (trigRun (grid 28800 300 12) (install [("", .period 180 false 0 none)])).1.map (·.ts) = [29700, 30600, 31500] :=
  C18_unrepaired_period_silent_off_grid.2.2

end Demeter
