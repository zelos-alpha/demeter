/-
  C09 — token order is immaterial.  The orchestration code of `UniLpMarket` (everything outside the numeric
  kernel) commutes *exactly* with the token-order mirror, for every pair of kernels related by the mirror law
  and every arithmetic context: same outcomes (accepted / rejected with the same exception), same amounts,
  same liquidity, same wallet, mirrored positions.  How far the concrete kernel is from an exactly mirrored one
  is quantified separately (kernel reciprocity, measured closeness) — see the harness.
-/
import Proofs.Lemmas.UniMirrorRun
import Proofs.Fixtures.Uni
namespace Demeter.Uni
open Demeter

theorem stripLog_idem (s : State) : stripLog (stripLog s) = stripLog s := rfl

end Demeter.Uni

namespace Demeter
open Demeter.Uni

/-- **Orchestration commutes with the token-order mirror.** For any two kernels related by the mirror law, any
    arithmetic context, any state whose wallet holds both pool tokens and any sequence of operations expressed in
    base/quote terms (add by price / by tick, remove, collect, remove all, swap, buy, sell, even rebalance,
    transfers; no caller-chosen pool price): running the mirrored sequence on the mirrored market yields, step by
    step, the same outcome (same exception class or the same numbers, position keys mirrored) and ends in the
    mirror of the original's final economic state — wallet identical, positions mirrored with identical
    liquidity and swapped pending amounts. An orientation slip in any branch of any of these helpers would break
    this theorem. -/
theorem C09_orchestration {K K' : Kern} {pool : Pool} {ms : Nat → Nat} (hk : KernMirror K K' pool ms)
    (ht : TickErr K pool) (hne : pool.tok0 ≠ pool.tok1) (minError : Rat) :
    ∀ (ops : List Op) (s : State), (∀ op ∈ ops, op.mirrorable = true) → WalletHas pool s.wallet →
      (runE K' (mPool pool) minError (mState s) (ops.map mOp)).1 = mOutcomes ops (runE K pool minError s ops).1 ∧
      (runE K' (mPool pool) minError (mState s) (ops.map mOp)).2 = mState (runE K pool minError s ops).2 :=
  runE_mirror_of hk ht hne minError (mOpS_of_mirrorable ms)

/-- `add_liquidity_by_value` (known finding, not covered by `C09_orchestration`): its tick oracle is the floor of
    the real-valued tick in pool orientation, rounded to the spacing; floor does not commute with negation, so the
    two token orders can disagree by a whole spacing. Witness: real tick 5.5, spacing 10. -/
theorem C09_fails_add_by_value_tick :
    nearestUsable (Rat.floor (-(11 / 2 : Rat))) 10 ≠ -nearestUsable (Rat.floor (11 / 2 : Rat)) 10 := by
  decide +kernel

/-- non-vacuity of `C09_orchestration` with two different kernels (`K ≠ K'`) and an `ms` that is not an involution
    (`s ↦ 1000 - s` on `Nat`); `C09_mirror_law_has_nontrivial_instance` (Proofs/C09/Witness.lean) has one kernel on both
    sides that computes like Uniswap's -/
example : ∃ (K K' : Kern) (pool : Pool) (ms : Nat → Nat), KernMirror K K' pool ms ∧ TickErr K pool ∧ pool.tok0 ≠ pool.tok1 ∧
    WalletHas pool toyState.wallet := by
  let mk (flip : Bool) : Kern :=
    { cx := NumCtx.exact
      priceToSqrt := fun _ _ => .ok (if flip then 600 else 400)
      sqrtToPrice := fun _ _ => .ok 2
      tickToPrice := fun _ t => .ok (if flip then -t else t)
      newPos := fun _ _ _ _ a0 a1 => if flip then .ok (a0 / 3, a1 / 2, 7) else .ok (a0 / 2, a1 / 3, 7)
      amounts := fun _ _ _ _ l _ => if flip then .ok (2 * l, l) else .ok (l, 2 * l)
      tickToSqrt := fun _ => .ok (if flip then 600 else 400) }
  refine ⟨mk false, mk true, toyPool, fun s => 1000 - s, ?_, ?_, by decide, ?_⟩
  · refine { cx := rfl, priceToSqrt := fun _ => rfl, sqrtToPrice := fun _ => rfl, tickToPrice := fun t => ?_,
             newPos := fun _ _ _ _ _ => rfl, amounts := fun _ _ _ _ _ => rfl, tickToSqrt := fun _ => rfl }
    simp [mk]
  · intro t e h; simp [mk] at h
  · exact ⟨by unfold Has; decide, by unfold Has; decide⟩

end Demeter
