/-
  C08 — per-bar LP fee = volume × fee rate × in-range path fraction × liquidity share.
  Theorems about `V3CoreLib.update_fee` (Demeter.Uni.Fee).
  Arithmetic statements are for the exact context; structural ones hold for every context.
-/
import Demeter.Uni.Fee
import Proofs.Lemmas.UniFee
namespace Demeter
open Demeter.Uni

/-- The weight the code derives from sorting the four ticks is the length of
    `[min(prev,close), max(prev,close)] ∩ [lower, upper]` divided by `|close − prev|` (1 for a stationary
    tick inside, 0 for one outside), and it lies in `[0, 1]`. All ticks, all ranges. -/
theorem C08_weight_spec (prev close lower upper : Int) (h : lower < upper) :
    weightOf (feeCase (some prev) close lower upper) = pathFraction prev close lower upper ∧
    0 ≤ weightOf (feeCase (some prev) close lower upper) ∧
    weightOf (feeCase (some prev) close lower upper) ≤ 1 := by
  rw [feeCase_eq_spec _ _ _ _ h]
  exact ⟨weightOf_feeSpec _ _ _ _, weightOf_feeSpec_bounds _ _ _ _⟩

/-- both closes inside the range: the whole bar counts -/
theorem C08_weight_inside (prev close lower upper : Int)
    (h1 : lower ≤ prev ∧ prev < upper) (h2 : lower ≤ close ∧ close < upper) :
    feeCase (some prev) close lower upper = .full := by
  have h : lower < upper := by omega
  rw [feeCase_eq_spec _ _ _ _ h]; unfold feeSpec inside; rw [if_pos ⟨h1, h2⟩]

/-- both closes on one side of the range: nothing -/
theorem C08_weight_outside (prev close lower upper : Int) (h : lower < upper)
    (hs : (upper ≤ prev ∧ upper ≤ close) ∨ (prev < lower ∧ close < lower)) :
    feeCase (some prev) close lower upper = .skip := by
  rw [feeCase_eq_spec _ _ _ _ h]; unfold feeSpec inside overlap
  rw [if_neg (by omega), if_pos (by omega)]

/-- the constants of the source the statements above are about: the alarm threshold `weight_decimal > 1` and the
    half-open range convention `tick >= upper` = above -/
theorem C08_source_constants : Gen.uniWeightAlarm = 1 ∧ Gen.uniUpperInclusiveAbove = true ∧
    (∀ lower upper t : Int, inRange lower upper t = 1 ↔ t ≥ upper) := by
  refine ⟨rfl, rfl, ?_⟩
  intro lower upper t
  unfold inRange
  split
  · simp_all
  · split <;> simp_all

/-- `RuntimeError("weight must <=1")` cannot be raised -/
theorem C08_weight_error_unreachable (pool : Pool) (prev : Int) (row : Row) (p : Pos) (hlu : p.lower < p.upper) :
    updateFee NumCtx.exact pool (some prev) row p ≠ .error .runtime := by
  rcases updateFee_exact_cases pool prev row p hlu with ⟨_, h⟩ | h
  · rw [h]; simp
  · -- `calc_amounts` raises for a zero `currentLiquidity` only, and then a division error
    rw [h]; unfold calcAmounts; split
    · split <;> simp
    · simp

/-- Per token: `Δpending = volume × fee rate × path fraction × share`, `volume = int(inAmount)/10^decimals`,
    `share = own liquidity / currentLiquidity` (which `set_market_status` made `pool + Σ own`, see
    `C08_bar_fee`). Nothing else of the position changes. -/
theorem C08_fee_formula (pool : Pool) (prev : Int) (row : Row) (p : Pos) (hlu : p.lower < p.upper)
    (hc : row.curLiq ≠ 0) :
    ∃ p', updateFee NumCtx.exact pool (some prev) row p = .ok p' ∧
      p'.pending0 - p.pending0 =
        (((truncInt row.in0 : Int) : Rat) / ((10 ^ pool.d0 : Nat) : Rat)) * pool.feeRate *
          pathFraction prev row.closeTick p.lower p.upper * ((p.liq : Rat) / row.curLiq) ∧
      p'.pending1 - p.pending1 =
        (((truncInt row.in1 : Int) : Rat) / ((10 ^ pool.d1 : Nat) : Rat)) * pool.feeRate *
          pathFraction prev row.closeTick p.lower p.upper * ((p.liq : Rat) / row.curLiq) ∧
      p' = { p with pending0 := p'.pending0, pending1 := p'.pending1 } := by
  refine ⟨_, updateFee_exact pool prev row p hlu hc, ?_, ?_, rfl⟩ <;>
    simp only [feeInc, pow10] <;> ring

/-- never a negative amount -/
theorem C08_fee_nonneg (pool : Pool) (prev : Int) (row : Row) (p : Pos) (hlu : p.lower < p.upper)
    (hc : 0 < row.curLiq) (h0 : 0 ≤ row.in0) (h1 : 0 ≤ row.in1) (hl : 0 ≤ p.liq) (hf : 0 ≤ pool.feeRate) :
    ∃ p', updateFee NumCtx.exact pool (some prev) row p = .ok p' ∧
      p.pending0 ≤ p'.pending0 ∧ p.pending1 ≤ p'.pending1 := by
  have hw := (pathFraction_bounds prev row.closeTick p.lower p.upper).1
  exact ⟨_, updateFee_exact pool prev row p hlu (ne_of_gt hc),
    le_add_of_nonneg_right (feeInc_nonneg _ hw h0 hl hc hf), le_add_of_nonneg_right (feeInc_nonneg _ hw h1 hl hc hf)⟩

/-- out of range for the whole bar: nothing, whatever the arithmetic context -/
theorem C08_fee_zero_out_of_range (cx : NumCtx) (pool : Pool) (prev : Int) (row : Row) (p : Pos)
    (hlu : p.lower < p.upper)
    (hs : (p.upper ≤ prev ∧ p.upper ≤ row.closeTick) ∨ (prev < p.lower ∧ row.closeTick < p.lower)) :
    updateFee cx pool (some prev) row p = .ok p := by
  unfold updateFee; rw [C08_weight_outside _ _ _ _ hlu hs]

/-- the share: `own / (pool + own)` for the only position, never more than that otherwise -/
theorem C08_share (poolLiq : Rat) (ps : List Pos) (p : Pos) (hp : p ∈ ps) (hnn : ∀ q ∈ ps, 0 ≤ q.liq)
    (hpool : 0 < poolLiq) :
    (ps = [p] → (p.liq : Rat) / (poolLiq + (sumLiq ps : Int)) = (p.liq : Rat) / (poolLiq + p.liq)) ∧
    (p.liq : Rat) / (poolLiq + (sumLiq ps : Int)) ≤ (p.liq : Rat) / (poolLiq + p.liq) := by
  have hl' : (0 : Rat) ≤ (p.liq : Rat) := by exact_mod_cast hnn p hp
  have hle' : (p.liq : Rat) ≤ ((sumLiq ps : Int) : Rat) := by exact_mod_cast Uni.liq_le_sumLiq hnn hp
  constructor
  · intro h; subst h; simp [sumLiq]
  · apply div_le_div_of_nonneg_left hl' (by linarith) (by linarith)

/-- Same position, same path, same volumes; only `currentLiquidity` (= pool + Σ own) differs between the two
    runs: the accrued amounts are inversely proportional to it. -/
theorem C08_only_through_share (pool : Pool) (prev : Int) (row : Row) (c' : Rat) (p : Pos)
    (hlu : p.lower < p.upper) (hc : row.curLiq ≠ 0) (hc' : c' ≠ 0) :
    ∃ p1 p2, updateFee NumCtx.exact pool (some prev) row p = .ok p1 ∧
      updateFee NumCtx.exact pool (some prev) { row with curLiq := c' } p = .ok p2 ∧
      (p1.pending0 - p.pending0) * row.curLiq = (p2.pending0 - p.pending0) * c' ∧
      (p1.pending1 - p.pending1) * row.curLiq = (p2.pending1 - p.pending1) * c' := by
  refine ⟨_, _, updateFee_exact pool prev row p hlu hc,
    updateFee_exact pool prev { row with curLiq := c' } p hlu hc', ?_, ?_⟩ <;>
  · simp only [add_sub_cancel_left]
    rw [feeInc_mul_curLiq _ _ _ _ _ hc, feeInc_mul_curLiq _ _ _ _ _ hc']

example : pathFraction 0 100 50 200 = 1 / 2 := by
  simp [pathFraction, overlap, intAbs]; norm_num
example : feeCase (some (-500)) 900 0 100 = .part 100 1400 := by decide
/-- close exactly on the upper bound counts as above; coming from inside the whole path is inside -/
example : feeCase (some 60) 100 0 100 = .part 40 40 := by decide
/-- arriving exactly on the lower bound from below: nothing -/
example : feeCase (some (-7)) 0 0 100 = .skip := by decide
/-- the hypotheses of `C08_fee_formula` / `C08_fee_nonneg` hold for an ordinary position and row -/
example : ∃ (row : Row) (p : Pos), p.lower < p.upper ∧ 0 < row.curLiq ∧ 0 ≤ row.in0 ∧ 0 ≤ p.liq ∧
    pathFraction 0 row.closeTick p.lower p.upper ≠ 0 :=
  ⟨{ closeTick := 5, curLiq := 1000, in0 := 10, in1 := 10, price := 1 },
   { (default : Pos) with lower := -10, upper := 10, liq := 7 }, by decide, by decide, by decide, by decide,
   by simp [pathFraction, overlap, intAbs]⟩

end Demeter
