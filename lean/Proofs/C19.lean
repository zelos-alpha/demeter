/-
  C19 — strategies run by BacktestManager do not influence one another: backtests that complete and keep no process-wide state (the
  full statement, `C19_manager_isolated`, is in Proofs/C19/Process.lean).

  `Manager.runSeq` / `runPool` / `runPoolArgs` / `managerRun` mirror the data flow of demeter/core/backtest.py; a
  strategy is an arbitrary transformer `Strat M C V N P O` of everything it is handed — the market objects, and the
  data layer by layer: frame columns, frame values, the Python objects nested inside cells (order-book lists, which no
  DataFrame copy duplicates), the price frame — including strategies that write into all of them.  The theorems hold
  for every list of such strategies, every number of threads and every assignment of tasks to worker processes.

  Per layer, isolation needs a copy made by the code or strategies that do not write into that layer (`DataSafe`,
  `MarketsSafe`); the source flags regenerated on every run (`Mode.current`) make every copy under pandas copy-on-write
  (always on from pandas 3, the installed version).  For pandas 2 without copy-on-write the statement needs the
  hypothesis that no strategy overwrites frame values in place.  Each copy is shown to be needed by a witness
  (`C19_fails_when_…`): four repaired defects and two seeded regressions.  The path theorems here are the case "nobody
  fails" of `Proofs/C19/Failure.lean` (`C19_without_failures_same_as_plain_manager`).

  Scope of the layer `N` under `cellsCopied = true`: objects nested in cells of columns that hold at least one list, dict
  or set cell (what `_own_frame` deep-copies; see `Mode.cellsCopied`).  Frames with mutable cells of other classes only
  are the case `cellsCopied = false`: `C19_order_list_copy_partial` (needs `CellsIntact`) and the witness
  `C19_fails_when_nested_cells_are_shared`.
-/
import Proofs.C19.Failure
namespace Demeter
open Manager

variable {M C V N P O : Type}

/-- what the source says on this run: `_start` attaches the markets of `copy.deepcopy(config.markets)` (`managerMarketsCopy = 2`, whole), hands out a
    `.copy` of each data frame and deep-copies the objects nested in its cells; `get_new_order_list` decrements a deep
    copy; `Actuator.set_price` always keeps a frame of its own (`actuatorPriceCopy = 0`, always); and `run()` takes the in-process path iff there is
    one strategy or one thread (the dispatch `managerRun` models) -/
theorem C19_current_code_pinned :
    (∀ cow, Mode.current cow = ⟨.whole, true, cow, true, true, .always⟩) ∧
    Gen.managerMarketsCopy = 2 ∧ Gen.managerDataView = true ∧ Gen.managerCellsCopied = true ∧
    Gen.deribitOrderListDeepCopied = true ∧ Gen.actuatorPriceCopy = 0 ∧
    Gen.managerSeqIfOneStrategyOrOneThread = true :=
  ⟨mode_current, by decide⟩

/-- **sequential path (threads = 1 or a single strategy)**: with the markets safe and the shared data safe, every
    strategy's observation is the one it produces alone on the fresh configuration -/
theorem C19_sequential_isolated (env : Env M P) (md : Mode) (cfg : M) (d : Data C V N P)
    (strats : List (Strat M C V N P O)) (hm : MarketsSafe env md cfg strats) (hd : DataSafe env md d strats) :
    runSeq env md cfg d strats = spec cfg d strats := by
  have h := C19_sequential_failure_isolated env md cfg d (strats.map Strat.neverFails)
    (by rwa [plain_neverFails]) (by rwa [plain_neverFails])
  rw [runSeqF_neverFails] at h
  exact eq_spec_of_specF h

/-- **pooled path (threads > 1, fork)**: for *every* assignment of tasks to worker processes — and whether or not
    `_start` copies the markets, since each task unpickles its own configuration — every observation is the solo one -/
theorem C19_pooled_isolated (env : Env M P) (md : Mode) (cfg : M) (d : Data C V N P) (assign : Nat → Nat)
    (strats : List (Strat M C V N P O)) (hm : AttachSafe env md cfg) (hd : DataSafe env md d strats)
    (i0 : Nat) (w : Nat → Data C V N P) (hw : ∀ k, w k = d) :
    runPool env md cfg assign w i0 strats = spec cfg d strats := by
  have h := C19_pooled_failure_isolated env md cfg d assign (strats.map Strat.neverFails) hm
    (by rwa [plain_neverFails]) i0 w hw
  rw [runPoolF_neverFails] at h
  exact eq_spec_of_specF h

/-- **pooled path on Windows** (data pickled per task): isolated whatever the strategies do to their data -/
theorem C19_windows_pool_isolated (env : Env M P) (md : Mode) (cfg : M) (d : Data C V N P)
    (strats : List (Strat M C V N P O)) (hm : AttachSafe env md cfg) :
    runPoolArgs env md cfg d strats = spec cfg d strats := by
  have h := C19_windows_pool_failure_isolated env md cfg d (strats.map Strat.neverFails) hm
  rw [runPoolArgsF_neverFails] at h
  exact eq_spec_of_specF h

/-- **`BacktestManager.run()` for any combination of copies**: the hypotheses say exactly which copies are needed —
    per layer, a private copy or strategies that do not write into that layer.  Every thread count, cpu count,
    platform and scheduling. -/
theorem C19_manager_isolated_of_safe (env : Env M P) (md : Mode) (threads cpu : Nat) (windows ctxSet : Bool)
    (assign : Nat → Nat) (cfg : M) (d : Data C V N P) (strats : List (Strat M C V N P O))
    (hm : MarketsSafe env md cfg strats) (hd : DataSafe env md d strats) (obs : List O)
    (h : managerRun env md threads cpu windows ctxSet assign (some cfg) (some d) strats = .done obs) :
    obs = spec cfg d strats := by
  have hF := C19_without_failures_same_as_plain_manager env md ⟨true, true, true⟩ threads cpu windows ctxSet assign
    (fun _ => true) (some cfg) (some d) strats
  rw [h] at hF
  have hres := C19_manager_failure_isolated_of_safe env md threads cpu windows ctxSet assign (fun _ => true) cfg d
    (strats.map Strat.neverFails) (by rwa [plain_neverFails]) (by rwa [plain_neverFails]) _ hF
  exact eq_spec_of_specF hres

/-- **`BacktestManager.run()`, backtests without process-wide state** (pandas copy-on-write; with process state:
    `C19_manager_isolated`, `Proofs/C19/Process.lean`): whatever the strategies do — to the markets, to
    the columns, values and nested lists of the data frames, to the price frame — whatever references the markets hold
    to each other, whatever the price frame's cell type, the number of threads, the cpu count, the platform and the
    scheduling: if the call completes, its observations are those of the strategies run alone, in the order of the
    strategy list -/
theorem C19_manager_isolated_stateless (env : Env M P) (threads cpu : Nat) (windows ctxSet : Bool) (assign : Nat → Nat) (cfg : M)
    (d : Data C V N P) (strats : List (Strat M C V N P O)) (obs : List O)
    (h : managerRun env (Mode.current true) threads cpu windows ctxSet assign (some cfg) (some d) strats = .done obs) :
    obs = spec cfg d strats := by
  rw [C19_current_code_pinned.1] at h
  exact C19_manager_isolated_of_safe env _ threads cpu windows ctxSet assign cfg d strats (Or.inl rfl)
    ⟨Or.inl rfl, Or.inl ⟨rfl, rfl⟩, Or.inl rfl, Or.inl rfl⟩ obs h

/-- the same without copy-on-write (pandas 2 default): holds for strategies that do not overwrite the frames' values
    in place.  Partial: the unrestricted statement is false there, see `C19_fails_without_cow_when_data_is_overwritten`. -/
theorem C19_manager_isolated_no_cow_partial (env : Env M P) (threads cpu : Nat) (windows ctxSet : Bool) (assign : Nat → Nat)
    (cfg : M) (d : Data C V N P) (strats : List (Strat M C V N P O)) (hv : ValsIntact strats) (obs : List O)
    (h : managerRun env (Mode.current false) threads cpu windows ctxSet assign (some cfg) (some d) strats = .done obs) :
    obs = spec cfg d strats := by
  rw [C19_current_code_pinned.1] at h
  exact C19_manager_isolated_of_safe env _ threads cpu windows ctxSet assign cfg d strats (Or.inl rfl)
    ⟨Or.inl rfl, Or.inr hv, Or.inl rfl, Or.inl rfl⟩ obs h

/-- the run does complete in the supported configurations: at least one thread, not more threads than cpus, no start
    method fixed earlier in the process -/
theorem C19_manager_completes (env : Env M P) (md : Mode) (threads cpu : Nat) (windows : Bool) (assign : Nat → Nat) (cfg : M)
    (d : Data C V N P) (strats : List (Strat M C V N P O)) (ht : 1 ≤ threads) (hc : threads ≤ cpu) :
    ∃ obs, managerRun env md threads cpu windows false assign (some cfg) (some d) strats = .done obs :=
  dispatch_supported (motive := fun o : Outcome O => ∃ obs, o = .done obs) ht hc ⟨_, rfl⟩ ⟨_, rfl⟩ ⟨_, rfl⟩ ⟨_, rfl⟩

/-- **each strategy separately**: the `i`-th observation depends on the `i`-th strategy only — not on the other
    strategies, their number, their order, the thread count, the platform or the scheduling -/
theorem C19_each_strategy_as_alone (env : Env M P) (threads cpu : Nat) (windows ctxSet : Bool) (assign : Nat → Nat) (cfg : M)
    (d : Data C V N P) (strats : List (Strat M C V N P O)) (obs : List O)
    (h : managerRun env (Mode.current true) threads cpu windows ctxSet assign (some cfg) (some d) strats = .done obs)
    (i : Nat) (hi : i < strats.length) :
    obs[i]? = some ((strats[i].run cfg d).2.2) := by
  rw [C19_manager_isolated_stateless env threads cpu windows ctxSet assign cfg d strats obs h]
  simp [spec, hi]

/-- **order and thread count are immaterial**: two runs of the same strategies in different orders, with different
    thread counts, platforms and schedules, report the same observations up to that reordering -/
theorem C19_order_and_threads_immaterial (env : Env M P) (t1 t2 cpu1 cpu2 : Nat) (w1 w2 c1 c2 : Bool) (as1 as2 : Nat → Nat)
    (cfg : M) (d : Data C V N P) (s1 s2 : List (Strat M C V N P O)) (hperm : s1.Perm s2) (o1 o2 : List O)
    (h1 : managerRun env (Mode.current true) t1 cpu1 w1 c1 as1 (some cfg) (some d) s1 = .done o1)
    (h2 : managerRun env (Mode.current true) t2 cpu2 w2 c2 as2 (some cfg) (some d) s2 = .done o2) :
    o1.Perm o2 := by
  rw [C19_manager_isolated_stateless env t1 cpu1 w1 c1 as1 cfg d s1 o1 h1, C19_manager_isolated_stateless env t2 cpu2 w2 c2 as2 cfg d s2 o2 h2]
  exact hperm.map _

/-- **which copies carry which layer** (the current code makes more than one of them): once `_start` deep-copies the
    objects nested in cells, isolation does not depend on `get_new_order_list` copying its argument; and a
    `set_price` that skips the conversion for Decimal frames is harmless for frames that are not all-Decimal -/
theorem C19_cells_copy_covers_order_lists (env : Env M P) (olc : Bool) (pc : PriceCopy) (threads cpu : Nat)
    (windows ctxSet : Bool) (assign : Nat → Nat) (cfg : M) (d : Data C V N P) (strats : List (Strat M C V N P O))
    (hp : pc.adopts (env.isDec d.prices) = false) (obs : List O)
    (h : managerRun env ⟨.whole, true, true, true, olc, pc⟩ threads cpu windows ctxSet assign (some cfg) (some d) strats = .done obs) :
    obs = spec cfg d strats :=
  C19_manager_isolated_of_safe env _ threads cpu windows ctxSet assign cfg d strats (Or.inl rfl)
    ⟨Or.inl rfl, Or.inl ⟨rfl, rfl⟩, Or.inl rfl, Or.inl hp⟩ obs h

/-- before the cells were copied in `_start`, isolation of the order books rested on `get_new_order_list` **and** on
    strategies not writing into the nested lists themselves (the hypothesis that was violated, see
    `C19_fails_when_nested_cells_are_shared`) -/
theorem C19_order_list_copy_partial (env : Env M P) (threads cpu : Nat) (windows ctxSet : Bool) (assign : Nat → Nat) (cfg : M)
    (d : Data C V N P) (strats : List (Strat M C V N P O)) (hc : CellsIntact strats) (obs : List O)
    (h : managerRun env ⟨.whole, true, true, false, true, .always⟩ threads cpu windows ctxSet assign (some cfg) (some d) strats = .done obs) :
    obs = spec cfg d strats :=
  C19_manager_isolated_of_safe env _ threads cpu windows ctxSet assign cfg d strats (Or.inl rfl)
    ⟨Or.inl rfl, Or.inl ⟨rfl, rfl⟩, Or.inr ⟨hc, Or.inl rfl⟩, Or.inl rfl⟩ obs h

/-- with the configuration's market objects attached directly (the code before the first repair), an idle strategy
    run after one that opens a position finds that position -/
theorem C19_fails_when_markets_are_shared :
    ¬ (∀ (strats : List PStrat),
        runSeq (probeEnv false false) ⟨.none, true, true, true, true, .always⟩ (0, 0, true) pd0 strats = spec (0, 0, true) pd0 strats) :=
  fun h => absurd (h [probeStrat { eff0 with posA := 1 }, probeStrat eff0]) (by decide)

/-- with every market copied on its own (the code before its repair), a market that refers to another
    configured market — a SqueethMarket and its oSQTH pool — is attached to a private copy of it: already a single
    strategy differs from the plain Actuator run; without such references the per-market copy is enough -/
theorem C19_fails_when_markets_are_copied_one_by_one :
    (¬ (∀ (strats : List PStrat),
        runSeq (probeEnv false true) ⟨.each, true, true, true, true, .always⟩ (0, 0, true) pd0 strats = spec (0, 0, true) pd0 strats)) ∧
    (∀ (strats : List PStrat) (cfg : PM) (d : PData),
        runSeq (probeEnv false false) ⟨.each, true, true, true, true, .always⟩ cfg d strats = spec cfg d strats) := by
  constructor
  · exact fun h => absurd (h [probeStrat eff0]) (by decide)
  · intro strats cfg d
    refine C19_sequential_isolated _ _ cfg d strats (Or.inr (Or.inl ⟨rfl, ?_⟩)) ⟨Or.inl rfl, Or.inl ⟨rfl, rfl⟩, Or.inl rfl, Or.inl rfl⟩
    obtain ⟨a, b, c⟩ := cfg
    simp [probeEnv]

/-- with the shared data frame assigned itself (the code before the second repair), a strategy run after one that adds
    an indicator column sees that column — on the sequential path, and on the forked path when the scheduler gives both
    tasks to the same worker -/
theorem C19_fails_when_data_frame_is_shared :
    (¬ (∀ (strats : List PStrat),
        runSeq (probeEnv false false) ⟨.whole, false, true, true, true, .always⟩ (0, 0, true) pd0 strats = spec (0, 0, true) pd0 strats)) ∧
    (¬ (∀ (assign : Nat → Nat) (strats : List PStrat),
        runPool (probeEnv false false) ⟨.whole, false, true, true, true, .always⟩ (0, 0, true) assign (fun _ => pd0) 0 strats
          = spec (0, 0, true) pd0 strats)) := by
  constructor
  · exact fun h => absurd (h [probeStrat { eff0 with cols := 1 }, probeStrat eff0]) (by decide)
  · exact fun h => absurd (h (fun _ => 0) [probeStrat { eff0 with cols := 1 }, probeStrat eff0]) (by decide)

/-- without copy-on-write the view does not protect values overwritten in place: the unrestricted statement fails -/
theorem C19_fails_without_cow_when_data_is_overwritten :
    ¬ (∀ (strats : List PStrat) (obs : List (PM × PData)),
        managerRun (probeEnv false false) (Mode.current false) 1 1 false false id (some (0, 0, true)) (some pd0) strats = .done obs →
        obs = spec (0, 0, true) pd0 strats) :=
  fun h => absurd (h [probeStrat { eff0 with vals := 1 }, probeStrat eff0] _ rfl) (by decide)

/-- with the frame copied but not the objects nested in its cells (the code before its repair): a
    strategy that writes into an order-book list — `get_new_order_list` copying or not — takes that depth away from the
    next strategy, on the sequential path and on the forked path when both tasks run on the same worker -/
theorem C19_fails_when_nested_cells_are_shared :
    (¬ (∀ (strats : List PStrat),
        runSeq (probeEnv false false) ⟨.whole, true, true, false, true, .always⟩ (0, 0, true) pd0 strats = spec (0, 0, true) pd0 strats)) ∧
    (¬ (∀ (assign : Nat → Nat) (strats : List PStrat),
        runPool (probeEnv false false) ⟨.whole, true, true, false, true, .always⟩ (0, 0, true) assign (fun _ => pd0) 0 strats
          = spec (0, 0, true) pd0 strats)) := by
  constructor
  · exact fun h => absurd (h [probeStrat { eff0 with cellsUser := 1 }, probeStrat eff0]) (by decide)
  · exact fun h => absurd (h (fun _ => 0) [probeStrat { eff0 with cellsUser := 1 }, probeStrat eff0]) (by decide)

/-- seeded regression (a): `get_new_order_list` decrementing the lists it is given (`list(old)` instead of
    `copy.deepcopy(old)`) while the cells are shared: two strategies that only *trade* the same option — the second
    finds the depth the first one bought gone.  (With the cells copied by `_start` the same change is harmless:
    `C19_cells_copy_covers_order_lists`.) -/
theorem C19_fails_when_order_list_is_not_deep_copied :
    ¬ (∀ (strats : List PStrat), CellsIntact strats →
        runSeq (probeEnv false false) ⟨.whole, true, true, false, false, .always⟩ (0, 0, true) pd0 strats = spec (0, 0, true) pd0 strats) := by
  intro h
  have := h [probeStrat { eff0 with cellsFill := 5 }, probeStrat { eff0 with cellsFill := 3 }] (by
    intro s hs m d
    simp only [List.mem_cons, List.not_mem_nil, or_false] at hs
    rcases hs with rfl | rfl <;> rfl)
  revert this
  decide

/-- seeded regression (b): `Actuator.set_price` adopting the caller's frame when its cells are Decimal already: a
    strategy that writes into `self.prices` changes the next strategy's prices; with a float frame the conversion still
    makes a private frame and nothing leaks -/
theorem C19_fails_when_price_frame_is_adopted :
    (¬ (∀ (strats : List PStrat),
        runSeq (probeEnv true false) ⟨.whole, true, true, true, true, .unlessDecimal⟩ (0, 0, true) pd0 strats = spec (0, 0, true) pd0 strats)) ∧
    (∀ (strats : List PStrat),
        runSeq (probeEnv false false) ⟨.whole, true, true, true, true, .unlessDecimal⟩ (0, 0, true) pd0 strats = spec (0, 0, true) pd0 strats) := by
  constructor
  · exact fun h => absurd (h [probeStrat { eff0 with prices := 1 }, probeStrat eff0]) (by decide)
  · intro strats
    exact C19_sequential_isolated _ _ _ _ strats (Or.inl rfl) ⟨Or.inl rfl, Or.inl ⟨rfl, rfl⟩, Or.inl rfl, Or.inl rfl⟩

/-- the hypotheses of `C19_manager_isolated_no_cow_partial` and `C19_manager_isolated_of_safe` hold for strategies that write into
    the other layers, and for the current code whatever is written -/
example : ValsIntact [probeStrat { eff0 with posA := 1, cols := 1, cellsUser := 2, prices := 1 }, probeStrat eff0] := by
  intro s hs m d
  simp only [List.mem_cons, List.not_mem_nil, or_false] at hs
  rcases hs with rfl | rfl <;> rfl
example : MarketsSafe (probeEnv true true) (Mode.current true) ((0, 0, true) : PM) [probeStrat eff0] := Or.inl (by decide)
example : DataSafe (probeEnv true true) (Mode.current true) pd0 [probeStrat { eff0 with vals := 3, cellsUser := 1, prices := 2 }] :=
  ⟨Or.inl (by decide), Or.inl (by decide), Or.inl (by decide), Or.inl (by decide)⟩
/-- the current code: everybody finds the pristine objects, whatever the others wrote -/
example : runSeq (probeEnv true true) (Mode.current true) (0, 0, true) pd0
    [probeStrat ⟨1, 0, 1, 1, 2, 5, 1⟩, probeStrat eff0, probeStrat ⟨0, 1, 0, 0, 0, 3, 0⟩]
    = [((0, 0, true), pd0), ((0, 0, true), pd0), ((0, 0, true), pd0)] := by decide
/-- the original code: the second and third strategy find what the earlier ones left -/
example : runSeq (probeEnv false false) (Mode.original true) (0, 0, true) pd0
    [probeStrat ⟨1, 0, 1, 1, 2, 5, 1⟩, probeStrat eff0, probeStrat ⟨0, 1, 0, 0, 0, 3, 0⟩]
    = [((0, 0, true), pd0), ((1, 0, true), ⟨1, 1, 2, (0, false)⟩), ((1, 0, true), ⟨1, 1, 2, (0, false)⟩)] := by decide
example : runPool (probeEnv false false) (Mode.original true) (0, 0, true) (fun i => i % 2) (fun _ => pd0) 0
    [probeStrat ⟨1, 0, 1, 1, 2, 5, 1⟩, probeStrat eff0, probeStrat ⟨0, 1, 0, 0, 0, 3, 0⟩]
    = [((0, 0, true), pd0), ((0, 0, true), pd0), ((0, 0, true), ⟨1, 1, 2, (0, false)⟩)] := by decide

end Demeter
