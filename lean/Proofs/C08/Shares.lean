/-
  C08 — several positions: "its share of active liquidity (own / (pool + own) when it is the only position, never more
  than that otherwise)".  With `n` positions held, every position's share is `own_i / (pool + Σ own)`; the shares add up
  to `Σ own / (pool + Σ own) < 1`, so all positions together never earn more than the bar's `volume × fee rate` per
  token — whatever their ranges (overlapping, nested, disjoint) and whatever the tick path.
-/
import Proofs.C08
import Proofs.Lemmas.AListSum
import Mathlib.Tactic.Linarith
import Mathlib.Tactic.Positivity
namespace Demeter.Uni
open Demeter

def shareOf (poolLiq : Rat) (ps : List Pos) (p : Pos) : Rat := (p.liq : Rat) / (poolLiq + ((sumLiq ps : Int) : Rat))

def sumRat {α : Type} (f : α → Rat) : List α → Rat
  | [] => 0
  | x :: xs => f x + sumRat f xs

theorem sumRat_eq {α : Type} (f : α → Rat) (l : List α) : sumRat f l = (l.map f).sum := by
  induction l with
  | nil => rfl
  | cons x xs ih => rw [sumRat, ih, List.map_cons, List.sum_cons]

theorem sumRat_liq (ps : List Pos) : sumRat (fun p => (p.liq : Rat)) ps = ((sumLiq ps : Int) : Rat) := by
  induction ps with
  | nil => simp [sumRat, sumLiq]
  | cons p ps ih => simp only [sumRat, sumLiq, ih]; push_cast; ring

end Demeter.Uni

namespace Demeter
open Demeter.Uni

/-- **The shares of `n` positions.**  With pool liquidity `poolLiq > 0` and own positions `ps` (any number, any ranges,
    liquidity ≥ 0): the shares `own_i / (pool + Σ own)` add up to `Σ own / (pool + Σ own)`, which is below 1; each share
    is at most `own_i / (pool + own_i)` (what it would be were it the only position) and at least 0. -/
theorem C08_shares_sum (poolLiq : Rat) (ps : List Pos) (hnn : ∀ q ∈ ps, 0 ≤ q.liq) (hpool : 0 < poolLiq) :
    sumRat (shareOf poolLiq ps) ps = ((sumLiq ps : Int) : Rat) / (poolLiq + ((sumLiq ps : Int) : Rat)) ∧
    sumRat (shareOf poolLiq ps) ps < 1 ∧
    ∀ p ∈ ps, 0 ≤ shareOf poolLiq ps p ∧ shareOf poolLiq ps p ≤ (p.liq : Rat) / (poolLiq + p.liq) := by
  have hD : 0 < poolLiq + ((sumLiq ps : Int) : Rat) := Uni.add_sumLiq_pos hnn hpool
  have hsum : sumRat (shareOf poolLiq ps) ps = ((sumLiq ps : Int) : Rat) / (poolLiq + ((sumLiq ps : Int) : Rat)) := by
    unfold shareOf
    rw [sumRat_eq, ListSum.div (fun p : Pos => (p.liq : Rat)), ← sumRat_eq, sumRat_liq]
  refine ⟨hsum, ?_, ?_⟩
  · rw [hsum, div_lt_one hD]; linarith
  · intro p hp
    have hl : (0 : Rat) ≤ (p.liq : Rat) := by exact_mod_cast hnn p hp
    exact ⟨div_nonneg hl (le_of_lt hD), (C08_share poolLiq ps p hp hnn hpool).2⟩

/-- **All positions together never earn more than the bar's fee volume.**  For the amounts `update()` adds in one bar
    (`C08_bar_fee`: `feeInc (pathFraction …) volume decimals own D feeRate` with `D = pool + Σ own`), summed over all
    positions held, per token: at most `volume × fee rate × Σ own / (pool + Σ own)`, hence at most
    `volume × fee rate` — for every tick path and every family of ranges. -/
theorem C08_total_fee_le_volume (pool : Pool) (prev close : Int) (inAmt : Rat) (d : Nat) (poolLiq : Rat) (ps : List Pos)
    (hnn : ∀ q ∈ ps, 0 ≤ q.liq) (hlu : ∀ q ∈ ps, q.lower < q.upper) (hpool : 0 < poolLiq) (hin : 0 ≤ inAmt)
    (hfee : 0 ≤ pool.feeRate) :
    let D := poolLiq + ((sumLiq ps : Int) : Rat)
    let vol := ((truncInt inAmt : Int) : Rat) / ((pow10 d : Nat) : Rat)
    sumRat (fun p => feeInc (pathFraction prev close p.lower p.upper) inAmt d p.liq D pool.feeRate) ps
      ≤ vol * pool.feeRate * (((sumLiq ps : Int) : Rat) / D) ∧
    vol * pool.feeRate * (((sumLiq ps : Int) : Rat) / D) ≤ vol * pool.feeRate := by
  intro D vol
  have hD : 0 < D := Uni.add_sumLiq_pos hnn hpool
  have hvol : 0 ≤ vol := by
    have h1 : (0 : Rat) ≤ ((truncInt inAmt : Int) : Rat) := by exact_mod_cast truncInt_nonneg hin
    have h2 : (0 : Rat) ≤ ((pow10 d : Nat) : Rat) := by positivity
    exact div_nonneg h1 h2
  constructor
  · -- each summand is at most vol * fee * own_i / D because the path fraction is at most 1
    have hle : ∀ p ∈ ps, feeInc (pathFraction prev close p.lower p.upper) inAmt d p.liq D pool.feeRate
        ≤ (p.liq : Rat) * (vol * pool.feeRate / D) := by
      intro p hp
      have hl : (0 : Rat) ≤ (p.liq : Rat) := by exact_mod_cast hnn p hp
      have hq : 0 ≤ vol * ((p.liq : Rat) / D) * pool.feeRate :=
        mul_nonneg (mul_nonneg hvol (div_nonneg hl (le_of_lt hD))) hfee
      have : feeInc (pathFraction prev close p.lower p.upper) inAmt d p.liq D pool.feeRate
          = pathFraction prev close p.lower p.upper * (vol * ((p.liq : Rat) / D) * pool.feeRate) := by
        simp only [feeInc]; ring
      rw [this]
      calc pathFraction prev close p.lower p.upper * (vol * ((p.liq : Rat) / D) * pool.feeRate)
          ≤ 1 * (vol * ((p.liq : Rat) / D) * pool.feeRate) := mul_le_mul_of_nonneg_right (pathFraction_bounds prev close p.lower p.upper).2 hq
        _ = (p.liq : Rat) * (vol * pool.feeRate / D) := by ring
    calc sumRat (fun p => feeInc (pathFraction prev close p.lower p.upper) inAmt d p.liq D pool.feeRate) ps
        ≤ sumRat (fun p => (p.liq : Rat) * (vol * pool.feeRate / D)) ps := by
          rw [sumRat_eq, sumRat_eq]; exact ListSum.le _ _ ps hle
      _ = ((sumLiq ps : Int) : Rat) * (vol * pool.feeRate / D) := by
          rw [sumRat_eq, ListSum.mul_right, ← sumRat_eq, sumRat_liq]
      _ = vol * pool.feeRate * (((sumLiq ps : Int) : Rat) / D) := by ring
  · have hr : ((sumLiq ps : Int) : Rat) / D ≤ 1 := by
      rw [div_le_one hD]; show ((sumLiq ps : Int) : Rat) ≤ poolLiq + ((sumLiq ps : Int) : Rat); linarith
    calc vol * pool.feeRate * (((sumLiq ps : Int) : Rat) / D) ≤ vol * pool.feeRate * 1 :=
          mul_le_mul_of_nonneg_left hr (mul_nonneg hvol hfee)
      _ = vol * pool.feeRate := by ring

/-- non-vacuity: three overlapping positions (nested, overlapping, out of range) in a pool of liquidity 400:
    shares 1/10 + 2/10 + 3/10 of the active liquidity 1000, the total stays below 1 -/
example : let ps : List Pos := [{ (default : Pos) with lower := -10, upper := 10, liq := 100 },
                               { (default : Pos) with lower := -100, upper := 100, liq := 200 },
                               { (default : Pos) with lower := 50, upper := 60, liq := 300 }]
    sumRat (shareOf 400 ps) ps = 3 / 5 ∧ (∀ q ∈ ps, 0 ≤ q.liq) ∧ (∀ q ∈ ps, q.lower < q.upper) := by
  refine ⟨?_, ?_, ?_⟩
  · simp [sumRat, shareOf, sumLiq]; norm_num
  · intro q hq; simp at hq; rcases hq with rfl | rfl | rfl <;> decide
  · intro q hq; simp at hq; rcases hq with rfl | rfl | rfl <;> decide

end Demeter
