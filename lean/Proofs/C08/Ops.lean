/-
  C08: every operation of the Uniswap market (the model in Demeter/Uni/Ops.lean, Views.lean) leaves `last_tick`,
  the status row and its timestamp alone (`Frame`), and sets `has_update` whenever it changes the own-liquidity
  total (`Coherent`) — the two facts about "whatever else happens in the bar" that the bar-level theorems of
  Proofs/C08/Bar.lean assume.  Holds for every kernel and every arithmetic context.
-/
import Proofs.Lemmas.UniEff
import Proofs.C08.Bar
namespace Demeter.Uni
open Demeter

def BarRel (s s' : State) : Prop :=
  s'.lastTick = s.lastTick ∧ s'.row = s.row ∧ s'.ts = s.ts ∧
  (s'.hasUpdate = true ∨ (sumLiq s'.positions = sumLiq s.positions ∧ s'.hasUpdate = s.hasUpdate))

theorem BarRel.refl (s : State) : BarRel s s := ⟨rfl, rfl, rfl, Or.inr ⟨rfl, rfl⟩⟩

theorem BarRel.trans {a b c : State} (h1 : BarRel a b) (h2 : BarRel b c) : BarRel a c := by
  obtain ⟨l1, r1, t1, u1⟩ := h1
  obtain ⟨l2, r2, t2, u2⟩ := h2
  refine ⟨l2.trans l1, r2.trans r1, t2.trans t1, ?_⟩
  rcases u2 with h | ⟨hs, hu⟩
  · exact Or.inl h
  · rcases u1 with h | ⟨hs1, hu1⟩
    · exact Or.inl (hu.trans h)
    · exact Or.inr ⟨hs.trans hs1, hu.trans hu1⟩

theorem BarRel.ofUpdate {s s' : State} (hl : s'.lastTick = s.lastTick) (hr : s'.row = s.row) (ht : s'.ts = s.ts)
    (hu : s'.hasUpdate = true) : BarRel s s' := ⟨hl, hr, ht, Or.inl hu⟩

theorem BarRel.record (s : State) (a : Act) : BarRel s (record s a) := ⟨rfl, rfl, rfl, Or.inr ⟨rfl, rfl⟩⟩

theorem sumLiq_mapPos_of_liq (ps : List Pos) (lo up : Int) (f : Pos → Pos) (hf : ∀ p, (f p).liq = p.liq) :
    sumLiq (mapPos ps lo up f) = sumLiq ps := by
  induction ps with
  | nil => rfl
  | cons p ps ih =>
    simp only [mapPos, List.map_cons, sumLiq] at ih ⊢
    split <;> simp [hf, ih]

theorem BarRel.ofEff {K : Kern} {pool : Pool} {al : Allow} {n : Nat} {s s' : State} (h : Eff K pool al n s s') :
    BarRel s s' := by
  cases h
  case record => exact BarRel.record ..
  case add => exact .ofUpdate rfl rfl rfl rfl
  case collectCore => exact .ofUpdate rfl rfl rfl rfl
  case collect => unfold collectFinish; split <;> exact .ofUpdate rfl rfl rfl rfl
  case remove => exact .ofUpdate rfl rfl rfl rfl
  case swap => exact ⟨rfl, rfl, rfl, Or.inr ⟨rfl, rfl⟩⟩
  case flag => exact ⟨rfl, rfl, rfl, Or.inr ⟨sumLiq_mapPos_of_liq _ _ _ _ (fun _ => rfl), rfl⟩⟩

theorem barRel_stepRel (K : Kern) (pool : Pool) : StepRel K pool BarRel :=
  .ofEff BarRel.refl BarRel.trans BarRel.ofEff

end Demeter.Uni

namespace Demeter
open Demeter.Uni

/-- Whatever list of market operations a strategy issues in a bar (accepted or rejected), it does not touch
    `last_tick`, the status row or its timestamp. -/
theorem C08_ops_frame (K : Kern) (pool : Pool) (minError : Rat) (ops : List Op) :
    Frame (fun s => runOps K pool minError s ops) := fun s =>
  let h := (barRel_stepRel K pool).runOps minError ops s
  ⟨h.1, h.2.1, h.2.2.1⟩

/-- … and if it changes the total own liquidity it has set `has_update`, so the second refresh happens. -/
theorem C08_ops_coherent (K : Kern) (pool : Pool) (minError : Rat) (ops : List Op) :
    Coherent (fun s => runOps K pool minError s ops) := fun s =>
  ((barRel_stepRel K pool).runOps minError ops s).2.2.2

/-- The bar theorem for concrete operations: liquidity added by `add_liquidity*` during bar `k` earns in bar `k`
    with the path starting at the previous close, and every other operation of the bar enters only through the
    own-liquidity total in the denominator. -/
theorem C08_bar_fee_ops (K : Kern) (pool : Pool) (minError : Rat) (s : State) (k : Nat) (raw : Row) (ops : List Op) (c : Int)
    (hs : BarStart k s c)
    (hlu : ∀ p ∈ (runOps K pool minError (setStatus NumCtx.exact s raw (some k) true) ops).positions, p.lower < p.upper)
    (hD : raw.curLiq + ((sumLiq (runOps K pool minError (setStatus NumCtx.exact s raw (some k) true) ops).positions : Int) : Rat) ≠ 0) :
    let ps := (runOps K pool minError (setStatus NumCtx.exact s raw (some k) true) ops).positions
    let D := raw.curLiq + ((sumLiq ps : Int) : Rat)
    let r := update NumCtx.exact pool (barPrep (setStatus NumCtx.exact) s k raw (fun s => runOps K pool minError s ops))
    r.2 = none ∧
    r.1.positions = ps.map (fun p => { p with
        pending0 := p.pending0 + feeInc (pathFraction c raw.closeTick p.lower p.upper) raw.in0 pool.d0 p.liq D pool.feeRate,
        pending1 := p.pending1 + feeInc (pathFraction c raw.closeTick p.lower p.upper) raw.in1 pool.d1 p.liq D pool.feeRate }) :=
  C08_bar_fee pool s k raw (fun s => runOps K pool minError s ops) c hs
    (C08_ops_frame K pool minError ops) (C08_ops_coherent K pool minError ops) hlu hD

end Demeter
