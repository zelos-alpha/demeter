/-
  C08: the side conditions of the amount theorems are invariants of the market's operations.

  `C08_fee_formula`, `C08_bar_fee`, `C08_share`, … assume `lower < upper` for every position, non-negative own
  liquidity and a non-zero `pool + Σ own`.  Here: the invariant `PosInv` (`lower < upper ∧ 0 ≤ liquidity` for every
  position) holds across every accepted primitive transaction, for every kernel whose `new_position`
  refuses an empty range and returns a non-negative liquidity for non-negative offers (`KernAddOK`; `Kern.std` is one):

  * `lower > upper` is refused by `_add_liquidity_by_tick`'s own guard (`DemeterError`);
  * `lower = upper` passes that guard (it tests `>` only) and dies inside `get_liquidity` with
    `ZeroDivisionError` (both ticks have the same sqrt price) — before anything is mutated;
  * positions are only created by accepted adds; remove / collect / transfer only rewrite or delete entries,
    and a partial removal leaves `liq − delta ≥ 0` because `delta` is capped at the position's liquidity.
-/
import Proofs.Lemmas.UniKernelStd
import Proofs.Lemmas.UniEff
namespace Demeter.Uni
open Demeter

def PosOK (p : Pos) : Prop := p.lower < p.upper ∧ 0 ≤ p.liq

def PosInv (ps : List Pos) : Prop := ∀ p ∈ ps, PosOK p

/-- `V3CoreLib.new_position` as the orchestration needs it: an empty range is refused, and the liquidity
    bought with non-negative amounts is non-negative -/
def KernAddOK (K : Kern) : Prop :=
  ∀ pool sq lo up a0 a1 u0 u1 l, 0 ≤ a0 → 0 ≤ a1 → K.newPos pool sq lo up a0 a1 = .ok (u0, u1, l) → lo ≠ up ∧ 0 ≤ l

structure InvRel (s s' : State) : Prop where
  pres : PosInv s.positions → PosInv s'.positions

theorem InvRel.refl (s : State) : InvRel s s := ⟨fun h => h⟩
theorem InvRel.trans {a b c : State} (h1 : InvRel a b) (h2 : InvRel b c) : InvRel a c := ⟨fun h => h2.pres (h1.pres h)⟩
theorem InvRel.ofPos {s s' : State} (h : s'.positions = s.positions) : InvRel s s' := ⟨fun hi => by rw [h]; exact hi⟩

theorem kernStd_addOK (cx : NumCtx) (sq : Rat → Rat) (hr : ∀ x, 0 ≤ x → 0 ≤ cx.rnd x) : KernAddOK (Kern.std cx sq) :=
  fun _ _ _ _ _ _ _ _ _ h0 h1 h => newPosStd_ok_range cx hr h0 h1 h

theorem posInv_mapPos {ps : List Pos} (lo up : Int) (f : Pos → Pos) (hi : PosInv ps)
    (hf : ∀ p ∈ ps, PosOK (f p)) : PosInv (mapPos ps lo up f) := by
  intro q hq
  unfold mapPos at hq
  obtain ⟨p, hp, rfl⟩ := List.mem_map.mp hq
  split
  · exact hf p hp
  · exact hi p hp

theorem posInv_erasePos {ps : List Pos} (lo up : Int) (hi : PosInv ps) : PosInv (erasePos ps lo up) := by
  intro q hq
  exact hi q (List.mem_filter.mp hq).1

theorem posInv_addToPositions {ps : List Pos} {lo up liq : Int} (hi : PosInv ps) (hlu : lo < up) (hl : 0 ≤ liq)
    (ent : Option Pos) (he : ∀ e, ent = some e → e.lower = lo ∧ e.upper = up ∧ e.liq = liq) :
    PosInv (addToPositions ps lo up liq ent) := by
  cases ent with
  | none =>
    apply posInv_mapPos lo up _ hi
    intro p hp
    have := hi p hp
    exact ⟨this.1, by show 0 ≤ p.liq + liq; have := this.2; omega⟩
  | some e =>
    intro q hq
    rcases List.mem_append.mp hq with h | h
    · exact hi q h
    · rw [List.mem_singleton.mp h]
      obtain ⟨e1, e2, e3⟩ := he e rfl
      exact ⟨by rw [e1, e2]; exact hlu, by rw [e3]; exact hl⟩

theorem posOK_removePos (cx : NumCtx) {p : Pos} {l? : Option Int} (g0 g1 : Rat) (hl : negLiq l? = false) (h : PosOK p) :
    PosOK (removePos cx p (removeDelta l? p).1 (removeDelta l? p).2 g0 g1) := by
  refine ⟨h.1, ?_⟩
  show 0 ≤ p.liq - (removeDelta l? p).1
  have := (removeDelta_bounds hl h.2).2
  omega

theorem posInv_mapPos_const {ps : List Pos} {lo up : Int} {p p' : Pos} (hi : PosInv ps) (hf : findPos ps lo up = some p)
    (hp' : PosOK p → PosOK p') : PosInv (mapPos ps lo up (fun _ => p')) :=
  posInv_mapPos lo up _ hi (fun _ _ => hp' (hi p (List.mem_of_find?_eq_some hf)))

theorem InvRel.ofEff {K : Kern} (hK : KernAddOK K) {pool : Pool} {al : Allow} {n : Nat} {s s' : State}
    (h : Eff K pool al n s s') : InvRel s s' := by
  cases h with
  | record => exact .ofPos rfl
  | add _ A =>
    obtain ⟨hne, hl⟩ := hK _ _ _ _ _ _ _ _ _ A.nonneg0 A.nonneg1 A.newPos
    refine ⟨fun hi => posInv_addToPositions hi (by have := A.le; omega) hl _ (fun e he => ?_)⟩
    rcases newEntity_cases A.entity with ⟨_, _, rfl⟩ | ⟨_, _, _, _, rfl⟩
    · cases he
    · cases he; exact ⟨rfl, rfl, rfl⟩
  | collectCore _ hf => exact ⟨fun hi => posInv_mapPos_const hi hf (p' := collectPos K.cx _ _ _) id⟩
  | collect _ _ _ _ hf =>
    refine ⟨fun hi => ?_⟩
    rw [collectFinish_positions]
    split
    · exact posInv_erasePos _ _ (posInv_mapPos_const hi hf id)
    · exact posInv_mapPos_const hi hf id
  | remove _ hf hl => exact ⟨fun hi => posInv_mapPos_const hi hf (posOK_removePos K.cx _ _ hl)⟩
  | swap => exact .ofPos rfl
  | flag _ lo up => exact ⟨fun hi => posInv_mapPos lo up _ hi hi⟩

end Demeter.Uni
