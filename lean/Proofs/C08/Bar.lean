/-
  C08, bar level: where the tick path starts, what `currentLiquidity` is when fees are computed, and that
  liquidity added during a bar earns in that bar.  The strategy's operations are arbitrary state
  transformers constrained only by what every concrete operation satisfies (proved in Proofs/C08/Ops.lean):
  `Frame` = they do not touch `last_tick`, the status row or its timestamp; `Coherent` = whoever changes the
  own-liquidity total sets `has_update`.
-/
import Demeter.Uni.Fee
import Proofs.Lemmas.UniFee
namespace Demeter.Uni
open Demeter

def Frame (f : State → State) : Prop :=
  ∀ s, (f s).lastTick = s.lastTick ∧ (f s).row = s.row ∧ (f s).ts = s.ts

def Coherent (f : State → State) : Prop :=
  ∀ s, (f s).hasUpdate = true ∨ (sumLiq (f s).positions = sumLiq s.positions ∧ (f s).hasUpdate = s.hasUpdate)

theorem Frame.id : Frame id := fun _ => ⟨rfl, rfl, rfl⟩
theorem Frame.comp {f g : State → State} (hf : Frame f) (hg : Frame g) : Frame (f ∘ g) := fun s =>
  ⟨(hf (g s)).1.trans (hg s).1, (hf (g s)).2.1.trans (hg s).2.1, (hf (g s)).2.2.trans (hg s).2.2⟩

/-- bar `k` starts from a state whose status row closes at `c` and which is not already inside bar `k` -/
def BarStart (k : Nat) (s : State) (c : Int) : Prop :=
  s.row.map (·.closeTick) = some c ∧ (s.ts ≠ some k ∨ s.lastTick = none)

theorem setStatus_lastTick (cx : NumCtx) (s : State) (raw : Row) (k : Nat) :
    (setStatus cx s raw (some k) true).lastTick =
      if s.ts = some k ∧ s.lastTick ≠ none then s.lastTick else s.row.map (·.closeTick) :=
  if_congr (by simp [eq_comm (a := some k), Option.isSome_iff_ne_none]) rfl rfl

theorem barPrep_lastTick (cx : NumCtx) (s : State) (k : Nat) (raw : Row) (pre : State → State) (c : Int)
    (hs : BarStart k s c) (hpre : Frame pre) :
    let s3 := barPrep (setStatus cx) s k raw pre
    s3.lastTick = some c ∧ s3.ts = some k ∧ s3.row.map (·.closeTick) = some raw.closeTick := by
  obtain ⟨f1, f2, f3⟩ := hpre (setStatus cx s raw (some k) true)
  have hl : (pre (setStatus cx s raw (some k) true)).lastTick = some c := by
    rw [f1, setStatus_lastTick, if_neg (fun h => hs.2.elim (· h.1) h.2)]; exact hs.1
  have ht : (pre (setStatus cx s raw (some k) true)).ts = some k := f3
  show State.lastTick (if _ then _ else _) = _ ∧ State.ts (if _ then _ else _) = _ ∧
    Option.map _ (State.row (if _ then _ else _)) = _
  split
  · exact ⟨by rw [setStatus_lastTick, if_pos ⟨ht, by rw [hl]; exact Option.some_ne_none c⟩, hl], rfl, rfl⟩
  · exact ⟨hl, ht, by rw [f2]; rfl⟩

theorem barPrep_spec (cx : NumCtx) (s : State) (k : Nat) (raw : Row) (pre : State → State) (c : Int)
    (hs : BarStart k s c) (hpre : Frame pre) (hco : Coherent pre) :
    let s1 := setStatus cx s raw (some k) true
    let s3 := barPrep (setStatus cx) s k raw pre
    s3.lastTick = some c ∧ s3.ts = some k ∧ s3.positions = (pre s1).positions ∧
    s3.row = some { raw with curLiq := cx.add raw.curLiq ((sumLiq (pre s1).positions : Int) : Rat) } := by
  intro s1 s3
  obtain ⟨hl, ht, _⟩ := barPrep_lastTick cx s k raw pre c hs hpre
  refine ⟨hl, ht, ?_⟩
  show State.positions (if _ then _ else _) = _ ∧ State.row (if _ then _ else _) = _
  split
  · exact ⟨rfl, rfl⟩
  · rename_i hu
    refine ⟨rfl, ?_⟩
    -- no second refresh: the row is the first refresh's, and the own-liquidity total has not changed since
    rcases hco s1 with h | ⟨hsum, _⟩
    · exact absurd h hu
    · rw [(hpre s1).2.1, hsum]; rfl

theorem update_frame (cx : NumCtx) (pool : Pool) (s : State) :
    (update cx pool s).1.lastTick = s.lastTick ∧ (update cx pool s).1.row = s.row ∧
    (update cx pool s).1.ts = s.ts := by
  unfold update
  split <;> simp

theorem update_of_row (cx : NumCtx) (pool : Pool) {s : State} {row : Row} (h : s.row = some row) :
    update cx pool s = ({ s with positions := (updateLoop cx pool s.lastTick row s.positions).1 },
      (updateLoop cx pool s.lastTick row s.positions).2) := by
  unfold update
  cases hps : s.positions with
  | nil => show (s, none) = ({ s with positions := [] }, none); rw [← hps]
  | cons q qs => rw [h]

theorem updateLoop_exact (pool : Pool) (prev : Int) (row : Row) (hc : row.curLiq ≠ 0) (ps : List Pos)
    (hlu : ∀ p ∈ ps, p.lower < p.upper) :
    updateLoop NumCtx.exact pool (some prev) row ps =
      (ps.map (fun p => { p with
        pending0 := p.pending0 + feeInc (pathFraction prev row.closeTick p.lower p.upper) row.in0 pool.d0 p.liq row.curLiq pool.feeRate,
        pending1 := p.pending1 + feeInc (pathFraction prev row.closeTick p.lower p.upper) row.in1 pool.d1 p.liq row.curLiq pool.feeRate }),
       none) := by
  induction ps with
  | nil => rfl
  | cons p ps ih =>
    have h1 := updateFee_exact pool prev row p (hlu p (List.mem_cons_self ..)) hc
    have h2 := ih (fun q hq => hlu q (List.mem_cons_of_mem _ hq))
    simp only [updateLoop, h1, h2, List.map_cons]

theorem barStep_of_update_none {cx : NumCtx} {pool : Pool} {refresh : State → Row → Option Nat → Bool → State}
    {s : State} {k : Nat} {raw : Row} {pre : State → State} (post : State → State)
    (h : (update cx pool (barPrep refresh s k raw pre)).2 = none) :
    barStep cx pool refresh s k raw pre post = (post (update cx pool (barPrep refresh s k raw pre)).1, none) := by
  unfold barStep
  simp only []
  rw [h]

theorem runFrom_cons_of_none {cx : NumCtx} {pool : Pool} {refresh : State → Row → Option Nat → Bool → State}
    {k : Nat} {s : State} {b : Bar} (bs : List Bar) (h : (barStep cx pool refresh s k b.raw b.pre b.post).2 = none) :
    runFrom cx pool refresh k s (b :: bs) =
      runFrom cx pool refresh (k + 1) (barStep cx pool refresh s k b.raw b.pre b.post).1 bs := by
  conv => lhs; unfold runFrom
  simp only []
  rw [h]

theorem barStep_next (cx : NumCtx) (pool : Pool) (s : State) (k : Nat) (b : Bar) (c : Int)
    (hs : BarStart k s c) (hpre : Frame b.pre) (hpost : Frame b.post) :
    BarStart (k + 1) (barStep cx pool (setStatus cx) s k b.raw b.pre b.post).1 b.raw.closeTick := by
  obtain ⟨_, ht, hr⟩ := barPrep_lastTick cx s k b.raw b.pre c hs hpre
  obtain ⟨_, u2, u3⟩ := update_frame cx pool (barPrep (setStatus cx) s k b.raw b.pre)
  unfold barStep
  simp only []
  cases (update cx pool (barPrep (setStatus cx) s k b.raw b.pre)).2 with
  | some e => exact ⟨by rw [u2]; exact hr, Or.inl (by rw [u3, ht]; simp)⟩
  | none =>
    obtain ⟨_, p2, p3⟩ := hpost (update cx pool (barPrep (setStatus cx) s k b.raw b.pre)).1
    exact ⟨by show Option.map _ (b.post _).row = _; rw [p2, u2]; exact hr,
      Or.inl (by show (b.post _).ts ≠ _; rw [p3, u3, ht]; simp)⟩

theorem prepTrace_lastTicks (cx : NumCtx) (pool : Pool) :
    ∀ (bars : List Bar) (k : Nat) (s : State) (c : Int), BarStart k s c →
      (∀ b ∈ bars, Frame b.pre ∧ Frame b.post) →
      (prepTrace cx pool (setStatus cx) k s bars).map (·.lastTick) =
        ((c :: bars.map (·.raw.closeTick)).take (prepTrace cx pool (setStatus cx) k s bars).length).map some := by
  intro bars
  induction bars with
  | nil => intro k s c _ _; simp [prepTrace]
  | cons b bs ih =>
    intro k s c hs hf
    obtain ⟨hbpre, hbpost⟩ := hf b (List.mem_cons_self ..)
    obtain ⟨hl, _, _⟩ := barPrep_lastTick cx s k b.raw b.pre c hs hbpre
    have hnext := barStep_next cx pool s k b c hs hbpre hbpost
    simp only [prepTrace, List.map_cons, List.length_cons, List.take_succ_cons, hl]
    congr 1
    split
    · simp
    · exact ih (k + 1) _ b.raw.closeTick hnext (fun x hx => hf x (List.mem_cons_of_mem _ hx))

theorem barStart_runStart (cx : NumCtx) (s : State) (init : State → State) (b0 : Bar) (bs : List Bar)
    (hfresh : s.row = none ∧ s.ts = none) (hinit : Frame init) :
    BarStart 0 (runStart (setStatus cx) s init (b0 :: bs)) b0.raw.closeTick := by
  obtain ⟨i1, i2, _⟩ := hinit (setStatus cx s b0.raw (some 0) true)
  refine ⟨?_, Or.inr ?_⟩
  · show (init _).row.map _ = _; rw [i2]; rfl
  · show (init _).lastTick = none; rw [i1]
    show (if _ then _ else _) = _
    rw [hfresh.1, hfresh.2]; simp

end Demeter.Uni

namespace Demeter
open Demeter.Uni

/-- In bar `k ≥ 1` (or bar 0 of a fresh market) every position that exists when the strategy's operations of
    the bar are done — including liquidity added or increased by them — earns
    `volume × fee × pathFraction(close(k−1), close(k)) × own / (pool + Σ own)`, where the own-liquidity total
    is taken **after** those operations. -/
theorem C08_bar_fee (pool : Pool) (s : State) (k : Nat) (raw : Row) (pre : State → State) (c : Int)
    (hs : BarStart k s c) (hpre : Frame pre) (hco : Coherent pre)
    (hlu : ∀ p ∈ (pre (setStatus NumCtx.exact s raw (some k) true)).positions, p.lower < p.upper)
    (hD : raw.curLiq + ((sumLiq (pre (setStatus NumCtx.exact s raw (some k) true)).positions : Int) : Rat) ≠ 0) :
    let ps := (pre (setStatus NumCtx.exact s raw (some k) true)).positions
    let D := raw.curLiq + ((sumLiq ps : Int) : Rat)
    let r := update NumCtx.exact pool (barPrep (setStatus NumCtx.exact) s k raw pre)
    r.2 = none ∧
    r.1.positions = ps.map (fun p => { p with
        pending0 := p.pending0 + feeInc (pathFraction c raw.closeTick p.lower p.upper) raw.in0 pool.d0 p.liq D pool.feeRate,
        pending1 := p.pending1 + feeInc (pathFraction c raw.closeTick p.lower p.upper) raw.in1 pool.d1 p.liq D pool.feeRate }) := by
  intro ps D r
  obtain ⟨hl, _, hp, hr⟩ := barPrep_spec NumCtx.exact s k raw pre c hs hpre hco
  have hr' : (barPrep (setStatus NumCtx.exact) s k raw pre).row = some { raw with curLiq := D } := hr
  rw [show r = _ from update_of_row NumCtx.exact pool hr', hl, hp, updateLoop_exact pool c { raw with curLiq := D } hD _ hlu]
  exact ⟨rfl, rfl⟩

/-- liquidity added during bar `k` is part of the own-liquidity total the shares of bar `k` are computed
    with, and the state handed to `update()` holds the positions as the bar's operations left them. -/
theorem C08_added_in_bar_earns (cx : NumCtx) (s : State) (k : Nat) (raw : Row) (pre : State → State) (c : Int)
    (hs : BarStart k s c) (hpre : Frame pre) (hco : Coherent pre) :
    (barPrep (setStatus cx) s k raw pre).positions = (pre (setStatus cx s raw (some k) true)).positions ∧
    (barPrep (setStatus cx) s k raw pre).row.map (·.curLiq) =
      some (cx.add raw.curLiq ((sumLiq (pre (setStatus cx s raw (some k) true)).positions : Int) : Rat)) := by
  obtain ⟨_, _, hp, hr⟩ := barPrep_spec cx s k raw pre c hs hpre hco
  exact ⟨hp, by rw [hr]; rfl⟩

/-- In `Actuator.run` on a fresh market, the `last_tick` the fee computation of bar `i` sees is the close of
    bar `i − 1` for `i ≥ 1` and the close of bar 0 for `i = 0` (there is no previous bar), for **arbitrary**
    strategy behaviour in `initialize`, before/on/after bar — it may set `has_update` and thereby trigger the
    second refresh as often as it likes. (`take` accounts for a run that stops at a raising `update()`.) -/
theorem C08_path_start (cx : NumCtx) (pool : Pool) (s : State) (init : State → State) (b0 : Bar) (bs : List Bar)
    (hfresh : s.row = none ∧ s.ts = none) (hinit : Frame init)
    (hf : ∀ b ∈ b0 :: bs, Frame b.pre ∧ Frame b.post) :
    let tr := prepTrace cx pool (setStatus cx) 0 (runStart (setStatus cx) s init (b0 :: bs)) (b0 :: bs)
    tr.map (·.lastTick) =
      ((b0.raw.closeTick :: (b0 :: bs).map (·.raw.closeTick)).take tr.length).map some :=
  Uni.prepTrace_lastTicks cx pool (b0 :: bs) 0 _ b0.raw.closeTick (Uni.barStart_runStart cx s init b0 bs hfresh hinit) hf

/-- Before the repair (`setStatusOld`: every refresh overwrites `last_tick`) the statement was false: there are two
    bars, the second merely setting `has_update`, for which the `last_tick`s seen by `update()` are not
    `[close(0), close(0)]` (the second refresh of bar 1 moved `last_tick` on to that bar's own close). -/
theorem C08_path_start_fails_before_fix :
    ∃ (s : State) (b0 b1 : Bar), (s.row = none ∧ s.ts = none) ∧ Frame b0.pre ∧ Frame b0.post ∧ Frame b1.pre ∧ Frame b1.post ∧
      ((prepTrace NumCtx.exact default (setStatusOld NumCtx.exact) 0 (runStart (setStatusOld NumCtx.exact) s id [b0, b1]) [b0, b1]).map (·.lastTick))
        ≠ [some b0.raw.closeTick, some b0.raw.closeTick] := by
  refine ⟨{ (default : State) with row := none, ts := none },
    ⟨{ (default : Row) with closeTick := 10 }, id, id⟩,
    ⟨{ (default : Row) with closeTick := 20 }, (fun s => { s with hasUpdate := true }), id⟩,
    ⟨rfl, rfl⟩, Frame.id, Frame.id, (fun _ => ⟨rfl, rfl, rfl⟩), Frame.id, ?_⟩
  decide

/-- the same two bars under the repaired refresh: both paths start where they should -/
example :
    (prepTrace NumCtx.exact default (setStatus NumCtx.exact) 0
      (runStart (setStatus NumCtx.exact) { (default : State) with row := none, ts := none } id
        [⟨{ (default : Row) with closeTick := 10 }, id, id⟩,
         ⟨{ (default : Row) with closeTick := 20 }, (fun s => { s with hasUpdate := true }), id⟩])
      [⟨{ (default : Row) with closeTick := 10 }, id, id⟩,
       ⟨{ (default : Row) with closeTick := 20 }, (fun s => { s with hasUpdate := true }), id⟩]).map (·.lastTick)
      = [some 10, some 10] := by decide

/-- `BarStart`, `Frame`, `Coherent` are satisfiable together with a non-empty position list -/
example : BarStart 3 { (default : State) with row := some { (default : Row) with closeTick := 7 }, ts := some 2 } 7 ∧
    Frame (fun s => { s with hasUpdate := true, positions := { (default : Pos) with lower := 0, upper := 10, liq := 5 } :: s.positions }) ∧
    Coherent (fun s => { s with hasUpdate := true, positions := { (default : Pos) with lower := 0, upper := 10, liq := 5 } :: s.positions }) :=
  ⟨⟨rfl, Or.inl (by decide)⟩, fun _ => ⟨rfl, rfl, rfl⟩, fun _ => Or.inl rfl⟩

end Demeter
