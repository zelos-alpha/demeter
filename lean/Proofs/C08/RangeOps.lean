/-
  C08: the position invariant of Proofs/C08/Range.lean (`lower < upper ∧ 0 ≤ liquidity`) holds across every accepted
  primitive transaction (`InvRel.ofEff`), hence (`StepRel`) across every operation and every operation list.
-/
import Proofs.C08.Range
namespace Demeter.Uni
open Demeter

theorem invRel_stepRel (K : Kern) (hK : KernAddOK K) (pool : Pool) : StepRel K pool InvRel :=
  .ofEff InvRel.refl InvRel.trans (InvRel.ofEff hK)

end Demeter.Uni
