/-
  C08, run level.  The side conditions of the amount theorems (`lower < upper`, non-negative own liquidity,
  `pool + Σ own ≠ 0`) are invariants of the operations, so they are needed for the *initial* state only (`hpos`;
  nothing to check for a market that starts without positions).  With them, in a whole `Actuator.run`, bar after bar, `update()`
  never raises and every position that exists when the bar's operations are done earns
  `volume(i) × fee rate × pathFraction(close(i−1), close(i), lower, upper) × own / (pool(i) + Σ own)`
  (bar 0: the path starts at its own close), the own-liquidity total being the one after the bar's operations:
  the bar theorem of Proofs/C08/Bar.lean and the invariants, by induction over the list of bars.
-/
import Proofs.C08.RangeOps
import Proofs.C08.Ops
import Proofs.Numerics
namespace Demeter.Uni
open Demeter

def InvPres (f : State → State) : Prop := ∀ s, PosInv s.positions → PosInv (f s).positions

theorem InvPres.id : InvPres id := fun _ h => h

/-- what bar `k` does to the positions, the path of the bar starting at tick `c` -/
def BarFees (pool : Pool) (k : Nat) (s : State) (c : Int) (b : Bar) : Prop :=
  let ps := (b.pre (setStatus NumCtx.exact s b.raw (some k) true)).positions
  let D := b.raw.curLiq + ((sumLiq ps : Int) : Rat)
  let r := update NumCtx.exact pool (barPrep (setStatus NumCtx.exact) s k b.raw b.pre)
  r.2 = none ∧ 0 < D ∧
  r.1.positions = ps.map (fun p => { p with
      pending0 := p.pending0 + feeInc (pathFraction c b.raw.closeTick p.lower p.upper) b.raw.in0 pool.d0 p.liq D pool.feeRate,
      pending1 := p.pending1 + feeInc (pathFraction c b.raw.closeTick p.lower p.upper) b.raw.in1 pool.d1 p.liq D pool.feeRate })

/-- `BarFees` for every bar of the run: bar `k` starts its path at `c`, bar `k+1` at the close of bar `k`, … -/
def RunFees (pool : Pool) : Nat → State → Int → List Bar → Prop
  | _, _, _, [] => True
  | k, s, c, b :: bs =>
    BarFees pool k s c b ∧
    RunFees pool (k + 1) (barStep NumCtx.exact pool (setStatus NumCtx.exact) s k b.raw b.pre b.post).1 b.raw.closeTick bs

/-- what the run theorem asks of one bar: its operations satisfy the three facts proved for every list of
    market operations (`C08_ops_frame`, `C08_ops_coherent`, `C08_runOps_preserves_range`), and the pool's own
    liquidity in the data row is positive -/
def BarOK (b : Bar) : Prop :=
  Frame b.pre ∧ Coherent b.pre ∧ InvPres b.pre ∧ Frame b.post ∧ InvPres b.post ∧ 0 < b.raw.curLiq

theorem posInv_map_pending {ps : List Pos} (f0 f1 : Pos → Rat) (hi : PosInv ps) :
    PosInv (ps.map (fun p => { p with pending0 := f0 p, pending1 := f1 p })) := by
  intro q hq
  obtain ⟨p, hp, rfl⟩ := List.mem_map.mp hq
  exact hi p hp

theorem runFrom_fees (pool : Pool) : ∀ (bars : List Bar) (k : Nat) (s : State) (c : Int), BarStart k s c →
    PosInv s.positions → (∀ b ∈ bars, BarOK b) →
    RunFees pool k s c bars ∧
    (runFrom NumCtx.exact pool (setStatus NumCtx.exact) k s bars).2 = none ∧
    PosInv (runFrom NumCtx.exact pool (setStatus NumCtx.exact) k s bars).1.positions := by
  intro bars
  induction bars with
  | nil => intro k s c _ hi _; exact ⟨trivial, rfl, hi⟩
  | cons b bs ih =>
    intro k s c hs hi hb
    obtain ⟨hpre, hco, hpi, hpost, hqi, hliq⟩ := hb b (List.mem_cons_self ..)
    have hps : PosInv (b.pre (setStatus NumCtx.exact s b.raw (some k) true)).positions := hpi _ hi
    have hD := add_sumLiq_pos (fun q hq => (hps q hq).2) hliq
    -- the bar theorem, its side conditions read off the invariant; `update()` has not raised, so the bar ends in `post` of its state
    obtain ⟨h1, h2⟩ := C08_bar_fee pool s k b.raw b.pre c hs hpre hco (fun p hp => (hps p hp).1) (ne_of_gt hD)
    have hstep := Uni.barStep_of_update_none b.post h1
    have hinv : PosInv (barStep NumCtx.exact pool (setStatus NumCtx.exact) s k b.raw b.pre b.post).1.positions := by
      rw [hstep]
      apply hqi
      rw [h2]
      exact posInv_map_pending _ _ hps
    obtain ⟨r1, r2, r3⟩ := ih (k + 1) _ b.raw.closeTick (Uni.barStep_next NumCtx.exact pool s k b c hs hpre hpost) hinv
      (fun x hx => hb x (List.mem_cons_of_mem _ hx))
    rw [Uni.runFrom_cons_of_none bs (by rw [hstep])]
    exact ⟨⟨⟨h1, hD, h2⟩, r1⟩, r2, r3⟩

/-- bars given by the lists of market operations the strategy issues before `update()` (before_bar, on_bar) and
    after it (after_bar) -/
structure OpBar where
  raw : Row
  pre : List Op
  post : List Op

def OpBar.toBar (K : Kern) (pool : Pool) (minError : Rat) (b : OpBar) : Bar :=
  ⟨b.raw, fun s => runOps K pool minError s b.pre, fun s => runOps K pool minError s b.post⟩

theorem posInv_updateLoop (cx : NumCtx) (pool : Pool) (last : Option Int) (row : Row) :
    ∀ ps : List Pos, PosInv ps → PosInv (updateLoop cx pool last row ps).1
  | [], _ => by intro q hq; cases hq
  | p :: ps, hi => by
    unfold updateLoop
    split
    · exact hi
    · rename_i p' hp'
      intro q hq
      rcases List.mem_cons.mp hq with h | h
      · obtain ⟨a, b, rfl⟩ := updateFee_ok_frame hp'
        rw [h]; exact hi p (List.mem_cons_self ..)
      · exact posInv_updateLoop cx pool last row ps (fun x hx => hi x (List.mem_cons_of_mem _ hx)) q h

end Demeter.Uni

namespace Demeter
open Demeter.Uni

/-- Every position is well-formed (`PosInv`: `lower < upper` and `0 ≤ liquidity`) after any list of operations
    (accepted or rejected) if it was before — for every kernel whose `new_position` refuses an empty range and buys a
    non-negative liquidity (`KernAddOK`). The orchestration refuses `lower > upper` itself; `lower = upper` is left to
    the kernel. -/
theorem C08_runOps_preserves_range (K : Kern) (hK : KernAddOK K) (pool : Pool) (minError : Rat) (ops : List Op) (s : State)
    (h : ∀ p ∈ s.positions, p.lower < p.upper ∧ 0 ≤ p.liq) :
    ∀ p ∈ (runOps K pool minError s ops).positions, p.lower < p.upper ∧ 0 ≤ p.liq :=
  ((invRel_stepRel K hK pool).runOps minError ops s).pres h

/-- The kernel of the code refuses `lower = upper` in every arithmetic context: `get_liquidity` raises
    `ZeroDivisionError` (`.error .zeroDiv`), unless the tick is out of range and the assertion fires first. -/
theorem C08_std_kernel_rejects_empty_range (cx : NumCtx) (sq : Rat → Rat) (pool : Pool) (s : Nat) (t : Int) (a0 a1 : Rat) :
    (Kern.std cx sq).newPos pool s t t a0 a1 = .error .zeroDiv ∨ (Kern.std cx sq).newPos pool s t t a0 a1 = .error .assertion := by
  show newPosStd cx pool s t t a0 a1 = _ ∨ newPosStd cx pool s t t a0 a1 = _
  unfold newPosStd
  split
  · exact Or.inr rfl
  · rw [getLiquidity_self]; exact Or.inl rfl

/-- The code's kernel is such a kernel (`KernAddOK`) in the exact context … -/
theorem C08_std_kernel_addOK (sq : Rat → Rat) : KernAddOK (Kern.std NumCtx.exact sq) :=
  kernStd_addOK NumCtx.exact sq (fun _ h => h)

/-- … and so is the kernel under CPython's 35-digit arithmetic (what the driver runs): half-even rounding to 35
    digits keeps signs, so the invariant is not an artefact of the exact context. -/
theorem C08_py_kernel_addOK : KernAddOK Kern.py :=
  kernStd_addOK NumCtx.py _ Num_round35_nonneg

theorem C08_runOps_preserves_range_py (pool : Pool) (minError : Rat) (ops : List Op) (s : State)
    (h : ∀ p ∈ s.positions, p.lower < p.upper ∧ 0 ≤ p.liq) :
    ∀ p ∈ (runOps Kern.py pool minError s ops).positions, p.lower < p.upper ∧ 0 ≤ p.liq :=
  C08_runOps_preserves_range _ C08_py_kernel_addOK pool minError ops s h

/-- so with the code's kernel the invariant needs nothing but the initial state -/
theorem C08_runOps_preserves_range_std (sq : Rat → Rat) (pool : Pool) (minError : Rat) (ops : List Op) (s : State)
    (h : ∀ p ∈ s.positions, p.lower < p.upper ∧ 0 ≤ p.liq) :
    ∀ p ∈ (runOps (Kern.std NumCtx.exact sq) pool minError s ops).positions, p.lower < p.upper ∧ 0 ≤ p.liq :=
  C08_runOps_preserves_range _ (C08_std_kernel_addOK sq) pool minError ops s h

/-- Two different ticks can round to the same usable tick (spacing 60: 25 and −20 both become 0);
    `add_liquidity_by_tick(..., trim_tick=True)` rounds both ends this way, so it can hand `lower = upper` to
    `_add_liquidity_by_tick` … -/
theorem C08_trim_can_collapse_range : nearestUsable 25 60 = nearestUsable (-20) 60 ∧ (25 : Int) ≠ -20 := by decide

/-- … and that call is refused before anything changes: the state stays what it was, for every kernel that
    refuses empty ranges. -/
theorem C08_empty_range_rejected (K : Kern) (hK : KernAddOK K) (pool : Pool) (s : State) (a0 a1 : Rat) (t : Int)
    (sq : Option Nat) :
    (∃ e, (addRaw K pool s a0 a1 t t sq).1 = .error e) ∧ (addRaw K pool s a0 a1 t t sq).2 = s := by
  rcases addRaw_cases K pool s a0 a1 t t sq with ⟨e, h⟩ | ⟨x, u0, u1, liq, _, _, A⟩
  · rw [h]; exact ⟨⟨e, rfl⟩, rfl⟩
  · exact absurd rfl (hK pool x t t a0 a1 u0 u1 liq A.nonneg0 A.nonneg1 A.newPos).1

/-- `C08_bar_fee_ops` with the hypotheses on the state the bar starts from only: positions well-formed there, and a
    positive pool liquidity in the bar's data row. -/
theorem C08_bar_fee_ops_init (K : Kern) (hK : KernAddOK K) (pool : Pool) (minError : Rat) (s : State) (k : Nat) (raw : Row)
    (ops : List Op) (c : Int) (hs : BarStart k s c)
    (hinit : ∀ p ∈ s.positions, p.lower < p.upper ∧ 0 ≤ p.liq) (hpool : 0 < raw.curLiq) :
    let ps := (runOps K pool minError (setStatus NumCtx.exact s raw (some k) true) ops).positions
    let D := raw.curLiq + ((sumLiq ps : Int) : Rat)
    let r := update NumCtx.exact pool (barPrep (setStatus NumCtx.exact) s k raw (fun s => runOps K pool minError s ops))
    0 < D ∧ (∀ p ∈ ps, p.lower < p.upper ∧ 0 ≤ p.liq) ∧ r.2 = none ∧
    r.1.positions = ps.map (fun p => { p with
        pending0 := p.pending0 + feeInc (pathFraction c raw.closeTick p.lower p.upper) raw.in0 pool.d0 p.liq D pool.feeRate,
        pending1 := p.pending1 + feeInc (pathFraction c raw.closeTick p.lower p.upper) raw.in1 pool.d1 p.liq D pool.feeRate }) := by
  intro ps D r
  have hps : PosInv ps := C08_runOps_preserves_range K hK pool minError ops _ hinit
  have hD : 0 < D := add_sumLiq_pos (fun q hq => (hps q hq).2) hpool
  obtain ⟨h1, h2⟩ := C08_bar_fee_ops K pool minError s k raw ops c hs (fun p hp => (hps p hp).1) (ne_of_gt hD)
  exact ⟨hD, hps, h1, h2⟩

/-- `update()` — in every arithmetic context, also when it raises half-way through the positions — changes pending
    amounts only: ranges and liquidities stay what they were. -/
theorem C08_update_preserves_range (cx : NumCtx) (pool : Pool) (s : State)
    (h : ∀ p ∈ s.positions, p.lower < p.upper ∧ 0 ≤ p.liq) :
    ∀ p ∈ (update cx pool s).1.positions, p.lower < p.upper ∧ 0 ≤ p.liq := by
  unfold update
  split
  · exact h
  · exact h
  · exact Uni.posInv_updateLoop cx pool s.lastTick _ _ h

/-- `Actuator.run` on a fresh market (no status yet; positions, if any, well-formed): bar after bar `update()`
    does not raise, `pool(i) + Σ own > 0`, and the positions present when the operations of bar `i` are done
    earn `feeInc (pathFraction close(i−1) close(i) lower upper) volume(i) … own (pool(i) + Σ own) feeRate` per token —
    bar 0 with `close(−1) := close(0)`.  `RunFees` spells this out bar by bar. The strategy's behaviour is
    arbitrary within `BarOK` (what every list of market operations satisfies, see `C08_run_fees_ops`). -/
theorem C08_run_fees (pool : Pool) (s : State) (init : State → State) (b0 : Bar) (bs : List Bar)
    (hfresh : s.row = none ∧ s.ts = none) (hpos : ∀ p ∈ s.positions, p.lower < p.upper ∧ 0 ≤ p.liq)
    (hinit : Frame init ∧ InvPres init) (hb : ∀ b ∈ b0 :: bs, BarOK b) :
    RunFees pool 0 (runStart (setStatus NumCtx.exact) s init (b0 :: bs)) b0.raw.closeTick (b0 :: bs) ∧
    (run NumCtx.exact pool (setStatus NumCtx.exact) s init (b0 :: bs)).2 = none ∧
    (∀ p ∈ (run NumCtx.exact pool (setStatus NumCtx.exact) s init (b0 :: bs)).1.positions, p.lower < p.upper ∧ 0 ≤ p.liq) :=
  runFrom_fees pool (b0 :: bs) 0 _ b0.raw.closeTick (Uni.barStart_runStart NumCtx.exact s init b0 bs hfresh hinit.1)
    (hinit.2 _ hpos) hb

theorem Uni.OpBar.ok (K : Kern) (hK : KernAddOK K) (pool : Pool) (minError : Rat) (b : OpBar) (h : 0 < b.raw.curLiq) :
    BarOK (b.toBar K pool minError) :=
  ⟨C08_ops_frame K pool minError b.pre, C08_ops_coherent K pool minError b.pre,
   C08_runOps_preserves_range K hK pool minError b.pre,
   C08_ops_frame K pool minError b.post, C08_runOps_preserves_range K hK pool minError b.post, h⟩

/-- The run theorem for concrete operations: whatever lists of market operations the strategy issues in
    `initialize` and in each bar before and after `update()`, with any kernel that refuses empty ranges (the code's
    does: `C08_std_kernel_addOK`). The only hypotheses left are on the inputs: a fresh market and positive pool
    liquidity in every data row. -/
theorem C08_run_fees_ops (K : Kern) (hK : KernAddOK K) (pool : Pool) (minError : Rat) (s : State) (initOps : List Op)
    (b0 : OpBar) (bs : List OpBar)
    (hfresh : s.row = none ∧ s.ts = none) (hpos : ∀ p ∈ s.positions, p.lower < p.upper ∧ 0 ≤ p.liq)
    (hrows : ∀ b ∈ b0 :: bs, 0 < b.raw.curLiq) :
    let bars := (b0 :: bs).map (OpBar.toBar K pool minError)
    let init := fun s => runOps K pool minError s initOps
    RunFees pool 0 (runStart (setStatus NumCtx.exact) s init bars) b0.raw.closeTick bars ∧
    (run NumCtx.exact pool (setStatus NumCtx.exact) s init bars).2 = none ∧
    (∀ p ∈ (run NumCtx.exact pool (setStatus NumCtx.exact) s init bars).1.positions, p.lower < p.upper ∧ 0 ≤ p.liq) := by
  intro bars init
  apply C08_run_fees pool s init (b0.toBar K pool minError) (bs.map (OpBar.toBar K pool minError)) hfresh hpos
  · exact ⟨C08_ops_frame K pool minError initOps, C08_runOps_preserves_range K hK pool minError initOps⟩
  · intro b hb
    rw [← List.map_cons] at hb
    obtain ⟨ob, hob, rfl⟩ := List.mem_map.mp hb
    exact Uni.OpBar.ok K hK pool minError ob (hrows ob hob)

/-- `RunFees` read at bar `i`: the state the bar starts from is the one the first `i` bars of the run produced,
    the path starts at entry `i` of `c :: close(0) :: close(1) :: …`, i.e. at `c` for the first bar and at the
    previous bar's close afterwards. -/
theorem C08_run_fees_at (pool : Pool) : ∀ (bars : List Bar) (k : Nat) (s : State) (c : Int), RunFees pool k s c bars →
    ∀ (i : Nat) (b : Bar) (prev : Int), bars[i]? = some b → (c :: bars.map (·.raw.closeTick))[i]? = some prev →
      (runFrom NumCtx.exact pool (setStatus NumCtx.exact) k s (bars.take i)).2 = none ∧
      BarFees pool (k + i) (runFrom NumCtx.exact pool (setStatus NumCtx.exact) k s (bars.take i)).1 prev b := by
  intro bars
  induction bars with
  | nil => intro k s c _ i b prev hb; simp at hb
  | cons b0 bs ih =>
    intro k s c h i b prev hb hp
    cases i with
    | zero =>
      simp only [List.getElem?_cons_zero, Option.some.injEq] at hb hp
      subst hb; subst hp
      exact ⟨rfl, h.1⟩
    | succ j =>
      simp only [List.getElem?_cons_succ, List.map_cons] at hb hp
      have hnone : (barStep NumCtx.exact pool (setStatus NumCtx.exact) s k b0.raw b0.pre b0.post).2 = none := by
        rw [Uni.barStep_of_update_none b0.post h.1.1]
      have hk : k + (j + 1) = k + 1 + j := by omega
      rw [List.take_succ_cons, Uni.runFrom_cons_of_none _ hnone, hk]
      exact ih (k + 1) _ b0.raw.closeTick h.2 j b prev hb hp

/-- `C08_run_fees_ops`, bar `i`: in a run on a fresh market with arbitrary market operations in `initialize` and in every
    bar, the first `i` bars complete without an exception and bar `i` pays, to every position present after its
    operations, `feeInc (pathFraction prev close(i) lower upper) volume(i) decimals own (pool(i) + Σ own) feeRate`
    with `prev = close(i−1)` (`close(0)` for `i = 0`): entry `i` of `close(0) :: close(0) :: close(1) :: …`. -/
theorem C08_run_fees_ops_at (K : Kern) (hK : KernAddOK K) (pool : Pool) (minError : Rat) (s : State) (initOps : List Op)
    (b0 : OpBar) (bs : List OpBar)
    (hfresh : s.row = none ∧ s.ts = none) (hpos : ∀ p ∈ s.positions, p.lower < p.upper ∧ 0 ≤ p.liq)
    (hrows : ∀ b ∈ b0 :: bs, 0 < b.raw.curLiq)
    (i : Nat) (b : OpBar) (prev : Int) (hb : (b0 :: bs)[i]? = some b)
    (hp : (b0.raw.closeTick :: (b0 :: bs).map (·.raw.closeTick))[i]? = some prev) :
    let bars := (b0 :: bs).map (OpBar.toBar K pool minError)
    let init := fun s => runOps K pool minError s initOps
    let r := runFrom NumCtx.exact pool (setStatus NumCtx.exact) 0 (runStart (setStatus NumCtx.exact) s init bars) (bars.take i)
    r.2 = none ∧ BarFees pool i r.1 prev (b.toBar K pool minError) := by
  intro bars init r
  have h := (C08_run_fees_ops K hK pool minError s initOps b0 bs hfresh hpos hrows).1
  have hb' : bars[i]? = some (b.toBar K pool minError) := by
    rw [show bars[i]? = _ from List.getElem?_map, hb]; rfl
  have hp' : (b0.raw.closeTick :: bars.map (·.raw.closeTick))[i]? = some prev := by
    rw [show bars.map (·.raw.closeTick) = (b0 :: bs).map (·.raw.closeTick) from List.map_map]; exact hp
  have h2 := C08_run_fees_at pool bars 0 _ b0.raw.closeTick h i _ prev hb' hp'
  rw [Nat.zero_add] at h2
  exact h2

end Demeter

namespace Demeter.Uni

def c08rExPool : Pool :=
  { tok0 := "a", tok1 := "b", d0 := 0, d1 := 0, feeRate := 3 / 1000, spacing := 1, q0 := false, decFac := 1 }

def c08rExState : State :=
  { (default : State) with
    positions := [{ (default : Pos) with lower := 0, upper := 10, liq := 1000 }], lastTick := none, row := none, ts := none }

/-- bar 0 closes at tick 5 (inside), bar 1 at tick 15 (above: half of the path 5 → 15 is inside); in bar 1 the
    strategy lends the position out before `update()` (it keeps earning) -/
def c08rExBar0 : OpBar := ⟨{ closeTick := 5, curLiq := 9000, in0 := 1000000, in1 := 2000000, price := 1 }, [], []⟩
def c08rExBar1 : OpBar :=
  ⟨{ closeTick := 15, curLiq := 9000, in0 := 1000000, in1 := 2000000, price := 1 }, [Op.transferOut 0 10], []⟩
def c08rExBars : List OpBar := [c08rExBar0, c08rExBar1]

end Demeter.Uni

namespace Demeter
open Demeter.Uni

/-- the hypotheses of `C08_run_fees_ops` hold for that 2-bar run with the code's kernel … -/
example : (c08rExState.row = none ∧ c08rExState.ts = none) ∧ c08rExState.positions ≠ [] ∧
    (∀ p ∈ c08rExState.positions, p.lower < p.upper ∧ 0 ≤ p.liq) ∧ (∀ b ∈ c08rExBars, 0 < b.raw.curLiq) ∧
    KernAddOK (Kern.std NumCtx.exact (fun x => x * x)) :=
  ⟨⟨rfl, rfl⟩, by decide, by decide, by decide, C08_std_kernel_addOK _⟩

/-- … and what the run computes is what the theorem says: bar 0 (stationary inside, weight 1, share 1000/10000):
    300 and 600; bar 1 (weight 1/2): 150 and 300 more. -/
example :
    ((run NumCtx.exact c08rExPool (setStatus NumCtx.exact) c08rExState id
        (c08rExBars.map (OpBar.toBar (Kern.std NumCtx.exact (fun x => x * x)) c08rExPool 0))).1.positions.map
      (fun p => (p.pending0, p.pending1, p.transferred))) = [(450, 900, true)] ∧
    feeInc (pathFraction 5 15 0 10) 1000000 0 1000 (9000 + 1000) (3 / 1000) = 150 := by decide +kernel

/-- bar 1 of that run read through `C08_run_fees_ops_at`: bar 0 completed, and the path of bar 1 starts at 5 = close(0) -/
example :
    let K := Kern.std NumCtx.exact (fun x => x * x)
    let bars := c08rExBars.map (OpBar.toBar K c08rExPool 0)
    let r := runFrom NumCtx.exact c08rExPool (setStatus NumCtx.exact) 0
      (runStart (setStatus NumCtx.exact) c08rExState (fun s => runOps K c08rExPool 0 s []) bars) (bars.take 1)
    r.2 = none ∧ BarFees c08rExPool 1 r.1 5 (c08rExBar1.toBar K c08rExPool 0) :=
  C08_run_fees_ops_at (Kern.std NumCtx.exact (fun x => x * x)) (C08_std_kernel_addOK _) c08rExPool 0 c08rExState []
    c08rExBar0 [c08rExBar1] ⟨rfl, rfl⟩ (by decide) (by decide) 1 c08rExBar1 5 rfl rfl

end Demeter
