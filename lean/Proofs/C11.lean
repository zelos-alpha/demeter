/-
  C11 — Aave borrow / withdraw / change_collateral limits and the risk figures: theorems about
  `Demeter.AaveRisk.{borrow, withdraw, changeCollateral, healthFactor, maxLtv, liqThreshold, ltv}` (exact context).
-/
import Proofs.Lemmas.AaveRiskOps
import Proofs.Fixtures.Aave
namespace Demeter
open AaveRisk

/-- **Health factor, weighted max-LTV, weighted liquidation threshold, LTV are the Aave v3 definitions**:
    `HF = Σ_coll valueᵢ·LTᵢ / Σ debt valueⱼ` (infinite without debt), `maxLTV = Σ_coll valueᵢ·LTVᵢ / Σ_coll valueᵢ`,
    `LT = Σ_coll valueᵢ·LTᵢ / Σ_coll valueᵢ` (infinite without collateral value), `LTV = Σ debt / Σ supply`,
    with `value = scaled balance × index × price`. -/
theorem C11_figures_are_v3_definitions (p : Portfolio) :
    let coll := p.supplies.filter (·.coll)
    let val (s : Supply) : Rat := s.base * s.row.liqIndex * s.row.price
    let dval (d : Debt) : Rat := d.base * d.row.borIndex * d.row.price
    healthFactor NumCtx.exact p
        = (if (p.debts.map dval).sum = 0 then none else some ((coll.map (fun s => val s * s.row.lt)).sum / (p.debts.map dval).sum))
    ∧ maxLtv NumCtx.exact p
        = (if (coll.map val).sum = 0 then none else some ((coll.map (fun s => val s * s.row.ltv)).sum / (coll.map val).sum))
    ∧ liqThreshold NumCtx.exact p
        = (if (coll.map val).sum = 0 then none else some ((coll.map (fun s => val s * s.row.lt)).sum / (coll.map val).sum))
    ∧ ltv NumCtx.exact p
        = (if (p.supplies.map val).sum = 0 then none else some ((p.debts.map dval).sum / (p.supplies.map val).sum)) := by
  simp only [healthFactor, maxLtv, liqThreshold, ltv, safeDiv, weightedLt, weightedLtv, totalCollateral, totalDebt,
    totalSupply, collaterals, dsum_exact, NumCtx.exact_div, NumCtx.exact_mul, Supply.value, Supply.amount, Debt.value,
    Debt.amount]
  exact ⟨trivial, trivial, trivial, trivial⟩

/-- **Borrow: accepted iff …** (the `require`s of `AaveV3Market.borrow`, in order; `max_ltv` is the weighted max-LTV,
    the liquidation threshold constant is 1). -/
theorem C11_borrow_accept_iff (p : Portfolio) (tok : String) (row : Row) (a : Rat) :
    (∃ r, borrow NumCtx.exact p tok row (some a) = .ok r) ↔
      0 < a ∧ row.canBorrow = true ∧ totalCollateral NumCtx.exact p ≠ 0
      ∧ weightedLtv NumCtx.exact p / totalCollateral NumCtx.exact p ≠ 0
      ∧ (healthFactor NumCtx.exact p).gtB 1 = true
      ∧ (totalDebt NumCtx.exact p + a * row.price) / (weightedLtv NumCtx.exact p / totalCollateral NumCtx.exact p)
          ≤ totalCollateral NumCtx.exact p
      ∧ row.borIndex ≠ 0 := by
  constructor
  · rintro ⟨r, h⟩
    exact ((borrow_ok_iff NumCtx.exact p tok row a r).mp h).1
  · intro h
    exact ⟨_, (borrow_ok_iff NumCtx.exact p tok row a _).mpr ⟨h, rfl⟩⟩

/-- **Borrow only if covered**: an accepted borrow keeps all debt, including the new one, within
    collateral × weighted max-LTV (`= Σ_coll valueᵢ·LTVᵢ`). -/
theorem C11_borrow_only_if_covered {p : Portfolio} (hwf : p.WF) {tok : String} {row : Row} {a : Rat}
    {r : Portfolio × Rat} (h : borrow NumCtx.exact p tok row (some a) = .ok r) :
    totalDebt NumCtx.exact p + a * row.price ≤ weightedLtv NumCtx.exact p
    ∧ ∃ m, maxLtv NumCtx.exact p = some m ∧ weightedLtv NumCtx.exact p = totalCollateral NumCtx.exact p * m := by
  obtain ⟨_, _, h3, h4, _, h6, _⟩ := (C11_borrow_accept_iff p tok row a).mp ⟨r, h⟩
  have hc : 0 < totalCollateral NumCtx.exact p := lt_of_le_of_ne hwf.totalCollateral_nonneg (Ne.symm h3)
  have hm0 : 0 ≤ weightedLtv NumCtx.exact p / totalCollateral NumCtx.exact p := div_nonneg hwf.weightedLtv_nonneg (le_of_lt hc)
  have hm : 0 < weightedLtv NumCtx.exact p / totalCollateral NumCtx.exact p := lt_of_le_of_ne hm0 (Ne.symm h4)
  constructor
  · rw [div_le_iff₀ hm] at h6
    calc totalDebt NumCtx.exact p + a * row.price
        ≤ totalCollateral NumCtx.exact p * (weightedLtv NumCtx.exact p / totalCollateral NumCtx.exact p) := h6
      _ = weightedLtv NumCtx.exact p := mul_div_cancel₀ _ h3
  · refine ⟨weightedLtv NumCtx.exact p / totalCollateral NumCtx.exact p, ?_, (mul_div_cancel₀ _ h3).symm⟩
    unfold maxLtv safeDiv; rw [if_neg h3]; rfl

theorem AaveRisk.borrow_debt_le {p : Portfolio} (hwf : p.WF) (hs : p.Sane) {tok : String} {row : Row}
    (hrow : ∀ d ∈ p.debts, d.tok = tok → d.row = row) {a : Rat} {r : Portfolio × Rat}
    (h : borrow NumCtx.exact p tok row (some a) = .ok r) :
    r = ({ p with debts := addDebt NumCtx.exact p.debts tok row (a / row.borIndex) }, a) ∧ 0 < a
    ∧ totalDebt NumCtx.exact r.1 = totalDebt NumCtx.exact p + a * row.price
    ∧ totalDebt NumCtx.exact r.1 ≤ weightedLt NumCtx.exact r.1 := by
  have hcov := (C11_borrow_only_if_covered hwf h).1
  obtain ⟨⟨h1, _, _, _, _, _, h7⟩, he⟩ := (borrow_ok_iff NumCtx.exact p tok row a _).mp h
  have he' : r = ({ p with debts := addDebt NumCtx.exact p.debts tok row (a / row.borIndex) }, a) := he
  subst he'
  have htd := totalDebt_addDebt hwf.debKeys tok row h7 hrow a
  refine ⟨rfl, h1, htd, ?_⟩
  show totalDebt NumCtx.exact { p with debts := addDebt NumCtx.exact p.debts tok row (a / row.borIndex) }
    ≤ weightedLt NumCtx.exact p
  rw [htd]
  exact hcov.trans (hwf.weightedLtv_le_weightedLt hs)

/-- **HF ≥ 1 after an accepted borrow**: with sane risk parameters (LTV ≤ LT) the account — which has debt afterwards — has
    a finite health factor ≥ 1.  `row` is the borrowed token's row of the bar (the same as the one attached to an
    existing debt entry of that token). -/
theorem C11_borrow_hf {p : Portfolio} (hwf : p.WF) (hs : p.Sane) {tok : String} {row : Row} (hr : row.WF)
    (hrow : ∀ d ∈ p.debts, d.tok = tok → d.row = row) {a : Rat}
    {p' : Portfolio} {x : Rat} (h : borrow NumCtx.exact p tok row (some a) = .ok (p', x)) :
    x = a ∧ p'.supplies = p.supplies
    ∧ totalDebt NumCtx.exact p' = totalDebt NumCtx.exact p + a * row.price
    ∧ ∃ hf, healthFactor NumCtx.exact p' = some hf ∧ 1 ≤ hf := by
  obtain ⟨he, h1, htd, hle⟩ := borrow_debt_le hwf hs hrow h
  cases he
  refine ⟨rfl, rfl, htd, hf_ge_one_of_le ?_ hle⟩
  rw [htd]
  linarith [hwf.totalDebt_nonneg, mul_pos h1 hr.price_pos]

/-- **Borrow beyond the limit is rejected**: if the debt including the new one exceeds
    collateral × weighted max-LTV, the call is refused. -/
theorem C11_borrow_beyond_limit_rejected {p : Portfolio} (hwf : p.WF) (tok : String) (row : Row) (a : Rat)
    (hb : weightedLtv NumCtx.exact p < totalDebt NumCtx.exact p + a * row.price) :
    ∃ c, borrow NumCtx.exact p tok row (some a) = .error c := by
  cases h : borrow NumCtx.exact p tok row (some a) with
  | error c => exact ⟨c, rfl⟩
  | ok r => have := (C11_borrow_only_if_covered hwf h).1; linarith

/-- **Withdraw: accepted iff** the token is supplied, `0 < amount ≤ balance`, and — for a supply used as collateral —
    the health factor *after* the deduction is not below 1. -/
theorem C11_withdraw_accept_iff (p : Portfolio) (tok : String) (a : Rat) :
    (∃ r, withdraw NumCtx.exact p tok (some a) = .ok r) ↔
      ∃ s, findSupply? p.supplies tok = some s ∧ 0 < a ∧ a ≤ s.amount NumCtx.exact ∧ s.row.liqIndex ≠ 0
        ∧ (s.coll = true → (healthFactor NumCtx.exact (withdrawTrial NumCtx.exact p s a)).ltB 1 = false) := by
  constructor
  · rintro ⟨r, h⟩
    obtain ⟨s, hs, hok, _⟩ := (withdraw_ok_iff NumCtx.exact p tok a r).mp h
    exact ⟨s, hs, hok⟩
  · rintro ⟨s, hs, hok⟩
    exact ⟨_, (withdraw_ok_iff NumCtx.exact p tok a _).mpr ⟨s, hs, hok, rfl⟩⟩

/-- **HF ≥ 1 after an accepted collateral withdrawal.**  The debts are untouched and
    `Σ debt value ≤ Σ_coll valueᵢ·LTᵢ` afterwards, up to the dust that `sub_base_amount` snaps away
    (`snapDust` < MIN_TOKEN_VALUE scaled units of the withdrawn token, 0 unless the remaining scaled balance is below
    MIN_TOKEN_VALUE) — so with debt the health factor afterwards is ≥ 1 whenever nothing is snapped. -/
theorem C11_withdraw_hf {p : Portfolio} (hwf : p.WF) {tok : String} {a : Rat} {s : Supply}
    (hfind : findSupply? p.supplies tok = some s) (hcoll : s.coll = true)
    {p' : Portfolio} {x : Rat} (h : withdraw NumCtx.exact p tok (some a) = .ok (p', x)) :
    x = a ∧ p'.debts = p.debts
    ∧ (totalDebt NumCtx.exact p' = 0 ∨
        totalDebt NumCtx.exact p' ≤ weightedLt NumCtx.exact p'
          + snapDust s.base (a / s.row.liqIndex) * s.row.liqIndex * s.row.price * s.row.lt)
    ∧ (snapDust s.base (a / s.row.liqIndex) = 0 → 0 < totalDebt NumCtx.exact p' →
        ∃ hf, healthFactor NumCtx.exact p' = some hf ∧ 1 ≤ hf) := by
  obtain ⟨s', hs', ⟨_, _, _, h4⟩, hr⟩ := (withdraw_ok_iff NumCtx.exact p tok a _).mp h
  rw [hfind] at hs'; cases hs'
  have hr' : (p', x) = ({ p with supplies := putSupplyBase p.supplies tok (subBase NumCtx.exact s.base (a / s.row.liqIndex)) }, a) := hr
  cases hr'
  obtain ⟨hsm, hst⟩ := mem_of_findSupply hfind
  subst hst
  have hkey : totalDebt NumCtx.exact p = 0 ∨ totalDebt NumCtx.exact p ≤
      weightedLt NumCtx.exact { p with supplies := putSupplyBase p.supplies s.tok (subBase NumCtx.exact s.base (a / s.row.liqIndex)) }
        + snapDust s.base (a / s.row.liqIndex) * s.row.liqIndex * s.row.price * s.row.lt := by
    have htrial := (healthy_iff_not_ltB_one (p := withdrawTrial NumCtx.exact p s a) hwf.totalDebt_nonneg).mpr (h4 hcoll)
    rcases htrial with h0 | hle
    · exact Or.inl h0
    · right
      have hd : totalDebt NumCtx.exact (withdrawTrial NumCtx.exact p s a) = totalDebt NumCtx.exact p := rfl
      rw [hd] at hle
      rw [weightedLt_putSupplyBase hwf.supKeys hsm]; rw [weightedLt_withdrawTrial hwf.supKeys hsm] at hle
      have e3 : gLt { s with base := subBase NumCtx.exact s.base (a / s.row.liqIndex) }
          = gLt { s with base := s.base - a / s.row.liqIndex }
            - snapDust s.base (a / s.row.liqIndex) * s.row.liqIndex * s.row.price * s.row.lt := by
        unfold gLt
        simp only [hcoll, if_true, Supply.value_exact, subBase_exact]
        ring
      rw [e3]; linarith
  refine ⟨rfl, rfl, hkey, fun hz hpos => hf_ge_one_of_le hpos ?_⟩
  rw [hz, zero_mul, zero_mul, zero_mul, add_zero] at hkey
  exact hkey.resolve_left (ne_of_gt hpos)

namespace AaveRisk
/-- 1 + 5·10⁻¹⁹ WETH (price 1000, LT 0.825) as collateral against a debt worth exactly 5·10⁻¹⁹ × 1000 × 0.825 -/
def c11DustP : Portfolio :=
  { supplies := [{ tok := "WETH", base := 1 + 5 / 10 ^ 19, coll := true,
                   row := { liqIndex := 1, borIndex := 1, price := 1000, ltv := 8/10, lt := 825/1000, bonus := 5/100, canColl := true, canBorrow := true } }],
    debts := [{ tok := "USDC", base := 4125 / 10 ^ 19,
                row := { liqIndex := 1, borIndex := 1, price := 1, ltv := 8/10, lt := 85/100, bonus := 4/100, canColl := true, canBorrow := true } }] }

def c11DustCheck : Bool :=
  match withdraw NumCtx.exact c11DustP "WETH" (some 1) with
  | .ok (p', _) => p'.supplies.isEmpty && decide (0 < totalDebt NumCtx.exact p') && (healthFactor NumCtx.exact p').ltB 1
      && decide (snapDust (1 + 5 / 10 ^ 19) (1 / 1) = 5 / 10 ^ 19)
  | _ => false
end AaveRisk

/-- **The dust term of `C11_withdraw_hf` is needed**: withdrawing 1 WETH of 1 + 5·10⁻¹⁹ is accepted (the health factor
    on the trial state is exactly 1), then `sub_base_amount` snaps the 5·10⁻¹⁹ remainder to 0 and deletes the supply:
    the account keeps a (dust) debt with health factor 0.  `helper.sub_base_amount` documents remainders below 1e-18 as
    "considered 0"; the statements of C11/C12 are therefore up to `MIN_TOKEN_VALUE` scaled units. -/
theorem C11_withdraw_hf_dust_term_needed : c11DustCheck = true := by decide +kernel

/-- **change_collateral: accepted iff** the token is supplied and the flag is already as asked, or it is switched *on* and
    the risk table admits the token as collateral (`usageAsCollateralEnabled`, the rule of `supply`; repair 500c37d), or it
    is switched *off* and the health factor afterwards is not below 1.  The accepted call changes nothing but the flag, an
    account with debt has HF ≥ 1 after switching a collateral off, and a flag that was switched on belongs to an admitted
    token. -/
theorem C11_change_collateral (p : Portfolio) (tok : String) (flag : Bool) :
    ((∃ p', changeCollateral NumCtx.exact p tok flag = .ok p') ↔
      ∃ s, findSupply? p.supplies tok = some s ∧
        (s.coll = flag ∨ (flag = true ∧ s.row.canColl = true)
          ∨ (flag = false ∧
              (healthFactor NumCtx.exact { p with supplies := setSupplyColl p.supplies tok flag }).ltB 1 = false)))
    ∧ (∀ p', changeCollateral NumCtx.exact p tok flag = .ok p' →
        (p' = p ∨ p' = { p with supplies := setSupplyColl p.supplies tok flag })
        ∧ (∀ s, findSupply? p.supplies tok = some s → s.coll = true → flag = false →
            (healthFactor NumCtx.exact p').ltB 1 = false)
        ∧ (∀ s, findSupply? p.supplies tok = some s → s.coll = false → flag = true → s.row.canColl = true)) := by
  simp only [changeCollateral_ok_iff]
  constructor
  · constructor
    · rintro ⟨p', s, hs, ⟨hc, _⟩ | ⟨_, h1, h2, _⟩⟩
      · exact ⟨s, hs, Or.inl hc⟩
      · cases flag
        · exact ⟨s, hs, Or.inr (Or.inr ⟨rfl, h2 rfl⟩)⟩
        · exact ⟨s, hs, Or.inr (Or.inl ⟨rfl, h1 rfl⟩)⟩
    · rintro ⟨s, hs, h⟩
      by_cases hc : s.coll = flag
      · exact ⟨p, s, hs, Or.inl ⟨hc, rfl⟩⟩
      · refine ⟨_, s, hs, Or.inr ⟨hc, fun hf => ?_, fun hf => ?_, rfl⟩⟩
        · rcases h with h | ⟨_, h⟩ | ⟨h, _⟩
          · exact absurd h hc
          · exact h
          · rw [hf] at h; cases h
        · rcases h with h | ⟨h, _⟩ | ⟨_, h⟩
          · exact absurd h hc
          · rw [hf] at h; cases h
          · exact h
  · rintro p' ⟨s, hs, ⟨hc, rfl⟩ | ⟨hc, h1, h2, rfl⟩⟩
    · refine ⟨Or.inl rfl, ?_, ?_⟩ <;> intro s' hs' hcoll hflag <;> rw [hs] at hs' <;> cases hs' <;>
        rw [hcoll, hflag] at hc <;> cases hc
    · refine ⟨Or.inr rfl, fun _ _ _ hf => h2 hf, fun s' hs' _ hf => ?_⟩
      rw [hs] at hs'; cases hs'; exact h1 hf

namespace AaveRisk
def c11RowU : Row := { liqIndex := 1, borIndex := 1, price := 1, ltv := 8/10, lt := 85/100, bonus := 4/100, canColl := true, canBorrow := true }
def c11P : Portfolio := { supplies := [{ tok := "WETH", base := 10, coll := true, row := c11RowW }],
                          debts := [{ tok := "USDC", base := 1000, row := c11RowU }] }

def c11Check : Bool :=
  (match borrow NumCtx.exact c11P "USDC" c11RowU (some 7000) with | .ok (p', _) => (healthFactor NumCtx.exact p').gtB 1 | _ => false)
  && (match borrow NumCtx.exact c11P "USDC" c11RowU (some 7001) with | .error .notCovered => true | _ => false)
  && (match withdraw NumCtx.exact c11P "WETH" (some 8) with | .ok (p', _) => (healthFactor NumCtx.exact p').gtB 1 | _ => false)
  && (match withdraw NumCtx.exact c11P "WETH" (some 9) with | .error .hfLowAfter => true | _ => false)
  && (match changeCollateral NumCtx.exact c11P "WETH" false with | .error .hfLowAfter => true | _ => false)

example : c11Check = true := by decide +kernel

theorem c11P_wf : c11P.WF := Portfolio.wfB_sound (by decide +kernel)
end AaveRisk

end Demeter
