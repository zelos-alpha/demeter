import Proofs.C06
import Proofs.C06.Full
import Proofs.C06.Recip
import Proofs.C07
import Proofs.C07.Round
import Proofs.Lemmas.LiqRound
import Proofs.C06.Close
import Proofs.C06.CloseRel
import Proofs.C06.CloseReal
import Proofs.C06.Inverse
import Proofs.C06.InverseLog
import Proofs.C01.Broker
import Proofs.C03.Broker
import Proofs.C04.Broker
import Proofs.Lemmas.Manager
import Proofs.C19
import Proofs.C19.Failure
import Proofs.C19.Process
import Proofs.C20
import Proofs.C20.Returns
import Proofs.C20.Stats
import Proofs.C20.Perf
import Proofs.Fixtures.Gmx
import Proofs.C17
import Proofs.C17.V1Fee
import Proofs.C17.V2
import Proofs.C17.V1Seq
import Proofs.C17.V1RoundAny
import Proofs.C17.V1RoundDiff
import Proofs.C17.V1FeeEnv
import Proofs.C17.Ledger
import Proofs.C17.V1TripAny
import Proofs.C17.V2Ops
import Proofs.C04.Gmx
import Proofs.C03.Gmx
import Proofs.C01.Gmx
import Proofs.C14
import Proofs.C14.Window
import Proofs.C14.Liquidation
import Proofs.C14.Amounts
import Proofs.C14.Moves
import Proofs.C14.Update
import Proofs.C14.Completes
import Proofs.C14.Long
import Proofs.C04.Squeeth
import Proofs.C03.Squeeth
import Proofs.C01.Squeeth
import Proofs.C11
import Proofs.C11.Max
import Proofs.C11.Invariant
import Proofs.C12
import Proofs.C12.Loop
import Proofs.C12.Pick
import Proofs.C18
import Proofs.C05
import Proofs.C05.Refresh
import Proofs.C05.Hooks
import Proofs.C05.Finalize
import Proofs.C05.BarIndex
import Proofs.C05.Clock
import Proofs.C05.Strict
import Proofs.C05.Prefix
import Proofs.C02
import Proofs.C02.Rerun
import Proofs.C02.DrivingMarket
import Proofs.C02.Rerun2
import Proofs.C02.Markets
import Proofs.C02.RerunObject
import Proofs.C18.Rerun
import Proofs.C18.Periods
import Proofs.C18.Dynamic
import Proofs.C18.DynamicLoop
import Proofs.C08
import Proofs.C08.Bar
import Proofs.C08.Ops
import Proofs.C08.Shares
import Proofs.C08.Range
import Proofs.C08.RangeOps
import Proofs.C08.Run
import Proofs.Fixtures.Uni
import Proofs.C04.Uni
import Proofs.C04.UniHelpers
import Proofs.C09
import Proofs.C09.Kernel
import Proofs.C09.Tick
import Proofs.C09.ByValue
import Proofs.C09.Fee
import Proofs.C09.Views
import Proofs.C03.Uni
import Proofs.C03.UniValue
import Proofs.C03.UniKernel
import Proofs.C03.UniKeys
import Proofs.C01.Uni
import Proofs.Fixtures.Deribit
import Proofs.C15
import Proofs.C15.Seq
import Proofs.C15.Float
import Proofs.C15.Norm
import Proofs.C15.Limit
import Proofs.C15.Sell
import Proofs.C15.Follow
import Proofs.C16
import Proofs.C16.Run
import Proofs.C16.Trades
import Proofs.C16.General
import Proofs.C16.Guard
import Proofs.C16.Hooks
import Proofs.C16.HooksRun
import Proofs.C16.Frame
import Proofs.C01.Deribit
import Proofs.C01.DeribitHooks
import Proofs.C03.Deribit
import Proofs.C04.Deribit
import Proofs.C13
import Proofs.C10
import Proofs.C10.Accrual
import Proofs.C10.Debt
import Proofs.C10.Split
import Proofs.C10.Robust
import Proofs.Fixtures.Aave
import Proofs.Lemmas.AaveReject
import Proofs.C04.Aave
import Proofs.C03.Aave
import Proofs.C01.Aave
import Proofs.C11.Refine
import Proofs.C11.RefineWithdraw
import Proofs.C11.RefineInvariant
import Proofs.C12.Refine
import Proofs.C12.RefineStep
import Proofs.C12.RefineLoop
import Proofs.C12.DebtCheck
import Proofs.C12.RefineUpdate
import Proofs.C13.Update
import Proofs.C04.AaveUpdate
import Proofs.C09.Recip
import Proofs.C09.Std
import Proofs.C09.Witness
import Proofs.C09.Explicit
import Proofs.C09.ByValueIn
import Proofs.Lemmas.NatSqrtQuot
import Proofs.Numerics
import Proofs.Lemmas.Round35Tick
import Proofs.Lemmas.TickInvBracket
import Proofs.Lemmas.TickOfSqrt
import Proofs.C06.InversePy
import Proofs.Tie.Basic
import Proofs.Tie.TickMath
import Proofs.Tie.LiqMath
import Proofs.Tie.AaveCore
import Proofs.Tie.AaveRisk
import Proofs.Tie.Gmx
import Proofs.Tie.Deribit
import Proofs.Tie.UniHelper
import Proofs.Tie.Wallet
import Proofs.Tie.Trigger
import Proofs.Tie.Squeeth
import Proofs.Tie.UniCore
import Proofs.Tie.Gmx2
import Proofs.Tie.Gmx2Exec
import Proofs.Tie.Metrics
import Proofs.C06.Strengthen
import Proofs.C06.Converse
import Proofs.C07.Wei
import Proofs.C07.Maximal
import Proofs.C07.Token
import Proofs.C07.RoundTrip
import Proofs.C07.RoundTripMarket
import Proofs.C07.Ticks
import Proofs.C06.ConverseLog
import Proofs.C12.Units
import Proofs.C10.Bars
import Proofs.C12.Round35
import Proofs.C10.Pinned
import Proofs.C10.Overdraft
import Proofs.C13.UpdateRound35
import Proofs.C10.Interleaved
import Proofs.C10.BarsRobust
import Proofs.C10.InterleavedDust
import Proofs.C12.Admitted
import Proofs.C11.AllOps
import Proofs.C12.Reachable
import Proofs.C11.RefineAllOps
import Proofs.C01.UniLent
import Proofs.C01.UniSqueeth
import Proofs.C01.UniTransfer
import Proofs.C01.Run
import Proofs.C01.SqueethValue
import Proofs.C01.SqueethDict
import Proofs.C01.UniSqueethValue
import Proofs.C01.EndToEnd
import Proofs.C01.EndToEndUni
import Proofs.C03.UniSeq
import Proofs.C17.Bars
import Proofs.Lemmas.Sweep
import Proofs.Lemmas.Run
import Proofs.Lemmas.Except
import Proofs.Lemmas.AaveHist
import Proofs.Fixtures.Core
import Proofs.Lemmas.CoreBarIndex
import Proofs.C17.V1Round
import Proofs.C17.V1RoundPy
import Proofs.Lemmas.Wallet
